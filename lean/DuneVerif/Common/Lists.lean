/-! Facts about core's lists that the proof modules of more than one property use; none mentions a model.  Core Lean only. -/
namespace DV

/-- two lists sorted by an asymmetric relation are equal when they have the same members -/
theorem eq_of_pairwise_of_mem_iff {α : Type _} {R : α → α → Prop} (hR : ∀ a b, R a b → ¬ R b a) {l₁ l₂ : List α}
    (h₁ : l₁.Pairwise R) (h₂ : l₂.Pairwise R) (h : ∀ x, x ∈ l₁ ↔ x ∈ l₂) : l₁ = l₂ :=
  have nodup : ∀ {l : List α}, l.Pairwise R → l.Nodup := fun hl =>
    hl.imp fun {a b} hab e => by subst e; exact hR a a hab hab
  List.Perm.eq_of_pairwise (fun a b _ _ hab hba => absurd hba (hR a b hab)) h₁ h₂
    ((List.perm_ext_iff_of_nodup (nodup h₁) (nodup h₂)).mpr h)

theorem getD_map_range {α : Type _} (f : Nat → α) (d : α) {p P : Nat} (h : p < P) :
    ((List.range P).map f).getD p d = f p := by
  rw [List.getD_eq_getElem?_getD, List.getElem?_map, List.getElem?_range h]
  rfl

theorem map_getD_range {α : Type _} (l : List α) (d : α) : (List.range l.length).map (fun i => l.getD i d) = l := by
  apply List.ext_getElem
  · simp
  · intro i h1 h2
    simp [h2]

theorem foldl_and {β : Type _} (q : β → Bool) (l : List β) (a : Bool) :
    l.foldl (fun e j => e && q j) a = (a && l.all q) := by
  induction l generalizing a with
  | nil => simp
  | cons x xs ih => simp [ih, Bool.and_assoc]

theorem foldl_or {β : Type _} (q : β → Bool) (l : List β) (a : Bool) :
    l.foldl (fun e j => e || q j) a = (a || l.any q) := by
  induction l generalizing a with
  | nil => simp
  | cons x xs ih => simp [ih, Bool.or_assoc]

end DV
