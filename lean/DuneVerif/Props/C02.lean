import DuneVerif.Model.C02Top
import DuneVerif.Proofs.C02Closed
import DuneVerif.Proofs.C02Tri
import DuneVerif.Proofs.C02Func
import DuneVerif.Proofs.C02FloatLU
import DuneVerif.Proofs.C02Scale
import Mathlib.LinearAlgebra.Matrix.NonsingularInverse
import Mathlib.LinearAlgebra.Matrix.ToLinearEquiv
import Mathlib.Algebra.Order.Field.Rat
import Mathlib.Tactic.NormNum
/-!
# C02 — solve / invert / determinant return the solution, inverse and determinant

The theorems about `DenseMatrix::solve / invert / determinant`, `FMatrixHelp::invertMatrix` and the three members of
`DiagonalMatrix`, in seven parts; the heading of each part says what it covers and for which scalars.  The clauses of the
property as stated are the theorems of Part 2b.

"solve and determinant never modify A or b": the model is purely functional (inputs cannot change); for the real
code this clause is checked by the harness (operands compared before/after every call).
-/
namespace DV.C02
open Matrix
-- `simp only [Gen.f] <;> ring` is written even where `simp only` closes the goal, so that a re-associated source expression
-- still passes: hence the three tactic linters are off
set_option linter.unusedTactic false
set_option linter.unreachableTactic false
set_option linter.unnecessarySeqFocus false
set_option linter.unusedSectionVars false

/-! ## Part 1: closed forms (`rows() ≤ 3`)
Theorems about the definitions in `DV.C02.Gen`, which are regenerated from `densematrix.hh` / `fmatrix.hh` on every run —
over any field. -/
section Closed
variable {K : Type} [Field K]

theorem det1_eq (A : Matrix (Fin 1) (Fin 1) K) : Gen.det1 (A 0 0) = A.det := by
  rw [det_fin_one']; simp only [Gen.det1]

theorem det2_eq (A : Matrix (Fin 2) (Fin 2) K) : Gen.det2 (A 0 0) (A 0 1) (A 1 0) (A 1 1) = A.det := by
  rw [Matrix.det_fin_two]; simp only [Gen.det2] <;> ring

theorem det3_eq (A : Matrix (Fin 3) (Fin 3) K) :
    Gen.det3 (A 0 0) (A 0 1) (A 0 2) (A 1 0) (A 1 1) (A 1 2) (A 2 0) (A 2 1) (A 2 2) = A.det := by
  rw [Matrix.det_fin_three]; simp only [Gen.det3] <;> ring

/-! The closed forms of `solve` are Cramer's rule and those of `invert` / `FMatrixHelp::invertMatrix` the adjugate
formula: over a field they compute `A⁻¹ *ᵥ b` and `A⁻¹` (Mathlib's inverse: `0` for a singular matrix, as `1/0 = 0`). -/

theorem v1_solve1 (A : Matrix (Fin 1) (Fin 1) K) (b : Fin 1 → K) : v1 (Gen.solve1 (A 0 0) (b 0)) = A⁻¹ *ᵥ b := by
  rw [inv_eq_smul_adjugate, adjugate_fin_one, det_fin_one', smul_mulVec, one_mulVec]
  funext i
  fin_cases i
  simp [v1, Gen.solve1, div_eq_inv_mul]

theorem v2_solve2 (A : Matrix (Fin 2) (Fin 2) K) (b : Fin 2 → K) :
    v2 (Gen.solve2 (A 0 0) (A 0 1) (A 1 0) (A 1 1) (b 0) (b 1)) = A⁻¹ *ᵥ b := by
  rw [solve2_eq, ← m2_mulVec, m2_adj2, det2_eq, inv_eq_smul_adjugate]

theorem v3_solve3 (A : Matrix (Fin 3) (Fin 3) K) (b : Fin 3 → K) :
    v3 (Gen.solve3 (A 0 0) (A 0 1) (A 0 2) (A 1 0) (A 1 1) (A 1 2) (A 2 0) (A 2 1) (A 2 2) (b 0) (b 1) (b 2)) =
      A⁻¹ *ᵥ b := by
  rw [solve3_eq, ← m3_mulVec, m3_adj3, det3_eq, inv_eq_smul_adjugate]

theorem m1_invert1 (A : Matrix (Fin 1) (Fin 1) K) : m1 (Gen.invert1 (A 0 0)) = A⁻¹ := by
  rw [inv_eq_smul_adjugate, adjugate_fin_one, det_fin_one']
  ext i j
  fin_cases i; fin_cases j
  simp [m1, Gen.invert1]

theorem m2_invert2 (A : Matrix (Fin 2) (Fin 2) K) : m2 (Gen.invert2 (A 0 0) (A 0 1) (A 1 0) (A 1 1)) = A⁻¹ := by
  rw [invert2_eq, m2_adj2, det2_eq, inv_eq_smul_adjugate]

theorem m3_invert3 (A : Matrix (Fin 3) (Fin 3) K) :
    m3 (Gen.invert3 (A 0 0) (A 0 1) (A 0 2) (A 1 0) (A 1 1) (A 1 2) (A 2 0) (A 2 1) (A 2 2)) = A⁻¹ := by
  rw [invert3_eq, m3_adj3, det3_eq, inv_eq_smul_adjugate]

theorem fmhInvert1_eq_inv (A : Matrix (Fin 1) (Fin 1) K) :
    Gen.fmhInvert1 (A 0 0) = (A.det, Gen.invert1 (A 0 0)) ∧ Gen.fmhInvertT1 (A 0 0) = Gen.fmhInvert1 (A 0 0) ∧
    (m1 (Gen.invert1 (A 0 0)))ᵀ = A⁻¹ := by
  refine ⟨by rw [det_fin_one']; simp only [Gen.fmhInvert1, Gen.invert1], by simp only [Gen.fmhInvertT1], ?_⟩
  rw [m1_invert1]
  ext i j
  rw [transpose_apply, Subsingleton.elim i j]

theorem fmhInvert2_eq_inv (A : Matrix (Fin 2) (Fin 2) K) :
    (Gen.fmhInvert2 (A 0 0) (A 0 1) (A 1 0) (A 1 1)).1 = A.det ∧
    m2 (Gen.fmhInvert2 (A 0 0) (A 0 1) (A 1 0) (A 1 1)).2 = A⁻¹ ∧
    (Gen.fmhInvertT2 (A 0 0) (A 0 1) (A 1 0) (A 1 1)).1 = A.det ∧
    (m2 (Gen.fmhInvertT2 (A 0 0) (A 0 1) (A 1 0) (A 1 1)).2)ᵀ = A⁻¹ := by
  rw [fmhInvert2_eq, fmhInvertT2_eq, m2_adj2, m2_adj2_transpose, transpose_transpose, det2_eq, inv_eq_smul_adjugate]
  exact ⟨rfl, rfl, rfl, rfl⟩

theorem fmhInvert3_eq_inv (A : Matrix (Fin 3) (Fin 3) K) :
    (Gen.fmhInvert3 (A 0 0) (A 0 1) (A 0 2) (A 1 0) (A 1 1) (A 1 2) (A 2 0) (A 2 1) (A 2 2)).1 = A.det ∧
    m3 (Gen.fmhInvert3 (A 0 0) (A 0 1) (A 0 2) (A 1 0) (A 1 1) (A 1 2) (A 2 0) (A 2 1) (A 2 2)).2 = A⁻¹ ∧
    (Gen.fmhInvertT3 (A 0 0) (A 0 1) (A 0 2) (A 1 0) (A 1 1) (A 1 2) (A 2 0) (A 2 1) (A 2 2)).1 = A.det ∧
    (m3 (Gen.fmhInvertT3 (A 0 0) (A 0 1) (A 0 2) (A 1 0) (A 1 1) (A 1 2) (A 2 0) (A 2 1) (A 2 2)).2)ᵀ = A⁻¹ := by
  rw [fmhInvert3_eq, fmhInvertT3_eq, m3_adj3, m3_adj3_transpose, transpose_transpose, det3_eq, inv_eq_smul_adjugate]
  exact ⟨rfl, rfl, rfl, rfl⟩

theorem mulVec_inv_mulVec {n : Type} [Fintype n] [DecidableEq n] (A : Matrix n n K) (b : n → K) (h : A.det ≠ 0) :
    A *ᵥ (A⁻¹ *ᵥ b) = b := by
  rw [mulVec_mulVec, mul_nonsing_inv A (isUnit_iff_ne_zero.mpr h), one_mulVec]

theorem mul_inv_and_inv_mul {n : Type} [Fintype n] [DecidableEq n] (A : Matrix n n K) (h : A.det ≠ 0) :
    A * A⁻¹ = 1 ∧ A⁻¹ * A = 1 :=
  ⟨mul_nonsing_inv A (isUnit_iff_ne_zero.mpr h), nonsing_inv_mul A (isUnit_iff_ne_zero.mpr h)⟩

theorem solve1_correct (A : Matrix (Fin 1) (Fin 1) K) (b : Fin 1 → K) (h : A.det ≠ 0) :
    A *ᵥ v1 (Gen.solve1 (A 0 0) (b 0)) = b := by
  rw [v1_solve1]; exact mulVec_inv_mulVec A b h

theorem solve2_correct (A : Matrix (Fin 2) (Fin 2) K) (b : Fin 2 → K) (h : A.det ≠ 0) :
    A *ᵥ v2 (Gen.solve2 (A 0 0) (A 0 1) (A 1 0) (A 1 1) (b 0) (b 1)) = b := by
  rw [v2_solve2]; exact mulVec_inv_mulVec A b h

theorem solve3_correct (A : Matrix (Fin 3) (Fin 3) K) (b : Fin 3 → K) (h : A.det ≠ 0) :
    A *ᵥ v3 (Gen.solve3 (A 0 0) (A 0 1) (A 0 2) (A 1 0) (A 1 1) (A 1 2) (A 2 0) (A 2 1) (A 2 2)
      (b 0) (b 1) (b 2)) = b := by
  rw [v3_solve3]; exact mulVec_inv_mulVec A b h

theorem invert1_correct (A : Matrix (Fin 1) (Fin 1) K) (h : A.det ≠ 0) :
    A * m1 (Gen.invert1 (A 0 0)) = 1 ∧ m1 (Gen.invert1 (A 0 0)) * A = 1 := by
  rw [m1_invert1]; exact mul_inv_and_inv_mul A h

theorem invert2_correct (A : Matrix (Fin 2) (Fin 2) K) (h : A.det ≠ 0) :
    A * m2 (Gen.invert2 (A 0 0) (A 0 1) (A 1 0) (A 1 1)) = 1 ∧
    m2 (Gen.invert2 (A 0 0) (A 0 1) (A 1 0) (A 1 1)) * A = 1 := by
  rw [m2_invert2]; exact mul_inv_and_inv_mul A h

theorem invert3_correct (A : Matrix (Fin 3) (Fin 3) K) (h : A.det ≠ 0) :
    A * m3 (Gen.invert3 (A 0 0) (A 0 1) (A 0 2) (A 1 0) (A 1 1) (A 1 2) (A 2 0) (A 2 1) (A 2 2)) = 1 ∧
    m3 (Gen.invert3 (A 0 0) (A 0 1) (A 0 2) (A 1 0) (A 1 1) (A 1 2) (A 2 0) (A 2 1) (A 2 2)) * A = 1 := by
  rw [m3_invert3]; exact mul_inv_and_inv_mul A h

/-- `FMatrixHelp::invertMatrix` for 1×1, 2×2, 3×3: returns the determinant and writes the inverse;
`invertMatrix_retTransposed` writes the transposed inverse. -/
theorem fmhInvert1_correct (A : Matrix (Fin 1) (Fin 1) K) (h : A.det ≠ 0) :
    (Gen.fmhInvert1 (A 0 0)).1 = A.det ∧ A * m1 (Gen.fmhInvert1 (A 0 0)).2 = 1 ∧
    (Gen.fmhInvertT1 (A 0 0)).1 = A.det ∧ A * (m1 (Gen.fmhInvertT1 (A 0 0)).2)ᵀ = 1 := by
  obtain ⟨h1, hT, h2⟩ := fmhInvert1_eq_inv A
  rw [hT, h1, h2, m1_invert1]
  exact ⟨rfl, (mul_inv_and_inv_mul A h).1, rfl, (mul_inv_and_inv_mul A h).1⟩

theorem fmhInvert2_correct (A : Matrix (Fin 2) (Fin 2) K) (h : A.det ≠ 0) :
    (Gen.fmhInvert2 (A 0 0) (A 0 1) (A 1 0) (A 1 1)).1 = A.det ∧
    A * m2 (Gen.fmhInvert2 (A 0 0) (A 0 1) (A 1 0) (A 1 1)).2 = 1 ∧
    (Gen.fmhInvertT2 (A 0 0) (A 0 1) (A 1 0) (A 1 1)).1 = A.det ∧
    A * (m2 (Gen.fmhInvertT2 (A 0 0) (A 0 1) (A 1 0) (A 1 1)).2)ᵀ = 1 := by
  obtain ⟨h1, h2, h3, h4⟩ := fmhInvert2_eq_inv A
  rw [h2, h4]
  exact ⟨h1, (mul_inv_and_inv_mul A h).1, h3, (mul_inv_and_inv_mul A h).1⟩

theorem fmhInvert3_correct (A : Matrix (Fin 3) (Fin 3) K) (h : A.det ≠ 0) :
    (Gen.fmhInvert3 (A 0 0) (A 0 1) (A 0 2) (A 1 0) (A 1 1) (A 1 2) (A 2 0) (A 2 1) (A 2 2)).1 = A.det ∧
    A * m3 (Gen.fmhInvert3 (A 0 0) (A 0 1) (A 0 2) (A 1 0) (A 1 1) (A 1 2) (A 2 0) (A 2 1) (A 2 2)).2 = 1 ∧
    (Gen.fmhInvertT3 (A 0 0) (A 0 1) (A 0 2) (A 1 0) (A 1 1) (A 1 2) (A 2 0) (A 2 1) (A 2 2)).1 = A.det ∧
    A * (m3 (Gen.fmhInvertT3 (A 0 0) (A 0 1) (A 0 2) (A 1 0) (A 1 1) (A 1 2) (A 2 0) (A 2 1) (A 2 2)).2)ᵀ = 1 := by
  obtain ⟨h1, h2, h3, h4⟩ := fmhInvert3_eq_inv A
  rw [h2, h4]
  exact ⟨h1, (mul_inv_and_inv_mul A h).1, h3, (mul_inv_and_inv_mul A h).1⟩

/-- non-vacuity: a concrete nonsingular 3×3 matrix (needs no special structure) -/
example : (!![2, 1, 0; 1, 3, 1; 0, 1, 4] : Matrix (Fin 3) (Fin 3) ℚ).det ≠ 0 := by
  rw [Matrix.det_fin_three]; simp; norm_num
example : (!![0, 1; 1, 0] : Matrix (Fin 2) (Fin 2) ℚ).det ≠ 0 := by
  rw [Matrix.det_fin_two]; simp

/-- With `DUNE_FMatrix_WITH_CHECKING` the closed forms of `solve` (n = 1, 2, 3) and `invert` (n = 1, 2) throw
FMatrixError when the magnitude of one quantity is below `FMatrixPrecision<>::absolute_limit()`; the translator emits that
quantity (`Gen.*Checked`, with the locals as they are bound at the test) and this theorem ties it to the determinant.  A test
of anything else (say of the reciprocal of the determinant, which rejects well-conditioned matrices of large determinant)
breaks it; `harness/cxx_c02_ck.cc` runs that configuration on matrices of very large and very small determinant. -/
theorem tie_checked_quantity (m00 m01 m02 m10 m11 m12 m20 m21 m22 b0 b1 b2 : K) :
    Gen.solve1Checked m00 b0 = Gen.det1 m00 ∧
    Gen.solve2Checked m00 m01 m10 m11 b0 b1 = Gen.det2 m00 m01 m10 m11 ∧
    Gen.solve3Checked m00 m01 m02 m10 m11 m12 m20 m21 m22 b0 b1 b2
      = Gen.det3 m00 m01 m02 m10 m11 m12 m20 m21 m22 ∧
    Gen.invert1Checked m00 = Gen.det1 m00 ∧
    Gen.invert2Checked m00 m01 m10 m11 = Gen.det2 m00 m01 m10 m11 := by
  refine ⟨?_, ?_, ?_, ?_, ?_⟩
  · simp only [Gen.solve1Checked, Gen.det1] <;> ring
  · simp only [Gen.solve2Checked, Gen.det2] <;> ring
  · simp only [Gen.solve3Checked, Gen.det3] <;> ring
  · simp only [Gen.invert1Checked, Gen.det1] <;> ring
  · simp only [Gen.invert2Checked, Gen.det2] <;> ring

end Closed

/-! ## Part 2: the LU path (`rows() ≥ 4`; the model is for every `n`)
`luDecomposition` with its three functors, back substitution, inverse assembly: theorems about the hand-written model
`DV.C02.luDecomp / solveLU / invertLU / detLU` — over any field `K`, any size `n`, both pivoting modes, and any
"absolute value" `absval : K → Q` into a linear order with `absval x = 0 ↔ x = 0` and `0 ≤ absval x`
(hence for every pivot choice such a function can induce). -/
section LU
variable {n : Nat} {K Q : Type} [Field K] [LinearOrder Q] [Zero Q]

/-- equations that hold after permuting the rows hold before -/
theorem mulVec_of_perm_rows {M : Matrix (Fin n) (Fin n) K} {σ : Equiv.Perm (Fin n)} {v w : Fin n → K}
    (h : M.submatrix σ id *ᵥ v = w ∘ σ) : M *ᵥ v = w := by
  funext r
  -- row `r` of `M.submatrix σ id *ᵥ v` is row `σ r` of `M *ᵥ v`, by definition
  have : (M *ᵥ v) (σ (σ.symm r)) = (w ∘ σ) (σ.symm r) := congrFun h (σ.symm r)
  simpa using this

/-- **solve is correct whenever it returns** — with and without pivoting (without pivoting it returns exactly
when the unpivoted elimination is defined, i.e. no zero pivot is met). -/
theorem solveLU_correct (piv : Bool) {absval : K → Q} (habs : AbsLike absval) (A : Mat n K) (b x : Vec n K)
    (h : solveLU piv absval A b = .ok x) : toMatrix A *ᵥ x.f = b.f := by
  obtain ⟨hok, rfl⟩ := solveLU_ok_iff.mp h
  obtain ⟨σ, hA, hR⟩ := (lu_elim_run piv habs A b).1 hok
  apply mulVec_of_perm_rows (σ := σ)
  rw [backSubst_f, hA.mulVec_bs, hR]

/-- **singular ⇒ FMatrixError**, with and without pivoting -/
theorem solveLU_singular (piv : Bool) {absval : K → Q} (habs : AbsLike absval) (A : Mat n K) (b : Vec n K)
    (hdet : (toMatrix A).det = 0) : solveLU piv absval A b = .fmatrixError := by
  rw [solveLU_error_iff, ← Bool.not_eq_true]
  exact fun hok => lu_ok_det_ne_zero piv habs elimFunc A b hok hdet

/-- **nonsingular ⇒ solve with pivoting succeeds** -/
theorem solveLU_nonsingular {absval : K → Q} (habs : AbsLike absval) (A : Mat n K) (b : Vec n K)
    (hdet : (toMatrix A).det ≠ 0) : ∃ x, solveLU true absval A b = .ok x :=
  ⟨_, solveLU_ok_iff.mpr ⟨(lu_ok_iff_det_ne_zero habs elimFunc A b).mpr hdet, rfl⟩⟩

/-- if solve with pivoting reports FMatrixError (a zero pivot column was met), the matrix
has a nontrivial kernel. -/
theorem singular_reported {absval : K → Q} (habs : AbsLike absval) (A : Mat n K) (b : Vec n K)
    (h : solveLU true absval A b = .fmatrixError) : ∃ v : Fin n → K, v ≠ 0 ∧ toMatrix A *ᵥ v = 0 := by
  apply Matrix.exists_mulVec_eq_zero_iff.mpr
  by_contra hdet
  obtain ⟨x, hx⟩ := solveLU_nonsingular habs A b hdet
  rw [hx] at h
  cases h

/-- in either pivoting mode the LU determinant is the determinant whenever the decomposition runs through:
`sign σ · ∏ diag` with `L·W = P·A` -/
theorem detLU_eq_det_of_ok (piv : Bool) {absval : K → Q} (habs : AbsLike absval) (A : Mat n K)
    (hok : (luDecomp piv absval detFunc A (1 : K)).ok = true) : detLU piv absval A = (toMatrix A).det := by
  obtain ⟨σ, hA, hs⟩ := (lu_det_run piv habs A).1 hok
  rw [detLU, if_pos hok, forUp_mul_prod, hs, AInv_det hA]

/-- **the LU determinant with pivoting is the determinant**, for every `n` — including the value `0` returned for singular
matrices. -/
theorem detLU_eq_det {absval : K → Q} (habs : AbsLike absval) (A : Mat n K) :
    detLU true absval A = (toMatrix A).det := by
  by_cases hok : (luDecomp true absval detFunc A (1 : K)).ok = true
  · exact detLU_eq_det_of_ok true habs A hok
  · have hok' : (luDecomp true absval detFunc A (1 : K)).ok = false := by simpa using hok
    rw [detLU, if_neg hok, (lu_det_run true habs A).2 hok' rfl]

/-- without pivoting the determinant is right whenever the unpivoted elimination is defined -/
theorem detLU_nopivot_eq_det {absval : K → Q} (habs : AbsLike absval) (A : Mat n K)
    (hok : (luDecomp false absval detFunc A (1 : K)).ok = true) :
    detLU false absval A = (toMatrix A).det :=
  detLU_eq_det_of_ok false habs A hok

/-- **singular ⇒ determinant 0**, with and without pivoting -/
theorem detLU_singular (piv : Bool) {absval : K → Q} (habs : AbsLike absval) (A : Mat n K)
    (hdet : (toMatrix A).det = 0) : detLU piv absval A = 0 := by
  unfold detLU
  by_cases hok : (luDecomp piv absval detFunc A (1 : K)).ok = true
  · exact absurd hdet (lu_ok_det_ne_zero piv habs detFunc A 1 hok)
  · rw [if_neg hok]

theorem detLU_zero_iff_singular {absval : K → Q} (habs : AbsLike absval) (A : Mat n K) :
    detLU true absval A = 0 ↔ ∃ v : Fin n → K, v ≠ 0 ∧ toMatrix A *ᵥ v = 0 := by
  rw [detLU_eq_det habs, Matrix.exists_mulVec_eq_zero_iff]

/-- **whenever invert returns, `A B = B A = I`** — every `n`, both pivoting modes. -/
theorem invertLU_correct (piv : Bool) {absval : K → Q} (habs : AbsLike absval) (A B : Mat n K)
    (h : invertLU piv absval A = .ok B) : toMatrix A * toMatrix B = 1 ∧ toMatrix B * toMatrix A = 1 := by
  obtain ⟨hok, rfl⟩ := invertLU_ok_iff.mp h
  obtain ⟨σ, hA, rfl⟩ := (lu_pivot_run piv habs A).1 hok
  generalize (luDecomp piv absval pivotFunc A idPivot).A = LU at hA ⊢
  generalize (luDecomp piv absval pivotFunc A idPivot).s = s at hA ⊢
  -- column `c` of the result solves `P·A x = e_{σ⁻¹ c}`, which is `e_c` with its entries permuted as the rows are
  have hAB : toMatrix A * toMatrix (unpermute s (backwardU LU (forwardL LU identity))) = 1 := by
    ext r c
    refine congrFun (mulVec_of_perm_rows (σ := sigOf s n) (w := fun r => (1 : Matrix (Fin n) (Fin n) K) r c) ?_) r
    show _ *ᵥ (fun r => (unpermute s (backwardU LU (forwardL LU identity))).f r c) = _
    rw [invert_col, hA.mulVec_bs, fw_correct]
    funext r
    simp [identity, Matrix.one_apply, Equiv.eq_symm_apply]
  exact ⟨hAB, mul_eq_one_comm.mp hAB⟩

theorem invertLU_singular (piv : Bool) {absval : K → Q} (habs : AbsLike absval) (A : Mat n K)
    (hdet : (toMatrix A).det = 0) : invertLU piv absval A = .fmatrixError := by
  rw [invertLU_error_iff, ← Bool.not_eq_true]
  exact fun hok => lu_ok_det_ne_zero piv habs pivotFunc A idPivot hok hdet

theorem invertLU_nonsingular {absval : K → Q} (habs : AbsLike absval) (A : Mat n K)
    (hdet : (toMatrix A).det ≠ 0) : ∃ B, invertLU true absval A = .ok B :=
  ⟨_, invertLU_ok_iff.mpr ⟨(lu_ok_iff_det_ne_zero habs pivotFunc A idPivot).mpr hdet, rfl⟩⟩

/-- **"without pivoting whenever the unpivoted elimination is defined"**: the unpivoted decomposition runs
through exactly when all leading principal minors of `A` are nonzero (`leadingMinor A k` = minor of order `k+1`),
and then solve / determinant / invert without pivoting are correct. -/
theorem solveLU_nopivot_iff_minors {absval : K → Q} (habs : AbsLike absval) (A : Mat n K) (b : Vec n K) :
    (∃ x, solveLU false absval A b = .ok x) ↔ ∀ k : Fin n, leadingMinor A k ≠ 0 := by
  rw [← nopivot_ok_iff_minors habs elimFunc A b]
  exact ⟨fun ⟨x, hx⟩ => (solveLU_ok_iff.mp hx).1, fun hok => ⟨_, solveLU_ok_iff.mpr ⟨hok, rfl⟩⟩⟩

theorem solveLU_nopivot_correct {absval : K → Q} (habs : AbsLike absval) (A : Mat n K) (b : Vec n K)
    (hmin : ∀ k : Fin n, leadingMinor A k ≠ 0) :
    ∃ x, solveLU false absval A b = .ok x ∧ toMatrix A *ᵥ x.f = b.f := by
  obtain ⟨x, hx⟩ := (solveLU_nopivot_iff_minors habs A b).mpr hmin
  exact ⟨x, hx, solveLU_correct false habs A b x hx⟩

theorem detLU_nopivot_of_minors {absval : K → Q} (habs : AbsLike absval) (A : Mat n K)
    (hmin : ∀ k : Fin n, leadingMinor A k ≠ 0) : detLU false absval A = (toMatrix A).det :=
  detLU_nopivot_eq_det habs A ((nopivot_ok_iff_minors habs detFunc A (1 : K)).mpr hmin)

theorem invertLU_nopivot_of_minors {absval : K → Q} (habs : AbsLike absval) (A : Mat n K)
    (hmin : ∀ k : Fin n, leadingMinor A k ≠ 0) :
    ∃ B, invertLU false absval A = .ok B ∧ toMatrix A * toMatrix B = 1 ∧ toMatrix B * toMatrix A = 1 := by
  have hB := invertLU_ok_iff.mpr ⟨(nopivot_ok_iff_minors habs pivotFunc A idPivot).mpr hmin, rfl⟩
  exact ⟨_, hB, invertLU_correct false habs A _ hB⟩

/-! non-vacuity: `|·|` on ℚ is an admissible absolute value; a concrete 4×4 matrix that needs a row swap in the
first step is nonsingular, so solve/invert with pivoting return and the theorems above apply to it. -/
theorem absLike_abs_rat : AbsLike (fun x : ℚ => |x|) := ⟨fun _ => abs_eq_zero, fun _ => abs_nonneg _⟩

def exA : Mat 4 ℚ := Mat.ofFn ![![0, 2, 0, 0], ![1, 0, 0, 0], ![0, 0, 1, 3], ![0, 0, 5, 1]]

theorem exA_det : (toMatrix exA).det ≠ 0 := by
  apply Matrix.det_ne_zero_of_left_inverse (B := !![0, 1, 0, 0; 1/2, 0, 0, 0; 0, 0, -1/14, 3/14; 0, 0, 5/14, -1/14])
  decide +kernel

example (b : Vec 4 ℚ) : ∃ x, solveLU true (fun x : ℚ => |x|) exA b = .ok x :=
  solveLU_nonsingular absLike_abs_rat exA b exA_det
example : ∃ B, invertLU true (fun x : ℚ => |x|) exA = .ok B :=
  invertLU_nonsingular absLike_abs_rat exA exA_det
example : detLU true (fun x : ℚ => |x|) exA ≠ 0 := by
  rw [detLU_eq_det absLike_abs_rat]; exact exA_det
/-- all leading principal minors of a concrete lower triangular 4×4 matrix are nonzero -/
example : ∀ k : Fin 4, leadingMinor (Mat.ofFn ![![2, 0, 0, 0], ![1, 3, 0, 0], ![4, 1, 5, 0], ![1, 1, 1, 7]] : Mat 4 ℚ) k ≠ 0 :=
  -- the unpivoted elimination runs through on this matrix
  (nopivot_ok_iff_minors absLike_abs_rat detFunc _ 1).mp (by decide +kernel)
/-- a singular 4×4 example for the error clauses -/
example : (toMatrix (Mat.ofFn (fun _ _ => (1 : ℚ)) : Mat 4 ℚ)).det = 0 := by
  apply Matrix.det_zero_of_row_eq (i := 0) (j := 1) (by decide)
  funext c; simp

end LU

/-! ## Part 2b: the member functions as a whole
`DV.C02.determinant / solve / invert` of Model/C02Top.lean: the size dispatch between Part 1 and Part 2 (closed forms for
`rows() ∈ {1,2,3}`, LU otherwise; sizes read off the source), both pivoting modes, the calls without the optional argument
(defaults read off the source).  These are the clauses of the property as stated, for **every** `n` (`n = 0` takes the LU
path with empty loops, as in the code). -/
section Whole
variable {K Q : Type} [Field K] [LinearOrder Q] [Zero Q]

theorem vecOf1_f (r : Gen.V1 K) : (vecOf1 r).f = v1 r := by
  funext i; rw [vecOf1, Vec.ofFn_f]; fin_cases i; rfl
theorem vecOf2_f (r : Gen.V2 K) : (vecOf2 r).f = v2 r := by
  funext i; rw [vecOf2, Vec.ofFn_f]; fin_cases i <;> rfl
theorem vecOf3_f (r : Gen.V3 K) : (vecOf3 r).f = v3 r := by
  funext i; rw [vecOf3, Vec.ofFn_f]; fin_cases i <;> rfl
theorem toMatrix_matOf1 (r : Gen.M1 K) : toMatrix (matOf1 r) = m1 r := by
  ext i j; rw [toMatrix_apply, matOf1, Mat.ofFn_f]; fin_cases i; fin_cases j; rfl
theorem toMatrix_matOf2 (r : Gen.M2 K) : toMatrix (matOf2 r) = m2 r := by
  ext i j; rw [toMatrix_apply, matOf2, Mat.ofFn_f]; fin_cases i <;> fin_cases j <;> rfl
theorem toMatrix_matOf3 (r : Gen.M3 K) : toMatrix (matOf3 r) = m3 r := by
  ext i j; rw [toMatrix_apply, matOf3, Mat.ofFn_f]; fin_cases i <;> fin_cases j <;> rfl

/-- the size tests found in the source are exactly the ones `DV.C02.determinant / solve / invert` dispatch on -/
theorem dispatch_sizes : Gen.closedFormSizes = [1, 2, 3] := by decide

/-- the default arguments found in the source: pivoting is on when the caller says nothing -/
theorem default_pivoting : Gen.solveDefaultPivoting = true ∧ Gen.invertDefaultPivoting = true ∧
    Gen.determinantDefaultPivoting = true := by decide

/-! The dispatch on `rows()` is analysed once per member function: either a closed form is taken, which computes
`det A` / `A⁻¹ b` / `A⁻¹` (Part 1), or the call *is* the LU function of Part 2. -/

theorem determinant_cases (piv : Bool) (absval : K → Q) :
    ∀ {n : Nat} (A : Mat n K),
      determinant piv absval A = (toMatrix A).det ∨ determinant piv absval A = detLU piv absval A
  | 0, _ => .inr rfl
  | 1, A => .inl (det1_eq (toMatrix A))
  | 2, A => .inl (det2_eq (toMatrix A))
  | 3, A => .inl (det3_eq (toMatrix A))
  | _ + 4, _ => .inr rfl

theorem solve_cases (piv : Bool) (absval : K → Q) :
    ∀ {n : Nat} (A : Mat n K) (b : Vec n K),
      (∃ x, solve piv absval A b = .ok x ∧ x.f = (toMatrix A)⁻¹ *ᵥ b.f) ∨
        solve piv absval A b = solveLU piv absval A b
  | 0, _, _ => .inr rfl
  | 1, A, b => .inl ⟨_, rfl, by rw [vecOf1_f]; exact v1_solve1 (toMatrix A) b.f⟩
  | 2, A, b => .inl ⟨_, rfl, by rw [vecOf2_f]; exact v2_solve2 (toMatrix A) b.f⟩
  | 3, A, b => .inl ⟨_, rfl, by rw [vecOf3_f]; exact v3_solve3 (toMatrix A) b.f⟩
  | _ + 4, _, _ => .inr rfl

theorem invert_cases (piv : Bool) (absval : K → Q) :
    ∀ {n : Nat} (A : Mat n K),
      (∃ B, invert piv absval A = .ok B ∧ toMatrix B = (toMatrix A)⁻¹) ∨
        invert piv absval A = invertLU piv absval A
  | 0, _ => .inr rfl
  | 1, A => .inl ⟨_, rfl, by rw [toMatrix_matOf1]; exact m1_invert1 (toMatrix A)⟩
  | 2, A => .inl ⟨_, rfl, by rw [toMatrix_matOf2]; exact m2_invert2 (toMatrix A)⟩
  | 3, A => .inl ⟨_, rfl, by rw [toMatrix_matOf3]; exact m3_invert3 (toMatrix A)⟩
  | _ + 4, _ => .inr rfl

/-- **determinant returns det A** (pivoting on; every n; singular matrices included: the value is then 0) -/
theorem determinant_spec {absval : K → Q} (habs : AbsLike absval) :
    ∀ {n : Nat} (A : Mat n K), determinant true absval A = (toMatrix A).det := fun A =>
  (determinant_cases true absval A).elim id fun h => h.trans (detLU_eq_det habs A)

/-- **determinant without pivoting returns det A whenever the unpivoted elimination is defined** (the closed forms for
n ≤ 3 do not need that) -/
theorem determinant_nopivot_spec {absval : K → Q} (habs : AbsLike absval) :
    ∀ {n : Nat} (A : Mat n K), (∀ k : Fin n, leadingMinor A k ≠ 0) →
      determinant false absval A = (toMatrix A).det := fun A hmin =>
  (determinant_cases false absval A).elim id fun h => h.trans (detLU_nopivot_of_minors habs A hmin)

/-- **singular ⇒ determinant returns zero** — every n, with and without pivoting -/
theorem determinant_singular (piv : Bool) {absval : K → Q} (habs : AbsLike absval) :
    ∀ {n : Nat} (A : Mat n K), (toMatrix A).det = 0 → determinant piv absval A = 0 := fun A hdet =>
  (determinant_cases piv absval A).elim (fun h => h.trans hdet) fun h => h.trans (detLU_singular piv habs A hdet)

/-- in either pivoting mode solve returns a solution when the matrix is nonsingular and the decomposition (which only
the LU path runs) goes through -/
theorem solve_returns (piv : Bool) {absval : K → Q} (habs : AbsLike absval) {n : Nat} (A : Mat n K) (b : Vec n K)
    (hdet : (toMatrix A).det ≠ 0) (hok : (luDecomp piv absval elimFunc A b).ok = true) :
    ∃ x, solve piv absval A b = .ok x ∧ toMatrix A *ᵥ x.f = b.f := by
  obtain ⟨x, hx, hf⟩ | hLU := solve_cases piv absval A b
  · exact ⟨x, hx, by rw [hf]; exact mulVec_inv_mulVec _ _ hdet⟩
  · have hx := solveLU_ok_iff.mpr ⟨hok, rfl⟩
    exact ⟨_, hLU.trans hx, solveLU_correct piv habs A b _ hx⟩

/-- **nonsingular ⇒ solve (pivoting on) returns x with A x = b** — every n -/
theorem solve_spec {absval : K → Q} (habs : AbsLike absval) :
    ∀ {n : Nat} (A : Mat n K) (b : Vec n K), (toMatrix A).det ≠ 0 →
      ∃ x, solve true absval A b = .ok x ∧ toMatrix A *ᵥ x.f = b.f := by
  intro n A b hdet
  exact solve_returns true habs A b hdet ((lu_ok_iff_det_ne_zero habs elimFunc A b).mpr hdet)

/-- **solve without pivoting returns x with A x = b whenever the unpivoted elimination is defined** -/
theorem solve_nopivot_spec {absval : K → Q} (habs : AbsLike absval) :
    ∀ {n : Nat} (A : Mat n K) (b : Vec n K), (∀ k : Fin n, leadingMinor A k ≠ 0) →
      ∃ x, solve false absval A b = .ok x ∧ toMatrix A *ᵥ x.f = b.f := by
  intro n A b hmin
  exact solve_returns false habs A b (det_ne_zero_of_minors habs A hmin)
    ((nopivot_ok_iff_minors habs elimFunc A b).mpr hmin)

/-- whatever solve returns for a nonsingular matrix is `A⁻¹ b` — both pivoting modes, every n -/
theorem solve_eq_inv (piv : Bool) {absval : K → Q} (habs : AbsLike absval) {n : Nat} (A : Mat n K) (b x : Vec n K)
    (hdet : (toMatrix A).det ≠ 0) (hx : solve piv absval A b = .ok x) : x.f = (toMatrix A)⁻¹ *ᵥ b.f := by
  obtain ⟨x', hx', hf⟩ | hLU := solve_cases piv absval A b
  · obtain rfl : x' = x := Res.ok.inj (hx'.symm.trans hx)
    exact hf
  · exact eq_inv_mulVec hdet (solveLU_correct piv habs A b x (hLU.symm.trans hx))

/-- whatever solve returns for a nonsingular matrix is the solution — both pivoting modes, every n
(on the LU path the hypothesis `det ≠ 0` is not even needed: `solveLU_correct`) -/
theorem solve_sound (piv : Bool) {absval : K → Q} (habs : AbsLike absval) :
    ∀ {n : Nat} (A : Mat n K) (b x : Vec n K), (toMatrix A).det ≠ 0 → solve piv absval A b = .ok x →
      toMatrix A *ᵥ x.f = b.f := by
  intro n A b x hdet hx
  rw [solve_eq_inv piv habs A b x hdet hx]
  exact mulVec_inv_mulVec _ _ hdet

/-- **singular A of size four or more ⇒ solve reports FMatrixError** — with and without pivoting -/
theorem solve_singular_ge4 (piv : Bool) {absval : K → Q} (habs : AbsLike absval) {n : Nat} (A : Mat (n + 4) K)
    (b : Vec (n + 4) K) (hdet : (toMatrix A).det = 0) : solve piv absval A b = .fmatrixError :=
  solveLU_singular piv habs A b hdet

/-- `solve_returns` for invert -/
theorem invert_returns (piv : Bool) {absval : K → Q} (habs : AbsLike absval) {n : Nat} (A : Mat n K)
    (hdet : (toMatrix A).det ≠ 0) (hok : (luDecomp piv absval pivotFunc A idPivot).ok = true) :
    ∃ B, invert piv absval A = .ok B ∧ toMatrix A * toMatrix B = 1 ∧ toMatrix B * toMatrix A = 1 := by
  obtain ⟨B, hB, hf⟩ | hLU := invert_cases piv absval A
  · exact ⟨B, hB, by rw [hf]; exact mul_inv_and_inv_mul _ hdet⟩
  · have hB := invertLU_ok_iff.mpr ⟨hok, rfl⟩
    exact ⟨_, hLU.trans hB, invertLU_correct piv habs A _ hB⟩

/-- **nonsingular ⇒ invert (pivoting on) leaves B with A B = B A = I** — every n -/
theorem invert_spec {absval : K → Q} (habs : AbsLike absval) :
    ∀ {n : Nat} (A : Mat n K), (toMatrix A).det ≠ 0 →
      ∃ B, invert true absval A = .ok B ∧ toMatrix A * toMatrix B = 1 ∧ toMatrix B * toMatrix A = 1 := by
  intro n A hdet
  exact invert_returns true habs A hdet ((lu_ok_iff_det_ne_zero habs pivotFunc A idPivot).mpr hdet)

/-- **invert without pivoting leaves B with A B = B A = I whenever the unpivoted elimination is defined** -/
theorem invert_nopivot_spec {absval : K → Q} (habs : AbsLike absval) :
    ∀ {n : Nat} (A : Mat n K), (∀ k : Fin n, leadingMinor A k ≠ 0) →
      ∃ B, invert false absval A = .ok B ∧ toMatrix A * toMatrix B = 1 ∧ toMatrix B * toMatrix A = 1 := by
  intro n A hmin
  exact invert_returns false habs A (det_ne_zero_of_minors habs A hmin)
    ((nopivot_ok_iff_minors habs pivotFunc A idPivot).mpr hmin)

/-- whatever invert returns is `A⁻¹` — both pivoting modes, every n (for a singular matrix of size ≤ 3 that is `0`) -/
theorem invert_eq_inv (piv : Bool) {absval : K → Q} (habs : AbsLike absval) {n : Nat} (A B : Mat n K)
    (hB : invert piv absval A = .ok B) : toMatrix B = (toMatrix A)⁻¹ := by
  obtain ⟨B', hB', hf⟩ | hLU := invert_cases piv absval A
  · obtain rfl : B' = B := Res.ok.inj (hB'.symm.trans hB)
    exact hf
  · exact (inv_eq_right_inv (invertLU_correct piv habs A B (hLU.symm.trans hB)).1).symm

/-- **singular A of size four or more ⇒ invert reports FMatrixError** — with and without pivoting -/
theorem invert_singular_ge4 (piv : Bool) {absval : K → Q} (habs : AbsLike absval) {n : Nat} (A : Mat (n + 4) K)
    (hdet : (toMatrix A).det = 0) : invert piv absval A = .fmatrixError :=
  invertLU_singular piv habs A hdet

/-- the calls without the optional argument (`A.solve(x,b)`, `A.invert()`, `A.determinant()`) -/
theorem solveDefault_spec {absval : K → Q} (habs : AbsLike absval) {n : Nat} (A : Mat n K) (b : Vec n K)
    (hdet : (toMatrix A).det ≠ 0) : ∃ x, solveDefault absval A b = .ok x ∧ toMatrix A *ᵥ x.f = b.f :=
  solve_spec habs A b hdet

theorem invertDefault_spec {absval : K → Q} (habs : AbsLike absval) {n : Nat} (A : Mat n K)
    (hdet : (toMatrix A).det ≠ 0) :
    ∃ B, invertDefault absval A = .ok B ∧ toMatrix A * toMatrix B = 1 ∧ toMatrix B * toMatrix A = 1 :=
  invert_spec habs A hdet

theorem determinantDefault_spec {absval : K → Q} (habs : AbsLike absval) {n : Nat} (A : Mat n K) :
    determinantDefault absval A = (toMatrix A).det :=
  determinant_spec habs A

/-! non-vacuity: the 4×4 example `exA` (needs a row swap) and a 2×2 one go through the whole functions -/
example (b : Vec 4 ℚ) : ∃ x, solveDefault (fun x : ℚ => |x|) exA b = .ok x ∧ toMatrix exA *ᵥ x.f = b.f :=
  solveDefault_spec absLike_abs_rat exA b exA_det
example : ∃ B, invert true (fun x : ℚ => |x|) exA = .ok B ∧ toMatrix exA * toMatrix B = 1 ∧
    toMatrix B * toMatrix exA = 1 := invert_spec absLike_abs_rat exA exA_det
example : (toMatrix (Mat.ofFn ![![0, 1], ![1, 0]] : Mat 2 ℚ)).det ≠ 0 := by
  rw [Matrix.det_fin_two]; simp [toMatrix]
example : solve true (fun x : ℚ => |x|) (Mat.ofFn (fun _ _ => (1 : ℚ)) : Mat 4 ℚ) (Vec.ofFn fun _ => 1) =
    .fmatrixError := by
  apply solve_singular_ge4 true absLike_abs_rat (n := 0)
  apply Matrix.det_zero_of_row_eq (i := 0) (j := 1) (by decide)
  funext c; simp [toMatrix]

end Whole

/-! ## Part 3: DiagonalMatrix (non-singular clauses; `solve` divides entry-wise, there is no singularity check) -/
section Diag
variable {n : Nat} {K : Type} [Field K]

theorem solveDiag_correct (d b : Vec n K) (h : ∀ i, d.f i ≠ 0) :
    Matrix.diagonal d.f *ᵥ (solveDiag d b).f = b.f := by
  funext i
  rw [Matrix.mulVec_diagonal]
  simp only [solveDiag, Vec.ofFn_f]
  exact mul_div_cancel₀ _ (h i)

theorem invertDiag_correct (d : Vec n K) (h : ∀ i, d.f i ≠ 0) :
    Matrix.diagonal d.f * Matrix.diagonal (invertDiag d).f = 1 ∧
    Matrix.diagonal (invertDiag d).f * Matrix.diagonal d.f = 1 := by
  have hi : ∀ i, d.f i * (invertDiag d).f i = 1 := fun i => by
    simp only [invertDiag, Vec.ofFn_f]
    exact mul_one_div_cancel (h i)
  constructor
  · rw [Matrix.diagonal_mul_diagonal, ← Matrix.diagonal_one]
    exact congrArg _ (funext hi)
  · rw [Matrix.diagonal_mul_diagonal, ← Matrix.diagonal_one]
    exact congrArg _ (funext fun i => (mul_comm _ _).trans (hi i))

theorem detDiag_eq (d : Vec (n + 1) K) : detDiag d = (Matrix.diagonal d.f).det := by
  rw [Matrix.det_diagonal]
  unfold detDiag
  have : (fun (i : Fin (n + 1)) (det : K) => if 0 < i.1 then det * d.f i else det) =
      fun i det => det * (if 0 < i.1 then d.f i else 1) := by
    funext i det; split_ifs <;> simp
  rw [this, forUp_mul_prod, prod_skip_zero]

example : ∀ i : Fin 3, (Vec.ofFn ![(2 : ℚ), 3, 5] : Vec 3 ℚ).f i ≠ 0 := by
  intro i; fin_cases i <;> simp

end Diag

/-! ## Part 4: floating point — the same models under the standard model of rounded arithmetic

`Flt.Rounding` (Proofs/C02Float.lean) is an abstract floating-point format: `fl : ℝ → ℝ` with
`fl x = x (1 + δ)`, `|δ| ≤ u` (no overflow / underflow); `Flt.FlR R` are the reals whose `+ - * /` round with `R.fl`.
The executable models of Model/C02.lean are generic in the scalar type, so `solveLU`, `backSubst`, `solveDiag`, … below
are literally the functions of Parts 2–3 instantiated at `FlR R`.  `Flt.gamma u k = k u / (1 - k u)` is Higham's `γ_k`;
`Flt.Lr`, `Flt.Ur` are the computed factors `L̂` (unit lower triangular, the stored multipliers) and `Û`.

Proved for every `n`, both pivoting modes, every pivot choice: the **backward-error bound of Gaussian elimination**
for the LU paths (Higham, *Accuracy and Stability of Numerical Algorithms*, Thm 9.3 + 8.5 ⇒ 9.4, with the constant
`3γ_{n+1} + γ_{n+1}²` instead of `γ_{3n}`):
* `solve`: the computed `x̂` is the exact solution of a system whose (row-permuted) matrix differs from `A` entry-wise
  by at most `(3γ+γ²) (|L̂| |Û|)`;
* `invert`: every column `b̂_c` of the computed inverse is the exact solution of such a perturbed system
  `(A + ΔA_c) b̂_c = e_c` (Higham §14.3: this bounds the right residual `A B̂ − I`; the left residual `B̂ A − I` of an
  inverse computed column by column is not small in general and nothing is claimed about it);
* `determinant`: the computed value is `det(A + ΔA)(1 + θ)`, `|ΔA| ≤ γ_n |L̂||Û|`, `|θ| ≤ γ_{2n}`;
* the triangular solve alone and the three DiagonalMatrix members.

NOT proved:
* the closed forms for `n ≤ 3` are Cramer's rule / the adjugate formula, which are forward but not backward stable
  (Higham §1.10.1): the appropriate statement is a forward bound `‖x̂ − x‖ ≤ c u cond(A) ‖x‖`; not proved;
* a bound in terms of `‖A‖` alone needs the growth factor `‖|L̂||Û|‖ ≤ n ρ_n ‖A‖` of partial pivoting
  (`|l̂_ij| ≤ 1` because the pivot is the column maximum); the theorems below state the bound with `|L̂||Û|`, as
  Higham's Theorem 9.4 does;
* that IEEE binary64 / 80-bit / complex arithmetic of the C++ compiler satisfies `Flt.Rounding` with `u = 2⁻⁵³` etc.
  (true for round-to-nearest in the absence of overflow/underflow; complex multiplication and division satisfy it
  with a small multiple of `u`) is an assumption, not a theorem. -/
section Float
open Flt
variable {R : Rounding} {n : Nat} {Q : Type} [LinearOrder Q] [Zero Q]

/-- **backward error of `solve` on the LU path**.
`habs0`: the magnitude used in the pivot search vanishes on zero (true for `abs`). -/
theorem solveLU_backward_error (hn : ((n + 1 : ℕ) : ℝ) * R.u < 1) (piv : Bool) (absval : FlR R → Q)
    (habs0 : ∀ x : FlR R, x.val = 0 → absval x = 0) (A : Mat n (FlR R)) (b x : Vec n (FlR R))
    (h : solveLU piv absval A b = .ok x) :
    ∃ (σ : Equiv.Perm (Fin n)) (ΔA : Fin n → Fin n → ℝ),
      (∀ r, ∑ c, ((A.f (σ r) c).val + ΔA r c) * (x.f c).val = (b.f (σ r)).val) ∧
      ∀ r c, |ΔA r c| ≤ (3 * gamma R.u (n + 1) + gamma R.u (n + 1) ^ 2) *
        ∑ k, |Lr (luDecomp piv absval elimFunc A b).A r k| * |Ur (luDecomp piv absval elimFunc A b).A k c| := by
  have hn' : (n : ℝ) * R.u < 1 := nat_mul_lt R.u_nonneg (Nat.le_succ n) hn
  obtain ⟨hok, rfl⟩ := solveLU_ok_iff.mp h
  obtain ⟨σ, hM, hR⟩ := (lu_run_model (flModel R) (flModel_ok hn') piv habs0 elimFunc A b (RhsInvG (flModel R) b)
    (ColInv_zero A n b.f) fun i _ _ _ _ hip hp _ hR hne => RhsInvG_step piv hip hp (flModel_ok hn' _ i.2) hne hR).1 hok
  rw [backSubst_f]
  exact ⟨σ, solve_rows_backward_error hn hM _ _ (RhsInv_rows hR)⟩

/-- `solveLU_backward_error` for the member function `solve` when `rows() ≥ 4` -/
theorem solve_backward_error_ge4 (hn : ((n + 4 + 1 : ℕ) : ℝ) * R.u < 1) (piv : Bool) (absval : FlR R → Q)
    (habs0 : ∀ x : FlR R, x.val = 0 → absval x = 0) (A : Mat (n + 4) (FlR R)) (b x : Vec (n + 4) (FlR R))
    (h : solve piv absval A b = .ok x) :
    ∃ (σ : Equiv.Perm (Fin (n + 4))) (ΔA : Fin (n + 4) → Fin (n + 4) → ℝ),
      (∀ r, ∑ c, ((A.f (σ r) c).val + ΔA r c) * (x.f c).val = (b.f (σ r)).val) ∧
      ∀ r c, |ΔA r c| ≤ (3 * gamma R.u (n + 4 + 1) + gamma R.u (n + 4 + 1) ^ 2) *
        ∑ k, |Lr (luDecomp piv absval elimFunc A b).A r k| * |Ur (luDecomp piv absval elimFunc A b).A k c| :=
  solveLU_backward_error hn piv absval habs0 A b x h

/-- the factorisation alone (Higham Thm 9.3): every entry of the row-permuted input is `Σ_k L̂_rk Û_kc (1+Θ_k)`
with `|Θ_k| ≤ γ_n`, i.e. `L̂ Û = P A + ΔA`, `|ΔA| ≤ γ_n |L̂| |Û|` -/
theorem lu_backward_error (hn : (n : ℝ) * R.u < 1) (piv : Bool) (absval : FlR R → Q)
    (habs0 : ∀ x : FlR R, x.val = 0 → absval x = 0) (A : Mat n (FlR R)) (b : Vec n (FlR R))
    (hok : (luDecomp piv absval elimFunc A b).ok = true) :
    ∃ σ : Equiv.Perm (Fin n), ∀ r c, ∃ Θ : Fin n → ℝ, (∀ k, |Θ k| ≤ gamma R.u n) ∧
      (A.f (σ r) c).val = ∑ k, Lr (luDecomp piv absval elimFunc A b).A r k *
        Ur (luDecomp piv absval elimFunc A b).A k c * (1 + Θ k) := by
  obtain ⟨σ, hM, _⟩ := (lu_run_model (flModel R) (flModel_ok hn) piv habs0 elimFunc A b (fun _ _ _ _ => True) trivial
    fun _ _ _ _ _ _ _ _ _ _ => trivial).1 hok
  exact ⟨σ, fun r c => MatInv_rows hM.inv r c⟩

/-- **backward error of `determinant` on the LU path**: when the decomposition runs through, the returned value is
the exact determinant of `A + ΔA` times `1 + θ` (when it does not, `detLU` returns exactly `0`, Part 2) -/
theorem detLU_backward_error (hn : ((2 * n : ℕ) : ℝ) * R.u < 1) (piv : Bool) (absval : FlR R → Q)
    (habs0 : ∀ x : FlR R, x.val = 0 → absval x = 0) (A : Mat n (FlR R))
    (hok : (luDecomp piv absval detFunc A (1 : FlR R)).ok = true) :
    ∃ (σ : Equiv.Perm (Fin n)) (ΔA : Matrix (Fin n) (Fin n) ℝ) (θ : ℝ), |θ| ≤ gamma R.u (2 * n) ∧
      (∀ r c, |ΔA (σ r) c| ≤ gamma R.u n *
        ∑ k, |Lr (luDecomp piv absval detFunc A (1 : FlR R)).A r k| *
          |Ur (luDecomp piv absval detFunc A (1 : FlR R)).A k c|) ∧
      (detLU piv absval A).val = (realMat A + ΔA).det * (1 + θ) := by
  have hu := R.u_nonneg
  have hn' : (n : ℝ) * R.u < 1 := nat_mul_lt hu (by omega) hn
  obtain ⟨σ, hM, hS⟩ := (lu_run_model (flModel R) (flModel_ok hn') piv habs0 detFunc A 1 (fun m σ _ s => SignInv m σ s)
    SignInv_zero fun i _ _ _ _ _ hp _ hS _ => SignInv_step piv hp (flModel_ok hn' _ i.2) _ hS).1 hok
  unfold detLU
  rw [if_pos hok]
  generalize (luDecomp piv absval detFunc A (1 : FlR R)).A = LU at hM ⊢
  generalize (luDecomp piv absval detFunc A (1 : FlR R)).s = s at hS ⊢
  obtain ⟨θ, hθ, hprod⟩ := prod_loop_fl (k := n) (by rwa [← two_mul]) (fun _ => True) (fun i => LU.f i i) s
    ((Equiv.Perm.sign σ : ℤ) : ℝ) hS
  simp only [if_true, ← two_mul] at hθ hprod
  -- `L̂·Û = P·A + ΔA'`; the perturbation of `A` itself is `ΔA'` with its rows permuted back
  obtain ⟨ΔA', hb, hLU⟩ := pert_factor (Lview n (valMat LU)) (Wview n (valMat LU)) (fun r c => (A.f (σ r) c).val)
    (MatInv_partial (MatInv_iff.mpr hM.inv))
  have hsub : Lview n (valMat LU) * Wview n (valMat LU) = (realMat A + ΔA'.submatrix σ.symm id).submatrix σ id := by
    rw [← hLU]
    ext r c
    simp [realMat]
  refine ⟨σ, ΔA'.submatrix σ.symm id, θ, hθ, fun r c => ?_, ?_⟩
  · rw [Matrix.submatrix_apply, Equiv.symm_apply_apply, ← Lview_valMat, ← Wview_valMat]
    exact hb r c
  · rw [hprod, det_of_fact hsub]
    simp only [valMat_f]

/-- **backward error of `invert` on the LU path**, column by column -/
theorem invertLU_backward_error (hn : ((n + 1 : ℕ) : ℝ) * R.u < 1) (piv : Bool) (absval : FlR R → Q)
    (habs0 : ∀ x : FlR R, x.val = 0 → absval x = 0) (A B : Mat n (FlR R)) (h : invertLU piv absval A = .ok B) :
    ∃ σ : Equiv.Perm (Fin n), ∀ c : Fin n, ∃ ΔA : Fin n → Fin n → ℝ,
      (∀ r, ∑ k, ((A.f (σ r) k).val + ΔA r k) * (B.f k c).val = if σ r = c then 1 else 0) ∧
      ∀ r k, |ΔA r k| ≤ (3 * gamma R.u (n + 1) + gamma R.u (n + 1) ^ 2) *
        ∑ j, |Lr (luDecomp piv absval pivotFunc A idPivot).A r j| *
          |Ur (luDecomp piv absval pivotFunc A idPivot).A j k| := by
  have hn' : (n : ℝ) * R.u < 1 := nat_mul_lt R.u_nonneg (Nat.le_succ n) hn
  obtain ⟨hok, rfl⟩ := invertLU_ok_iff.mp h
  obtain ⟨σ, hM, rfl, _⟩ := (lu_run_model (flModel R) (flModel_ok hn') piv habs0 pivotFunc A idPivot
    (fun m σ _ s => PivInv m σ s) PivInv_zero fun _ _ _ _ _ _ hp _ h _ => PivInv_step piv hp _ h).1 hok
  generalize (luDecomp piv absval pivotFunc A idPivot).A = LU at hM ⊢
  generalize (luDecomp piv absval pivotFunc A idPivot).s = s at hM ⊢
  refine ⟨sigOf s n, fun c => ?_⟩
  -- column `c` of the result is what the two sweeps make of the column `σ⁻¹ c` of the identity
  set e : Fin n → FlR R := fun r => (identity : Mat n (FlR R)).f r ((sigOf s n)⁻¹ c) with he
  obtain ⟨ΔA, h1, h2⟩ := solve_rows_backward_error hn hM (fun r => (e r).val) _ (fw_rows_fn hn' LU e)
  refine ⟨ΔA, fun r => ?_, h2⟩
  simp only [congrFun (invert_col s LU c)]
  rw [h1 r]
  simp only [he, identity, Mat.ofFn_f, Equiv.Perm.eq_inv_iff_eq, apply_ite FlR.val, one_val, zero_val]

/-- the triangular solve alone (Higham Thm 8.5 for the loop order of the code): `(U + ΔU) x̂ = y`,
`|ΔU| ≤ γ_{n+1} |U|` -/
theorem backSubst_backward_error (hn : ((n + 1 : ℕ) : ℝ) * R.u < 1) (U : Mat n (FlR R)) (y : Vec n (FlR R))
    (hd : ∀ j, (U.f j j).val ≠ 0) (r : Fin n) :
    ∃ θ : Fin n → ℝ, (∀ c, |θ c| ≤ gamma R.u (n + 1)) ∧
      ∑ c, (if r ≤ c then (U.f r c).val * (1 + θ c) * ((backSubst U y).f c).val else 0) = (y.f r).val := by
  rw [backSubst_f]
  obtain ⟨θ, hθ, h⟩ := bs_rows_fn hn U y.f hd r
  refine ⟨θ, hθ, (Finset.sum_congr rfl fun c _ => ?_).trans h.symm⟩
  rw [Ur, ite_mul, ite_mul, zero_mul, zero_mul]

/-- DiagonalMatrix::solve — backward error `γ_1` per diagonal entry -/
theorem solveDiag_backward_error (hu1 : ((1 : ℕ) : ℝ) * R.u < 1) (d b : Vec n (FlR R)) (hd : ∀ i, (d.f i).val ≠ 0)
    (i : Fin n) :
    ∃ θ : ℝ, |θ| ≤ gamma R.u 1 ∧ (d.f i).val * (1 + θ) * ((solveDiag d b).f i).val = (b.f i).val := by
  obtain ⟨θ, hθ, h⟩ := div_step (k := 0) (by simpa using hu1) (b.f i) (d.f i) (hd i) (p := 0) (by simp [gamma_zero])
  rw [add_zero, mul_one] at h
  refine ⟨θ, hθ, ?_⟩
  simp only [solveDiag, Vec.ofFn_f]
  rw [h]
  ring

/-- DiagonalMatrix::invert — relative error `u` per entry -/
theorem invertDiag_error (d : Vec n (FlR R)) (i : Fin n) :
    ∃ δ : ℝ, |δ| ≤ R.u ∧ ((invertDiag d).f i).val = 1 / (d.f i).val * (1 + δ) := by
  obtain ⟨δ, hδ, hdiv⟩ := R.spec ((1 : ℝ) / (d.f i).val)
  exact ⟨δ, hδ, by simp only [invertDiag, Vec.ofFn_f, div_val, one_val, hdiv]⟩

/-- DiagonalMatrix::determinant — relative error `γ_{n+1}` -/
theorem detDiag_error (hn : ((n + 1 : ℕ) : ℝ) * R.u < 1) (d : Vec (n + 1) (FlR R)) :
    ∃ θ : ℝ, |θ| ≤ gamma R.u (n + 1) ∧ (detDiag d).val = (∏ i, (d.f i).val) * (1 + θ) := by
  obtain ⟨θ, hθ, h⟩ := prod_loop_fl (k := 0) (by simpa using hn) (fun i : Fin (n + 1) => 0 < i.1) d.f (d.f 0)
    (d.f 0).val ⟨0, by simp [gamma_zero], by simp⟩
  refine ⟨θ, by simpa using hθ, ?_⟩
  rw [detDiag, h, prod_skip_zero fun i => (d.f i).val]

/-- **FMatrixError under rounding means "singular up to the backward error"** (the rounded analogue of
`singular_reported`).  If `luDecomposition` with pivoting reports a singular matrix — whatever functor it runs with — then
for a row permutation `σ`, the failing step `i` and the values `B` of the working matrix at that step there is a
perturbation `ΔA` with `|ΔA| ≤ γ_n |L̃||W̃|` entry-wise (`L̃ = Lview i B`: unit lower triangular, the multipliers of the
columns `< i`; `W̃ = Wview i B`: the matrix under reduction) such that `P A + ΔA = L̃ W̃` **is singular**.  So a matrix whose
distance to the singular matrices exceeds the backward error of the elimination — a well-conditioned matrix, at
whatever scale — is never rejected.  `habs0`, `hnn`: the pivot magnitude vanishes exactly on zero and is nonnegative. -/
theorem lu_singular_reported_fl {S : Type} (hn : (n : ℝ) * R.u < 1) (absval : FlR R → Q)
    (habs0 : ∀ x : FlR R, absval x = 0 ↔ x.val = 0) (hnn : ∀ x : FlR R, 0 ≤ absval x)
    (F : Func n (FlR R) S) (A : Mat n (FlR R)) (s : S)
    (hfail : (luDecomp true absval F A s).ok = false) :
    ∃ (σ : Equiv.Perm (Fin n)) (i : Fin n) (B : Mat n ℝ) (ΔA : Matrix (Fin n) (Fin n) ℝ),
      (∀ r c, |ΔA r c| ≤ gamma R.u n * ∑ k, |Lview i.1 B r k| * |Wview i.1 B k c|) ∧
      (Matrix.of fun r c => (A.f (σ r) c).val + ΔA r c) = Lview i.1 B * Wview i.1 B ∧
      (Matrix.of fun r c => (A.f (σ r) c).val + ΔA r c).det = 0 := by
  obtain ⟨i, σ, B, _, ⟨hM, _⟩, hz⟩ := (lu_run_model (flModel R) (flModel_ok hn) true (fun x => (habs0 x).mpr) F A s
    (fun _ _ _ _ => True) trivial fun _ _ _ _ _ _ _ _ _ _ => trivial).2 hfail
  -- the pivot column is zero from the diagonal down
  have hcol : ∀ r : Fin n, i ≤ r → (valMat B).f r i = 0 := fun r hr => by
    rw [valMat_f]
    exact (habs0 _).mp (pivVal_zero_col hnn hz r hr)
  have hγ : gamma R.u i.1 ≤ gamma R.u n := gamma_mono R.u_nonneg (le_of_lt i.2) hn
  obtain ⟨ΔA, hb, hLW⟩ := pert_factor (Lview i.1 (valMat B)) (Wview i.1 (valMat B)) (fun r c => (A.f (σ r) c).val)
    fun r c => (MatInv_partial (MatInv_iff.mpr hM.inv) r c).imp fun Θ h => ⟨fun k => (h.1 k).trans hγ, h.2⟩
  exact ⟨σ, i, valMat B, ΔA, hb, hLW, det_zero_of_fail (τ := Equiv.refl _) hLW.symm hcol⟩

/-- `lu_singular_reported_fl` for the calls: `solve` (pivoting on, `rows() ≥ 4`) throws FMatrixError only for such matrices -/
theorem solve_singular_reported_fl_ge4 {m : Nat} (hn : ((m + 4 : ℕ) : ℝ) * R.u < 1) (absval : FlR R → Q)
    (habs0 : ∀ x : FlR R, absval x = 0 ↔ x.val = 0) (hnn : ∀ x : FlR R, 0 ≤ absval x)
    (A : Mat (m + 4) (FlR R)) (b : Vec (m + 4) (FlR R)) (h : solve true absval A b = .fmatrixError) :
    ∃ (σ : Equiv.Perm (Fin (m + 4))) (i : Fin (m + 4)) (B : Mat (m + 4) ℝ) (ΔA : Matrix (Fin (m + 4)) (Fin (m + 4)) ℝ),
      (∀ r c, |ΔA r c| ≤ gamma R.u (m + 4) * ∑ k, |Lview i.1 B r k| * |Wview i.1 B k c|) ∧
      (Matrix.of fun r c => (A.f (σ r) c).val + ΔA r c).det = 0 := by
  obtain ⟨σ, i, B, ΔA, hb, _, hd⟩ :=
    lu_singular_reported_fl hn absval habs0 hnn elimFunc A b (solveLU_error_iff.mp h)
  exact ⟨σ, i, B, ΔA, hb, hd⟩

/-- `lu_singular_reported_fl` for `invert` (pivoting on, `rows() ≥ 4`) -/
theorem invert_singular_reported_fl_ge4 {m : Nat} (hn : ((m + 4 : ℕ) : ℝ) * R.u < 1) (absval : FlR R → Q)
    (habs0 : ∀ x : FlR R, absval x = 0 ↔ x.val = 0) (hnn : ∀ x : FlR R, 0 ≤ absval x)
    (A : Mat (m + 4) (FlR R)) (h : invert true absval A = .fmatrixError) :
    ∃ (σ : Equiv.Perm (Fin (m + 4))) (i : Fin (m + 4)) (B : Mat (m + 4) ℝ) (ΔA : Matrix (Fin (m + 4)) (Fin (m + 4)) ℝ),
      (∀ r c, |ΔA r c| ≤ gamma R.u (m + 4) * ∑ k, |Lview i.1 B r k| * |Wview i.1 B k c|) ∧
      (Matrix.of fun r c => (A.f (σ r) c).val + ΔA r c).det = 0 := by
  obtain ⟨σ, i, B, ΔA, hb, _, hd⟩ :=
    lu_singular_reported_fl hn absval habs0 hnn pivotFunc A idPivot (invertLU_error_iff.mp h)
  exact ⟨σ, i, B, ΔA, hb, hd⟩

/-- non-vacuity of the premise: the 2×2 zero matrix is rejected under rounding -/
example : solveLU true (fun y : FlR exRounding => |y.val|) (Mat.ofFn fun _ _ => (0 : FlR exRounding) : Mat 2 (FlR exRounding))
    (Vec.ofFn fun _ => (1 : FlR exRounding)) = .fmatrixError := by
  have h0 : (0 : FlR exRounding).val = 0 := rfl
  rw [solveLU_error_iff]
  simp [luDecomp, forUp, List.finRange, List.ofFn, luStep, pivotPhase, pivotSearch, Fin.foldr, Fin.foldr.loop, h0]
example : ∀ x : FlR exRounding, (fun y : FlR exRounding => |y.val|) x = 0 ↔ x.val = 0 := fun _ => abs_eq_zero

/-! non-vacuity: a rounding with `u = 2⁻⁵³ > 0` exists and meets the size condition for every `n ≤ 10⁶`;
`|·|` on the values is an admissible magnitude.  (Whether a given hardware arithmetic *is* such a `Rounding` is the
assumption named in the header.) -/
example : ((1000000 + 1 : ℕ) : ℝ) * exRounding.u < 1 := by
  simp only [exRounding]; norm_num
example : ∀ x : FlR exRounding, x.val = 0 → (fun y : FlR exRounding => |y.val|) x = 0 := by
  intro x hx; simp [hx]
/-- a concrete 2×2 system that needs a row exchange (right-hand side `exb2`), for which the premise `solveLU … = .ok x` holds -/
noncomputable def exA2 : Mat 2 (FlR exRounding) :=
  Mat.ofFn fun i j => ⟨if i.1 = 0 then (if j.1 = 0 then 0 else 2) else (if j.1 = 0 then 1 else 0)⟩
noncomputable def exb2 : Vec 2 (FlR exRounding) := Vec.ofFn fun i => ⟨if i.1 = 0 then 2 else 3⟩
example : ∃ x, solveLU true (fun y : FlR exRounding => |y.val|) exA2 exb2 = .ok x := by
  refine ⟨_, solveLU_ok_iff.mpr ⟨?_, rfl⟩⟩
  simp [luDecomp, forUp, List.finRange, List.ofFn, luStep, pivotPhase, pivotSearch, swapRows, elimLoop, exA2, exb2,
    Fin.foldr, Fin.foldr.loop, elimRow, factor, exRounding_sub, exRounding_mul, exRounding_div]

end Float
/-! ## Part 5: the LU path has no absolute scale

`Scale.ScaleSys absval φ ψ χ` (Proofs/C02Scale.lean) lists the identities the loops use about a scaling `φ` of the
matrix, `ψ` of the right-hand side and `χ` of the solution; `Scale.mapMat / mapVec / mapRes` apply a map entry-wise /
to the result of a call that may report FMatrixError.  The theorems say: **FMatrixError is reported for the scaled
operands iff it is reported for the unscaled ones** (both pivoting modes, every `n`), and otherwise the result is the
scaled result — over exact fields for every `c ≠ 0` and under every rounding that commutes with the scaling (binary floating
point, `c` a power of two, no overflow / underflow).  They hold for the code as it is (pivot compared with zero exactly, pivot
chosen by comparing magnitudes within a column); a singularity test against a fixed threshold violates them.  This is the
clause "for every nonsingular A … over floating-point fields" seen from the side of the singularity test: a well-conditioned
matrix is not declared singular because its entries are small (or large). -/
section ScaleInvariance
open Scale

section GenericScalar
variable {n : Nat} {K Q : Type} [Add K] [Sub K] [Mul K] [Div K] [Neg K] [OfNat K 0] [OfNat K 1]
variable [LinearOrder Q] [Zero Q] {absval : K → Q} {φ ψ χ : K → K}

/-- **solve, LU path, any scalar type** -/
theorem solveLU_scale (H : ScaleSys absval φ ψ χ) (piv : Bool) (A : Mat n K) (b : Vec n K) :
    solveLU piv absval (mapMat φ A) (mapVec ψ b) = mapRes (mapVec χ) (solveLU piv absval A b) :=
  Scale.solveLU_scale H piv A b

/-- **invert, LU path, any scalar type** (`ι` = the inverse scaling) -/
theorem invertLU_scale {ι : K → K} (H : ScaleSys absval φ id ι) (piv : Bool) (A : Mat n K) :
    invertLU piv absval (mapMat φ A) = mapRes (mapMat ι) (invertLU piv absval A) :=
  Scale.invertLU_scale H piv A

/-- **determinant, LU path, any scalar type**: the value is scaled `n` times; in particular it is `0` (matrix declared
singular) for the scaled matrix iff it is for the unscaled one, given `φ x = 0 → x = 0` -/
theorem detLU_scale (H : ScaleSys absval φ ψ χ) (hleft : ∀ x a, φ x * a = φ (x * a)) (hzero : φ 0 = 0)
    (piv : Bool) (A : Mat n K) :
    detLU piv absval (mapMat φ A) = φ^[n] (detLU piv absval A) :=
  Scale.detLU_scale H hleft hzero piv A

/-- the verdict "singular" of `luDecomposition` itself, for the run of `determinant` (`luDecomp_scale_of_elim_id` has it for
every functor that ignores the elimination) -/
theorem lu_singular_verdict_scale (H : ScaleSys absval φ ψ χ) (piv : Bool) (A : Mat n K) :
    (luDecomp piv absval (detFunc : Func n K K) (mapMat φ A) (1 : K)).ok =
      (luDecomp piv absval (detFunc : Func n K K) A (1 : K)).ok :=
  (luDecomp_scale_of_elim_id H piv (detFunc : Func n K K) (fun _ _ _ _ => rfl) A (1 : K)).1

end GenericScalar

section ExactField
variable {K Q : Type} [Field K] [LinearOrder Q] [Zero Q]

/-- **exact fields, `rows() ≥ 4`**: `solve` of `c·A`, `d·b` (`c ≠ 0`) reports FMatrixError iff `solve` of `A`, `b` does,
and otherwise returns `(d/c)·x`.  `hlt`: the pivot magnitude orders `c·x`, `c·y` as it orders `x`, `y` (true for
`|·|` on an ordered field and for `|re| + |im|` with real `c`). -/
theorem solve_scale_exact_ge4 {absval : K → Q} (habs : AbsLike absval) {c : K} (hc : c ≠ 0) (d : K)
    (hlt : ∀ x y, absval (c * x) < absval (c * y) ↔ absval x < absval y) (piv : Bool) {m : Nat}
    (A : Mat (m + 4) K) (b : Vec (m + 4) K) :
    solve piv absval (mapMat (fun x => c * x) A) (mapVec (fun x => d * x) b) =
      mapRes (mapVec fun x => d / c * x) (solve piv absval A b) :=
  solve_scale_ge4 (scaleSys_field hc d habs.zero_iff hlt) piv A b

theorem invert_scale_exact_ge4 {absval : K → Q} (habs : AbsLike absval) {c : K} (hc : c ≠ 0)
    (hlt : ∀ x y, absval (c * x) < absval (c * y) ↔ absval x < absval y) (piv : Bool) {m : Nat}
    (A : Mat (m + 4) K) :
    invert piv absval (mapMat (fun x => c * x) A) = mapRes (mapMat fun x => c⁻¹ * x) (invert piv absval A) :=
  invert_scale_ge4 (scaleSys_field_inv hc habs.zero_iff hlt) piv A

theorem determinant_scale_exact_ge4 {absval : K → Q} (habs : AbsLike absval) {c : K} (hc : c ≠ 0)
    (hlt : ∀ x y, absval (c * x) < absval (c * y) ↔ absval x < absval y) (piv : Bool) {m : Nat}
    (A : Mat (m + 4) K) :
    determinant piv absval (mapMat (fun x => c * x) A) = c ^ (m + 4) * determinant piv absval A := by
  rw [determinant_scale_ge4 (scaleSys_field hc 1 habs.zero_iff hlt) (fun x a => by ring) (by simp) piv A,
    mul_left_iterate]

end ExactField

section RoundedArithmetic
open Flt
variable {R : Rounding} {Q : Type} [LinearOrder Q] [Zero Q]

/-- **floating point, `rows() ≥ 4`**: if the rounding commutes with the multiplications by `c ≠ 0`, `d` and `d/c`
(`fl (c·x) = c·fl x`: a binary format, powers of two, no overflow / underflow), `solve` of `c·A`, `d·b` reports
FMatrixError iff `solve` of `A`, `b` does, and otherwise returns exactly `(d/c)·x̂` -/
theorem solve_scale_fl_ge4 {absval : FlR R → Q} {c d : ℝ} (hc : c ≠ 0)
    (hflc : ∀ x, R.fl (c * x) = c * R.fl x) (hfld : ∀ x, R.fl (d * x) = d * R.fl x)
    (hfldc : ∀ x, R.fl (d / c * x) = d / c * R.fl x)
    (h0 : ∀ x, absval (scaleFl c x) = 0 ↔ absval x = 0)
    (hlt : ∀ x y, absval (scaleFl c x) < absval (scaleFl c y) ↔ absval x < absval y)
    (piv : Bool) {m : Nat} (A : Mat (m + 4) (FlR R)) (b : Vec (m + 4) (FlR R)) :
    solve piv absval (mapMat (scaleFl c) A) (mapVec (scaleFl d) b) =
      mapRes (mapVec (scaleFl (d / c))) (solve piv absval A b) :=
  solve_scale_ge4 (scaleSys_fl hc hflc hfld hfldc h0 hlt) piv A b

theorem invert_scale_fl_ge4 {absval : FlR R → Q} {c : ℝ} (hc : c ≠ 0)
    (hflc : ∀ x, R.fl (c * x) = c * R.fl x) (hflci : ∀ x, R.fl (c⁻¹ * x) = c⁻¹ * R.fl x)
    (h0 : ∀ x, absval (scaleFl c x) = 0 ↔ absval x = 0)
    (hlt : ∀ x y, absval (scaleFl c x) < absval (scaleFl c y) ↔ absval x < absval y)
    (piv : Bool) {m : Nat} (A : Mat (m + 4) (FlR R)) :
    invert piv absval (mapMat (scaleFl c) A) = mapRes (mapMat (scaleFl c⁻¹)) (invert piv absval A) :=
  -- `hflci` is not used: it follows from `hc`, `hflc` (`fl_inv_comm`)
  invert_scale_ge4 (scaleSys_fl_inv hc hflc h0 hlt) piv A

/-- the computed determinant of `c·A` is exactly `cⁿ` times the computed determinant of `A` (in particular `0`, the
verdict "singular", in the same cases) -/
theorem determinant_scale_fl_ge4 {absval : FlR R → Q} {c : ℝ} (hc : c ≠ 0)
    (hflc : ∀ x, R.fl (c * x) = c * R.fl x)
    (h0 : ∀ x, absval (scaleFl c x) = 0 ↔ absval x = 0)
    (hlt : ∀ x y, absval (scaleFl c x) < absval (scaleFl c y) ↔ absval x < absval y)
    (piv : Bool) {m : Nat} (A : Mat (m + 4) (FlR R)) :
    (determinant piv absval (mapMat (scaleFl c) A)).val = c ^ (m + 4) * (determinant piv absval A).val := by
  rw [determinant_scale_ge4 (scaleSys_fl_inv hc hflc h0 hlt) (scaleFl_mul_left hflc) (scaleFl_zero c) piv A,
    iterate_scaleFl]

/-! non-vacuity: the hypotheses are satisfiable — `|·|` is an admissible magnitude for every `c ≠ 0`, a rounding that
commutes with `c = 2⁻¹⁰⁰⁰`, `d = 2⁻⁹⁰⁰` exists, and on a concrete 4×4 rational matrix that needs a row exchange the
scaled call (`c = 1/1024`) returns a solution (so both sides of `solve_scale_exact_ge4` are `.ok _`). -/
example (c : ℝ) (hc : c ≠ 0) (x y : FlR exRounding) :
    (fun z : FlR exRounding => |z.val|) (scaleFl c x) < (fun z : FlR exRounding => |z.val|) (scaleFl c y) ↔
      (fun z : FlR exRounding => |z.val|) x < (fun z : FlR exRounding => |z.val|) y := abs_scale_lt hc x y
example (c : ℝ) (hc : c ≠ 0) (x : FlR exRounding) :
    (fun z : FlR exRounding => |z.val|) (scaleFl c x) = 0 ↔ (fun z : FlR exRounding => |z.val|) x = 0 :=
  abs_scale_zero hc x
example : ∀ x, exRounding.fl ((1 / 2 ^ 1000 : ℝ) * x) = 1 / 2 ^ 1000 * exRounding.fl x := fun _ => rfl
example : (1 / 2 ^ 1000 : ℝ) ≠ 0 := by positivity
example (x y : ℚ) : |(1 / 1024 : ℚ) * x| < |(1 / 1024 : ℚ) * y| ↔ |x| < |y| := by
  rw [abs_mul, abs_mul]; exact mul_lt_mul_iff_right₀ (by norm_num)
example (b : Vec 4 ℚ) : ∃ x, solve true (fun x : ℚ => |x|) (mapMat (fun x => (1 / 1024 : ℚ) * x) exA)
    (mapVec (fun x => (1 / 4 : ℚ) * x) b) = .ok x := by
  rw [solve_scale_exact_ge4 (m := 0) absLike_abs_rat (by norm_num) (1 / 4)
    (fun x y => by rw [abs_mul, abs_mul]; exact mul_lt_mul_iff_right₀ (by norm_num)) true exA b]
  obtain ⟨x, hx, _⟩ := solve_spec absLike_abs_rat exA b exA_det
  exact ⟨_, by rw [hx]; rfl⟩

end RoundedArithmetic
end ScaleInvariance

/-! ## Part 6: the hand-written LU / DiagonalMatrix model is tied to the source
`tr_c02.py` re-reads, on every run, the loop headers, the statement order, the branch conditions, the arguments of the
three `luDecomposition` calls and the scalar kernel of every update statement of `luDecomposition`, `Elim`, `ElimPivot`,
`ElimDet`, the LU branches of `solve` / `invert` / `determinant` and of `DiagonalMatrix::solve / invert / determinant`
(`DV.C02.Gen.lu*`, `elim*`, `backSubst*`, `det*`, `forward*`, `backward*`, `unpermute*`, `diag*`).  The `gen_*` lemmas say what
each generated kernel computes over a field; the `tie_*` theorems say that the model functions the theorems of Parts 2-5
speak about are exactly the loop skeletons instantiated with these kernels (and that the loop headers / call arguments
are the ones the model mirrors).  A changed sign, operand, index, loop bound, comparison, flag or statement order in the
source changes `Gen/C02.lean` and breaks the corresponding tie.  (`tie_checked_quantity`, about the closed forms, is in Part 1.) -/
section Ties
variable {n : Nat} {K Q : Type} [Field K] [LinearOrder Q] [Zero Q]

/-! ### what each generated kernel computes (proved with `ring`: commuted / re-associated source expressions still pass) -/
theorem gen_luFactor (aki aii : K) : Gen.luFactor aki aii = aki / aii := by
  simp only [Gen.luFactor] <;> ring
theorem gen_luUpdate (akj fac aij : K) : Gen.luUpdate akj fac aij = akj - fac * aij := by
  simp only [Gen.luUpdate] <;> ring
theorem gen_elimRhsUpdate (rk fac ri : K) : Gen.elimRhsUpdate rk fac ri = rk - fac * ri := by
  simp only [Gen.elimRhsUpdate] <;> ring
theorem gen_elimDetSwap (same : Bool) (sign : K) :
    Gen.elimDetSwap same sign = sign * (if same then (1 : K) else -(1 : K)) := by
  cases same <;> simp [Gen.elimDetSwap]
theorem gen_elimDetInit : (Gen.elimDetInit : K) = 1 := by simp only [Gen.elimDetInit]
theorem gen_elimPivotSwap {α : Type} (same : Bool) (old j : α) :
    Gen.elimPivotSwap same old j = if same then old else j := by
  cases same <;> simp [Gen.elimPivotSwap]
theorem gen_backSubstStep (xi a xj : K) : Gen.backSubstStep xi a xj = xi - a * xj := by
  simp only [Gen.backSubstStep] <;> ring
theorem gen_backSubstDiv (xi a : K) : Gen.backSubstDiv xi a = xi / a := by
  simp only [Gen.backSubstDiv] <;> ring
theorem gen_detStep (det a : K) : Gen.detStep det a = det * a := by
  simp only [Gen.detStep] <;> ring
theorem gen_detMask (ok : Bool) (det : K) : Gen.detMask ok det = if ok then det else 0 := by
  cases ok <;> simp [Gen.detMask]
theorem gen_forwardStep (b a c : K) : Gen.forwardStep b a c = b - a * c := by
  simp only [Gen.forwardStep] <;> ring
theorem gen_backwardStep (b a c : K) : Gen.backwardStep b a c = b - a * c := by
  simp only [Gen.backwardStep] <;> ring
theorem gen_backwardDiv (b a : K) : Gen.backwardDiv b a = b / a := by
  simp only [Gen.backwardDiv] <;> ring
theorem gen_diagSolveEntry (d b : K) : Gen.diagSolveEntry d b = b / d := by
  simp only [Gen.diagSolveEntry] <;> ring
theorem gen_diagInvertEntry (d : K) : Gen.diagInvertEntry d = 1 / d := by
  simp only [Gen.diagInvertEntry] <;> ring
theorem gen_diagDetStep (det d : K) : Gen.diagDetStep det d = det * d := by
  simp only [Gen.diagDetStep] <;> ring

/-- `factor = A[k][i]/A[i][i]` -/
theorem tie_factor (A : Mat n K) (i k : Fin n) : factor A i k = Gen.luFactor (A.f k i) (A.f i i) := by
  simp only [factor, gen_luFactor]

/-- `A[k][i] = factor; for j > i: A[k][j] -= factor*A[i][j]` -/
theorem tie_elimRow (A : Mat n K) (i k : Fin n) (fac : K) :
    elimRow A i k fac = Mat.ofFn fun r c =>
      if r = k then (if c = i then fac else if i < c then Gen.luUpdate (A.f k c) fac (A.f i c) else A.f k c)
      else A.f r c := by
  simp only [elimRow, gen_luUpdate]

/-- `Elim<V>`: `operator()` -/
theorem tie_elimFunc_elim (rhs : Vec n K) (fac : K) (k i : Fin n) :
    (elimFunc : Func n K (Vec n K)).elim rhs fac k i =
      Vec.ofFn fun r => if r = k then Gen.elimRhsUpdate (rhs.f k) fac (rhs.f i) else rhs.f r := by
  simp only [elimFunc, gen_elimRhsUpdate]

/-- `ElimDet::swap` (the constructor's `sign_ = 1` is `gen_elimDetInit`, used in `tie_detLU`) -/
theorem tie_detFunc_swap (sign : K) (i j : Fin n) :
    (detFunc : Func n K K).swap sign i j = Gen.elimDetSwap (decide (i = j)) sign := by
  simp only [detFunc, gen_elimDetSwap, decide_eq_true_eq]

/-- `ElimPivot::swap`; the constructor (`pivot_[i] = i`) is `tie_idPivot` -/
theorem tie_pivotFunc_swap (p : Vec n (Fin n)) (i j : Fin n) :
    (pivotFunc : Func n K (Vec n (Fin n))).swap p i j =
      Vec.ofFn fun r => if r = i then Gen.elimPivotSwap (decide (i = j)) (p.f i) j else p.f r := by
  simp only [pivotFunc, gen_elimPivotSwap, decide_eq_true_eq]

theorem tie_idPivot (i : Fin n) : ((idPivot : Vec n (Fin n)).f i).1 = Gen.elimPivotInit i.1 := by
  simp [idPivot, Gen.elimPivotInit]

/-- the pivot search: whatever comparison the source uses, a candidate is only taken when it is at least as large as
the running maximum, and always when it is strictly larger (the model keeps the first maximum; which of several
equal maxima is taken does not matter for any theorem) -/
theorem tie_pivotBetter (a p : Q) :
    (Gen.luPivotBetter a p = true → p ≤ a) ∧ (p < a → Gen.luPivotBetter a p = true) := by
  unfold Gen.luPivotBetter
  constructor
  · intro h
    have h' := of_decide_eq_true h
    first | exact le_of_lt h' | exact h'
  · intro h
    first | exact decide_eq_true h | exact decide_eq_true (le_of_lt h)

/-- `pivmax = cond(mask, abs, pivmax); imax = cond(mask, k, imax)` -/
theorem tie_pivotSearch (absval : K → Q) (A : Mat n K) (i : Fin n) :
    pivotSearch absval A i = forUp n (absval (A.f i i), i) fun k st =>
      if i < k then
        (Gen.luPivmaxUpdate (decide (st.1 < absval (A.f k i))) (absval (A.f k i)) st.1,
         Gen.luImaxUpdate (decide (st.1 < absval (A.f k i))) k st.2)
      else st := by
  unfold pivotSearch
  congr 1
  funext k st
  by_cases h : i < k
  · by_cases h2 : st.1 < absval (A.f k i) <;> simp [h, h2, Gen.luPivmaxUpdate, Gen.luImaxUpdate]
  · simp [h]

/-- the singularity test `nonsingularLanes && (pivmax != 0)` is the model's `pivmax == 0 → fail` -/
theorem tie_nonsingular (p : Q) : Gen.luNonsingular true p = !(p == 0) := by
  simp [Gen.luNonsingular]

theorem tie_backSubst (A : Mat n K) (rhs : Vec n K) :
    backSubst A rhs = forDown n rhs fun i x =>
      Vec.ofFn fun r =>
        if r = i then
          Gen.backSubstDiv (forUp n (x.f i) fun j acc => if i < j then Gen.backSubstStep acc (A.f i j) (x.f j) else acc)
            (A.f i i)
        else x.f r := by
  simp only [backSubst, gen_backSubstStep, gen_backSubstDiv]

/-- determinant: `det = sign; for i: det *= A[i][i]; det = cond(nonsingularLanes, det, 0)` -/
theorem tie_detLU (piv : Bool) (absval : K → Q) (A : Mat n K) :
    detLU piv absval A =
      Gen.detMask (luDecomp piv absval detFunc A (Gen.elimDetInit : K)).ok
        (forUp n (luDecomp piv absval detFunc A (Gen.elimDetInit : K)).s
          fun i det => Gen.detStep det ((luDecomp piv absval detFunc A (Gen.elimDetInit : K)).A.f i i)) := by
  simp only [detLU, gen_detMask, gen_detStep, gen_elimDetInit]

theorem tie_forwardL (L B : Mat n K) :
    forwardL L B = forUp n B fun i B =>
      forUp n B fun j B =>
        if j < i then Mat.ofFn fun r c => if r = i then Gen.forwardStep (B.f i c) (L.f i j) (B.f j c) else B.f r c
        else B := by
  simp only [forwardL, gen_forwardStep]

theorem tie_backwardU (U B : Mat n K) :
    backwardU U B = forDown n B fun i B =>
      Mat.ofFn fun r c =>
        if r = i then
          Gen.backwardDiv (forUp n (B.f i c) fun j acc => if i < j then Gen.backwardStep acc (U.f i j) (B.f j c) else acc)
            (U.f i i)
        else B.f r c := by
  simp only [backwardU, gen_backwardStep, gen_backwardDiv]

theorem tie_solveDiag (d b : Vec n K) : solveDiag d b = Vec.ofFn fun i => Gen.diagSolveEntry (d.f i) (b.f i) := by
  simp only [solveDiag, gen_diagSolveEntry]
theorem tie_invertDiag (d : Vec n K) : invertDiag d = Vec.ofFn fun i => Gen.diagInvertEntry (d.f i) := by
  simp only [invertDiag, gen_diagInvertEntry]
theorem tie_detDiag (d : Vec (n + 1) K) :
    detDiag d = forUp (n + 1) (d.f ⟨Gen.diagDetInitIndex, by simp [Gen.diagDetInitIndex]⟩)
      fun i det => if Gen.diagDetInitIndex < i.1 then Gen.diagDetStep det (d.f i) else det := by
  simp only [detDiag, gen_diagDetStep, Gen.diagDetInitIndex]
  rfl

/-- loop headers, statement order and call arguments as the model mirrors them (the pivot search may start at `i+1` or at
`i`: row `i` is the initial candidate either way) -/
theorem tie_lu_loops :
    Gen.luLoops = [("i", "0", "i<n", "up"), ("j", "0", "j<n", "up"),
                   ("k", "i+1", "k<n", "up"), ("j", "i+1", "j<n", "up")] ∧
    (Gen.luSearchLoop = ("k", "i+1", "k<n", "up") ∨ Gen.luSearchLoop = ("k", "i", "k<n", "up")) ∧
    Gen.luRowSwap = ["A[i][j]", "A[imax][j]"] ∧ Gen.luFuncSwapArgs = ["i", "imax"] ∧
    Gen.luFuncElimArgs = ["factor", "k", "i"] ∧ Gen.elimRhsSwap = ["(*rhs_)[i]", "(*rhs_)[j]"] ∧
    Gen.elimPivotInitLoop = [("i", "0", "i<n", "up")] :=
  ⟨rfl, by first | exact Or.inl rfl | exact Or.inr rfl, rfl, rfl, rfl, rfl, rfl⟩

theorem tie_branch_loops :
    Gen.backSubstLoops = [("i", "n-1", "i>=0", "down"), ("j", "i+1", "j<n", "up")] ∧
    Gen.detLoops = [("i", "0", "i<n", "up")] ∧
    Gen.invertInitLoops = [("i", "0", "i<n", "up")] ∧
    Gen.forwardLoops = [("i", "0", "i<n", "up"), ("j", "0", "j<i", "up"), ("k", "0", "k<n", "up")] ∧
    Gen.backwardLoops = [("i", "n-1", "i>=0", "down"), ("k", "0", "k<n", "up"), ("j", "i+1", "j<n", "up")] ∧
    Gen.unpermuteLoops = [("i", "n-1", "i>=0", "down"), ("j", "0", "j<n", "up")] ∧
    Gen.unpermuteSwap = ["(*this)[j][i]", "(*this)[j][pi]"] ∧
    Gen.diagLoops = [("i", "0", "i<n", "up"), ("i", "0", "i<n", "up"), ("i", "1", "i<n", "up")] :=
  ⟨rfl, rfl, rfl, rfl, rfl, rfl, rfl, rfl⟩

/-- the three calls of `luDecomposition`: the operand is a local copy of `*this` (so `solve` / `determinant` cannot
modify the matrix through it) and `throwEarly` is `true` for solve / invert (singular ⇒ FMatrixError) and `false` for
determinant (singular ⇒ the masked value 0).  (The third component, "the caller's `doPivoting` is passed on", is generated
but deliberately not tied: always pivoting would keep every clause of the property.) -/
theorem tie_lu_calls :
    (Gen.solveLUCall.1 = true ∧ Gen.solveLUCall.2.1 = true) ∧
    (Gen.invertLUCall.1 = true ∧ Gen.invertLUCall.2.1 = true) ∧
    (Gen.determinantLUCall.1 = true ∧ Gen.determinantLUCall.2.1 = false) :=
  ⟨⟨rfl, rfl⟩, ⟨rfl, rfl⟩, ⟨rfl, rfl⟩⟩


/-! non-vacuity: the generated kernels evaluate on concrete rationals, and the tied model functions run on the 4×4
example with a row exchange -/
example : Gen.luFactor (6 : ℚ) 3 = 2 ∧ Gen.luUpdate (5 : ℚ) 2 3 = -1 ∧ Gen.elimRhsUpdate (5 : ℚ) 2 3 = -1 ∧
    Gen.backSubstStep (7 : ℚ) 2 3 = 1 ∧ Gen.backSubstDiv (6 : ℚ) 4 = 3 / 2 ∧ Gen.detStep (2 : ℚ) 5 = 10 ∧
    Gen.forwardStep (1 : ℚ) 2 3 = -5 ∧ Gen.backwardStep (1 : ℚ) 2 3 = -5 ∧ Gen.backwardDiv (1 : ℚ) 4 = 1 / 4 ∧
    Gen.diagSolveEntry (4 : ℚ) 2 = 1 / 2 ∧ Gen.diagInvertEntry (4 : ℚ) = 1 / 4 ∧ Gen.diagDetStep (2 : ℚ) 3 = 6 := by
  simp only [gen_luFactor, gen_luUpdate, gen_elimRhsUpdate, gen_backSubstStep, gen_backSubstDiv, gen_detStep,
    gen_forwardStep, gen_backwardStep, gen_backwardDiv, gen_diagSolveEntry, gen_diagInvertEntry, gen_diagDetStep]
  norm_num
example : Gen.elimDetSwap false (1 : ℚ) = -1 ∧ Gen.elimDetSwap true (1 : ℚ) = 1 ∧
    Gen.elimPivotSwap false (0 : Fin 4) 2 = 2 ∧ Gen.detMask false (5 : ℚ) = 0 ∧ Gen.detMask true (5 : ℚ) = 5 := by
  simp [gen_elimDetSwap, gen_elimPivotSwap, gen_detMask]
example : Gen.luPivotBetter (3 : ℚ) 2 = true ∧ Gen.luPivotBetter (2 : ℚ) 3 = false ∧
    Gen.luNonsingular true (0 : ℚ) = false ∧ Gen.luNonsingular true (2 : ℚ) = true := by
  refine ⟨(tie_pivotBetter 3 2).2 (by norm_num), ?_, ?_, ?_⟩
  · cases h : Gen.luPivotBetter (2 : ℚ) 3
    · rfl
    · exact absurd ((tie_pivotBetter (2 : ℚ) 3).1 h) (by norm_num)
  · rw [tie_nonsingular]; simp
  · rw [tie_nonsingular]; simp
end Ties

/-! ## Part 7: histories and consistency between the operations
Second use of an object (`A.invert(); A.invert()` restores A), `solve` against `invert` and `determinant`, the pivoting
mode is irrelevant for the result, and DiagonalMatrix agrees with the dense matrix `diag(d)` on every path. -/
section History
variable {K Q : Type} [Field K] [LinearOrder Q] [Zero Q]

/-- whatever invert returns for a nonsingular matrix is the two-sided inverse — both pivoting modes, every n -/
theorem invert_sound (piv : Bool) {absval : K → Q} (habs : AbsLike absval) :
    ∀ {n : Nat} (A B : Mat n K), (toMatrix A).det ≠ 0 → invert piv absval A = .ok B →
      toMatrix A * toMatrix B = 1 ∧ toMatrix B * toMatrix A = 1 := by
  intro n A B hdet hB
  rw [invert_eq_inv piv habs A B hB]
  exact mul_inv_and_inv_mul _ hdet

/-- the result of invert is nonsingular again -/
theorem invert_det_ne_zero (piv : Bool) {absval : K → Q} (habs : AbsLike absval) {n : Nat} (A B : Mat n K)
    (hdet : (toMatrix A).det ≠ 0) (hB : invert piv absval A = .ok B) : (toMatrix B).det ≠ 0 := by
  have h := (invert_sound piv habs A B hdet hB).2
  have h1 : (toMatrix B).det * (toMatrix A).det = 1 := by rw [← Matrix.det_mul, h, Matrix.det_one]
  exact left_ne_zero_of_mul_eq_one h1

/-- **second use of the object: `A.invert(); A.invert();` restores A** — any combination of pivoting modes, every n:
the second call returns (pivoting on) and whatever it returns is A -/
theorem invert_invert (piv piv' : Bool) {absval : K → Q} (habs : AbsLike absval) {n : Nat} (A B C : Mat n K)
    (hdet : (toMatrix A).det ≠ 0) (hB : invert piv absval A = .ok B) (hC : invert piv' absval B = .ok C) :
    toMatrix C = toMatrix A := by
  rw [invert_eq_inv piv' habs B C hC, invert_eq_inv piv habs A B hB,
    nonsing_inv_nonsing_inv _ (isUnit_iff_ne_zero.mpr hdet)]

theorem invert_invert_returns (piv : Bool) {absval : K → Q} (habs : AbsLike absval) {n : Nat} (A B : Mat n K)
    (hdet : (toMatrix A).det ≠ 0) (hB : invert piv absval A = .ok B) :
    ∃ C, invert true absval B = .ok C ∧ toMatrix C = toMatrix A := by
  obtain ⟨C, hC, _⟩ := invert_spec habs B (invert_det_ne_zero piv habs A B hdet hB)
  exact ⟨C, hC, invert_invert piv true habs A B C hdet hB hC⟩

/-- **solve and invert agree**: the solution returned by `solve` is `B·b` for the matrix `B` left by `invert` -/
theorem solve_eq_invert_mulVec (piv piv' : Bool) {absval : K → Q} (habs : AbsLike absval) {n : Nat}
    (A B : Mat n K) (b x : Vec n K) (hdet : (toMatrix A).det ≠ 0)
    (hx : solve piv absval A b = .ok x) (hB : invert piv' absval A = .ok B) :
    x.f = toMatrix B *ᵥ b.f := by
  rw [solve_eq_inv piv habs A b x hdet hx, invert_eq_inv piv' habs A B hB]

/-- **the result of solve does not depend on the pivoting mode** (when both calls return) -/
theorem solve_pivoting_irrelevant (piv piv' : Bool) {absval : K → Q} (habs : AbsLike absval) {n : Nat}
    (A : Mat n K) (b x y : Vec n K) (hdet : (toMatrix A).det ≠ 0)
    (hx : solve piv absval A b = .ok x) (hy : solve piv' absval A b = .ok y) : x.f = y.f := by
  rw [solve_eq_inv piv habs A b x hdet hx, solve_eq_inv piv' habs A b y hdet hy]

/-- **`det(B)·det(A) = 1` for the matrix `B` left by `invert`** -/
theorem determinant_invert (piv : Bool) {absval : K → Q} (habs : AbsLike absval) {n : Nat} (A B : Mat n K)
    (hdet : (toMatrix A).det ≠ 0) (hB : invert piv absval A = .ok B) :
    determinant true absval B * determinant true absval A = 1 := by
  rw [determinant_spec habs, determinant_spec habs, ← Matrix.det_mul, (invert_sound piv habs A B hdet hB).2, Matrix.det_one]

/-- the dense matrix `diag(d)` -/
def diagMat {n : Nat} (d : Vec n K) : Mat n K := Mat.ofFn fun i j => if i = j then d.f i else 0

theorem toMatrix_diagMat {n : Nat} (d : Vec n K) : toMatrix (diagMat d) = Matrix.diagonal d.f := by
  ext i j
  simp [diagMat, Matrix.diagonal_apply]

theorem det_diagMat_ne_zero {n : Nat} (d : Vec n K) (h : ∀ i, d.f i ≠ 0) : (toMatrix (diagMat d)).det ≠ 0 := by
  rw [toMatrix_diagMat, Matrix.det_diagonal]
  exact Finset.prod_ne_zero_iff.mpr fun i _ => h i

/-- **DiagonalMatrix and FieldMatrix/DynamicMatrix agree**: `DiagonalMatrix::solve` returns what the dense `solve`
(either pivoting mode, closed form or LU path) returns for the matrix `diag(d)` -/
theorem solveDiag_eq_solve (piv : Bool) {absval : K → Q} (habs : AbsLike absval) {n : Nat} (d b x : Vec n K)
    (h : ∀ i, d.f i ≠ 0) (hx : solve piv absval (diagMat d) b = .ok x) : x.f = (solveDiag d b).f := by
  have hdet := det_diagMat_ne_zero d h
  rw [solve_eq_inv piv habs (diagMat d) b x hdet hx]
  exact (eq_inv_mulVec hdet (by rw [toMatrix_diagMat]; exact solveDiag_correct d b h)).symm

/-- `DiagonalMatrix::determinant` and `invert` agree with the dense members on `diag(d)` as well -/
theorem detDiag_eq_determinant {absval : K → Q} (habs : AbsLike absval) {n : Nat} (d : Vec (n + 1) K) :
    detDiag d = determinant true absval (diagMat d) := by
  rw [determinant_spec habs, toMatrix_diagMat, detDiag_eq]

theorem invertDiag_eq_invert (piv : Bool) {absval : K → Q} (habs : AbsLike absval) {n : Nat} (d : Vec n K) (B : Mat n K)
    (h : ∀ i, d.f i ≠ 0) (hB : invert piv absval (diagMat d) = .ok B) :
    toMatrix B = Matrix.diagonal (invertDiag d).f := by
  rw [invert_eq_inv piv habs (diagMat d) B hB]
  exact inv_eq_right_inv (by rw [toMatrix_diagMat]; exact (invertDiag_correct d h).1)

/-! non-vacuity: the 4×4 example with a row exchange goes through two inversions; a nonsingular diagonal exists -/
example : ∃ B C, invert true (fun x : ℚ => |x|) exA = .ok B ∧ invert true (fun x : ℚ => |x|) B = .ok C ∧
    toMatrix C = toMatrix exA := by
  obtain ⟨B, hB, _⟩ := invert_spec absLike_abs_rat exA exA_det
  obtain ⟨C, hC, hCA⟩ := invert_invert_returns true absLike_abs_rat exA B exA_det hB
  exact ⟨B, C, hB, hC, hCA⟩
example : ∀ i : Fin 4, (Vec.ofFn ![(2 : ℚ), 3, 5, 7] : Vec 4 ℚ).f i ≠ 0 := by
  intro i; fin_cases i <;> simp
example (d b : Vec 4 ℚ) (h : ∀ i, d.f i ≠ 0) :
    ∃ x, solve true (fun x : ℚ => |x|) (diagMat d) b = .ok x ∧ x.f = (solveDiag d b).f := by
  have hdet := det_diagMat_ne_zero d h
  obtain ⟨x, hx, _⟩ := solve_spec absLike_abs_rat (diagMat d) b hdet
  exact ⟨x, hx, solveDiag_eq_solve true absLike_abs_rat d b x h hx⟩
end History

end DV.C02
