/-
C03 — ParallelIndexSet is the sorted global→local map its resize history describes.

The property theorems and their non-vacuity examples on the concrete histories `demo`, `demoDup`, `demoW` (lemmas live
in Proofs/C03*.lean).  Everything is about the executable model Model/C03.lean (`run`, `step`, `existsL`, `atL`, `getL`,
`search`, `mergeLoop`, `sortFresh`, `renumFrom`, `lookupAuto`, …) and quantifies over ALL histories `h : List Op`, all
lists / sizes (including `[]` and one element), all global indices.  The *specification* side (`specRun`, `WF`: Proofs/C03Spec.lean) is a bag of pairs
replayed along the history without any order, sorting, merging or searching:
  `WF h`  =  every set the history passes through has pairwise distinct global indices (the property's quantifier
             for the lookup/contents claims);  theorems without `WF` hold for equal globals as well.
-/
import DuneVerif.Proofs.C03Spec
import DuneVerif.Proofs.C03Src
import DuneVerif.Proofs.C03World

namespace DV.C03

/-! ## a concrete history used by the non-vacuity examples
two resize phases: add 5,2,9 (unsorted) · delete 5, re-add 5 with other data, add 7 · then renumber -/
def demo : List Op :=
  [.beginResize, .add 5 3 1 true, .add 2 0 0 false, .add 9 4 2 true, .endResize,
   .beginResize, .add 5 8 3 false, .markDel 5 1, .add 7 1 0 true, .endResize, .renumber]

/-- the state the history ends in, evaluated once: the examples about `run demo` read it off -/
theorem run_demo : run demo =
    { loc := [⟨2, ⟨0, 0, false, true⟩⟩, ⟨5, ⟨1, 3, false, true⟩⟩, ⟨7, ⟨2, 0, true, true⟩⟩, ⟨9, ⟨3, 2, true, true⟩⟩],
      fresh := [], st := .ground, seq := 2, del := true } := by decide +kernel

theorem wf_demo : WF demo := by decide +kernel

example : WF demo := wf_demo
example : (run demo).st = .ground := by rw [run_demo]
example : globals (run demo).loc = [2, 5, 7, 9] := by rw [run_demo]; rfl
example : (run demo).seq = 2 := by rw [run_demo]

/-! ## contents and order -/

/-- GROUND state after any well-formed history: the stored sequence is exactly the pairs added and not deleted
(a permutation of the specification's bag), and it is *the* sorted arrangement of that bag. -/
theorem ground_contents (h : List Op) (hwf : WF h) (hg : (run h).st = .ground) :
    (run h).loc.Perm (specRun h).cur ∧ (run h).loc = sortFresh (specRun h).cur := by
  obtain ⟨hsim, hn⟩ := sim_run h hwf
  have hinv := run_inv h
  have hperm : (run h).loc.Perm (specRun h).cur := by
    have := hsim.cur
    rwa [map_revalid_of_allValid (hinv.ground hg).2] at this
  exact ⟨hperm, sorted_perm_unique hperm hinv.sorted (hsim.strict hinv hn).keysNodup⟩

example : (specRun demo).cur.length = 4 ∧ (run demo).loc.length = 4 := by rw [run_demo]; decide +kernel

/-- in an open resize phase the old pairs are still all there; exactly the ones marked deleted carry DELETED -/
theorem resize_contents (h : List Op) (hwf : WF h) :
    ((run h).loc.map revalid).Perm (specRun h).cur ∧ (run h).fresh.Perm (specRun h).add ∧
    ∀ p ∈ (run h).loc, (p.l.valid = false ↔ key p ∈ (specRun h).del) :=
  let hs := (sim_run h hwf).1
  ⟨hs.cur, hs.fresh, hs.marks⟩

/-- iteration is strictly ascending in the global index (pairwise distinct globals) -/
theorem iter_strictly_ascending (h : List Op) (hwf : WF h) : StrictG (run h).loc :=
  let ⟨hsim, hn⟩ := sim_run h hwf
  hsim.strict (run_inv h) hn

/-- ordering claim for ALL histories, equal global indices with different attributes included:
iteration is ascending in (global, attribute) -/
theorem iter_ascending_lex (h : List Op) : SortedLex (run h).loc := (run_inv h).sorted

/-- equal globals, different attributes -/
def demoDup : List Op := [.beginResize, .add 4 0 2 true, .add 4 1 0 true, .add 1 2 3 false, .endResize]
example : (run demoDup).loc.map key = [(1, 3), (4, 0), (4, 2)] := by decide +kernel

/-- after every history: in GROUND state nothing is pending and no stored pair is marked DELETED -/
theorem ground_clean (h : List Op) (hg : (run h).st = .ground) : (run h).fresh = [] ∧ AllValid (run h).loc :=
  (run_inv h).ground hg

/-! ## the merge and the sort, for arbitrary lists -/

/-- the three-way merge keeps exactly the old entries not marked DELETED plus all added ones -/
theorem merge_contents (old added : List Pair) :
    (mergeLoop old added).Perm (old.filter (·.l.valid) ++ added) := mergeLoop_perm old added

/-- … and yields an ascending sequence from ascending inputs -/
theorem merge_ascending (old added : List Pair) (h1 : SortedLex old) (h2 : SortedLex added) :
    SortedLex (mergeLoop old added) := mergeLoop_sorted old added h1 h2

/-- one completed `endResize` from any state satisfying the invariant of reachable states -/
theorem endResize_contents (s s' : ISet) (hinv : Inv s) (h : endResize s = .ok s') :
    s'.loc.Perm (s.loc.filter (·.l.valid) ++ s.fresh) ∧ SortedLex s'.loc ∧ AllValid s'.loc ∧ s'.fresh = [] :=
  endResize_ok h ▸ closeResize_spec hinv

/-- modelling `std::sort` by insertion sort loses nothing: with pairwise distinct (global, attribute) the ascending
arrangement of a bag is unique, so every sorting algorithm returns `sortFresh xs` -/
theorem sort_unique (xs ys : List Pair) (hp : ys.Perm xs) (hs : SortedLex ys) (hk : KeysNodup ys) :
    ys = sortFresh xs :=
  sorted_perm_unique hp hs hk

example : sortFresh [⟨5, ⟨0,0,true,true⟩⟩, ⟨-1, ⟨1,0,true,true⟩⟩, ⟨3, ⟨2,1,false,true⟩⟩] =
    [⟨-1, ⟨1,0,true,true⟩⟩, ⟨3, ⟨2,1,false,true⟩⟩, ⟨5, ⟨0,0,true,true⟩⟩] := by decide +kernel

/-! ## lookups: every size, including 0 and 1 -/

/-- the binary search terminates within its fuel and never reads outside the list — for EVERY list (sorted or
not), every size, every global index; on a non-empty list the result is a valid position -/
theorem search_terminates (xs : List Pair) (g : Int) :
    ∃ r, search xs g = some r ∧ 0 ≤ r ∧ (xs ≠ [] → r < xs.length) :=
  let ⟨r, hr, h0, h1, _⟩ := search_post xs g
  ⟨r, hr, h0, fun hne => let ⟨_, hp, _⟩ := h1 hne; pAt_lt hp⟩

/-- hence `exists` and `at` are defined (no undefined behaviour) on every list, `operator[]` on every non-empty one -/
theorem lookups_total (xs : List Pair) (g : Int) :
    (existsL xs g).isSome ∧ (atL xs g).isSome ∧ (xs ≠ [] → (getL xs g).isSome) := by
  by_cases hne : xs = []
  · subst hne; exact ⟨rfl, rfl, fun h => absurd rfl h⟩
  · obtain ⟨r, hr, _, h1, _⟩ := search_post xs g
    obtain ⟨p, hp, _⟩ := h1 hne
    obtain ⟨he, ha, hg⟩ := lookups_of_search hr hp
    exact ⟨he ▸ rfl, ha ▸ rfl, fun _ => hg ▸ rfl⟩

/-- `exists(g)` is true exactly for the stored global indices — on every ascending list … -/
theorem exists_iff_sorted (xs : List Pair) (hs : SortedG xs) (g : Int) :
    existsL xs g = some (decide (g ∈ globals xs)) := existsL_spec xs g hs

/-- … in particular on the empty and on every one-element set (the case the unrepaired code got wrong) … -/
theorem exists_empty (g : Int) : existsL [] g = some false := rfl

theorem exists_singleton (p : Pair) (g : Int) : existsL [p] g = some (decide (g = p.g)) := by
  simpa [globals] using existsL_spec [p] g (by simp [SortedG])

/-- … and after EVERY history (no well-formedness needed) -/
theorem exists_iff (h : List Op) (g : Int) :
    existsL (run h).loc g = some (decide (g ∈ globals (run h).loc)) :=
  existsL_spec _ g (run_inv h).sorted.sortedG

/-- in terms of the specification: exists(g) ⇔ some pair with global g was added and not deleted -/
theorem exists_iff_spec (h : List Op) (hwf : WF h) (g : Int) :
    existsL (run h).loc g = some (decide (g ∈ globals (specRun h).cur)) := by
  rw [exists_iff]
  have := (sim_run h hwf).1.globals_eq.mem_iff (a := g)
  simp only [this]

example : existsL (run demo).loc 7 = some true ∧ existsL (run demo).loc 6 = some false := by rw [run_demo]; decide +kernel

/-- checked access returns precisely the stored pair … -/
theorem at_found (h : List Op) (hwf : WF h) (p : Pair) (hp : p ∈ (run h).loc) :
    atL (run h).loc p.g = some (.ok p) := by
  rw [atL_spec _ _ (run_inv h).sorted.sortedG, find_of_strict (iter_strictly_ascending h hwf) hp]

/-- … and reports absence (RangeError) for every other global index — all histories -/
theorem at_absent_error (h : List Op) (g : Int) (hg : g ∉ globals (run h).loc) :
    atL (run h).loc g = some (.error .range) := by
  rw [atL_spec _ _ (run_inv h).sorted.sortedG, find?_global_eq_none hg]

/-- all histories (equal globals allowed): `at` returns the first stored pair with this global index, else RangeError -/
theorem at_first (h : List Op) (g : Int) :
    atL (run h).loc g = some (match (run h).loc.find? (·.g == g) with | some p => .ok p | none => .error .range) :=
  atL_spec _ _ (run_inv h).sorted.sortedG

theorem at_singleton (p : Pair) : atL [p] p.g = some (.ok p) := by
  rw [atL_spec [p] p.g (by simp [SortedG])]; simp

/-- unchecked access `operator[]` returns precisely the stored pair (and its position) when the index is present -/
theorem getElem_found (h : List Op) (hwf : WF h) (p : Pair) (hp : p ∈ (run h).loc) :
    ∃ i, getL (run h).loc p.g = some (i, p) ∧ (run h).loc[i]? = some p :=
  getL_of_mem (iter_strictly_ascending h hwf) hp

/-- in terms of the specification, GROUND state: checked and unchecked access to any pair that was added and not deleted
return precisely that pair; `at` of any other global index throws RangeError and `exists` is false -/
theorem lookups_spec (h : List Op) (hwf : WF h) (hg : (run h).st = .ground) :
    (∀ p ∈ (specRun h).cur, atL (run h).loc p.g = some (.ok p) ∧ ∃ i, getL (run h).loc p.g = some (i, p)) ∧
    (∀ g, g ∉ globals (specRun h).cur → atL (run h).loc g = some (.error .range) ∧ existsL (run h).loc g = some false) := by
  have hperm := (ground_contents h hwf hg).1
  refine ⟨fun p hp => ?_, fun g hgn => ?_⟩
  · have hp' : p ∈ (run h).loc := hperm.mem_iff.2 hp
    obtain ⟨i, hi, _⟩ := getElem_found h hwf p hp'
    exact ⟨at_found h hwf p hp', i, hi⟩
  · have hgn' : g ∉ globals (run h).loc := fun hm => hgn ((hperm.map (·.g)).mem_iff.1 hm)
    exact ⟨at_absent_error h g hgn', by rw [exists_iff_spec h hwf, decide_eq_false hgn]⟩

/-- the C++ variables `low`, `high`, `probe` are 32-bit `int`s: for every list of at most 2^30 entries (sorted or not)
neither `size()-1` nor `high+low` nor `probe+1` leaves the range of `int`, and the result is that of the unbounded
`search` all other theorems speak about -/
theorem search_int32_safe (xs : List Pair) (g : Int) (hlen : xs.length ≤ 1073741824) :
    searchI32 xs g = search xs g ∧ (searchI32 xs g).isSome := by
  have h := searchI32_eq xs g hlen
  obtain ⟨r, hr, _⟩ := search_terminates xs g
  exact ⟨h, by rw [h, hr]; rfl⟩

example : searchI32 (run demo).loc 7 = some 2 := by rw [run_demo]; decide +kernel
example : (run demo).st = .ground ∧ (⟨7, ⟨2, 0, true, true⟩⟩ : Pair) ∈ (specRun demo).cur ∧ (6 : Int) ∉ globals (specRun demo).cur := by
  rw [run_demo]; decide +kernel

example : atL (run demo).loc 5 = some (.ok ⟨5, ⟨1, 3, false, true⟩⟩) :=
  at_found demo wf_demo ⟨5, ⟨1, 3, false, true⟩⟩ (by rw [run_demo]; decide +kernel)
example : atL (run demo).loc 4 = some (.error .range) := at_absent_error demo 4 (by rw [run_demo]; decide +kernel)

/-! ## sequence number -/

/-- `seqNo` changes exactly when an `endResize` completes, and then by one -/
theorem seq_step (s : ISet) (op : Op) :
    (step s op).1.seq = s.seq + (if op = .endResize ∧ s.st = .resize then 1 else 0) := by
  by_cases hc : op = .endResize ∧ s.st = .resize
  · obtain ⟨rfl, hst⟩ := hc
    rw [step_endResize, if_pos hst, if_pos ⟨rfl, hst⟩]; exact closeResize_seq s
  · rw [if_neg hc]
    rcases step_changes s op with h | ⟨_, h⟩
    · rw [h]; rfl
    · generalize (step s op).1 = s' at h
      cases h with
      | endResize hst => exact absurd ⟨rfl, hst⟩ hc
      | _ => rfl

/-- the sequence number never decreases along a history … -/
theorem seq_mono (h h' : List Op) : (run h).seq ≤ (run (h ++ h')).seq := by
  unfold run
  rw [runFrom_append, runFrom_fst _ h']
  exact List.foldlRecOn (motive := fun s => (runFrom init h).1.seq ≤ s.seq) h' _ (Nat.le_refl _) fun s hs op _ =>
    Nat.le_trans hs (seq_step s op ▸ Nat.le_add_right _ _)

/-- … and strictly increases with every completed resize -/
theorem seq_strict_mono (h : List Op) (hr : (run h).st = .resize) :
    (run (h ++ [.endResize])).seq = (run h).seq + 1 ∧ (run (h ++ [.endResize])).st = .ground := by
  rw [run_snoc, step_endResize, if_pos hr]
  exact ⟨closeResize_seq _, rfl⟩

/-- it equals the specification's count of completed resizes -/
theorem seq_eq_spec (h : List Op) (hwf : WF h) : (run h).seq = (specRun h).seq := (sim_run h hwf).1.seq

example : (run (demo ++ [.beginResize])).st = .resize := by rw [run_snoc, run_demo]; rfl

/-! ## renumbering -/

/-- `renumberLocal` in GROUND state assigns the consecutive numbers 0,1,2,… in iteration (= global) order and
changes nothing else -/
theorem renumber_spec (h : List Op) (hg : (run h).st = .ground) :
    (run (h ++ [.renumber])).loc.length = (run h).loc.length ∧
    ∀ (i : Nat) (p : Pair), (run h).loc[i]? = some p → (run (h ++ [.renumber])).loc[i]? = some (setLoc p i) := by
  rw [run_renumber hg]
  refine ⟨renumFrom_length 0 _, fun i p hp => ?_⟩
  rw [renumFrom_getElem?, hp]; rfl

/-- equivalently: the new local number of a pair is the number of stored pairs with a smaller global index -/
theorem renumber_rank (h : List Op) (hwf : WF h) (hg : (run h).st = .ground) :
    (run (h ++ [.renumber])).loc = (run h).loc.map fun p => setLoc p (rank p (run h).loc) := by
  rw [run_renumber hg]; exact renumFrom_eq_rank 0 _ (iter_strictly_ascending h hwf).before

example : (run demo).loc.map (·.l.loc) = [0, 1, 2, 3] := by rw [run_demo]; rfl

/-- the values assigned by `renumberLocal` fit its `uint32_t` counter: position `i` gets the number `i < size()`, so no
wrap-around for sets of up to 2^32 entries -/
theorem renumber_uint32_safe (xs : List Pair) (hlen : xs.length ≤ 4294967296) (i : Nat) (p : Pair)
    (hp : (renumFrom 0 xs)[i]? = some p) : p.l.loc = i ∧ p.l.loc < 4294967296 := by
  have hi : i < xs.length := renumFrom_length 0 xs ▸ (List.getElem?_eq_some_iff.1 hp).1
  have h0 : p.l.loc = i := renumFrom_getElem?_loc hp
  exact ⟨h0, h0.symm ▸ Nat.lt_of_lt_of_le hi hlen⟩

example : (renumFrom 0 (run demo).loc)[2]?.map (·.l.loc) = some 2 := by rw [run_demo]; rfl

/-! ## reverse lookup (GlobalLookupIndexSet) -/

/-- `GlobalLookupIndexSet(set)`: when the local numbers are pairwise distinct the table inverts the map —
`pair(p.local) = p` for every stored pair, a null pointer in every cell whose number no pair carries (stated for the
cells INSIDE the table only: `pair(j)` with `j ≥ size` is an out-of-range read in the C++ code); its size is max local + 1 -/
theorem reverse_lookup_inverts (xs : List Pair) (hd : (xs.map (·.l.loc)).Nodup) :
    ∃ t, lookupAuto xs = some t ∧ t.length = maxLocal xs 0 + 1 ∧
      (∀ p ∈ xs, tablePair t p.l.loc = some p) ∧
      (∀ j, j < t.length → (∀ p ∈ xs, p.l.loc ≠ j) → t[j]? = some none) := by
  obtain ⟨t, h1, h2, h3, _, h5⟩ := fillTable_replicate xs (maxLocal xs 0 + 1) fun _ => lt_maxLocal_succ
  exact ⟨t, h1, h2, h5 hd, fun j hj => h3 j (h2 ▸ hj)⟩

/-- the same for `GlobalLookupIndexSet(set, n)` whenever every local number is below `n` (the constructor's assert) -/
theorem reverse_lookup_sized (xs : List Pair) (n : Nat) (hb : ∀ p ∈ xs, p.l.loc < n) (hd : (xs.map (·.l.loc)).Nodup) :
    ∃ t, lookupSized xs n = some t ∧ t.length = n ∧
      (∀ p ∈ xs, tablePair t p.l.loc = some p) ∧
      (∀ j, j < n → (∀ p ∈ xs, p.l.loc ≠ j) → t[j]? = some none) := by
  obtain ⟨t, h1, h2, h3, _, h5⟩ := fillTable_replicate xs n hb
  exact ⟨t, h1, h2, h5 hd, h3⟩

/-- without any assumption on the local numbers (several pairs may carry the same one): every cell holds SOME stored pair
with that local number, or null when there is none — which of several candidates is not part of the property -/
theorem reverse_lookup_some_carrier (xs : List Pair) :
    ∃ t, lookupAuto xs = some t ∧ ∀ p ∈ xs, ∃ q ∈ xs, q.l.loc = p.l.loc ∧ tablePair t p.l.loc = some q := by
  obtain ⟨t, h1, _, _, h4, _⟩ := fillTable_replicate xs (maxLocal xs 0 + 1) fun _ => lt_maxLocal_succ
  exact ⟨t, h1, h4⟩

/-- the forward lookup of the table is the index set's own `operator[]` (`indexSet_[global]`), so on a reachable set
with distinct local numbers  `pair(operator[](g).local) = operator[](g)` -/
theorem reverse_lookup_roundtrip (h : List Op) (hwf : WF h) (hd : ((run h).loc.map (·.l.loc)).Nodup)
    (p : Pair) (hp : p ∈ (run h).loc) :
    ∃ t i, lookupAuto (run h).loc = some t ∧ getL (run h).loc p.g = some (i, p) ∧ tablePair t p.l.loc = some p := by
  obtain ⟨t, h1, _, h3, _⟩ := reverse_lookup_inverts _ hd
  obtain ⟨i, hi, _⟩ := getElem_found h hwf p hp
  exact ⟨t, i, h1, hi, h3 p hp⟩

/-- the hypothesis of the three theorems above is established by `renumberLocal`: after renumbering in GROUND state
(ANY history, no well-formedness needed) the automatic table has one cell per stored pair (one null cell for the empty
set) and cell `i` is the `i`-th pair in iteration order, whose local number is `i` -/
theorem reverse_lookup_after_renumber (h : List Op) (hg : (run h).st = .ground) :
    ∃ t, lookupAuto (run (h ++ [.renumber])).loc = some t ∧ t.length = max 1 (run h).loc.length ∧
      ∀ (i : Nat) (p : Pair), (run (h ++ [.renumber])).loc[i]? = some p → p.l.loc = i ∧ tablePair t i = some p := by
  rw [run_renumber hg]
  generalize (run h).loc = xs
  have hd : ((renumFrom 0 xs).map (·.l.loc)).Nodup := by rw [renumFrom_locs]; exact List.nodup_range'
  obtain ⟨t, h1, h2, h3, _⟩ := reverse_lookup_inverts _ hd
  refine ⟨t, h1, ?_, fun i p hp => ?_⟩
  · rw [h2]
    cases xs with
    | nil => rfl
    | cons x xs =>
      rw [maxLocal_renumFrom, List.length_cons, Nat.zero_max, Nat.max_eq_right (Nat.succ_le_succ (Nat.zero_le _))]
  · have hpl : p.l.loc = i := renumFrom_getElem?_loc hp
    exact ⟨hpl, hpl ▸ h3 p (List.mem_of_getElem? hp)⟩

example : ((run demo).loc.map (·.l.loc)).Nodup := by rw [run_demo]; decide +kernel
example : ∃ t, lookupAuto (run (demo ++ [.renumber])).loc = some t ∧ t.length = 4 :=
  let ⟨t, h1, h2, _⟩ := reverse_lookup_after_renumber demo (by rw [run_demo])
  ⟨t, h1, h2.trans (by rw [run_demo]; rfl)⟩
/-- several pairs with the same local number (the case `reverse_lookup_some_carrier` is about) -/
example : ((run [.beginResize, .add 1 0 0 true, .add 2 0 1 true, .endResize]).loc.map (·.l.loc)) = [0, 0] := by decide +kernel

example : ∃ t, lookupAuto (run demo).loc = some t ∧ t.length = 4 ∧
    (t.map fun c => c.map (·.g)) = [some 2, some 5, some 7, some 9] := by rw [run_demo]; decide +kernel

/-! ## state checks -/

/-- every operation called in the wrong state is rejected with InvalidIndexSetState (six operations: beginResize in
RESIZE; add(g,l), add(g), markAsDeleted, endResize in GROUND; renumberLocal in RESIZE; `markAsDeleted` twice, by iterator
position and, through `step`, by key) and the set is unchanged -/
theorem wrong_state_rejected (s : ISet) :
    (s.st = .resize → step s .beginResize = (s, .err .invalidState)) ∧
    (s.st = .ground → ∀ g l a p, step s (.add g l a p) = (s, .err .invalidState)) ∧
    (s.st = .ground → ∀ g, step s (.addG g) = (s, .err .invalidState)) ∧
    (s.st = .ground → ∀ i, markAsDeleted s i = .error .invalidState) ∧
    (s.st = .ground → ∀ g a, (∃ p ∈ s.loc, p.g = g ∧ p.l.attr = a) → step s (.markDel g a) = (s, .err .invalidState)) ∧
    (s.st = .ground → step s .endResize = (s, .err .invalidState)) ∧
    (s.st = .resize → step s .renumber = (s, .err .invalidState)) := by
  refine ⟨?_, ?_, ?_, ?_, ?_, ?_, ?_⟩
  · intro h; rw [step_beginResize, if_neg (not_ground_of_resize h)]
  · intro h g l a p; rw [step_add, if_neg (not_resize_of_ground h)]
  · intro h g; rw [step_addG, if_neg (not_resize_of_ground h)]
  · intro h i; rw [markAsDeleted, if_pos (not_resize_of_ground h)]
  · intro h g a ⟨p, hp, hpg⟩
    cases hf : findKey g a s.loc with
    | none => exact absurd hpg (findKey_none hf p hp)
    | some i => rw [step_markDel_some hf, if_neg (not_resize_of_ground h)]
  · intro h; rw [step_endResize, if_neg (not_resize_of_ground h)]
  · intro h; rw [step_renumber, if_neg (not_ground_of_resize h)]

/-- conversely, in the right state all mutators are accepted (both `add` overloads; `markAsDeleted` for every stored entry) -/
theorem right_state_accepted (s : ISet) :
    (s.st = .ground → (step s .beginResize).2 = .ok ∧ (step s .renumber).2 = .ok) ∧
    (s.st = .resize → (∀ g l a p, (step s (.add g l a p)).2 = .ok) ∧ (∀ g, (step s (.addG g)).2 = .ok) ∧
      (∀ g a, (∃ p ∈ s.loc, p.g = g ∧ p.l.attr = a) → (step s (.markDel g a)).2 = .ok) ∧ (step s .endResize).2 = .ok) := by
  refine ⟨fun h => ⟨?_, ?_⟩, fun h => ⟨fun g l a p => ?_, fun g => ?_, ?_, ?_⟩⟩
  · rw [step_beginResize, if_pos h]
  · rw [step_renumber, if_pos h]
  · rw [step_add, if_pos h]
  · rw [step_addG, if_pos h]
  · intro g a ⟨p, hp, hpg⟩
    cases hf : findKey g a s.loc with
    | none => exact absurd hpg (findKey_none hf p hp)
    | some i => rw [step_markDel_some hf, if_pos h]
  · rw [step_endResize, if_pos h]

/-- whatever operation reports an error (InvalidIndexSetState or RangeError) leaves the whole state as it was -/
theorem rejected_op_leaves_state (s : ISet) (op : Op) (e : Err) (h : (step s op).2 = .err e) :
    (step s op).1 = s :=
  (step_changes s op).resolve_right fun hok => nomatch hok.1.symm.trans h

example : (step (run demo) (.add 1 1 1 true)).2 = .err .invalidState := by rw [run_demo]; rfl
example : (step (run (demo ++ [.beginResize])) .renumber).2 = .err .invalidState := by rw [run_snoc, run_demo]; rfl

/-! ## the tie to the source: the model coincides with the pieces regenerated from indexset.hh / plocalindex.hh

`Gen.*` (lean/DuneVerif/Gen/C03.lean) is rewritten by tools/translators/tr_c03.py from the working tree on every run;
`Src.*` (Model/C03Src.lean) interprets it.  Each theorem says: the hand-written model function all theorems above are
about is exactly what the source text says.  A changed check, effect, comparison, DELETED test or search skeleton
changes a `Gen` definition and with it what has to be proved here: the proofs use the lemmas of Proofs/C03Src.lean
about the canonical pieces at the `Gen` terms, which type-checks exactly while `Gen.x` unfolds to `canonX`.

Deliberately NOT tied (they cannot break the property, so a change there must not raise an alarm): what the mutators
other than `markAsDeleted` do to `deletedEntries_` and the two branch conditions of `merge()` — both only decide
whether `merge()` may skip work whose result would be the unchanged list (`Gen.mergeCopies`, `Gen.mergeLoops` are
emitted for information); whether a check is the first statement (`Check.first`). -/
open Src in
/-- all seven state checks throw `InvalidIndexSetState` -/
theorem checks_matches_source :
    ∀ c ∈ [Gen.chk_beginResize, Gen.chk_add1, Gen.chk_add2, Gen.chk_markAsDeleted, Gen.chk_iterMarkAsDeleted,
      Gen.chk_endResize, Gen.chk_renumberLocal], c.exc = "InvalidIndexSetState" := by decide +kernel

open Src in
theorem beginResize_matches_source (s : ISet) :
    (beginResize s).map visible = (mutatorSrc Gen.chk_beginResize Gen.eff_beginResize id s).map visible := by
  rw [show mutatorSrc Gen.chk_beginResize _ _ s = _ from mutatorSrc_wantsGround _ _ s _ _, beginResize]
  split <;> rfl

open Src in
/-- both `add` overloads -/
theorem add_matches_source (s : ISet) (p : Pair) :
    (add s p).map visible = (mutatorSrc Gen.chk_add2 Gen.eff_add2 (fun s => { s with fresh := s.fresh ++ [p] }) s).map visible ∧
    (add s p).map visible = (mutatorSrc Gen.chk_add1 Gen.eff_add1 (fun s => { s with fresh := s.fresh ++ [p] }) s).map visible := by
  rw [show mutatorSrc Gen.chk_add2 _ _ s = _ from mutatorSrc_wantsResize _ _ s _ _,
    show mutatorSrc Gen.chk_add1 _ _ s = _ from mutatorSrc_wantsResize _ _ s _ _, add]
  split <;> exact ⟨rfl, rfl⟩

open Src in
/-- `markAsDeleted(iterator)`: the check of the index set, then the check of `iterator::markAsDeleted`; here the effect
on `deletedEntries_` matters (it makes the next `endResize` drop the entry) and is part of the statement -/
theorem markAsDeleted_matches_source (s : ISet) (i : Nat) :
    markAsDeleted s i =
      if Gen.chk_markAsDeleted.rejects s.st || Gen.chk_iterMarkAsDeleted.rejects s.st then .error .invalidState
      else .ok (Gen.eff_markAsDeleted.apply { s with loc := modifyAt setDeleted i s.loc }) := by
  simp only [markAsDeleted, Gen.chk_markAsDeleted, Gen.chk_iterMarkAsDeleted, Check.rejects, Gen.eff_markAsDeleted,
    Effects.apply]
  cases s.st <;> simp

open Src in
theorem endResize_matches_source (s : ISet) :
    (endResize s).map visible =
      (mutatorSrc Gen.chk_endResize Gen.eff_endResize (fun s => merge { s with fresh := sortFresh s.fresh }) s).map visible := by
  rw [show mutatorSrc Gen.chk_endResize _ _ s = _ from mutatorSrc_wantsResize _ _ s _ _, endResize]
  split <;> rfl

open Src in
theorem renumberLocal_matches_source (s : ISet) :
    (renumberLocal s).map visible =
      (mutatorSrc Gen.chk_renumberLocal Gen.eff_renumberLocal (fun s => { s with loc := renumFrom 0 s.loc }) s).map visible := by
  rw [show mutatorSrc Gen.chk_renumberLocal _ _ s = _ from mutatorSrc_wantsGround _ _ s _ _, renumberLocal]
  cases s.st <;> rfl

open Src in
/-- `IndexSetSortFunctor` and the comparison in `merge()`, each together with
`LocalIndexComparator<ParallelLocalIndex<T>>`, are the model's `before` -/
theorem comparison_matches_source (x y : Pair) :
    beforeSrc Gen.sortFunctor Gen.plocalCompare x y = before x y ∧
    beforeSrc Gen.mergeTakesOld Gen.plocalCompare x y = before x y :=
  ⟨beforeSrc_canon x y, beforeSrc_canon x y⟩

open Src in
/-- the three loops of `merge()` with the source's comparison and its two DELETED tests; the control flow of the loops is the
interpreter's own here (`Src.mergeLoopSrc`), `merge_program_matches_source` reads it from the source as well -/
theorem merge_matches_source (old added : List Pair) :
    mergeLoop old added =
      mergeLoopSrc Gen.mergeTakesOld Gen.plocalCompare Gen.mergeLoop1Drops Gen.mergeLoop2Keeps old added :=
  (mergeLoopSrc_eq _ _ _ _ beforeSrc_canon (fun o => by simp [Gen.mergeLoop1Drops, envOld, BE.eval])
    (fun o => by simp [Gen.mergeLoop2Keeps, envOld, BE.eval]) old added).symm

open Src in
/-- the five copies of the binary search: `exists`, `at`, `at const`, `operator[]`, `operator[] const` -/
theorem lookups_match_source (xs : List Pair) (g : Int) :
    (lookupSrc Gen.search_exists xs g).toExists = existsL xs g ∧
    (lookupSrc Gen.search_at xs g).toAt = atL xs g ∧
    (lookupSrc Gen.search_atConst xs g).toAt = atL xs g ∧
    (lookupSrc Gen.search_get xs g).toGet = getL xs g ∧
    (lookupSrc Gen.search_getConst xs g).toGet = getL xs g :=
  ⟨lookupSrc_exists xs g, lookupSrc_at xs g, lookupSrc_at xs g, lookupSrc_get xs g, lookupSrc_get xs g⟩

open Src in
/-- the instantiation with `TL = LocalIndex` uses the GENERIC `LocalIndexComparator` (regenerated as `Gen.genericCompare`):
on pairs of equal attribute — `LocalIndex` has none, the `NL` configurations carry attribute 0 throughout — sort functor and
merge comparison with that comparator are the model's `before` as well -/
theorem comparison_generic_matches_source (x y : Pair) (h : x.l.attr = y.l.attr) :
    beforeSrc Gen.sortFunctor Gen.genericCompare x y = before x y ∧
    beforeSrc Gen.mergeTakesOld Gen.genericCompare x y = before x y :=
  ⟨beforeSrc_generic x y h, beforeSrc_generic x y h⟩

example : (⟨3, ⟨1, 0, false, true⟩⟩ : Pair).l.attr = (⟨2, ⟨5, 0, false, true⟩⟩ : Pair).l.attr := rfl

open Src in
/-- `endResize()`: the container statements behind the check, in SOURCE ORDER (`std::sort` of the whole of `newIndices_`
with `IndexSetSortFunctor`, then `merge()`; nothing the translator does not understand), followed by the scalar effects,
are the model's `endResize` -/
theorem endResize_calls_match_source (s : ISet) :
    Call.unknown ∉ Gen.endResizeCalls ∧
    (endResize s).map visible =
      (mutatorSrc Gen.chk_endResize Gen.eff_endResize (runCalls Gen.endResizeCalls) s).map visible :=
  ⟨by decide +kernel, endResize_matches_source s⟩

example : (Src.runCalls Gen.endResizeCalls { (run demo) with fresh := [⟨8, ⟨0,0,true,true⟩⟩, ⟨1, ⟨0,0,true,true⟩⟩] }).loc.map (·.g) =
    [1, 2, 5, 7, 8, 9] := by rw [run_demo]; decide +kernel

open Src in
/-- the loop of `renumberLocal()` — start value of the counter, its increment, the assigned expression, all read from the
source — is the model's `renumFrom 0` -/
theorem renumber_loop_matches_source :
    ∃ r, Gen.renumber = some r ∧ ∀ xs, renumFrom 0 xs = renumSrc r r.start xs :=
  ⟨_, rfl, fun xs => (renumSrc_canon xs 0).symm⟩

open Src in
/-- both constructors of `GlobalLookupIndexSet` — initial `size_`, the maximum loop, the number of (null) cells, the final
`size_`, the slot each pair is stored in, all read from the source — build the model's tables, and `size()` is
`max local + 1` resp. the size argument (cf. `reverse_lookup_inverts`, `reverse_lookup_sized`) -/
theorem reverse_table_matches_source :
    (∃ c, Gen.tableAuto = some c ∧
      ∀ xs, tableSrc c 0 xs = (lookupAuto xs).map fun t => (t, ((maxLocal xs 0 + 1 : Nat) : Int))) ∧
    (∃ c, Gen.tableSized = some c ∧
      ∀ xs n, tableSrc c n xs = (lookupSized xs n).map fun t => (t, (n : Int))) :=
  ⟨⟨_, rfl, tableSrc_auto⟩, ⟨_, rfl, tableSrc_sized⟩⟩

example : (Gen.tableAuto.bind fun c => (Src.tableSrc c 0 (run demo).loc).map (·.2)) = some 4 := by rw [run_demo]; decide +kernel

open Src in
/-- `merge()` as a PROGRAM: the statements of its first branch and the three `while` loops of the second — loop guards,
the decision tree of every loop body with the conditions (`DELETED` tests, comparison of old and added entry) and the
`push_back` / `eraseToHere` statements in source order, the final `localIndices_ = tempPairs` — are regenerated from
indexset.hh (`Gen.mergeCopyBranch`, `Gen.mergeProg`), interpreted over the two iterators (`Src.mergeSrc`), and yield the
model's `merge` for EVERY state: no undefined step (`some`), same lists. -/
theorem merge_program_matches_source (s : ISet) :
    mergeSrc Gen.mergeCopyBranch Gen.plocalCompare Gen.mergeProg s = some (merge s) ∧
    ∀ old added, mergeProgSrc Gen.plocalCompare Gen.mergeProg old added = some (mergeLoop old added) :=
  ⟨mergeSrc_canon s, mergeProgSrc_canon⟩

example : (Src.mergeProgSrc Gen.plocalCompare Gen.mergeProg (run (demo ++ [.beginResize, .markDel 7 0])).loc
    [⟨3, ⟨0, 0, true, true⟩⟩, ⟨11, ⟨0, 0, true, true⟩⟩]).map (·.map (·.g)) = some [2, 3, 5, 9, 11] := by decide +kernel

open Src in
/-- the local index classes: the member initialisers of all constructors of `ParallelLocalIndex<T>` (three) and `LocalIndex`
(two), the member assignments of `operator=(size_t)` and `setState`, and the order of `enum LocalIndexState`, read from
plocalindex.hh / localindex.hh, build exactly the values the model stores: a new index is VALID, `add(g)` stores
`(0, T(), false)`, the two-argument constructor local number 0, assignment overwrites the local number ONLY (attribute,
public flag and the DELETED mark survive), `setState(DELETED)` touches the mark only -/
theorem local_index_matches_source :
    Gen.stateEnum = ["VALID", "DELETED"] ∧
    (∃ c3 c2 c0 l1 l0, Gen.plocalCtor3 = some c3 ∧ Gen.plocalCtor2 = some c2 ∧ Gen.plocalCtor0 = some c0 ∧
      Gen.lindexCtor1 = some l1 ∧ Gen.lindexCtor0 = some l0 ∧
      ∀ (l a : Nat) (p : Bool),
        c3.build [l, a, p.toNat] = { loc := l, attr := a, pub := p, valid := true } ∧
        c2.build [a, p.toNat] = { loc := 0, attr := a, pub := p, valid := true } ∧
        c0.build [] = defaultLocal ∧
        l1.build [l] = { loc := l, attr := 0, pub := false, valid := true } ∧
        l0.build [] = defaultLocal) ∧
    (∀ (p : Pair) (k : Nat),
      writeSrc Gen.plocalAssign [k] p.l = (setLoc p k).l ∧ writeSrc Gen.lindexAssign [k] p.l = (setLoc p k).l ∧
      writeSrc Gen.plocalSetState [1] p.l = (setDeleted p).l ∧ writeSrc Gen.lindexSetState [1] p.l = (setDeleted p).l) :=
  by
  refine ⟨rfl, ⟨_, _, _, _, _, rfl, rfl, rfl, rfl, rfl, fun l a p => ?_⟩, fun p k => ?_⟩
  · exact ⟨by cases p <;> rfl, by cases p <;> rfl, rfl, rfl, rfl⟩
  · exact ⟨rfl, rfl, rfl, rfl⟩

example : (Gen.plocalCtor2.map fun c => c.build [2, 1]) = some { loc := 0, attr := 2, pub := true, valid := true } := by decide +kernel

/-- `ParallelIndexSet()`: the member initialisers read from the source (`state_(GROUND), seqNo_(0), deletedEntries_()`) give
the model's initial state every history starts from -/
theorem constructor_matches_source :
    ∃ c, Gen.setCtor = some c ∧ init = { loc := [], fresh := [], st := c.state, seq := c.seq, del := c.del } :=
  ⟨_, rfl, rfl⟩

example : init.st = .ground ∧ init.seq = 0 ∧ (run []).loc = [] := by decide +kernel

/-! ## several objects (copy construction, copy assignment, `operator==`) -/

/-- a multi-object history: snapshot of the set, a further phase on the original, look at the snapshot, assign it back -/
def demoW : List WOp :=
  demo.map .op ++ [.snapshot, .op .beginResize, .op (.add 1 0 0 true), .op .endResize, .view, .restore, .op .seqNo]

/-- EVERY object of EVERY multi-object history (the set under test after any interleaving of operations, copies into the
snapshot and assignments back; the snapshot itself) is in the state that a single-object history reaches — `flat`
computes these histories — so every theorem above about `run h` holds for each object -/
theorem world_reachable (hw : List WOp) :
    (runW hw).cur = run (flat hw).1 ∧ (runW hw).snap = (flat hw).2.map run :=
  runWFrom_flat hw World.init [] none rfl rfl

example : (flat demoW).1 = demo ++ [.seqNo] ∧ (flat demoW).2 = some demo := by decide +kernel

/-- in particular both objects satisfy the invariant of reachable states -/
theorem world_inv (hw : List WOp) : Inv (runW hw).cur ∧ ∀ s, (runW hw).snap = some s → Inv s := by
  obtain ⟨h1, h2⟩ := world_reachable hw
  refine ⟨h1 ▸ run_inv _, fun s hs => ?_⟩
  rw [h2] at hs
  obtain ⟨c, _, rfl⟩ := Option.map_eq_some_iff.1 hs
  exact run_inv c

/-- a copy is independent of its original: whatever is done to the set afterwards, the snapshot stays what it was -/
theorem snapshot_independent (hw : List WOp) (ops : List Op) :
    (runW (hw ++ ops.map .op)).snap = (runW hw).snap := by
  unfold runW
  rw [runWFrom_append, runWFrom_ops_snap]

example : ((runW demoW).snap.map fun s => globals s.loc) = some [2, 5, 7, 9] ∧ (runW demoW).cur.seq = 2 := by decide +kernel

/-- a fresh copy compares equal to its original (`operator==`), and assigning it back restores exactly the copied state -/
theorem snapshot_roundtrip (w : World) :
    (stepW (stepW w .snapshot).1 .view).2 = .view w.cur true ∧
    ∀ ops : List Op, (stepW (runWFrom (stepW w .snapshot).1 (ops.map .op)) .restore).1.cur = w.cur := by
  refine ⟨by simp [stepW, setsEqual], fun ops => ?_⟩
  have h := runWFrom_ops_snap ops (stepW w .snapshot).1
  simp only [stepW] at h ⊢
  rw [h]

end DV.C03
