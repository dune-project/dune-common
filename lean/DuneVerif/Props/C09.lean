import DuneVerif.Proofs.C09Defaults
import DuneVerif.Proofs.C09LUT
import DuneVerif.Proofs.C09K
import DuneVerif.Gen.C09Lanes
/-!
# C09 — SIMD types are lane-wise transparent, also through the dense-matrix algorithms

The property theorems (the lemmas they rest on are in `Proofs/C09*.lean`; one generated lemma per operator row of loop.hh in
`Gen/C09Lanes.lean`).  Everything is stated for **every** lane count `S`, **every** scalar type `α`/`K` and
**every** interpretation `sem` of the operator symbols and of the scalar arithmetic `R` — no algebraic law is
assumed, so the statements hold verbatim for IEEE floating point (bit for bit), integers, masks and nested
vectors.  "`r = allSome (…)`" reads: the vector operation is defined exactly if the scalar operation is defined
in every lane, and then lane `l` of the result is the scalar result for lane `l` of the operands
(`LanewiseBin.lane`, `LanewiseBin.defined`).
-/
namespace DV.C09
open Gen

/-- every per-lane loop the translator found in loop.hh runs `i = 0 … S-1`, writes entry `i` and reads every
    vector operand at `i`, in the operand order of the specification -/
theorem loops_lanewise :
    (loop_UNARY_OP_v.canonical ∧ loop_UNARY_OP_v.args = [.vec 0 .i]) ∧
    (loop_lnot.canonical ∧ loop_lnot.args = [.vec 0 .i]) ∧
    (loop_PREFIX_OP_v.canonical ∧ loop_PREFIX_OP_v.args = [.vec 0 .i] ∧ loop_PREFIX_OP_v.inPlace = true) ∧
    (loop_ASSIGNMENT_OP_vv.canonical ∧ loop_ASSIGNMENT_OP_vv.args = [.vec 0 .i, .vec 1 .i] ∧ loop_ASSIGNMENT_OP_vv.inPlace = true) ∧
    (loop_ASSIGNMENT_OP_vs.canonical ∧ loop_ASSIGNMENT_OP_vs.args = [.vec 0 .i, .scalar] ∧ loop_ASSIGNMENT_OP_vs.inPlace = true ∧
      loop_ASSIGNMENT_OP_vs.scalarByRef = false) ∧
    (loop_BINARY_OP_vv.canonical ∧ loop_BINARY_OP_vv.args = [.vec 0 .i, .vec 1 .i]) ∧
    (loop_BINARY_OP_vs.canonical ∧ loop_BINARY_OP_vs.args = [.vec 0 .i, .scalar]) ∧
    (loop_BINARY_OP_sv.canonical ∧ loop_BINARY_OP_sv.args = [.scalar, .vec 0 .i]) ∧
    (loop_BITSHIFT_OP_vv.canonical ∧ loop_BITSHIFT_OP_vv.args = [.vec 0 .i, .vec 1 .i]) ∧
    (loop_BITSHIFT_OP_vs.canonical ∧ loop_BITSHIFT_OP_vs.args = [.vec 0 .i, .scalar]) ∧
    (loop_COMPARISON_OP_vv.canonical ∧ loop_COMPARISON_OP_vv.args = [.vec 0 .i, .vec 1 .i]) ∧
    (loop_COMPARISON_OP_vs.canonical ∧ loop_COMPARISON_OP_vs.args = [.vec 0 .i, .scalar]) ∧
    (loop_COMPARISON_OP_sv.canonical ∧ loop_COMPARISON_OP_sv.args = [.scalar, .vec 0 .i]) ∧
    (loop_BOOLEAN_OP_vv.canonical ∧ loop_BOOLEAN_OP_vv.args = [.vec 0 .i, .vec 1 .i]) ∧
    (loop_BOOLEAN_OP_vs.canonical ∧ loop_BOOLEAN_OP_vs.args = [.vec 0 .i, .scalar]) ∧
    (loop_BOOLEAN_OP_sv.canonical ∧ loop_BOOLEAN_OP_sv.args = [.scalar, .vec 0 .i]) ∧
    (loop_CMATH_UNARY_OP_v.canonical ∧ loop_CMATH_UNARY_OP_v.args = [.vec 0 .i]) ∧
    (loop_CMATH_UNARY_OP_WITH_RETURN_v.canonical ∧ loop_CMATH_UNARY_OP_WITH_RETURN_v.args = [.vec 0 .i]) ∧
    (loop_STD_UNARY_OP_v.canonical ∧ loop_STD_UNARY_OP_v.args = [.vec 0 .i]) ∧
    (loop_STD_UNARY_OP_v2.canonical ∧ loop_STD_UNARY_OP_v2.args = [.vec 0 .i]) ∧
    (loop_STD_BINARY_OP_vv.canonical ∧ loop_STD_BINARY_OP_vv.args = [.vec 0 .i, .vec 1 .i]) ∧
    (loop_isNaN.canonical ∧ loop_isInf.canonical ∧ loop_isFinite.canonical) ∧
    (loop_condLanes.canonical ∧ loop_condLanes.args = [.vec 0 .i, .vec 1 .i, .vec 2 .i]) := by decide +kernel

/-- every operator of the specification table (simd/DESIGN.md) is defined by loop.hh -/
theorem spec_table_covered :
    (∀ s ∈ specUnary, s ∈ UnOp.all.map UnOp.symbol) ∧
    (∀ s ∈ specBinary, s ∈ BinOp.all.map BinOp.symbol ++ ShiftOp.all.map ShiftOp.symbol) ∧
    (∀ s ∈ specAssign, (s ++ "=") ∈ AssignOp.all.map AssignOp.symbol) ∧
    (∀ s ∈ specCompare, s ∈ CmpOp.all.map CmpOp.symbol) ∧
    (∀ s ∈ specLogic, s ∈ BoolOp.all.map BoolOp.symbol) := by decide +kernel

-- lane_op: every operator and math function of LoopSIMD is lane-wise
-- (quantified over the operator lists regenerated from loop.hh; per-operator instances: Gen/C09Lanes.lean)
section LaneOp
variable {α β : Type} {S : Nat}

theorem lane_op_unary (sem : UnOp → α → Option α) (op : UnOp) (a : Vec α S) :
    LanewiseUn (Simd.unary sem op a) (sem op) a := lanewise_unary sem op a
theorem lane_op_lnot (truth : α → Option Bool) (a : Vec α S) :
    LanewiseUn (Simd.lnot truth a) (fun x => (truth x).map (!·)) a := lanewise_lnot truth a
theorem lane_op_prefix (sem : IncOp → α → Option α) (op : IncOp) (a : Vec α S) :
    LanewiseUn (Simd.prefix sem op a) (sem op) a := lanewise_prefix sem op a
theorem lane_op_postfix (sem : IncOp → α → Option α) (op : IncOp) (a : Vec α S) :
    LanewisePostfix (Simd.postfix sem op a) (sem op) a := lanewise_postfix sem op a
theorem lane_op_binary (sem : BinOp → α → α → Option α) (op : BinOp) (a b : Vec α S) (s : α) :
    LanewiseBin (Simd.binaryVV sem op a b) (sem op) a b ∧ LanewiseBinVS (Simd.binaryVS sem op a s) (sem op) a s ∧
    LanewiseBinSV (Simd.binarySV sem op s b) (sem op) s b :=
  ⟨lanewise_binaryVV sem op a b, lanewise_binaryVS sem op a s, lanewise_binarySV sem op s b⟩
theorem lane_op_shift (sem : ShiftOp → α → β → Option α) (op : ShiftOp) (a : Vec α S) (b : Vec β S) (s : β) :
    LanewiseBin (Simd.shiftVV sem op a b) (sem op) a b ∧ LanewiseBinVS (Simd.shiftVS sem op a s) (sem op) a s :=
  ⟨lanewise_shiftVV sem op a b, lanewise_shiftVS sem op a s⟩
theorem lane_op_assign (sem : AssignOp → α → α → Option α) (op : AssignOp) (a b : Vec α S) (s : α) :
    LanewiseBin (Simd.assignVV sem op a b) (sem op) a b ∧ LanewiseBinVS (Simd.assignVS sem op a s) (sem op) a s :=
  ⟨lanewise_assignVV sem op a b, lanewise_assignVS sem op a s⟩
theorem lane_op_compare (sem : CmpOp → α → α → Option Bool) (op : CmpOp) (a b : Vec α S) (s : α) :
    LanewiseBin (Simd.compareVV sem op a b) (sem op) a b ∧ LanewiseBinVS (Simd.compareVS sem op a s) (sem op) a s ∧
    LanewiseBinSV (Simd.compareSV sem op s b) (sem op) s b :=
  ⟨lanewise_compareVV sem op a b, lanewise_compareVS sem op a s, lanewise_compareSV sem op s b⟩
theorem lane_op_logic (sem : BoolOp → α → α → Option Bool) (op : BoolOp) (a b : Vec α S) (s : α) :
    LanewiseBin (Simd.logicVV sem op a b) (sem op) a b ∧ LanewiseBinVS (Simd.logicVS sem op a s) (sem op) a s ∧
    LanewiseBinSV (Simd.logicSV sem op s b) (sem op) s b :=
  ⟨lanewise_logicVV sem op a b, lanewise_logicVS sem op a s, lanewise_logicSV sem op s b⟩
theorem lane_op_math (sem : MathOp → α → Option α) (op : MathOp) (a : Vec α S) :
    LanewiseUn (Simd.math sem op a) (sem op) a := lanewise_math sem op a
theorem lane_op_mathRet (sem : MathRetOp → α → Option β) (op : MathRetOp) (a : Vec α S) :
    LanewiseUn (Simd.mathRet sem op a) (sem op) a := lanewise_mathRet sem op a
theorem lane_op_stdUn (sem : StdUnOp → α → Option β) (op : StdUnOp) (a : Vec α S) :
    LanewiseUn (Simd.stdUn sem op a) (sem op) a := lanewise_stdUn sem op a
theorem lane_op_stdBin (sem : StdBinOp → α → α → Option α) (op : StdBinOp) (a b : Vec α S) :
    LanewiseBin (Simd.stdBin sem op a b) (sem op) a b := lanewise_stdBin sem op a b
theorem lane_op_classify (f : α → Option Bool) (a : Vec α S) :
    LanewiseUn (Simd.isNaN f a) f a ∧ LanewiseUn (Simd.isInf f a) f a ∧ LanewiseUn (Simd.isFinite f a) f a :=
  ⟨un_canonical loop_isNaN (by decide) (by decide) (by decide) _ a, un_canonical loop_isInf (by decide) (by decide) (by decide) _ a,
   un_canonical loop_isFinite (by decide) (by decide) (by decide) _ a⟩

/-- compound assignment whose scalar operand **is a lane of the destination** (`v OP= Simd::lane(k, v)`, a reference
    into `v`): because the translated operator takes its scalar by value (`scalarByRef = false`), every lane is
    combined with the value lane `k` had *before* the call — flat and nested.  (`Simd.assignVA` executes the aliasing
    semantics for either passing mode; with a by-reference scalar the statement is false.) -/
theorem lane_op_assign_aliased (sem : AssignOp → α → α → Option α) (op : AssignOp) (a : Vec α S) (k : Nat) (hk : k < S) :
    LanewiseBinVS (Simd.assignVA sem op a k) (sem op) a a[k] := by
  rw [assignVA_byValue sem op a k hk]
  exact lanewise_assignVS sem op a a[k]
theorem lane_op_assign_aliased_nested {S₂ : Nat} (sem : AssignOp → α → α → Option α) (op : AssignOp)
    (a : Vec (Vec α S₂) S) (k : Nat) (hk : k < S * S₂) :
    ∃ s, Simd.laneNested k a = some s ∧
      Simd.assignVANested sem op a k = Simd.ipVS loop_ASSIGNMENT_OP_vs (Simd.assignVS sem op) a s := by
  have h := laneNested_instance a ⟨k, hk⟩
  exact ⟨_, h, by rw [assignVANested_byValue, h]; rfl⟩

/-- what "lane-wise" means, spelled out for the binary case: if the vector operation returns `v`, lane `l` of
    `v` is the scalar operation on lane `l` of the operands; and it returns whenever every lane is defined -/
theorem lane_op_meaning (sem : BinOp → α → α → Option α) (op : BinOp) (a b : Vec α S) :
    (∀ v, Simd.binaryVV sem op a b = some v → ∀ l (hl : l < S), sem op a[l] b[l] = some v[l]) ∧
    ((∀ l (hl : l < S), (sem op a[l] b[l]).isSome = true) → ∃ v, Simd.binaryVV sem op a b = some v) :=
  ⟨fun _ hv l hl => (lanewise_binaryVV sem op a b).lane hv l hl,
   fun hd => (lanewise_binaryVV sem op a b).defined hd⟩

/-- nesting: an operator of `LoopSIMD<LoopSIMD<T,S₂>,S>` is the operator of the inner vector in every entry,
    hence the scalar operator in every lane of every entry -/
theorem lane_op_nested {S₂ : Nat} (sem : BinOp → α → α → Option α) (op : BinOp) (a b : Vec (Vec α S₂) S)
    (v : Vec (Vec α S₂) S) (h : Simd.binVV loop_BINARY_OP_vv (Simd.binaryVV sem op) a b = some v)
    (i : Nat) (hi : i < S) (j : Nat) (hj : j < S₂) : sem op (a[i])[j] (b[i])[j] = some (v[i])[j] := by
  have h1 := (binVV_canonical loop_BINARY_OP_vv (by decide) (by decide) (by decide)
    (Simd.binaryVV sem op) a b).lane h i hi
  exact (lanewise_binaryVV sem op a[i] b[i]).lane h1 j hj

end LaneOp

-- aliasing: [2,3,4,5] /= lane 0 gives [1,1,2,2] (every lane divided by the original 2), not [1,3,4,5]
example : Simd.assignVA (fun (_ : AssignOp) (x y : Int) => if y = 0 then none else some (x / y)) .div
    (#v[2, 3, 4, 5] : Vec Int 4) 0 = some #v[1, 1, 2, 2] := by decide +kernel
-- non-vacuity: a concrete operator on concrete lanes (Int, two's-complement-free exact arithmetic)
example : Simd.binaryVV (fun (_ : BinOp) (x y : Int) => some (x - y)) .sub (#v[5, -3, 7, 0] : Vec Int 4) #v[1, 2, 3, 4]
    = some #v[4, -5, 4, -4] := by decide +kernel
-- … and a scalar operation that is undefined in one lane makes the vector operation undefined (division by zero)
example : Simd.binaryVV (fun (_ : BinOp) (x y : Int) => if y = 0 then none else some (x / y)) .div
    (#v[6, 1] : Vec Int 2) #v[3, 0] = none := by decide +kernel

section Layer
variable {α : Type} {S S₂ : Nat}

/-- **lane_cond**: `Simd::cond(mask, a, b)` is `mask[l] ? a[l] : b[l]` in every lane; for a vector of vectors, in every lane of
    every entry -/
theorem lane_cond (m : Vec Bool S) (a b : Vec α S) :
    Simd.cond m a b = some (Vector.ofFn fun i : Fin S => if m[i] then a[i] else b[i]) := cond_loop_instance m a b
theorem lane_cond_nested (m : Vec (Vec Bool S₂) S) (a b : Vec (Vec α S₂) S) :
    Simd.condNested m a b =
      some (Vector.ofFn fun i : Fin S => Vector.ofFn fun j : Fin S₂ => if (m[i])[j] then (a[i])[j] else (b[i])[j]) :=
  condNested_instance m a b

/-- **anyTrue_iff** etc.: the four reductions of a mask are ∃ / ∀ over its lanes -/
theorem anyTrue_iff (m : Vec Bool S) :
    ∃ r, Simd.reduceFlat .anyTrue m = some r ∧ (r = true ↔ ∃ l, ∃ h : l < S, m[l] = true) :=
  ⟨_, reduceFlat_eq _ m, vec_any_iff id m⟩
theorem allTrue_iff (m : Vec Bool S) :
    ∃ r, Simd.reduceFlat .allTrue m = some r ∧ (r = true ↔ ∀ l, ∀ h : l < S, m[l] = true) :=
  ⟨_, reduceFlat_eq _ m, vec_all_iff id m⟩
theorem anyFalse_iff (m : Vec Bool S) :
    ∃ r, Simd.reduceFlat .anyFalse m = some r ∧ (r = true ↔ ∃ l, ∃ h : l < S, m[l] = false) :=
  ⟨_, reduceFlat_eq _ m, (vec_any_iff (!·) m).trans (by simp only [Bool.not_eq_true'])⟩
theorem allFalse_iff (m : Vec Bool S) :
    ∃ r, Simd.reduceFlat .allFalse m = some r ∧ (r = true ↔ ∀ l, ∀ h : l < S, m[l] = false) :=
  ⟨_, reduceFlat_eq _ m, (vec_all_iff (!·) m).trans (by simp only [Bool.not_eq_true'])⟩
/-- nested masks: the reduction ranges over all lanes of all entries -/
theorem reduce_nested (k : RedKind) (m : Vec (Vec Bool S₂) S) :
    Simd.reduceNested k m = some (redSpec k (Simd.flatten m)) := reduceNested_eq k m

/-- **nested_lane**: `lane(l, v)` of a vector of vectors is lane `l % S₂` of entry `l / S₂`; entry `(i, j)` is
    lane `i * S₂ + j`; there are `S * S₂` lanes -/
theorem nested_lane (v : Vec (Vec α S₂) S) (l : Nat) (hl : l < S * S₂) :
    ∃ (h1 : l / S₂ < S) (h2 : l % S₂ < S₂), Simd.laneNested l v = some (v[l / S₂])[l % S₂] :=
  ⟨nested_div_lt ⟨l, hl⟩, nested_mod_lt ⟨l, hl⟩, laneNested_instance v ⟨l, hl⟩⟩
theorem nested_lane_entry (v : Vec (Vec α S₂) S) (i j : Nat) (hi : i < S) (hj : j < S₂) :
    Simd.laneNested (i * S₂ + j) v = some (v[i])[j] := by
  rw [laneNested_instance v ⟨_, nested_entry_lt hi hj⟩, nested_lane_of_entry v hi hj]
theorem nested_lane_count : laneCount S (laneCount S₂ 1) = S * S₂ := by simp [laneCount]

theorem lane_of_flat (v : Vec α S) (l : Nat) (hl : l < S) : Simd.lane l v = some v[l] :=
  (lane_flat v l).trans (Vector.getElem?_eq_getElem hl)
theorem lane_assign (v : Vec α S) (l l' : Nat) (x : α) (hl : l < S) (hl' : l' < S) :
    ∃ v', Simd.setLane l x v = some v' ∧ Simd.lane l' v' = some (if l = l' then x else v[l']) :=
  ⟨_, setLane_flat v l x hl, by rw [lane_of_flat _ _ hl', Vector.getElem_set]⟩
theorem lane_of_broadcast (x : α) (l : Nat) (hl : l < S) : Simd.lane l (Simd.broadcast (S := S) x) = some x :=
  (lane_of_flat _ l hl).trans (congrArg some ((loop_lawful S).lane_bcast ⟨l, hl⟩ x))

end Layer

example : Simd.cond (#v[true, false, true] : Vec Bool 3) (#v[1, 2, 3] : Vec Int 3) #v[10, 20, 30] = some #v[1, 20, 3] := by
  decide +kernel
example : Simd.reduceFlat .allTrue (#v[true, true, false, true] : Vec Bool 4) = some false ∧
    Simd.reduceFlat .anyTrue (#v[false, false, true, false] : Vec Bool 4) = some true := by decide +kernel
example : Simd.laneNested 5 (#v[#v[0, 1], #v[2, 3], #v[4, 5]] : Vec (Vec Int 2) 3) = some 5 := by decide +kernel

section Dense
variable {V : Type → Type} {L : Nat} (X : SimdLike V L) (hX : X.Lawful) {K : Type} (R : Arith K) {n : Nat}

/-- the two instances the code uses satisfy the laws: the built-in scalar and `LoopSIMD<·,S>` for every `S`
    (the latter's `cond`/reductions/operators are the translated ones: `cond_loop_instance`,
    `anyTrue_loop_instance`, `allTrue_loop_instance`, `binaryVV_loop_instance`, …) -/
theorem instances_lawful (S : Nat) : SimdLike.scalar.Lawful ∧ (SimdLike.loop S).Lawful :=
  ⟨scalar_lawful, loop_lawful S⟩

include hX in
/-- **pivot_per_lane**: the pivot row chosen in lane `l` (and the pivot size) is the one the scalar search
    chooses on lane `l`'s matrix — whatever the other lanes need -/
theorem pivot_per_lane (A : Mat (V K) n) (i : Fin n) (l : Fin L) :
    (X.lane l (pivotSearch X R A i).1, X.lane l (pivotSearch X R A i).2) =
      pivotSearch (V := fun α => α) SimdLike.scalar R (laneMat X l A) i := lane_pivotSearch X hX R l A i

include hX in
/-- **lu_lanewise**: lane `l` of the SIMD determinant is the scalar determinant of lane `l`'s matrix, for every lane, **including
    mixed singular / nonsingular lanes**, with or without pivoting, for every `n` (closed forms `n ≤ 3`, LU beyond) -/
theorem lu_lanewise (piv : Bool) (A : Mat (V K) n) (l : Fin L) :
    X.lane l (determinant X R piv A) = determinant (V := fun α => α) SimdLike.scalar R piv (laneMat X l A) :=
  determinant_lanewise X hX R piv A l

include hX in
/-- **solve_lanewise**: if the SIMD `solve` returns `x`, the scalar `solve` returns lane `l` of `x` for lane
    `l`'s system, for every lane … -/
theorem solve_lanewise (piv : Bool) (A : Mat (V K) n) (b x : Vector (V K) n) (h : solve X R piv A b = some x) (l : Fin L) :
    solve (V := fun α => α) SimdLike.scalar R piv (laneMat X l A) (laneVec X l b) = some (laneVec X l x) :=
  (solve_throwsLanewise X hX R piv A b).returns x h l

include hX in
/-- … and it throws `FMatrixError` exactly if the scalar `solve` throws for at least one lane -/
theorem solve_throws_iff (piv : Bool) (A : Mat (V K) n) (b : Vector (V K) n) :
    solve X R piv A b = none ↔
      ∃ l, solve (V := fun α => α) SimdLike.scalar R piv (laneMat X l A) (laneVec X l b) = none :=
  (solve_throwsLanewise X hX R piv A b).none_iff

include hX in
/-- **invert_lanewise**: if the SIMD `invert` returns `B`, the scalar `invert` returns lane `l` of `B` for lane `l`'s matrix; it
    throws `FMatrixError` exactly if the scalar `invert` throws for at least one lane (`invert_throws_iff`) -/
theorem invert_lanewise (piv : Bool) (A B : Mat (V K) n) (h : invert X R piv A = some B) (l : Fin L) :
    invert (V := fun α => α) SimdLike.scalar R piv (laneMat X l A) = some (laneMat X l B) :=
  (invert_throwsLanewise X hX R piv A).returns B h l

include hX in
theorem invert_throws_iff (piv : Bool) (A : Mat (V K) n) :
    invert X R piv A = none ↔ ∃ l, invert (V := fun α => α) SimdLike.scalar R piv (laneMat X l A) = none :=
  (invert_throwsLanewise X hX R piv A).none_iff

include hX in
/-- products and norms: `mv`, `rightmultiply`, `frobenius_norm2`, `infinity_norm` -/
theorem products_norms_lanewise (A M : Mat (V K) n) (x : Vector (V K) n) (l : Fin L) :
    laneVec X l (mv X R A x) = mv (V := fun α => α) SimdLike.scalar R (laneMat X l A) (laneVec X l x) ∧
    laneMat X l (rightmultiply X R A M) =
      rightmultiply (V := fun α => α) SimdLike.scalar R (laneMat X l A) (laneMat X l M) ∧
    X.lane l (frobeniusNorm2 X R A) = frobeniusNorm2 (V := fun α => α) SimdLike.scalar R (laneMat X l A) ∧
    X.lane l (infinityNorm X R A) = infinityNorm (V := fun α => α) SimdLike.scalar R (laneMat X l A) :=
  ⟨mv_lanewise X hX R l A x, rightmultiply_lanewise X hX R l A M, frobeniusNorm2_lanewise X hX R l A,
   infinityNorm_lanewise X hX R l A⟩

end Dense

/-- the statement for the concrete type: `FieldMatrix<LoopSIMD<K,S>,n,n>::determinant` -/
theorem lu_lanewise_loop {K : Type} (R : Arith K) {S n : Nat} (piv : Bool) (A : Mat (Vec K S) n) (l : Fin S) :
    (determinant (SimdLike.loop S) R piv A)[l] =
      determinant (V := fun α => α) SimdLike.scalar R piv (laneMat (SimdLike.loop S) l A) :=
  lu_lanewise (SimdLike.loop S) (loop_lawful S) R piv A l

-- non-vacuity: exact integer arithmetic (`/` = truncating division), two lanes that need different pivot rows,
-- and a 4×4 matrix whose lane 0 is regular and lane 1 singular
def intArith : Arith Int where
  zero := 0
  one := 1
  add := (· + ·)
  sub := (· - ·)
  mul := (· * ·)
  div := Int.tdiv
  neg := fun a => -a
  abs := fun a => if a < 0 then -a else a
  lt := fun a b => a < b
  beq := fun a b => a == b

/-- lane 0 = diag(1,2,1,3) with rows 0 and 1 exchanged (pivot row 1 in step 0), lane 1 has a zero first column -/
def exampleMat : Mat (Vec Int 2) 4 :=
  #v[#v[#v[0, 0], #v[2, 1], #v[0, 0], #v[0, 0]],
     #v[#v[1, 0], #v[0, 5], #v[0, 2], #v[0, 0]],
     #v[#v[0, 0], #v[0, 0], #v[1, 1], #v[0, 0]],
     #v[#v[0, 0], #v[0, 0], #v[0, 0], #v[3, 7]]]

/-- both lanes regular, pivot row 1 in lane 0 and pivot row 2 in lane 1 (first step) -/
def regularMat : Mat (Vec Int 2) 4 :=
  #v[#v[#v[0, 0], #v[2, 0], #v[0, 1], #v[0, 0]],
     #v[#v[1, 0], #v[0, 1], #v[0, 0], #v[0, 0]],
     #v[#v[0, 5], #v[0, 0], #v[1, 0], #v[0, 0]],
     #v[#v[0, 0], #v[0, 0], #v[0, 0], #v[3, 1]]]

-- the test vectors below are evaluated once, under a name, because `section TranslatedLU` runs the same inputs through the translated
-- control table; the `example` after each is the non-vacuity witness a reader looks for beside the theorems

-- mixed lanes: lane 0 regular (det -6), lane 1 singular (det 0, not an artefact of the other lane)
theorem det_exampleMat : determinant (SimdLike.loop 2) intArith true exampleMat = #v[-6, 0] := by decide +kernel
example : determinant (SimdLike.loop 2) intArith true exampleMat = #v[-6, 0] := det_exampleMat
-- the two lanes choose different pivot rows in the first step
theorem pivots_regularMat : (pivotSearch (SimdLike.loop 2) intArith regularMat 0).2 = #v[1, 2] := by decide +kernel
example : (pivotSearch (SimdLike.loop 2) intArith regularMat 0).2 = #v[1, 2] := pivots_regularMat
theorem det_regularMat : determinant (SimdLike.loop 2) intArith true regularMat = #v[-6, -5] := by decide +kernel
example : determinant (SimdLike.loop 2) intArith true regularMat = #v[-6, -5] := det_regularMat
-- `solve_lanewise` has a satisfiable hypothesis (both lanes regular) …
theorem solve_regularMat : solve (SimdLike.loop 2) intArith true regularMat #v[#v[2, 1], #v[1, 1], #v[1, 5], #v[3, 1]] =
    some #v[#v[1, 1], #v[1, 1], #v[1, 1], #v[1, 1]] := by decide +kernel
example : solve (SimdLike.loop 2) intArith true regularMat #v[#v[2, 1], #v[1, 1], #v[1, 5], #v[3, 1]] =
    some #v[#v[1, 1], #v[1, 1], #v[1, 1], #v[1, 1]] := solve_regularMat
-- … and `solve_throws_iff` / `invert_throws_iff` are not vacuous either: one singular lane makes the call throw
theorem solve_exampleMat : solve (SimdLike.loop 2) intArith true exampleMat #v[#v[2, 1], #v[1, 1], #v[1, 1], #v[3, 1]] = none := by
  decide +kernel
example : solve (SimdLike.loop 2) intArith true exampleMat #v[#v[2, 1], #v[1, 1], #v[1, 1], #v[3, 1]] = none :=
  solve_exampleMat
-- the decomposition `invert` starts from returns for `regularMat`; the pivot rows it records in the first step differ between the lanes
theorem luPivots_regularMat :
    ((luDecomp (SimdLike.loop 2) intArith (elimPivot (SimdLike.loop 2) (K := Int)) true true regularMat
      (Vector.ofFn fun i => (SimdLike.loop 2).bcast i)).map fun st => st.aux[0]) = some #v[1, 2] := by decide +kernel
theorem invert_exampleMat_regularMat : invert (SimdLike.loop 2) intArith true exampleMat = none ∧
    (invert (SimdLike.loop 2) intArith true regularMat).isSome = true := by
  refine ⟨by decide +kernel, ?_⟩
  rw [invert_lu _ _ (by decide) (by decide) (by decide), Option.isSome_map, ← Option.isSome_map (f := fun st => st.aux[0]),
    luPivots_regularMat]
  rfl
example : invert (SimdLike.loop 2) intArith true exampleMat = none ∧
    (invert (SimdLike.loop 2) intArith true regularMat).isSome = true := invert_exampleMat_regularMat

section Layer2
variable {α : Type} {S S₂ : Nat}

/-- the loops and formulas the translator found in defaults.hh have the documented shape -/
theorem defaults_shape :
    (defred_allTrue = { outerNot := true, innerNot := true }) ∧ (defred_anyFalse = { outerNot := false, innerNot := true }) ∧
    (defred_allFalse = { outerNot := true, innerNot := false }) ∧
    (hloop_max = { init := 0, lo := 1, hiMinus := 0, accLeft := true }) ∧
    (hloop_min = { init := 0, lo := 1, hiMinus := 0, accLeft := false }) ∧
    (CmpOp.ofName maskCmp = some .ne) ∧ (BoolOp.ofName maskOrOp = some .lor) ∧ (BoolOp.ofName maskAndOp = some .land) ∧
    (implCastSrc = .i ∧ implCastDst = .i) := by decide +kernel

/-- assignment through `lane(l, v)` of a vector of vectors changes lane `l` only -/
theorem nested_lane_assign (v : Vec (Vec α S₂) S) (l l' : Nat) (x : α) (hl : l < S * S₂) (hl' : l' < S * S₂) :
    ∃ v', Simd.setLaneNested l x v = some v' ∧
      Simd.laneNested l' v' = if l = l' then some x else Simd.laneNested l' v := by
  refine ⟨_, setLaneNested_instance v ⟨l, hl⟩ x, ?_⟩
  rw [laneNested_instance _ ⟨l', hl'⟩, (nested_lawful S S₂).lane_setLane, laneNested_instance v ⟨l', hl'⟩]
  simp only [Fin.mk.injEq]
  split <;> rfl

/-- broadcasting into a vector of vectors reaches every lane of every entry -/
theorem lane_of_broadcast_nested (x : α) (l : Nat) (hl : l < S * S₂) :
    Simd.laneNested l (Simd.broadcastNested (S := S) (S₂ := S₂) x) = some x :=
  (laneNested_instance _ ⟨l, hl⟩).trans (congrArg some ((nested_lawful S S₂).lane_bcast ⟨l, hl⟩ x))

/-- `Simd::mask(v)`: lane `l` is `v[l] != 0` (with the scalar's own `!=`, whatever it is) -/
theorem lane_mask (sem : CmpOp → α → α → Option Bool) (zero : α) (v : Vec α S) :
    LanewiseUn (Simd.mask sem zero v) (fun x => sem .ne x zero) v := mask_lanewise sem zero v

/-- `Simd::maskOr` / `Simd::maskAnd`: lane `l` is `(a[l] != 0) || (b[l] != 0)` resp. `&&` -/
theorem lane_maskOr_maskAnd (cmp : CmpOp → α → α → Bool) (zero : α) (a b : Vec α S) :
    Simd.maskCombine maskOrOp Simd.boolSem (Simd.mask (fun o x y => some (cmp o x y)) zero a)
        (Simd.mask (fun o x y => some (cmp o x y)) zero b) =
      some (Vector.ofFn fun i : Fin S => cmp .ne a[i] zero || cmp .ne b[i] zero) ∧
    Simd.maskCombine maskAndOp Simd.boolSem (Simd.mask (fun o x y => some (cmp o x y)) zero a)
        (Simd.mask (fun o x y => some (cmp o x y)) zero b) =
      some (Vector.ofFn fun i : Fin S => cmp .ne a[i] zero && cmp .ne b[i] zero) := by
  rw [mask_total, mask_total, maskOr_lanes, maskAnd_lanes]
  constructor <;>
  · congr 1
    apply Vector.ext
    intro i hi
    simp

/-- **default reductions** (defaults.hh): a mask type that overloads only `anyTrue` gets `allTrue`, `anyFalse`,
    `allFalse` as `!anyTrue(!m)`, `anyTrue(!m)`, `!anyTrue(m)`; they are the same ∃ / ∀ over the lanes -/
theorem default_reductions (k : RedKind) (m : Vec Bool S) :
    Simd.reduceDefault k m = Simd.reduceFlat k m ∧ Simd.reduceDefault k m = some (redSpec k m.toList) :=
  ⟨by rw [reduceDefault_eq, reduceFlat_eq], reduceDefault_eq k m⟩

/-- … for **every** SIMD type whose `anyTrue` means "some lane is true" and whose `!` is lane-wise -/
theorem default_reductions_any_simd {V : Type → Type} {L : Nat} (X : SimdLike V L) (hX : X.Lawful) (m : V Bool) :
    (Simd.defaultReduce defred_allTrue (fun m => some (X.anyTrue m)) (fun m => some (X.map (!·) m)) m
        = some (decide (∀ l, X.lane l m = true))) ∧
    (Simd.defaultReduce defred_anyFalse (fun m => some (X.anyTrue m)) (fun m => some (X.map (!·) m)) m
        = some (decide (∃ l, X.lane l m = false))) ∧
    (Simd.defaultReduce defred_allFalse (fun m => some (X.anyTrue m)) (fun m => some (X.map (!·) m)) m
        = some (decide (∀ l, X.lane l m = false))) := by
  have hany : ∀ m' : V Bool, X.anyTrue m' = decide (∃ l, X.lane l m' = true) := fun m' =>
    Bool.eq_iff_iff.mpr ((hX.anyTrue_iff m').trans (decide_eq_true_iff).symm)
  refine ⟨?_, ?_, ?_⟩
  · show some (!X.anyTrue (X.map (!·) m)) = _
    simp only [hany, hX.lane_map, Bool.not_eq_true']
    exact congrArg some (not_decide_exists_not _ true)
  · show some (X.anyTrue (X.map (!·) m)) = _
    simp only [hany, hX.lane_map, Bool.not_eq_true']
  · show some (!X.anyTrue m) = _
    rw [hany]
    exact congrArg some (not_decide_exists_not _ false)

/-- **horizontal max** `Simd::max(v)` (the loop of defaults.hh over the lanes, flat and nested): the result is one
    of the lanes, and no lane is strictly greater — for every irreflexive transitive `<`, hence also for IEEE `<`
    in the presence of NaNs -/
theorem horizontal_max (lt : α → α → Bool) (hirr : ∀ a, lt a a = false)
    (htr : ∀ a b c, lt a b = true → lt b c = true → lt a c = true) :
    (∀ (v : Vec α S) m, Simd.hmaxFlat lt v = some m → m ∈ v.toList ∧ ∀ x ∈ v.toList, lt m x = false) ∧
    (∀ (v : Vec (Vec α S₂) S) m, Simd.hmaxNested lt v = some m →
      m ∈ Simd.flatten v ∧ ∀ x ∈ Simd.flatten v, lt m x = false) :=
  ⟨fun v _ h => hmax_spec lt hirr htr (hmaxFlat_eq lt v ▸ h), fun v _ h => hmax_spec lt hirr htr (hmaxNested_eq lt v ▸ h)⟩

theorem horizontal_min (lt : α → α → Bool) (hirr : ∀ a, lt a a = false)
    (htr : ∀ a b c, lt a b = true → lt b c = true → lt a c = true) :
    (∀ (v : Vec α S) m, Simd.hminFlat lt v = some m → m ∈ v.toList ∧ ∀ x ∈ v.toList, lt x m = false) ∧
    (∀ (v : Vec (Vec α S₂) S) m, Simd.hminNested lt v = some m →
      m ∈ Simd.flatten v ∧ ∀ x ∈ Simd.flatten v, lt x m = false) :=
  ⟨fun v _ h => hmin_spec lt hirr htr (hminFlat_eq lt v ▸ h), fun v _ h => hmin_spec lt hirr htr (hminNested_eq lt v ▸ h)⟩

/-- the horizontal reductions are defined whenever there is at least one lane -/
theorem horizontal_defined (lt : α → α → Bool) (v : Vec α (S + 1)) :
    (Simd.hmaxFlat lt v).isSome = true ∧ (Simd.hminFlat lt v).isSome = true := by
  rw [hmaxFlat_eq, hminFlat_eq]
  cases h : v.toList with
  | nil =>
    have := congrArg List.length h
    simp at this
  | cons x xs => simp [Simd.hmax, Simd.hmin]

/-- **implCast** between `LoopSIMD<LoopSIMD<T,S₂>,S>` and `LoopSIMD<T,S*S₂>` (the lane-by-lane default) is
    defined and keeps every lane, in both directions -/
theorem implCast_lanes (zero : α) :
    (∀ u : Vec (Vec α S₂) S, ∃ r, Simd.implCastToFlat zero u = some r ∧
      ∀ l (_ : l < S * S₂), Simd.lane l r = Simd.laneNested l u) ∧
    (∀ u : Vec α (S * S₂), ∃ r, Simd.implCastToNested zero u = some r ∧
      ∀ l (_ : l < S * S₂), Simd.laneNested l r = Simd.lane l u) := by
  refine ⟨fun u => ⟨_, implCastToFlat_eq zero u, fun l hl => ?_⟩, fun u => ⟨_, implCastToNested_eq zero u, fun l hl => ?_⟩⟩
  · rw [lane_of_flat _ _ hl, Vector.getElem_ofFn, laneNested_instance u ⟨l, hl⟩]
  · rw [laneNested_instance _ ⟨l, hl⟩, lane_of_flat u l hl]
    simp only [SimdLike.nested, Vector.getElem_ofFn]
    congr 2
    exact Nat.div_add_mod' l S₂

/-- **rebinding** (the `ScalarType` / `RebindType` / `LaneCount` specialisations translated from loop.hh and
    standard.hh): `Rebind<U, V>` has the lanes of `V` (times those of `U`; one for a scalar `U`), its scalar is `U`,
    `Scalar<V>` is never a vector, and `Rebind<Scalar<V>, V> = V`; `Mask<V> = Rebind<bool, V>` is the case `U = bool` -/
theorem rebind_spec (t : Ty) (s : String) :
    (Ty.rebind (.scalar s) t).lanes = t.lanes ∧ (Ty.rebind (.scalar s) t).scalarOf = .scalar s ∧
    (∃ n, t.scalarOf = .scalar n) ∧ Ty.rebind t.scalarOf t = t ∧
    (∀ u : Ty, (Ty.rebind u t).lanes = t.lanes * u.lanes) := by
  refine ⟨?_, Ty.rebind_scalarOf s t, Ty.scalarOf_is_scalar t, Ty.rebind_self t, fun u => Ty.rebind_lanes u t⟩
  rw [Ty.rebind_lanes]
  simp [Ty.lanes]

end Layer2

example : Simd.mask (fun (_ : CmpOp) (x y : Int) => some (x != y)) 0 (#v[3, 0, -1, 0] : Vec Int 4) = some #v[true, false, true, false] := by
  decide +kernel
example : Simd.reduceDefault .allTrue (#v[true, true, false] : Vec Bool 3) = some false ∧
    Simd.reduceDefault .allFalse (#v[false, false] : Vec Bool 2) = some true ∧
    Simd.reduceDefault .anyFalse (#v[true, true] : Vec Bool 2) = some false := by decide +kernel
example : Simd.hmaxFlat (fun (a b : Int) => a < b) (#v[3, 9, -1, 9] : Vec Int 4) = some 9 ∧
    Simd.hminNested (fun (a b : Int) => a < b) (#v[#v[3, 9], #v[-1, 9]] : Vec (Vec Int 2) 2) = some (-1) := by decide +kernel
example : Simd.implCastToFlat (0 : Int) (#v[#v[1, 2], #v[3, 4], #v[5, 6]] : Vec (Vec Int 2) 3) = some #v[1, 2, 3, 4, 5, 6] ∧
    Simd.implCastToNested (S := 3) (S₂ := 2) (0 : Int) #v[1, 2, 3, 4, 5, 6] = some #v[#v[1, 2], #v[3, 4], #v[5, 6]] := by
  decide +kernel
example : (Ty.rebind (.scalar "bool") (Ty.nested "double" 4 2)) = Ty.nested "bool" 4 2 ∧ (Ty.nested "double" 4 2).lanes = 8 := by
  decide +kernel

section Dense2
variable {V : Type → Type} {L : Nat} (X : SimdLike V L) (hX : X.Lawful) {K : Type} (R : Arith K) {r c n : Nat}

/-- `LoopSIMD<LoopSIMD<·,S₂>,S₁>` satisfies the laws, for all `S₁`, `S₂`: every theorem of `section Dense` (pivoting per
    lane, determinant with mixed singular lanes, solve, invert, products, norms) holds for SIMD-of-SIMD numbers;
    its `lane`, lane assignment, `cond` and reductions are the translated ones of loop.hh -/
theorem nested_is_lawful (S₁ S₂ : Nat) : (SimdLike.nested S₁ S₂).Lawful := nested_lawful S₁ S₂

theorem nested_instance_is_translated {α : Type} {S S₂ : Nat} (v a b : Vec (Vec α S₂) S) (m : Vec (Vec Bool S₂) S)
    (l : Fin (S * S₂)) (x : α) :
    Simd.laneNested l.val v = some ((SimdLike.nested S S₂).lane l v) ∧
    Simd.setLaneNested l.val x v = some ((SimdLike.nested S S₂).setLane l x v) ∧
    Simd.condNested m a b = some ((SimdLike.nested S S₂).cond m a b) ∧
    Simd.reduceNested .anyTrue m = some ((SimdLike.nested S S₂).anyTrue m) ∧
    Simd.reduceNested .allTrue m = some ((SimdLike.nested S S₂).allTrue m) :=
  ⟨laneNested_instance v l, setLaneNested_instance v l x, condNested_instance m a b, anyTrueNested_instance m,
   allTrueNested_instance m⟩

/-- the statement for the concrete nested type: `FieldMatrix<LoopSIMD<LoopSIMD<K,S₂>,S₁>,n,n>::determinant` -/
theorem lu_lanewise_nested {S₁ S₂ : Nat} (piv : Bool) (A : Mat (Vec (Vec K S₂) S₁) n) (l : Fin (S₁ * S₂)) :
    (SimdLike.nested S₁ S₂).lane l (determinant (SimdLike.nested S₁ S₂) R piv A) =
      determinant (V := fun α => α) SimdLike.scalar R piv (laneMat (SimdLike.nested S₁ S₂) l A) :=
  lu_lanewise (SimdLike.nested S₁ S₂) (nested_lawful S₁ S₂) R piv A l

/-- `luDecomposition(…, throwEarly = false, …)` always returns (the `none` branch of `determinant` is dead) -/
theorem lu_without_throwEarly_returns {Aux : Type} (F : ElimFunc (V := V) (K := K) (n := n) Aux) (piv : Bool)
    (A : Mat (V K) n) (aux : Aux) : (luDecomp X R F false piv A aux).isSome = true :=
  luDecomp_false_isSome X R F piv A aux

include hX in
/-- the matrix-vector kernels of densematrix.hh on **rectangular** matrices: `mv mtv umv umtv mmv mmtv usmv usmtv` -/
theorem kernels_lanewise (alpha : V K) (A : RMat (V K) r c) (x : Vector (V K) c) (y : Vector (V K) r)
    (xt : Vector (V K) r) (yt : Vector (V K) c) (l : Fin L) :
    laneVec X l (mvR X R A x y) = mvR (V := fun α => α) SimdLike.scalar R (laneRMat X l A) (laneVec X l x) (laneVec X l y) ∧
    laneVec X l (umvR X R A x y) = umvR (V := fun α => α) SimdLike.scalar R (laneRMat X l A) (laneVec X l x) (laneVec X l y) ∧
    laneVec X l (mmvR X R A x y) = mmvR (V := fun α => α) SimdLike.scalar R (laneRMat X l A) (laneVec X l x) (laneVec X l y) ∧
    laneVec X l (usmvR X R alpha A x y) =
      usmvR (V := fun α => α) SimdLike.scalar R (X.lane l alpha) (laneRMat X l A) (laneVec X l x) (laneVec X l y) ∧
    laneVec X l (mtvR X R A xt yt) = mtvR (V := fun α => α) SimdLike.scalar R (laneRMat X l A) (laneVec X l xt) (laneVec X l yt) ∧
    laneVec X l (umtvR X R A xt yt) = umtvR (V := fun α => α) SimdLike.scalar R (laneRMat X l A) (laneVec X l xt) (laneVec X l yt) ∧
    laneVec X l (mmtvR X R A xt yt) = mmtvR (V := fun α => α) SimdLike.scalar R (laneRMat X l A) (laneVec X l xt) (laneVec X l yt) ∧
    laneVec X l (usmtvR X R alpha A xt yt) =
      usmtvR (V := fun α => α) SimdLike.scalar R (X.lane l alpha) (laneRMat X l A) (laneVec X l xt) (laneVec X l yt) :=
  ⟨mvR_lanewise X hX R l A x y, umvR_lanewise X hX R l A x y, mmvR_lanewise X hX R l A x y,
   usmvR_lanewise X hX R l alpha A x y, mtvR_lanewise X hX R l A xt yt, umtvR_lanewise X hX R l A xt yt,
   mmtvR_lanewise X hX R l A xt yt, usmtvR_lanewise X hX R l alpha A xt yt⟩

include hX in
theorem leftmultiply_lane (A : RMat (V K) n c) (M : Mat (V K) n) (l : Fin L) :
    laneRMat X l (leftmultiply X R A M) =
      leftmultiply (V := fun α => α) SimdLike.scalar R (laneRMat X l A) (laneMat X l M) :=
  leftmultiply_lanewise X hX R l A M

include hX in
/-- vectors of SIMD numbers: `one_norm`, `two_norm2`, `two_norm`, `infinity_norm`, `operator*`, `axpy`
    (`sq` = the scalar square root, uninterpreted) -/
theorem vector_ops_lanewise (sq : K → K) (a : V K) (v w : Vector (V K) n) (l : Fin L) :
    X.lane l (oneNorm X R v) = oneNorm (V := fun α => α) SimdLike.scalar R (laneVec X l v) ∧
    X.lane l (twoNorm2 X R v) = twoNorm2 (V := fun α => α) SimdLike.scalar R (laneVec X l v) ∧
    X.lane l (twoNorm X R sq v) = twoNorm (V := fun α => α) SimdLike.scalar R sq (laneVec X l v) ∧
    X.lane l (vecInfinityNorm X R v) = vecInfinityNorm (V := fun α => α) SimdLike.scalar R (laneVec X l v) ∧
    X.lane l (dotT X R v w) = dotT (V := fun α => α) SimdLike.scalar R (laneVec X l v) (laneVec X l w) ∧
    laneVec X l (axpy X R a v w) = axpy (V := fun α => α) SimdLike.scalar R (X.lane l a) (laneVec X l v) (laneVec X l w) :=
  ⟨oneNorm_lanewise X hX R l v, twoNorm2_lanewise X hX R l v, twoNorm_lanewise X hX R l sq v,
   vecInfinityNorm_lanewise X hX R l v, dotT_lanewise X hX R l v w, axpy_lanewise X hX R l a v w⟩

include hX in
/-- matrix norms on rectangular matrices: `frobenius_norm2`, `frobenius_norm`, `infinity_norm` (= `infinity_norm_real`
    for real scalars) -/
theorem rect_norms_lanewise (sq : K → K) (A : RMat (V K) r c) (l : Fin L) :
    X.lane l (frobeniusNorm2R X R A) = frobeniusNorm2R (V := fun α => α) SimdLike.scalar R (laneRMat X l A) ∧
    X.lane l (frobeniusNormR X R sq A) = frobeniusNormR (V := fun α => α) SimdLike.scalar R sq (laneRMat X l A) ∧
    X.lane l (infinityNormR X R A) = infinityNormR (V := fun α => α) SimdLike.scalar R (laneRMat X l A) :=
  ⟨frobeniusNorm2R_lanewise X hX R l A, frobeniusNormR_lanewise X hX R l sq A, infinityNormR_lanewise X hX R l A⟩

end Dense2

/-- the operators the dense algorithms use through `SimdLike.loop` (`map`, `map2`) are the translated loops -/
theorem loop_instance_is_translated {α : Type} {S : Nat} (f : α → α) (g : α → α → α) (h : α → α → Bool) (a b : Vec α S) :
    (∀ op, Simd.math (fun _ x => some (f x)) op a = some ((SimdLike.loop S).map f a)) ∧
    (∀ op, Simd.unary (fun _ x => some (f x)) op a = some ((SimdLike.loop S).map f a)) ∧
    (∀ op, Simd.binaryVV (fun _ x y => some (g x y)) op a b = some ((SimdLike.loop S).map2 g a b)) ∧
    (∀ op, Simd.compareVV (fun _ x y => some (h x y)) op a b = some ((SimdLike.loop S).map2 h a b)) ∧
    (∀ op (s : α), Simd.compareSV (fun _ x y => some (h x y)) op s b =
      Simd.compareVV (fun _ x y => some (h x y)) op (Simd.broadcast s) b) := by
  refine ⟨fun op => math_loop_instance op f a, ?_, fun op => binaryVV_loop_instance op g a b,
    fun op => compareVV_loop_instance op h a b, ?_⟩
  · intro op
    rw [lanewise_unary, allSome_map_some]
    rfl
  · intro op s
    rw [lanewise_compareSV, lanewise_compareVV]
    congr 1
    apply Vector.ext
    intro i hi
    simp [Simd.broadcast]

-- non-vacuity: SIMD of SIMD (one entry of two lanes) through the LU decomposition, mixed regular / singular lanes
example : determinant (SimdLike.nested 1 2) intArith true (Mat.map (fun e => (#v[e] : Vec (Vec Int 2) 1)) exampleMat)
    = #v[#v[-6, 0]] := by
  -- lane `l` of the nested determinant is the scalar determinant of lane `l`, which is lane `l` of the flat determinant
  have h : ∀ (l : Fin (1 * 2)) (hl : l.val < 2), (SimdLike.nested 1 2).lane l (determinant (SimdLike.nested 1 2) intArith true
      (Mat.map (fun e => (#v[e] : Vec (Vec Int 2) 1)) exampleMat)) = (#v[-6, 0] : Vec Int 2)[l.val] := fun l hl => by
    rw [lu_lanewise_nested, laneMat_nested_one _ l hl, ← lu_lanewise_loop, det_exampleMat]
    rfl
  apply Vector.ext
  intro i hi
  apply Vector.ext
  intro j hj
  obtain rfl : i = 0 := Nat.lt_one_iff.mp hi
  rw [← nested_lane_of_entry _ hi hj, h _ (by omega)]
  simp
-- a 2×3 matrix of two-lane numbers times a vector, lane by lane
example : mvR (SimdLike.loop 2) intArith (#v[#v[#v[1, 2], #v[0, 1], #v[2, 0]], #v[#v[0, 1], #v[1, 1], #v[1, 1]]] : RMat (Vec Int 2) 2 3)
    #v[#v[1, 1], #v[2, 3], #v[3, 5]] #v[#v[7, 7], #v[7, 7]] = #v[#v[7, 5], #v[5, 9]] := by decide +kernel

section Mixed
variable {α σ : Type} {S S₂ : Nat}

/-- the declared types of the scalar parameters the translator read off loop.hh: the mask-valued operators (comparisons
    `v @ s`, `s @ v`, logic `v @ s`) and the shifts `v @ s` are generic in the type of the scalar operand (the argument
    keeps its type), `s && v` / `s || v` takes `Simd::Mask<T>` (the argument arrives as its truth value) -/
theorem scalar_param_types :
    loop_COMPARISON_OP_vs.scalarTy = .own ∧ loop_COMPARISON_OP_sv.scalarTy = .own ∧ loop_BOOLEAN_OP_vs.scalarTy = .own ∧
    loop_BOOLEAN_OP_sv.scalarTy = .laneMask ∧ loop_BITSHIFT_OP_vs.scalarTy = .own := by decide +kernel

/-- **comparison with a scalar of another type** (`LoopSIMD<int,4> v; v < 2.5`, `0.1 == LoopSIMD<float,4>`): lane `l` of the
    mask is the built-in mixed-type comparison of lane `l` with the scalar *in its own type* (`.own`), never with the
    scalar converted to the lanes' type — for every meaning `sem` of the mixed comparison, both operand orders -/
theorem lane_op_compare_mixed (semL : CmpOp → α → Simd.Arg σ α → Option Bool) (semR : CmpOp → Simd.Arg σ α → α → Option Bool)
    (toLane : σ → Option α) (truth : σ → Option Bool) (op : CmpOp) (a : Vec α S) (s : σ) :
    LanewiseBinVS (Simd.compareVSx semL toLane truth op a s) (fun x t => semL op x (.own t)) a s ∧
    LanewiseBinSV (Simd.compareSVx semR toLane truth op s a) (fun t y => semR op (.own t) y) s a :=
  ⟨lanewise_compareVSx semL toLane truth op a s, lanewise_compareSVx semR toLane truth op s a⟩

/-- **logic with a scalar of another type**: `v && s` sees `s` in its own type; `s && v` sees the truth value of `s` -/
theorem lane_op_logic_mixed (semL : BoolOp → α → Simd.Arg σ α → Option Bool) (semR : BoolOp → Simd.Arg σ α → α → Option Bool)
    (toLane : σ → Option α) (truth : σ → Option Bool) (op : BoolOp) (a : Vec α S) (s : σ) :
    LanewiseBinVS (Simd.logicVSx semL toLane truth op a s) (fun x t => semL op x (.own t)) a s ∧
    Simd.logicSVx semR toLane truth op s a = (truth s).bind fun m => allSome (a.map fun y => semR op (.mask m) y) :=
  ⟨lanewise_logicVSx semL toLane truth op a s, lanewise_logicSVx semR toLane truth op s a⟩

/-- **shift by a scalar count of another type** -/
theorem lane_op_shift_mixed (sem : ShiftOp → α → Simd.Arg σ α → Option α) (toLane : σ → Option α) (truth : σ → Option Bool)
    (op : ShiftOp) (a : Vec α S) (s : σ) :
    LanewiseBinVS (Simd.shiftVSx sem toLane truth op a s) (fun x t => sem op x (.own t)) a s :=
  lanewise_shiftVSx sem toLane truth op a s

/-- for **every** per-lane loop with a scalar operand, whatever its declared type: the implicit conversion of the call happens
    once, all lanes are combined with the same (converted) argument -/
theorem lane_op_scalar_conversion {γ : Type} (L : Loop) (hL : L.canonical) (hip : L.inPlace = false)
    (hargs : L.args = [.vec 0 .i, .scalar]) (f : α → Simd.Arg σ α → Option γ) (toLane : σ → Option α)
    (truth : σ → Option Bool) (a : Vec α S) (s : σ) :
    Simd.binVSx L f toLane truth a s =
      (Simd.passScalar L.scalarTy toLane truth s).bind fun arg => allSome (a.map fun x => f x arg) :=
  binVSx_spec L hL hip hargs f toLane truth a s

/-- nested vectors: every lane of every entry is compared with the scalar in its own type -/
theorem lane_op_compare_mixed_nested (sem : CmpOp → α → Simd.Arg σ α → Option Bool) (toLane : σ → Option α)
    (truth : σ → Option Bool) (op : CmpOp) (a : Vec (Vec α S₂) S) (s : σ) (v : Vec (Vec Bool S₂) S)
    (h : Simd.binVSxNested loop_COMPARISON_OP_vs (sem op) toLane truth a s = some v)
    (i : Nat) (hi : i < S) (j : Nat) (hj : j < S₂) : sem op (a[i])[j] (.own s) = some (v[i])[j] := by
  unfold Simd.binVSxNested at h
  have hp : Simd.passScalar loop_COMPARISON_OP_vs.scalarTy toLane truth s = some (.own s) := by
    rw [scalar_param_types.1]
    rfl
  rw [hp] at h
  have h1 := (binVS_canonical loop_COMPARISON_OP_vs (by decide) (by decide) (by decide)
    (fun (x : Vec α S₂) g => Simd.binVS loop_COMPARISON_OP_vs (sem op) x g) a (Simd.Arg.own s)).lane h i hi
  exact (binVS_canonical loop_COMPARISON_OP_vs (by decide) (by decide) (by decide) (sem op) a[i] (Simd.Arg.own s)).lane h1 j hj

/-- **`Simd::cond` with a mask of another type** (a flat `LoopSIMD<bool, S*S₂>` on a vector of vectors): interface.hh
    converts the mask with `implCast<Mask<V>>` (defaults.hh, lane by lane), so entry `(i, j)` of the result is selected by
    lane `i * S₂ + j` of the mask — the lane with the same number -/
theorem lane_cond_foreign_mask (m : Vec Bool (S * S₂)) (a b : Vec (Vec α S₂) S) :
    ∃ r, ((Simd.implCastToNested false m).bind fun mm => Simd.condNested mm a b) = some r ∧
      ∀ i (hi : i < S) j (hj : j < S₂), ∃ h : i * S₂ + j < S * S₂,
        (r[i])[j] = if m[i * S₂ + j] then (a[i])[j] else (b[i])[j] := by
  refine ⟨_, by rw [implCastToNested_eq]; exact condNested_instance _ a b, fun i hi j hj => ⟨nested_entry_lt hi hj, ?_⟩⟩
  show ((Vector.ofFn fun i => Vector.ofFn _)[i])[j] = _
  rw [Vector.getElem_ofFn, Vector.getElem_ofFn]
  simp only [Fin.getElem_fin, Vector.getElem_ofFn]

end Mixed

/-- mixed comparison of exact integers with exact halves (`σ = Int`, value `s/2`): `[1,2,3,4] < 5/2` is `[1,1,0,0]`;
    converting the scalar to the lanes' type first (`5/2 → 2`) would give `[1,0,0,0]` -/
def halfCmp : CmpOp → Int → Simd.Arg Int Int → Option Bool
  | .lt, x, .own s => some (decide (2 * x < s))
  | .lt, x, .lane y => some (decide (x < y))
  | _, _, _ => none
example : Simd.compareVSx halfCmp (fun s => some (Int.tdiv s 2)) (fun s => some (s != 0)) .lt (#v[1, 2, 3, 4] : Vec Int 4) 5
    = some #v[true, true, false, false] := by decide +kernel
example : Simd.binVSx { loop_COMPARISON_OP_vs with scalarTy := .laneScalar } (halfCmp .lt) (fun s => some (Int.tdiv s 2))
    (fun s => some (s != 0)) (#v[1, 2, 3, 4] : Vec Int 4) 5 = some #v[true, false, false, false] := by decide +kernel

-- a flat four-lane mask selects in a 2×2 vector of vectors by lane number
example : ((Simd.implCastToNested (S := 2) (S₂ := 2) false #v[true, false, false, true]).bind fun mm =>
    Simd.condNested mm (#v[#v[1, 2], #v[3, 4]] : Vec (Vec Int 2) 2) #v[#v[10, 20], #v[30, 40]]) = some #v[#v[1, 20], #v[30, 4]] := by
  decide +kernel

section Checked
variable {V : Type → Type} {L : Nat} (X : SimdLike V L) (hX : X.Lawful) {K : Type} (R : Arith K) {n : Nat}

/-- the singularity tests the translator found in densematrix.hh (configuration `DUNE_FMatrix_WITH_CHECKING`): one in front
    of each closed form of `solve` (n = 1, 2, 3) and of `invert` (n = 1, 2), each `Simd::anyTrue(absreal(det) < limit)` -/
theorem checked_tests_shape :
    chkSolve = [(1, .anyTrue, .lt), (2, .anyTrue, .lt), (3, .anyTrue, .lt)] ∧
    chkInvert = [(1, .anyTrue, .lt), (2, .anyTrue, .lt)] := by decide +kernel

include hX in
/-- **solve in the checked configuration** (`DUNE_FMatrix_WITH_CHECKING`; `chk = some below`, `below c x` = the scalar test
    `absreal(x) c absolute_limit()`; `chk = none`: macro not defined), executed from the translated test table: if the SIMD
    call returns, the scalar call returns for every lane with that lane of the solution … -/
theorem solve_checked_lanewise (chk : Option (CmpOpName → K → Bool)) (piv : Bool) (A : Mat (V K) n) (b x : Vector (V K) n)
    (h : solveC X R chk piv A b = some x) (l : Fin L) :
    solveC (V := fun α => α) SimdLike.scalar R chk piv (laneMat X l A) (laneVec X l b) = some (laneVec X l x) :=
  (solveC_throwsLanewise X hX R (by decide) chk piv A b).returns x h l

include hX in
/-- … and it throws `FMatrixError` exactly if the scalar call throws for at least one lane — in particular when the matrix
    is below the limit in **some but not all** lanes -/
theorem solve_checked_throws_iff (chk : Option (CmpOpName → K → Bool)) (piv : Bool) (A : Mat (V K) n) (b : Vector (V K) n) :
    solveC X R chk piv A b = none ↔
      ∃ l, solveC (V := fun α => α) SimdLike.scalar R chk piv (laneMat X l A) (laneVec X l b) = none :=
  (solveC_throwsLanewise X hX R (by decide) chk piv A b).none_iff

include hX in
theorem invert_checked_lanewise (chk : Option (CmpOpName → K → Bool)) (piv : Bool) (A B : Mat (V K) n)
    (h : invertC X R chk piv A = some B) (l : Fin L) :
    invertC (V := fun α => α) SimdLike.scalar R chk piv (laneMat X l A) = some (laneMat X l B) :=
  (invertC_throwsLanewise X hX R (by decide) chk piv A).returns B h l

include hX in
theorem invert_checked_throws_iff (chk : Option (CmpOpName → K → Bool)) (piv : Bool) (A : Mat (V K) n) :
    invertC X R chk piv A = none ↔ ∃ l, invertC (V := fun α => α) SimdLike.scalar R chk piv (laneMat X l A) = none :=
  (invertC_throwsLanewise X hX R (by decide) chk piv A).none_iff

/-- without the macro the two configurations coincide -/
theorem checked_off_is_unchecked (piv : Bool) (A : Mat (V K) n) (b : Vector (V K) n) :
    solveC X R none piv A b = solve X R piv A b ∧ invertC X R none piv A = invert X R piv A :=
  ⟨by simp [solveC, singularChecked], by simp [invertC, singularChecked]⟩

end Checked

/-- 3×3, two lanes: lane 0 = diag(1,2,3) (regular), lane 1 has two equal rows (determinant 0) -/
def mixed3 : Mat (Vec Int 2) 3 :=
  #v[#v[#v[1, 1], #v[0, 2], #v[0, 3]],
     #v[#v[0, 1], #v[2, 2], #v[0, 3]],
     #v[#v[0, 0], #v[0, 1], #v[3, 1]]]
def regular3 : Mat (Vec Int 2) 3 :=
  #v[#v[#v[1, 1], #v[0, 0], #v[0, 0]],
     #v[#v[0, 0], #v[2, 1], #v[0, 0]],
     #v[#v[0, 0], #v[0, 0], #v[3, 1]]]
/-- `|x| < 1` -/
def belowOne : CmpOpName → Int → Bool := fun _ x => decide (intArith.abs x < 1)
-- one singular lane makes the checked solve throw although the other lane is regular; the unchecked closed form returns
example : solveC (SimdLike.loop 2) intArith (some belowOne) true mixed3 #v[#v[1, 1], #v[2, 1], #v[3, 1]] = none ∧
    (solveC (SimdLike.loop 2) intArith none true mixed3 #v[#v[1, 1], #v[2, 1], #v[3, 1]]).isSome = true := by decide +kernel
-- … and with both lanes regular it returns the lane-wise solution
example : solveC (SimdLike.loop 2) intArith (some belowOne) true regular3 #v[#v[1, 1], #v[2, 1], #v[3, 1]]
    = some #v[#v[1, 1], #v[1, 1], #v[1, 1]] := by decide +kernel

-- the control decisions of luDecomposition / ElimDet / ElimPivot / determinant / solve / invert are TRANSLATED:
-- `Gen.luCtl` is read off densematrix.hh on every run, `determinantT` … `invertCT` (Model/C09LUT.lean, what the driver runs)
-- execute it.  The theorems below are about these translated algorithms.
section TranslatedLU
variable {V : Type → Type} {L : Nat} (X : SimdLike V L) (hX : X.Lawful) {K : Type} (R : Arith K) {n : Nat}

/-- what the translator found in densematrix.hh is the canonical control: pivot search over the rows below the diagonal with
    `abs > pivmax`, `pivmax = cond(mask, abs, pivmax)`, `imax = cond(mask, k, imax)`; `nonsingularLanes && (pivmax != 0)`;
    `throwEarly`: throw iff not ALL lanes nonsingular, otherwise return early iff NO lane nonsingular; elimination below and right of
    the pivot; the sign flips (`cond(i == j, 1, -1)`) and the pivot is recorded (`cond(i == j, pivot[i], j)`) per lane; `solve`
    and `invert` throw early, `determinant` does not and masks its singular lanes with `cond(nonsingularLanes, det, 0)` -/
theorem lu_control_shape : luCtl = luCtlCanonical := by decide +kernel

/-- **refinement**: the translated-control algorithms the driver runs against the real code ARE the hand-written algorithms of
    `Model/C09LU.lean` (about which `section Dense`, `Dense2`, `Checked` speak) — for every SIMD type, arithmetic, size, input -/
theorem translated_control_refines (chk : Option (CmpOpName → K → Bool)) (piv : Bool) (A : Mat (V K) n) (b : Vector (V K) n)
    (i : Fin n) :
    pivotSearchT X R luCtl A i = pivotSearch X R A i ∧
    determinantT X R luCtl piv A = some (determinant X R piv A) ∧
    solveT X R luCtl piv A b = solve X R piv A b ∧
    invertT X R luCtl piv A = invert X R piv A ∧
    solveCT X R luCtl chk piv A b = solveC X R chk piv A b ∧
    invertCT X R luCtl chk piv A = invertC X R chk piv A := by
  rw [lu_control_shape]
  exact ⟨pivotSearchT_canonical X R A i, determinantT_canonical X R piv A, solveT_canonical X R piv A b,
    invertT_canonical X R piv A, solveCT_canonical X R chk piv A b, invertCT_canonical X R chk piv A⟩

include hX in
/-- **the translated determinant is lane-wise and never throws**, mixed singular / regular lanes included -/
theorem det_translated_lanewise (piv : Bool) (A : Mat (V K) n) (l : Fin L) :
    ∃ d, determinantT X R luCtl piv A = some d ∧
      determinantT (V := fun α => α) SimdLike.scalar R luCtl piv (laneMat X l A) = some (X.lane l d) := by
  refine ⟨determinant X R piv A, ?_, ?_⟩
  · rw [lu_control_shape]
    exact determinantT_canonical X R piv A
  · rw [lu_control_shape, determinantT_canonical, lu_lanewise X hX R piv A l]

include hX in
/-- **the translated solve**: a returned solution is the scalar solution in every lane … -/
theorem solve_translated_lanewise (piv : Bool) (A : Mat (V K) n) (b x : Vector (V K) n) (h : solveT X R luCtl piv A b = some x)
    (l : Fin L) :
    solveT (V := fun α => α) SimdLike.scalar R luCtl piv (laneMat X l A) (laneVec X l b) = some (laneVec X l x) := by
  rw [lu_control_shape, solveT_canonical] at h ⊢
  exact solve_lanewise X hX R piv A b x h l

include hX in
/-- … and it throws exactly if the scalar solve throws for some lane -/
theorem solve_translated_throws_iff (piv : Bool) (A : Mat (V K) n) (b : Vector (V K) n) :
    solveT X R luCtl piv A b = none ↔
      ∃ l, solveT (V := fun α => α) SimdLike.scalar R luCtl piv (laneMat X l A) (laneVec X l b) = none := by
  rw [lu_control_shape]
  simp only [solveT_canonical]
  exact solve_throws_iff X hX R piv A b

include hX in
theorem invert_translated_lanewise (piv : Bool) (A B : Mat (V K) n) (h : invertT X R luCtl piv A = some B) (l : Fin L) :
    invertT (V := fun α => α) SimdLike.scalar R luCtl piv (laneMat X l A) = some (laneMat X l B) := by
  rw [lu_control_shape, invertT_canonical] at h ⊢
  exact invert_lanewise X hX R piv A B h l

include hX in
theorem invert_translated_throws_iff (piv : Bool) (A : Mat (V K) n) :
    invertT X R luCtl piv A = none ↔
      ∃ l, invertT (V := fun α => α) SimdLike.scalar R luCtl piv (laneMat X l A) = none := by
  rw [lu_control_shape]
  simp only [invertT_canonical]
  exact invert_throws_iff X hX R piv A

include hX in
/-- **the LU factors themselves are lane-wise** (mode of `invert`, `throwEarly`): if the SIMD decomposition succeeds, the scalar
    decomposition of lane `l`'s matrix succeeds, and its factors `L\U`, **its recorded pivot rows** and its flag are lane `l` of the
    SIMD factors, pivot vector and mask — although every lane may exchange different rows in every step -/
theorem lu_factors_lanewise (piv : Bool) (A : Mat (V K) n) (st : LUState (V := V) (K := K) (n := n) (Vector (V (Fin n)) n))
    (h : luDecompT X R luCtl (elimPivotT X (K := K) luCtl) luCtl.invertThrowEarly piv A (Vector.ofFn fun i => X.bcast i) = some st)
    (l : Fin L) :
    luDecompT (V := fun α => α) SimdLike.scalar R luCtl (elimPivotT (V := fun α => α) SimdLike.scalar (K := K) luCtl)
        luCtl.invertThrowEarly piv (laneMat X l A) (Vector.ofFn fun i => i) =
      some { A := laneMat X l st.A, aux := st.aux.map (X.lane l), ns := X.lane l st.ns } := by
  rw [lu_control_shape, luDecompT_canonical, elimPivotT_canonical] at h ⊢
  exact (luFactors_throwEarly X hX R piv A).returns st h l

include hX in
/-- **… and without `throwEarly`** (mode of `determinant`): both decompositions return; lane `l` of the final mask is the scalar
    run's flag whatever the other lanes do (a lane that turned singular keeps eliminating with inf/NaN without disturbing the
    others), and in every lane that stays nonsingular the factors and the sign of the permutation are the scalar run's -/
theorem lu_factors_lanewise_noThrow (piv : Bool) (A : Mat (V K) n) (l : Fin L) :
    ∃ st sts, luDecompT X R luCtl (elimDetT X R luCtl) luCtl.detThrowEarly piv A (X.bcast R.one) = some st ∧
      luDecompT (V := fun α => α) SimdLike.scalar R luCtl (elimDetT (V := fun α => α) SimdLike.scalar R luCtl)
        luCtl.detThrowEarly piv (laneMat X l A) R.one = some sts ∧
      X.lane l st.ns = sts.ns ∧ (sts.ns = true → laneMat X l st.A = sts.A ∧ X.lane l st.aux = sts.aux) := by
  rw [lu_control_shape]
  simp only [luDecompT_canonical, elimDetT_canonical]
  exact luFactors_noThrow X hX R piv A l

end TranslatedLU

-- non-vacuity: the translated table drives the computation (mixed lanes, different pivot rows per lane) …
-- (the table is the canonical one, so these are the values `det_exampleMat` … computed with the hand-written control)
example : determinantT (SimdLike.loop 2) intArith luCtl true exampleMat = some #v[-6, 0] := by
  rw [lu_control_shape, determinantT_canonical, det_exampleMat]
example : (pivotSearchT (SimdLike.loop 2) intArith luCtl regularMat 0).2 = #v[1, 2] := by
  rw [lu_control_shape, pivotSearchT_canonical, pivots_regularMat]
example : solveT (SimdLike.loop 2) intArith luCtl true exampleMat #v[#v[2, 1], #v[1, 1], #v[1, 1], #v[3, 1]] = none ∧
    solveT (SimdLike.loop 2) intArith luCtl true regularMat #v[#v[2, 1], #v[1, 1], #v[1, 5], #v[3, 1]] =
      some #v[#v[1, 1], #v[1, 1], #v[1, 1], #v[1, 1]] := by
  rw [lu_control_shape, solveT_canonical, solveT_canonical]
  exact ⟨solve_exampleMat, solve_regularMat⟩
example : invertT (SimdLike.loop 2) intArith luCtl true exampleMat = none ∧
    (invertT (SimdLike.loop 2) intArith luCtl true regularMat).isSome = true := by
  rw [lu_control_shape, invertT_canonical, invertT_canonical]
  exact invert_exampleMat_regularMat
-- … the hypothesis of `lu_factors_lanewise` is satisfiable, and the recorded pivot rows differ between the lanes
example : ((luDecompT (SimdLike.loop 2) intArith luCtl (elimPivotT (SimdLike.loop 2) (K := Int) luCtl) luCtl.invertThrowEarly true
    regularMat (Vector.ofFn fun i => (SimdLike.loop 2).bcast i)).map fun st => st.aux[0]) = some #v[1, 2] := by
  rw [lu_control_shape, luDecompT_canonical, elimPivotT_canonical]
  exact luPivots_regularMat

-- … and a table that deviates in ONE decision computes something else (the theorems are about the table, not about a constant):
-- an `imax` that is never updated leaves both regular lanes without their pivot rows; a determinant that throws early throws
example : determinantT (SimdLike.loop 2) intArith { luCtl with imaxTK := false } true regularMat = some #v[0, 0] ∧
    determinantT (SimdLike.loop 2) intArith luCtl true regularMat = some #v[-6, -5] ∧
    determinantT (SimdLike.loop 2) intArith { luCtl with detThrowEarly := true } true exampleMat = none :=
  ⟨by decide +kernel, by rw [lu_control_shape, determinantT_canonical, det_regularMat], by decide +kernel⟩

-- the matrix-vector kernels are TRANSLATED: `Gen.kernel_mv … kernel_usmhv` are read off densematrix.hh on every run
-- (a plain loop nest with one update statement; anything else — a test, a mask reduction, an early return — is outside the
-- translator's grammar), `kernelRunN` / `kernelRunT` (Model/C09K.lean, what the driver runs) execute them
section TranslatedKernels
variable {V : Type → Type} {L : Nat} (X : SimdLike V L) (hX : X.Lawful) {K : Type} (R : Arith K) {r c : Nat}

/-- all eleven kernels of densematrix.hh are in the translated table -/
theorem kernel_table_complete :
    kernelTable.map (·.1) = ["mv", "mtv", "umv", "umtv", "umhv", "mmv", "mmtv", "mmhv", "usmv", "usmtv", "usmhv"] := by decide +kernel

include hX in
/-- **every kernel shape of the grammar is lane-wise** — for every form of the loop nest, with or without initialisation, `+=` or
    `-=`, scaled by a per-lane `alpha` or not, conjugated (by any scalar function `cj`) or not, for every rectangular size, every
    lawful SIMD type and every arithmetic: lane `l` of the result is the same kernel on lane `l` of matrix, vectors and `alpha` -/
theorem kernels_translated_lanewise (cj : K → K) (s : KShape) (alpha : V K) (A : RMat (V K) r c)
    (x : Vector (V K) c) (y : Vector (V K) r) (xt : Vector (V K) r) (yt : Vector (V K) c) (l : Fin L) :
    laneVec X l (kernelRunN X R cj s alpha A x y) =
      kernelRunN (V := fun α => α) SimdLike.scalar R cj s (X.lane l alpha) (laneRMat X l A) (laneVec X l x) (laneVec X l y) ∧
    laneVec X l (kernelRunT X R cj s alpha A xt yt) =
      kernelRunT (V := fun α => α) SimdLike.scalar R cj s (X.lane l alpha) (laneRMat X l A) (laneVec X l xt) (laneVec X l yt) :=
  ⟨kernelRunN_lanewise X hX R l cj s alpha A x y, kernelRunT_lanewise X hX R l cj s alpha A xt yt⟩

include hX in
/-- in particular the eleven kernels of the table (whatever options the translator found) -/
theorem kernels_of_table_lanewise (name : String) (s : KShape) (_h : kernelTable.lookup name = some s) (cj : K → K) (alpha : V K)
    (A : RMat (V K) r c) (x : Vector (V K) c) (y : Vector (V K) r) (xt : Vector (V K) r) (yt : Vector (V K) c) (l : Fin L) :
    laneVec X l (kernelRunN X R cj s alpha A x y) =
      kernelRunN (V := fun α => α) SimdLike.scalar R cj s (X.lane l alpha) (laneRMat X l A) (laneVec X l x) (laneVec X l y) ∧
    laneVec X l (kernelRunT X R cj s alpha A xt yt) =
      kernelRunT (V := fun α => α) SimdLike.scalar R cj s (X.lane l alpha) (laneRMat X l A) (laneVec X l xt) (laneVec X l yt) :=
  kernels_translated_lanewise X hX R cj s alpha A x y xt yt l

include hX in
/-- the vector-space operations of `DenseMatrix` on matrices of SIMD numbers — `A += B`, `A -= B`, `A *= k`, `A /= k` (a per-lane
    factor `k`), `-A`, `A.axpy(k, B)` — are lane-wise, for every rectangular size -/
theorem matrix_space_ops_lanewise (k : V K) (A B : RMat (V K) r c) (l : Fin L) :
    laneRMat X l (matAdd X R A B) = matAdd (V := fun α => α) SimdLike.scalar R (laneRMat X l A) (laneRMat X l B) ∧
    laneRMat X l (matSub X R A B) = matSub (V := fun α => α) SimdLike.scalar R (laneRMat X l A) (laneRMat X l B) ∧
    laneRMat X l (matScale X R k A) = matScale (V := fun α => α) SimdLike.scalar R (X.lane l k) (laneRMat X l A) ∧
    laneRMat X l (matDiv X R k A) = matDiv (V := fun α => α) SimdLike.scalar R (X.lane l k) (laneRMat X l A) ∧
    laneRMat X l (matNeg X R A) = matNeg (V := fun α => α) SimdLike.scalar R (laneRMat X l A) ∧
    laneRMat X l (matAxpy X R k A B) =
      matAxpy (V := fun α => α) SimdLike.scalar R (X.lane l k) (laneRMat X l A) (laneRMat X l B) :=
  ⟨rmap2_lanewise X l _ _ (lane_vadd X hX R l) A B, rmap2_lanewise X l _ _ (lane_vsub X hX R l) A B,
    rmap1_lanewise X l _ _ (fun a => lane_vmul X hX R l a k) A, rmap1_lanewise X l _ _ (fun a => lane_vdiv X hX R l a k) A,
    rmap1_lanewise X l _ _ (lane_vneg X hX R l) A,
    rmap2_lanewise X l _ _ (fun y x => by rw [lane_vadd X hX R, lane_vmul X hX R]) A B⟩

end TranslatedKernels

example : matAxpy (SimdLike.loop 2) intArith (#v[2, -1] : Vec Int 2) (#v[#v[#v[1, 1], #v[0, 5]]] : RMat (Vec Int 2) 1 2)
    #v[#v[#v[3, 3], #v[4, 4]]] = #v[#v[#v[7, -2], #v[8, 1]]] := by decide +kernel

-- non-vacuity (explicit shapes, so that a harmless change of an option in the source does not disturb the examples):
-- `y -= alpha A x` with a per-lane alpha on a 2×3 matrix of two lanes, and the hermitian `y += A^H x`
example : kernelRunN (SimdLike.loop 2) intArith id { form := .n, init := false, sub := true, scaled := true, conj := false }
    (#v[2, 0] : Vec Int 2) (#v[#v[#v[1, 2], #v[0, 1], #v[2, 0]], #v[#v[0, 1], #v[1, 1], #v[1, 1]]] : RMat (Vec Int 2) 2 3)
    #v[#v[1, 1], #v[2, 1], #v[3, 1]] #v[#v[10, 10], #v[20, 20]] = #v[#v[-4, 10], #v[10, 20]] := by decide +kernel
example : kernelRunT (SimdLike.loop 2) intArith (fun z => -z) { form := .t, init := false, sub := false, scaled := false, conj := true }
    (#v[1, 1] : Vec Int 2) (#v[#v[#v[1, 2], #v[0, 1], #v[2, 0]], #v[#v[0, 1], #v[1, 1], #v[1, 1]]] : RMat (Vec Int 2) 2 3)
    #v[#v[1, 1], #v[2, 1]] #v[#v[0, 0], #v[0, 0], #v[0, 0]] = #v[#v[-1, -3], #v[-2, -2], #v[-4, -1]] := by decide +kernel
example : kernelTable.lookup "usmhv" = some kernel_usmhv := by decide +kernel

end DV.C09
