import DuneVerif.Proofs.C05Swap
import DuneVerif.Proofs.C05Store
import DuneVerif.Proofs.C05History
import DuneVerif.Proofs.C05Async
import DuneVerif.Proofs.C05Regen
/-!
# C05 — Interface + buffered communication move each value to exactly its matches

Property theorems about the model `DuneVerif/Model/C05.lean`, for **every** process count `P`, every
decomposition (`System`: per process a source and a target index set, one object or two), every choice of
`ignorePublic`, every pair of attribute sets `S`, `T` (arbitrary predicates), every payload geometry (`sz` =
`sizeof(IndexedType)`, `blk g` = `CommPolicy::getSize` of the entry with global index `g`), every gather/scatter
policy, every arrival order of the messages and every completion order reported by `MPI_Waitany`.

Standing hypotheses (`Setting.OK`):
* `WF`: every index set is in `ParallelIndexSet` order with every global index at most once (the property's
  "decomposition of global indices"; DESIGN.md section 5, C04);
* `0 < sz`;
* `SizesByGlobal`: the number of elements communicated for an index is the same on both sides of a pair (it is
  a function of the global index) — for `SizeOne` payloads `blk = fun _ => 1`.

The remote index lists are *defined* as `remoteSpec` (what C04 proves about `RemoteIndices::rebuild`).
MPI is trusted at the message level: a posted send and the matching posted receive (same pair, same size)
complete; messages land in the receive buffer before their completion is reported.
-/
namespace DV.C05

/-- everything that parameterises the communicators of one collective `build` -/
structure Setting where
  ign : Bool
  S : Nat → Bool
  T : Nat → Bool
  sys : System
  sz : Nat
  csS : Nat → Nat → Nat
  csT : Nat → Nat → Nat
  blk : Int → Nat

structure Setting.OK (s : Setting) : Prop where
  wf : WF s.sys
  sz : 0 < s.sz
  sizes : SizesByGlobal s.sys s.csS s.csT s.blk

def Setting.iface (s : Setting) (p : Nat) : IfMap := interfaceOf s.ign s.S s.T s.sys p
def Setting.comm (s : Setting) (p : Nat) : Comm := (netOf s.ign s.S s.T s.sys s.sz s.csS s.csT).comm p
/-- the entries `p` sends to `q` / `q` receives from `p` in a forward communication, by the property's definition
    (global index, attribute on the other process, local index, own attribute), ascending global index -/
def Setting.sendL (s : Setting) (p q : Nat) : List RIdx := DV.C05.sendL s.ign s.S s.T s.sys p q
def Setting.recvL (s : Setting) (q p : Nat) : List RIdx := DV.C05.recvL s.ign s.S s.T s.sys q p

/-- roles exchanged: target index sets become sources, `T` becomes the source attribute set -/
def Setting.swap (s : Setting) : Setting :=
  { s with S := s.T, T := s.S, sys := s.sys.swap, csS := s.csT, csT := s.csS }

theorem Setting.comm_swap (s : Setting) (p : Nat) : s.swap.comm p = (s.comm p).swap :=
  (swap_comm s.ign s.S s.T s.sys s.sz s.csS s.csT p).symm

theorem Setting.OK.good {s : Setting} (h : s.OK) : (netOf s.ign s.S s.T s.sys s.sz s.csS s.csT).Good :=
  netOf_good h.wf h.sz h.sizes

/-! ## 1. The interface -/

/-- **interface_spec.**  The send list of `p` for `q` consists of exactly the local indices of the own published
    source entries whose attribute is in `S` and whose global index has a published target entry on `q` with
    attribute in `T`; the receive list of exactly those target entries with attribute in `T` that have a source
    entry on `q` with attribute in `S`; both in ascending global index order, each global index once.  (The process
    itself is a neighbour only with two index sets.) -/
theorem interface_spec (s : Setting) (hwf : WF s.sys) (p q : Nat) :
    ((s.iface p).get q).1.idx = (s.sendL p q).map (·.l) ∧
    ((s.iface p).get q).2.idx = (s.recvL p q).map (·.l) ∧
    (∀ x, x ∈ s.sendL p q ↔ admits s.sys p q ∧
        ∃ a ∈ published s.ign (s.sys.rank p).src, ∃ b ∈ published s.ign (s.sys.rank q).tgtSet,
          b.g = a.g ∧ s.S a.a = true ∧ s.T b.a = true ∧ x = ⟨a.g, b.a, a.l, a.a⟩) ∧
    (∀ x, x ∈ s.recvL p q ↔ admits s.sys p q ∧
        ∃ a ∈ published s.ign (s.sys.rank p).tgtSet, ∃ b ∈ published s.ign (s.sys.rank q).src,
          b.g = a.g ∧ s.T a.a = true ∧ s.S b.a = true ∧ x = ⟨a.g, b.a, a.l, a.a⟩) ∧
    ((s.sendL p q).map (·.g)).Pairwise (· < ·) ∧ ((s.recvL p q).map (·.g)).Pairwise (· < ·) := by
  refine ⟨(get_interfaceOf_idx s.ign s.S s.T s.sys p q).1, (get_interfaceOf_idx s.ign s.S s.T s.sys p q).2, ?_⟩
  simp only [Setting.sendL, Setting.recvL, sendL, recvL]
  by_cases ha : admits s.sys p q
  · simp only [ha, if_true, true_and]
    exact ⟨mem_sendEntries hwf, mem_recvEntries hwf, joinSpec_globals_sorted ((hwf.src p).published s.ign) _ _,
      joinSpec_globals_sorted ((hwf.tgt p).published s.ign) _ _⟩
  · simp [ha]

/-- the reserved sizes are exactly filled: the `assert(size_<maxSize_)` of `InterfaceInformation::add` never fires
    and no reserved slot stays unused -/
theorem add_within_reserved (send : Bool) (S T : Nat → Bool) (l : List RIdx) :
    (infoOf send S T l).idx.length = (infoOf send S T l).maxSize := by
  simp [infoOf_eq]

/-- **interface_neighbours.**  After `strip`, `q` is a key of `p`'s interface map iff something is sent to or
    received from `q`; the keys ascend strictly. -/
theorem interface_neighbours (s : Setting) (p q : Nat) :
    (q ∈ (s.iface p).map (·.1) ↔ (s.sendL p q ≠ [] ∨ s.recvL p q ≠ [])) ∧
    ((s.iface p).map (·.1)).Pairwise (· < ·) := by
  refine ⟨?_, keys_interfaceOf_sorted _ _ _ _ _⟩
  have hidx := get_interfaceOf_idx s.ign s.S s.T s.sys p q
  rw [Setting.iface, mem_keys_interfaceOf, Info.size, Info.size, hidx.1, hidx.2, List.length_map, List.length_map]
  exact or_congr (not_congr List.length_eq_zero_iff) (not_congr List.length_eq_zero_iff)

/-- **interface_mirror.**  The `k`-th entry `p` sends to `q` and the `k`-th entry `q` receives from `p` denote the
    same global index (and the lists have the same length). -/
theorem interface_mirror (s : Setting) (hwf : WF s.sys) {p q : Nat} (hp : p < s.sys.P) (hq : q < s.sys.P) :
    (s.sendL p q).map (·.g) = (s.recvL q p).map (·.g) ∧
    ((s.iface p).get q).1.idx.length = ((s.iface q).get p).2.idx.length := by
  have hm := L_mirror (ign := s.ign) (S := s.S) (T := s.T) hwf hp hq
  refine ⟨hm, ?_⟩
  rw [(interface_spec s hwf p q).1, (interface_spec s hwf q p).2.1, List.length_map, List.length_map]
  have := congrArg List.length hm
  simpa [Setting.sendL, Setting.recvL] using this

/-- `Selection`: the local indices of the entries with attribute in the set, in index set order -/
theorem selection_spec (S : Nat → Bool) (set : List Entry) (l : Nat) :
    l ∈ selection S set ↔ ∃ e ∈ set, S e.a = true ∧ e.l = l := by
  simp [selection, List.mem_map, List.mem_filter, and_assoc]

/-! ## 2. Message layout -/

/-- **slice_layout_disjoint_cover** (send side).  The message for `q` is the slice of the gathered send buffer that
    holds exactly the values gathered for `q`'s send list in interface order, and the send buffer is the
    concatenation of these messages over the neighbours in rank order: the slices are disjoint and cover the buffer. -/
theorem slice_layout_disjoint_cover (s : Setting) (h : s.OK) {Val} (gat : Nat → Nat → Val) (p : Nat) :
    (∀ q, (s.comm p).msgTo true ((s.comm p).sendBuf true gat) q =
        (slotsOf s.blk (s.sendL p q)).map fun sl => gat sl.1 sl.2) ∧
    (s.comm p).sendBuf true gat =
      ((s.iface p).map (·.1)).flatMap fun q => (s.comm p).msgTo true ((s.comm p).sendBuf true gat) q := by
  have hg := h.good
  constructor
  · intro q
    rw [Setting.comm, Net.msgTo_eq _ hg, sendSlots_eq h.wf h.sizes]
    rfl
  · simp only [Setting.comm, Net.msgTo_eq _ hg]
    exact Net.sendBuf_eq _ hg.keys gat p

/-- **slice_layout_disjoint_cover** (receive side): the regions into which the receives of two different
    neighbours are posted do not overlap and lie inside the receive buffer. -/
theorem recv_regions_disjoint (s : Setting) (q : Nat) {a b : Nat} {ma mb} (hab : a < b)
    (ha : (s.comm q).msg a = some ma) (hb : (s.comm q).msg b = some mb) :
    ma.2.start + ma.2.size / s.sz ≤ mb.2.start ∧ mb.2.start + mb.2.size / s.sz ≤ (s.comm q).recvElems true ∧
    ma.1.start + ma.1.size / s.sz ≤ mb.1.start ∧ mb.1.start + mb.1.size / s.sz ≤ (s.comm q).sendElems true := by
  have hk : ∀ p, Keys ((netOf s.ign s.S s.T s.sys s.sz s.csS s.csT).ifs p) :=
    fun p => keys_interfaceOf_sorted _ _ _ _ _
  have hr := Net.recv_regions _ hk q hab (Net.mem_keys_of_msg _ ha) (Net.mem_keys_of_msg _ hb)
  have hs := Net.send_regions _ hk q hab (Net.mem_keys_of_msg _ ha) (Net.mem_keys_of_msg _ hb)
  -- a size in bytes, divided by `sizeof`, is the number of elements (or 0 if `sizeof` is 0)
  have hdiv : ∀ x, x * s.sz / s.sz ≤ x := fun x => Nat.div_le_of_le_mul (Nat.le_of_eq (Nat.mul_comm x s.sz))
  rw [Net.msg_some _ hk ha, Net.msg_some _ hk hb]
  dsimp only
  exact ⟨Nat.le_trans (Nat.add_le_add_left (hdiv _) _) hr.1, Nat.le_trans (Nat.add_le_add_left (hdiv _) _) hr.2,
    Nat.le_trans (Nat.add_le_add_left (hdiv _) _) hs.1, Nat.le_trans (Nat.add_le_add_left (hdiv _) _) hs.2⟩

/-! ## 3. Delivery -/

/-- what the property expects process `q` to scatter in a forward communication: for every process `p` and every
    shared entry (`k`-th of `sendL p q` = `k`-th of `recvL q p`, the same global index by `interface_mirror`) and
    every component `j`, the value `p` gathered at its local index, delivered to `q`'s local index -/
def Setting.expectedCalls {Val} (s : Setting) (gat : Nat → Nat → Nat → Val) (q : Nat) : List (Val × Nat × Nat) :=
  (List.range s.sys.P).flatMap fun p => pairExpected s.blk (gat p) (s.sendL p q) (s.recvL q p)

/-- the same list with the tag (sender, global index, component) of every call -/
def Setting.expectedTagged {Val} (s : Setting) (gat : Nat → Nat → Nat → Val) (q : Nat) :
    List ((Nat × Int × Nat) × (Val × Nat × Nat)) :=
  (List.range s.sys.P).flatMap fun p => pairExpectedTagged s.blk (gat p) p (s.sendL p q) (s.recvL q p)

/-- admissible schedules on `q`: the messages land in any order (`arr`, no process twice), `MPI_Waitany` reports
    exactly the posted receives, each once, in any order (`order`), a message is reported only after it landed -/
structure Sched (s : Setting) (fwd : Bool) (q : Nat) (arr order : List Nat) : Prop where
  nodup : arr.Nodup
  bound : ∀ p ∈ arr, p < s.sys.P
  landed : ∀ p ∈ order, p ∈ arr
  complete : order.Perm ((s.comm q).postedRecvs fwd)

instance (s : Setting) (fwd : Bool) (q : Nat) (arr order : List Nat) : Decidable (Sched s fwd q arr order) :=
  decidable_of_iff (arr.Nodup ∧ (∀ p ∈ arr, p < s.sys.P) ∧ (∀ p ∈ order, p ∈ arr) ∧ order.Perm ((s.comm q).postedRecvs fwd))
    ⟨fun h => ⟨h.1, h.2.1, h.2.2.1, h.2.2.2⟩, fun h => ⟨h.nodup, h.bound, h.landed, h.complete⟩⟩

/-- the expected calls of a backward communication on `q`: values gathered at target entries of `p`, delivered to
    the matching source entries of `q` -/
def Setting.expectedBack {Val} (s : Setting) (gat : Nat → Nat → Nat → Val) (q : Nat) : List (Val × Nat × Nat) :=
  (List.range s.sys.P).flatMap fun p => pairExpected s.blk (gat p) (s.recvL p q) (s.sendL q p)

def Setting.expectedDir {Val} (s : Setting) (fwd : Bool) (gat : Nat → Nat → Nat → Val) (q : Nat) : List (Val × Nat × Nat) :=
  if fwd then s.expectedCalls gat q else s.expectedBack gat q

/-- **calls_any_buffer.**  `forward_calls` / `backward_calls` for an arbitrary previous receive buffer: in either direction,
    whatever the buffer held, the scatter calls made on `q` are, as a multiset, exactly the expected ones.  A backward
    communication is a forward communication of the net with the two sides of every interface exchanged. -/
theorem calls_any_buffer (s : Setting) (h : s.OK) (fwd : Bool) {Val} (gat : Nat → Nat → Nat → Val) (init : List Val)
    {q : Nat} (hq : q < s.sys.P) (hinit : (s.comm q).recvElems fwd ≤ init.length) {arr order : List Nat}
    (hs : Sched s fwd q arr order) :
    (roundCallsFrom s.comm fwd gat init q arr order).Perm (s.expectedDir fwd gat q) := by
  cases fwd with
  | true =>
    refine (Net.roundCallsFrom_perm _ h.good gat init hq hinit hs.bound hs.landed hs.complete).trans
      (List.Perm.of_eq ?_)
    exact flatMap_congr_mem fun p hp => pairCalls_eq h.wf h.sizes gat (List.mem_range.1 hp) hq
  | false =>
    have hc : (fun p => (s.comm p).swap) = (netOf s.ign s.S s.T s.sys s.sz s.csS s.csT).swap.comm :=
      funext fun p => (Net.swap_comm _ p).symm
    rw [roundCallsFrom_swap, hc]
    refine (Net.roundCallsFrom_perm _ h.good.swap gat init hq ?_ hs.bound hs.landed ?_).trans (List.Perm.of_eq ?_)
    · rw [Net.swap_comm, Comm.swap_recvElems]
      exact hinit
    · rw [Net.swap_comm, Comm.swap_postedRecvs]
      exact hs.complete
    · exact flatMap_congr_mem fun p hp =>
        (Net.swap_pairCalls _ gat p q).trans (backCalls_eq h.wf h.sizes gat (List.mem_range.1 hp) hq)

/-- **forward_calls.**  The scatter calls made on `q` during one `forward` are, as a multiset, exactly the expected
    ones: every value gathered at a source entry reaches the scatter of its matching target entry, nothing else is
    scattered. -/
theorem forward_calls (s : Setting) (h : s.OK) {Val} (gat : Nat → Nat → Nat → Val) (junk : Val) {q : Nat}
    (hq : q < s.sys.P) {arr order : List Nat} (hs : Sched s true q arr order) :
    (roundCallsAt s.comm true gat junk q arr order).Perm (s.expectedCalls gat q) :=
  calls_any_buffer s h true gat _ hq (by simp) hs

/-- **forward_exactly_once.**  The expected calls are indexed by (sender, global index, component) without
    repetition, and the calls made are a permutation of them: each shared entry's value is scattered exactly once. -/
theorem forward_exactly_once (s : Setting) (h : s.OK) {Val} (gat : Nat → Nat → Nat → Val) (junk : Val) {q : Nat}
    (hq : q < s.sys.P) {arr order : List Nat} (hs : Sched s true q arr order) :
    ((s.expectedTagged gat q).map (·.1)).Nodup ∧
    (roundCallsAt s.comm true gat junk q arr order).Perm ((s.expectedTagged gat q).map (·.2)) := by
  constructor
  · exact tagged_nodup s.blk gat s.sys.P (fun p => s.sendL p q) (fun p => s.recvL q p)
      (fun p => (interface_spec s h.wf p q).2.2.2.2.1)
  · have : (s.expectedTagged gat q).map (·.2) = s.expectedCalls gat q := by
      simp only [Setting.expectedTagged, Setting.expectedCalls, List.map_flatMap, pairExpectedTagged_snd]
    rw [this]
    exact forward_calls s h gat junk hq hs

/-- **order_irrelevant_calls.**  The multiset of scatter calls does not depend on arrival and completion order. -/
theorem order_irrelevant_calls (s : Setting) (h : s.OK) {Val} (gat : Nat → Nat → Nat → Val) (junk : Val) {q : Nat}
    (hq : q < s.sys.P) {arr order arr' order' : List Nat} (hs : Sched s true q arr order) (hs' : Sched s true q arr' order') :
    (roundCallsAt s.comm true gat junk q arr order).Perm (roundCallsAt s.comm true gat junk q arr' order') :=
  (forward_calls s h gat junk hq hs).trans (forward_calls s h gat junk hq hs').symm

/-- **backward_is_forward_swapped.**  A backward communication is literally a forward communication of the
    setting with the index sets and the attribute sets exchanged (same schedules). -/
theorem backward_is_forward_swapped (s : Setting) {Val} (gat : Nat → Nat → Nat → Val) (junk : Val) (q : Nat)
    (arr order : List Nat) :
    roundCallsAt s.comm false gat junk q arr order = roundCallsAt s.swap.comm true gat junk q arr order ∧
    (s.comm q).postedRecvs false = (s.swap.comm q).postedRecvs true ∧
    (s.comm q).postedSends false = (s.swap.comm q).postedSends true := by
  have hc : s.swap.comm = fun p => (s.comm p).swap := funext s.comm_swap
  simp only [hc, roundCallsAt_swap, Comm.swap_postedRecvs, Comm.swap_postedSends, and_self]

/-- **backward_calls.**  In a backward communication the values gathered at the *target* entries reach the scatter
    of the matching *source* entries, exactly once each. -/
theorem backward_calls (s : Setting) (h : s.OK) {Val} (gat : Nat → Nat → Nat → Val) (junk : Val) {q : Nat}
    (hq : q < s.sys.P) {arr order : List Nat} (hs : Sched s false q arr order) :
    (roundCallsAt s.comm false gat junk q arr order).Perm
      ((List.range s.sys.P).flatMap fun p => pairExpected s.blk (gat p) (s.recvL p q) (s.sendL q p)) :=
  calls_any_buffer s h false gat _ hq (by simp) hs

/-! ## 4. Policies -/

/-- **forward_copy_spec.**  Copy policy, every target entry of `q` has at most one sender: after `forward` every
    target entry that has a sender equals the value gathered at its source entry, all other entries of the target
    container are unchanged — for every schedule. -/
theorem forward_copy_spec (s : Setting) (h : s.OK) {Val Data} {gather : Data → Nat → Nat → Val}
    {scatter : Data → Val → Nat → Nat → Data} (hst : CopyStore gather scatter) (junk : Val)
    (w : Nat → Cont Data) (arr order : Nat → List Nat) {q : Nat} (hq : q < s.sys.P) (hs : Sched s true q (arr q) (order q))
    (hsingle : ((s.expectedCalls (fun p => gather ((w p).get false)) q).map (·.2)).Nodup) :
    let w' := worldRound s.comm gather scatter junk true arr order w
    (∀ c ∈ s.expectedCalls (fun p => gather ((w p).get false)) q, gather ((w' q).get true) c.2.1 c.2.2 = c.1) ∧
    (∀ l j, (l, j) ∉ (s.expectedCalls (fun p => gather ((w p).get false)) q).map (·.2) →
        gather ((w' q).get true) l j = gather ((w q).get true) l j) := by
  intro w'
  simp only [w', worldRound, Cont.get_set, Bool.not_true]
  exact applyCalls_copy_perm hst (forward_calls s h (fun p => gather ((w p).get false)) junk hq hs) hsingle _

/-- **forward_add_spec.**  Accumulating policy over a commutative, associative `add`: after `forward` every target
    entry holds its old value plus the values of all its senders (sum over the expected calls aimed at it), for every
    schedule. -/
theorem forward_add_spec (s : Setting) (h : s.OK) {Val Data} {add : Val → Val → Val}
    (hcomm : ∀ a b, add a b = add b a) (hassoc : ∀ a b c, add (add a b) c = add a (add b c))
    {gather : Data → Nat → Nat → Val} {scatter : Data → Val → Nat → Nat → Data} (hst : AddStore add gather scatter)
    (junk : Val) (w : Nat → Cont Data) (arr order : Nat → List Nat) {q : Nat} (hq : q < s.sys.P)
    (hs : Sched s true q (arr q) (order q)) (l j : Nat) :
    gather ((worldRound s.comm gather scatter junk true arr order w q).get true) l j =
      (((s.expectedCalls (fun p => gather ((w p).get false)) q).filter fun c => c.2 == (l, j)).map (·.1)).foldl add
        (gather ((w q).get true) l j) := by
  simp only [worldRound, Cont.get_set, Bool.not_true]
  exact applyCalls_add_perm hcomm hassoc hst (forward_calls s h (fun p => gather ((w p).get false)) junk hq hs) _ l j

/-- **backward_copy_spec** / **backward_add_spec**: the same with the roles exchanged (values gathered at target
    entries arrive at the source entries). -/
theorem backward_add_spec (s : Setting) (h : s.OK) {Val Data} {add : Val → Val → Val}
    (hcomm : ∀ a b, add a b = add b a) (hassoc : ∀ a b c, add (add a b) c = add a (add b c))
    {gather : Data → Nat → Nat → Val} {scatter : Data → Val → Nat → Nat → Data} (hst : AddStore add gather scatter)
    (junk : Val) (w : Nat → Cont Data) (arr order : Nat → List Nat) {q : Nat} (hq : q < s.sys.P)
    (hs : Sched s false q (arr q) (order q)) (l j : Nat) :
    gather ((worldRound s.comm gather scatter junk false arr order w q).get false) l j =
      ((((List.range s.sys.P).flatMap fun p => pairExpected s.blk (gather ((w p).get true)) (s.recvL p q) (s.sendL q p)).filter
          fun c => c.2 == (l, j)).map (·.1)).foldl add (gather ((w q).get false) l j) := by
  simp only [worldRound, Cont.get_set, Bool.not_false]
  exact applyCalls_add_perm hcomm hassoc hst (backward_calls s h (fun p => gather ((w p).get true)) junk hq hs) _ l j

theorem backward_copy_spec (s : Setting) (h : s.OK) {Val Data} {gather : Data → Nat → Nat → Val}
    {scatter : Data → Val → Nat → Nat → Data} (hst : CopyStore gather scatter) (junk : Val)
    (w : Nat → Cont Data) (arr order : Nat → List Nat) {q : Nat} (hq : q < s.sys.P) (hs : Sched s false q (arr q) (order q))
    (hsingle : (((List.range s.sys.P).flatMap fun p =>
        pairExpected s.blk (gather ((w p).get true)) (s.recvL p q) (s.sendL q p)).map (·.2)).Nodup) :
    let w' := worldRound s.comm gather scatter junk false arr order w
    (∀ c ∈ (List.range s.sys.P).flatMap fun p => pairExpected s.blk (gather ((w p).get true)) (s.recvL p q) (s.sendL q p),
        gather ((w' q).get false) c.2.1 c.2.2 = c.1) ∧
    (∀ l j, (l, j) ∉ ((List.range s.sys.P).flatMap fun p =>
          pairExpected s.blk (gather ((w p).get true)) (s.recvL p q) (s.sendL q p)).map (·.2) →
        gather ((w' q).get false) l j = gather ((w q).get false) l j) := by
  intro w'
  simp only [w', worldRound, Cont.get_set, Bool.not_false]
  exact applyCalls_copy_perm hst (backward_calls s h (fun p => gather ((w p).get true)) junk hq hs) hsingle _

/-! ## 5. Termination at the message level, repeated use -/

/-- **recv_posted_iff_send_posted.**  In a forward communication `q` posts a receive for `p` iff `p` posts a send
    to `q`, and the message has exactly the posted length; the same holds for backward.  Hence every `MPI_Irecv` is
    matched by exactly one `MPI_Issend` of the same size and vice versa: the `MPI_Waitany` loop receives its
    `numberOfRealRecvRequests` completions and all sends complete. -/
theorem recv_posted_iff_send_posted (s : Setting) (h : s.OK) (fwd : Bool) {Val} (gat : Nat → Nat → Val)
    {p q : Nat} (hp : p < s.sys.P) (hq : q < s.sys.P) :
    (p ∈ (s.comm q).postedRecvs fwd ↔ q ∈ (s.comm p).postedSends fwd) ∧
    (∀ m, (s.comm q).msg p = some m →
        ((s.comm p).msgTo fwd ((s.comm p).sendBuf fwd gat) q).length * s.sz = (recvMsgInfo fwd m).size) :=
  Net.posted_matched_dir _ h.good fwd gat hp hq

theorem Setting.posted_iff (s : Setting) (h : s.OK) (fwd : Bool) {p q : Nat} (hp : p < s.sys.P) (hq : q < s.sys.P) :
    p ∈ (s.comm q).postedRecvs fwd ↔ q ∈ (s.comm p).postedSends fwd :=
  (recv_posted_iff_send_posted s h fwd (fun _ _ => ()) hp hq).1

/-- **reuse.**  A communicator carries no state from one communication to the next: a sequence of `forward` /
    `backward` calls is the sequence of the single communications, each delivering (by `forward_calls` /
    `backward_calls`, which hold for *every* container state `w`) the values present before it.  The statement itself
    only unfolds the buffer-free `runRounds`; that the buffers carry nothing over is `history_step_is_worldRound`. -/
theorem reuse (s : Setting) {Val Data} (gather : Data → Nat → Nat → Val) (scatter : Data → Val → Nat → Nat → Data)
    (junk : Val) (arr order : Bool → Nat → List Nat) (d1 d2 : Bool) (w : Nat → Cont Data) :
    runRounds s.comm gather scatter junk arr order [d1, d2] w =
      worldRound s.comm gather scatter junk d2 (arr d2) (order d2)
        (worldRound s.comm gather scatter junk d1 (arr d1) (order d1) w) ∧
    ∀ (ds : List Bool) (d : Bool), runRounds s.comm gather scatter junk arr order (ds ++ [d]) w =
      worldRound s.comm gather scatter junk d (arr d) (order d) (runRounds s.comm gather scatter junk arr order ds w) := by
  refine ⟨rfl, ?_⟩
  intro ds d
  induction ds generalizing w with
  | nil => rfl
  | cons x xs ih => simp only [List.cons_append, runRounds]; exact ih _

/-- second `forward` on the same communicator: its calls are the expected ones for the state the first one left -/
theorem reuse_forward_twice (s : Setting) (h : s.OK) {Val Data} (gather : Data → Nat → Nat → Val)
    (scatter : Data → Val → Nat → Nat → Data) (junk : Val) (arr order : Nat → List Nat) (w : Nat → Cont Data) {q : Nat}
    (hq : q < s.sys.P) (hs : Sched s true q (arr q) (order q)) :
    let w1 := worldRound s.comm gather scatter junk true arr order w
    (roundCallsAt s.comm true (fun p => gather ((w1 p).get false)) junk q (arr q) (order q)).Perm
      (s.expectedCalls (fun p => gather ((w1 p).get false)) q) :=
  forward_calls s h _ junk hq hs

/-! ## 6. DatatypeCommunicator variant -/

/-- **datatype_calls.**  The index lists behind the MPI datatypes of `DatatypeCommunicator` are the (unstripped)
    interface lists; moving, for every neighbour `p` in rank order, the entries of `p`'s send type into the
    entries of `q`'s receive type amounts exactly to the expected calls of a forward resp. backward communication
    (as a list: there is no completion order to speak of, `MPI_Waitall`). -/
theorem datatype_calls (s : Setting) (h : s.OK) {Val} (gat : Nat → Nat → Nat → Val) {q : Nat} (hq : q < s.sys.P) :
    dtCalls (s.csT q) gat s.csS (dtNeighbours (rawInterfaceOf s.ign s.S s.T s.sys) true q) = s.expectedCalls gat q ∧
    dtCalls (s.csS q) gat s.csT (dtNeighbours (rawInterfaceOf s.ign s.S s.T s.sys) false q) =
      (List.range s.sys.P).flatMap fun p => pairExpected s.blk (gat p) (s.recvL p q) (s.sendL q p) := by
  constructor
  · rw [dtCalls_eq_range]
    exact flatMap_congr_mem fun _ hp => pairCalls_eq (sz := 1) h.wf h.sizes gat (List.mem_range.1 hp) hq
  · rw [dtCalls_eq_range]
    exact flatMap_congr_mem fun _ hp => backCalls_eq (sz := 1) h.wf h.sizes gat (List.mem_range.1 hp) hq

/-- **datatype_copy_spec.**  With non-overlapping receive types (every target entry has one sender — otherwise the
    MPI calls are erroneous) a forward communication leaves every target entry with a sender equal to its source and
    every other entry unchanged. -/
theorem datatype_copy_spec (s : Setting) (h : s.OK) {Val Data} {gather : Data → Nat → Nat → Val}
    {scatter : Data → Val → Nat → Nat → Data} (hst : CopyStore gather scatter) (w : Nat → Cont Data) {q : Nat}
    (hq : q < s.sys.P) (hsingle : ((s.expectedCalls (fun p => gather ((w p).get false)) q).map (·.2)).Nodup) :
    let d' := applyCalls scatter ((w q).get true)
      (dtCalls (s.csT q) (fun p => gather ((w p).get false)) s.csS (dtNeighbours (rawInterfaceOf s.ign s.S s.T s.sys) true q))
    (∀ c ∈ s.expectedCalls (fun p => gather ((w p).get false)) q, gather d' c.2.1 c.2.2 = c.1) ∧
    (∀ l j, (l, j) ∉ (s.expectedCalls (fun p => gather ((w p).get false)) q).map (·.2) →
        gather d' l j = gather ((w q).get true) l j) := by
  intro d'
  simp only [d', (datatype_calls s h _ hq).1]
  exact applyCalls_copy_perm hst (List.Perm.refl _) hsingle _

/-! ## 7. Delivery by definition, stale buffers, histories, life cycle, progress -/

/-- **expected_iff** (the delivery claim by definition, without reference to list positions).  A call with tag
    (sender `p`, global index `g`, component `j`) is expected on `q` iff `p` and `q` are neighbours, `p` holds a
    published source entry `a` for `g` with attribute in `S`, `q` holds a published target entry `b` for `g` with
    attribute in `T`, `j` is a component of `g`; and then the call delivers exactly the value `p` gathered at `a`'s
    local index to `b`'s local index.  Together with `forward_exactly_once` (the tags are pairwise distinct and the
    calls made are a permutation of the expected ones): every such value reaches the scatter of its matching target
    entry exactly once, and nothing else is scattered. -/
theorem expected_iff (s : Setting) (h : s.OK) {Val} (gat : Nat → Nat → Nat → Val) {q : Nat} (hq : q < s.sys.P)
    (p : Nat) (g : Int) (j : Nat) (c : Val × Nat × Nat) :
    ((p, g, j), c) ∈ s.expectedTagged gat q ↔
      p < s.sys.P ∧ admits s.sys p q ∧
      ∃ a ∈ published s.ign (s.sys.rank p).src, ∃ b ∈ published s.ign (s.sys.rank q).tgtSet,
        a.g = g ∧ b.g = g ∧ s.S a.a = true ∧ s.T b.a = true ∧ j < s.blk g ∧ c = (gat p a.l j, b.l, j) := by
  simp only [Setting.expectedTagged, List.mem_flatMap, List.mem_range, pairExpectedTagged, List.mem_map, Prod.mk.injEq]
  constructor
  · rintro ⟨p', hp', ⟨x, y⟩, hxy, j', hj', ⟨rfl, rfl, rfl⟩, rfl⟩
    obtain ⟨hx, hy, hg⟩ := (mem_zip_of_keys _ _ (interface_mirror s h.wf hp' hq).1
      (interface_spec s h.wf p' q).2.2.2.2.1 x y).1 hxy
    obtain ⟨hadm, a, ha, b, _, _, hS, _, rfl⟩ := ((interface_spec s h.wf p' q).2.2.1 x).1 hx
    obtain ⟨_, a', ha', b', _, _, hT', _, rfl⟩ := ((interface_spec s h.wf q p').2.2.2.1 y).1 hy
    exact ⟨hp', hadm, a, ha, a', ha', rfl, hg.symm, hS, hT', hj', rfl⟩
  · rintro ⟨hp, hadm, a, ha, b, hb, rfl, hbg, hS, hT, hj, rfl⟩
    refine ⟨p, hp, (⟨a.g, b.a, a.l, a.a⟩, ⟨b.g, a.a, b.l, b.a⟩), ?_, j, hj, ⟨rfl, rfl, rfl⟩, rfl⟩
    apply (mem_zip_of_keys _ _ (interface_mirror s h.wf hp hq).1
      (interface_spec s h.wf p q).2.2.2.2.1 _ _).2
    refine ⟨?_, ?_, hbg.symm⟩
    · exact ((interface_spec s h.wf p q).2.2.1 _).2 ⟨hadm, a, ha, b, hb, hbg, hS, hT, rfl⟩
    · exact ((interface_spec s h.wf q p).2.2.2.1 _).2 ⟨(admits_symm hp hq).1 hadm, b, hb, a, ha, hbg.symm, hT, hS, rfl⟩

/-- **stale_buffer_irrelevant.**  What the receive buffer held before a communication (uninitialised memory after
    `build`, the messages of earlier communications later on) never reaches a scatter call: for every admissible
    schedule the calls are the same for any two previous contents of (at least) the allocated size. -/
theorem stale_buffer_irrelevant (s : Setting) (h : s.OK) (fwd : Bool) {Val} (gat : Nat → Nat → Nat → Val)
    (init init' : List Val) {q : Nat} (hq : q < s.sys.P) (hinit : (s.comm q).recvElems fwd ≤ init.length)
    (hinit' : (s.comm q).recvElems fwd ≤ init'.length) {arr order : List Nat} (hs : Sched s fwd q arr order) :
    roundCallsFrom s.comm fwd gat init q arr order = roundCallsFrom s.comm fwd gat init' q arr order :=
  Net.roundCallsFrom_init _ h.good fwd gat init init' hq hinit hinit' arr order hs.bound hs.landed

/-- all communications of a history have admissible schedules -/
def AllSched (s : Setting) (rs : List Round) : Prop :=
  ∀ r ∈ rs, ∀ q, q < s.sys.P → Sched s r.fwd q (r.arr q) (r.order q)

theorem step_bufOK (s : Setting) (h : s.OK) {Val Data} (gather : Data → Nat → Nat → Val)
    (scatter : Data → Val → Nat → Nat → Data) (r : Round) (st : Nat → PState Val Data) (hb : BufOK s.sys.P s.comm st)
    (hs : ∀ q, q < s.sys.P → Sched s r.fwd q (r.arr q) (r.order q)) :
    BufOK s.sys.P s.comm (worldStep s.comm gather scatter r st) := by
  intro q hq
  have hsb : (stepSendBuf s.comm gather r.fwd st q).length = (s.comm q).sendElems r.fwd := by
    rw [stepSendBuf_eq hb gather r.fwd hq, Comm.sendBuf_length]
  have hrb : (stepRecvBuf s.comm gather r.fwd st q (r.arr q)).length = (s.comm q).sendElems (!r.fwd) := by
    rw [stepRecvBuf_eq hb gather r.fwd q (r.arr q) (hs q hq).bound]
    exact (Net.recvBufAfter_length_dir _ h.good r.fwd _ _ hq (Nat.le_of_eq (hb.recvB hq r.fwd).symm) _ (hs q hq).bound).trans
      (hb.recvB hq r.fwd)
  simp only [worldStep]
  cases hf : r.fwd <;> simp only [hf, Bool.not_true, Bool.not_false, if_true, if_false, Bool.false_eq_true] at hsb hrb ⊢
  · exact ⟨hrb, hsb⟩
  · exact ⟨hsb, hrb⟩

/-- **history_bufOK.**  Invariant of every history of communications on one set of communicators, established by
    `build` (which allocates buffers of exactly these sizes; their contents are arbitrary): the buffers keep the
    allocated sizes. -/
theorem history_bufOK (s : Setting) (h : s.OK) {Val Data} (gather : Data → Nat → Nat → Val)
    (scatter : Data → Val → Nat → Nat → Data) : ∀ (rs : List Round) (st : Nat → PState Val Data),
    BufOK s.sys.P s.comm st → AllSched s rs → BufOK s.sys.P s.comm (runSt s.comm gather scatter rs st)
  | [], _, hb, _ => hb
  | r :: rs, st, hb, hs =>
    history_bufOK s h gather scatter rs _ (step_bufOK s h gather scatter r st hb (hs r (by simp)))
      (fun r' hr' => hs r' (List.mem_cons_of_mem _ hr'))

/-- **history_calls** (repeated use of one communicator, for all histories).  After any sequence `rs` of forward and
    backward communications on the same communicators — whatever their schedules, whatever the buffers held at the
    beginning — the next communication `r` makes, on every process, exactly the calls expected for the containers as
    the history left them: each value gathered now reaches its matching entry exactly once; nothing of an earlier
    communication is delivered again. -/
theorem history_calls (s : Setting) (h : s.OK) {Val Data} (gather : Data → Nat → Nat → Val)
    (scatter : Data → Val → Nat → Nat → Data) (rs : List Round) (r : Round) (st0 : Nat → PState Val Data)
    (hb : BufOK s.sys.P s.comm st0) (hs : AllSched s (rs ++ [r])) {q : Nat} (hq : q < s.sys.P) :
    (stepCalls s.comm gather r (runSt s.comm gather scatter rs st0) q).Perm
      (s.expectedDir r.fwd (fun p => gather (((runSt s.comm gather scatter rs st0) p).cont.get (!r.fwd))) q) := by
  have hb' := history_bufOK s h gather scatter rs st0 hb (fun r' hr' => hs r' (List.mem_append_left _ hr'))
  have hsr := hs r (by simp) q hq
  rw [stepCalls_eq hb' gather r q hsr.bound]
  exact calls_any_buffer s h r.fwd _ _ hq (Nat.le_of_eq (hb'.recvB hq r.fwd).symm) hsr

/-- **history_step_is_worldRound.**  On buffers of the allocated sizes the stateful step changes the containers
    exactly like the buffer-free `worldRound` (about which the policy theorems `forward_copy_spec`,
    `forward_add_spec`, … speak): they hold for every communication of every history. -/
theorem history_step_is_worldRound (s : Setting) (h : s.OK) {Val Data} (gather : Data → Nat → Nat → Val)
    (scatter : Data → Val → Nat → Nat → Data) (junk : Val) (r : Round) (st : Nat → PState Val Data)
    (hb : BufOK s.sys.P s.comm st) {q : Nat} (hq : q < s.sys.P) (hs : Sched s r.fwd q (r.arr q) (r.order q)) :
    (worldStep s.comm gather scatter r st q).cont =
      worldRound s.comm gather scatter junk r.fwd r.arr r.order (fun p => (st p).cont) q := by
  simp only [worldStep, worldRound, roundCallsAt]
  rw [stepCalls_eq hb gather r q hs.bound,
    stale_buffer_irrelevant s h r.fwd _ ((st q).recvB r.fwd) (List.replicate ((s.comm q).recvElems r.fwd) junk) hq
      (Nat.le_of_eq (hb.recvB hq r.fwd).symm) (by simp) hs]

/-- **rebuild_is_fresh** (life cycle).  `build` on a communicator object in any previous state (built for another
    interface, used, freed or not) yields the communicator a new object would get. -/
theorem rebuild_is_fresh (s : Setting) (c : Comm) (p : Nat) :
    c.build s.sz (s.csS p) (s.csT p) (s.iface p) = s.comm p :=
  Comm.build_eq_fresh c _ _ _ _ (keys_interfaceOf_sorted _ _ _ _ _)

/-- **copy_some_sender.**  Copy policy without any assumption on the number of senders, either direction: after
    the communication every entry that has senders holds the value of one of them, every other entry is unchanged. -/
theorem copy_some_sender (s : Setting) (h : s.OK) (fwd : Bool) {Val Data} {gather : Data → Nat → Nat → Val}
    {scatter : Data → Val → Nat → Nat → Data} (hst : CopyStore gather scatter) (junk : Val)
    (w : Nat → Cont Data) (arr order : Nat → List Nat) {q : Nat} (hq : q < s.sys.P)
    (hs : Sched s fwd q (arr q) (order q)) :
    let w' := worldRound s.comm gather scatter junk fwd arr order w
    let exp := s.expectedDir fwd (fun p => gather ((w p).get (!fwd))) q
    (∀ l j, (l, j) ∈ exp.map (·.2) → ∃ c ∈ exp, c.2 = (l, j) ∧ gather ((w' q).get fwd) l j = c.1) ∧
    (∀ l j, (l, j) ∉ exp.map (·.2) → gather ((w' q).get fwd) l j = gather ((w q).get fwd) l j) := by
  intro w' exp
  simp only [w', worldRound, Cont.get_set]
  exact applyCalls_copy_some hst
    (calls_any_buffer s h fwd _ (List.replicate ((s.comm q).recvElems fwd) junk) hq (by simp) hs) _

/-- **datatype_copy_spec_backward**: `DatatypeCommunicator::backward()` with non-overlapping receive types. -/
theorem datatype_copy_spec_backward (s : Setting) (h : s.OK) {Val Data} {gather : Data → Nat → Nat → Val}
    {scatter : Data → Val → Nat → Nat → Data} (hst : CopyStore gather scatter) (w : Nat → Cont Data) {q : Nat}
    (hq : q < s.sys.P) (hsingle : ((s.expectedBack (fun p => gather ((w p).get true)) q).map (·.2)).Nodup) :
    let d' := applyCalls scatter ((w q).get false)
      (dtCalls (s.csS q) (fun p => gather ((w p).get true)) s.csT (dtNeighbours (rawInterfaceOf s.ign s.S s.T s.sys) false q))
    (∀ c ∈ s.expectedBack (fun p => gather ((w p).get true)) q, gather d' c.2.1 c.2.2 = c.1) ∧
    (∀ l j, (l, j) ∉ (s.expectedBack (fun p => gather ((w p).get true)) q).map (·.2) →
        gather d' l j = gather ((w q).get false) l j) := by
  intro d'
  simp only [d', (datatype_calls s h _ hq).2]
  exact applyCalls_copy_perm hst (List.Perm.refl _) hsingle _

/-- **comm_progress** (termination, part 1).  While a process has not returned from `sendRecv`, some process can
    move: a process that has not entered posts its requests; once all have entered, every waiting process can
    complete, because each of its posted receives is matched by a posted send of the same communication and each of
    its synchronous sends by a posted receive (`recv_posted_iff_send_posted`).  No state is a deadlock. -/
theorem comm_progress (s : Setting) (h : s.OK) (fwd : Bool) (ph : Nat → Phase)
    (hnot : ∃ q, q < s.sys.P ∧ ph q ≠ Phase.done) : ∃ ph', CommStep s.comm fwd s.sys.P ph ph' := by
  by_cases hidle : ∃ q, q < s.sys.P ∧ ph q = Phase.idle
  · obtain ⟨q, hq, hi⟩ := hidle
    exact ⟨_, CommStep.post ph q hq hi⟩
  · have hall : ∀ q, q < s.sys.P → ph q ≠ Phase.idle := fun q hq hi => hidle ⟨q, hq, hi⟩
    obtain ⟨q, hq, hnd⟩ := hnot
    have hposted : ph q = Phase.posted := by
      cases hph : ph q with
      | idle => exact absurd hph (hall q hq)
      | posted => rfl
      | done => exact absurd hph hnd
    refine ⟨_, CommStep.finish ph q hq hposted ⟨?_, ?_⟩⟩
    · intro p hp
      have hp' := Net.posted_lt _ hp h.good
      exact ⟨hall p hp', (s.posted_iff h fwd hp' hq).1 hp⟩
    · intro r hr
      have hr' := Net.posted_lt _ hr h.good
      exact ⟨hall r hr', (s.posted_iff h fwd hq hr').2 hr⟩

/-- **comm_measure** (termination, part 2).  Every move strictly decreases the amount of outstanding work (the natural
    number `todoSum`), so every execution of one communication is finite; by `comm_progress` it can only end with
    all processes returned. -/
theorem comm_measure (s : Setting) (fwd : Bool) {ph ph' : Nat → Phase} (hstep : CommStep s.comm fwd s.sys.P ph ph') :
    todoSum s.sys.P ph' < todoSum s.sys.P ph ∧ (todoSum s.sys.P ph = 0 ↔ ∀ q, q < s.sys.P → ph q = Phase.done) := by
  constructor
  · cases hstep with
    | post q hq hi => exact todoSum_update_lt _ ph q hq _ (by rw [hi]; decide)
    | finish q hq hp _ => exact todoSum_update_lt _ ph q hq _ (by rw [hp]; decide)
  · exact todoSum_eq_zero _ _

/-! ## 8. The processes are not synchronised

`history_*` above treat every `forward`/`backward` as one collective step in which the messages carry what their senders
gathered in THAT communication.  MPI gives no such guarantee by itself: the payload of an `MPI_Issend` is read from the
send buffer at some time between the posting and the completion of the request (large messages: when the receive is
matched), the processes run at their own pace, and the next `sendRecv` gathers into the same buffer.  The guarantee
rests on the completion loops at the end of `sendRecv`, whose bounds are REGENERATED from communicator.hh.
`AStep` (Model/C05Async.lean) is the asynchronous system: every process walks through the history on its own; a posted
send stays outstanding until MPI transfers it, and the transfer reads the sender's buffer as it is at that moment; a
process leaves `sendRecv` when its receives are complete and the sends it waits for have been transferred. -/

/-- **sendRecv_completes_all.**  As read from the source: the last loop of `sendRecv` waits for the send request of every
    neighbour a send was posted to, the `MPI_Waitany` loop runs once per posted receive and looks at all entries of
    `recvRequests`.  (With a bound of the send loop that covers only the first `numberOfRealRecvRequests` entries the first
    conjunct is false: a neighbour that is only sent to can sit behind that position.) -/
theorem sendRecv_completes_all (c : Comm) (fwd : Bool) :
    c.waitedSends fwd = c.postedSends fwd ∧ c.recvLoopIters fwd = (c.postedRecvs fwd).length ∧
      c.recvWaitCount fwd = c.msgs.length := by
  refine ⟨?_, ?_, ?_⟩
  · simp [Comm.waitedSends, Comm.boundVal, Gen.sendWaitBound, Comm.postedSends]
  · simp [Comm.recvLoopIters, Comm.boundVal, Gen.recvLoopBound]
  · simp [Comm.recvWaitCount, Comm.boundVal, Gen.recvWaitCount]

/-- the asynchronous system of a setting: policies, the directions of the history, and what the user assigns before
    communication `k` on process `p` -/
def Setting.asys (s : Setting) {Val Data : Type} (gather : Data → Nat → Nat → Val) (scatter : Data → Val → Nat → Nat → Data)
    (dirs : List Bool) (pre : Nat → Nat → Cont Data → Cont Data) : ASys Val Data :=
  { P := s.sys.P, comm := s.comm, gather := gather, scatter := scatter, dirs := dirs, pre := pre }

theorem Setting.asys_ok (s : Setting) (h : s.OK) {Val Data : Type} (gather : Data → Nat → Nat → Val)
    (scatter : Data → Val → Nat → Nat → Data) (dirs : List Bool) (pre : Nat → Nat → Cont Data → Cont Data) :
    AOK (s.asys gather scatter dirs pre) where
  matched := fun fwd p q hp hq => (s.posted_iff h fwd hp hq).symm
  sendsLt := fun _ _ _ _ hm => Net.posted_lt _ hm h.good
  recvsLt := fun _ _ _ _ hm => Net.posted_lt _ hm h.good
  sendsNodup := fun _ p => (Net.posted_sorted _ h.good.keys p).imp Nat.ne_of_lt
  recvsNodup := fun _ p => (Net.posted_sorted _ h.good.keys p).imp Nat.ne_of_lt
  waited := fun fwd p q hq => by
    rw [show (s.asys gather scatter dirs pre).comm = s.comm from rfl, (sendRecv_completes_all _ fwd).1]
    exact hq

/-- the schedule function recorded by an execution, completed arbitrarily where nothing is recorded yet -/
def schedOf (gh : Ghost) : Nat → Nat → List Nat × List Nat := fun k p => (gh k p).getD ([], [])

theorem schedOf_extends (gh : Ghost) : Extends (schedOf gh) gh := by
  intro k p v hv
  simp [schedOf, hv]

/-- **async_refines_history** (repeated use of one communicator, processes not synchronised, payload read from the send
    buffer at transfer time).  In every state the asynchronous system can reach, for every schedule function that agrees
    with the landing and completion orders the execution has taken so far (`schedOf a.gh` is one): a process that is
    outside `sendRecv` after `k` communications is in exactly the state (containers and both buffers) the collective
    semantics `specSt` gives it after `k` communications; a process inside `sendRecv` has gathered from that state and
    holds in its receive buffer the messages of the same communication of the neighbours that have landed so far.  The
    recorded orders are admissible schedules (`Sched`), so all theorems about `worldStep`/`runSt` (`history_calls`,
    `forward_copy_spec`, `forward_add_spec`, …) speak about every asynchronous execution: each value gathered in a
    communication reaches its matching entries in that same communication, exactly once, whatever the relative speed of
    the processes. -/
theorem async_refines_history (s : Setting) (h : s.OK) {Val Data : Type} (gather : Data → Nat → Nat → Val)
    (scatter : Data → Val → Nat → Nat → Data) (dirs : List Bool) (pre : Nat → Nat → Cont Data → Cont Data)
    (st0 : Nat → PState Val Data) {a : AState Val Data} (hr : AReach (s.asys gather scatter dirs pre) st0 a) :
    (∀ sched, Extends sched a.gh → ∀ p, p < s.sys.P →
      ((a.σ p).inC = false → (a.σ p).st = specSt (s.asys gather scatter dirs pre) st0 sched (a.σ p).k p) ∧
      ((a.σ p).inC = true →
        (a.σ p).st = midState (s.asys gather scatter dirs pre) st0 sched (a.σ p).k p (a.σ p).arrd)) ∧
    (∀ k p arr order, a.gh k p = some (arr, order) →
      p < s.sys.P ∧ k < (a.σ p).k ∧ Sched s ((s.asys gather scatter dirs pre).dir k) p arr order) := by
  have hinv := areach_inv (s.asys_ok h gather scatter dirs pre) hr
  refine ⟨hinv.data, ?_⟩
  intro k p arr order hg
  obtain ⟨hp, hk, harr, hord⟩ := hinv.ghost k p _ hg
  refine ⟨hp, hk, ?_, ?_, ?_, hord.trans harr⟩
  · exact (harr.nodup_iff).2 ((s.asys_ok h gather scatter dirs pre).recvsNodup _ _)
  · intro p' hp'
    exact Net.posted_lt _ (harr.subset hp') h.good
  · intro p' hp'
    exact hord.subset hp'

/-- **async_history_is_runSt.**  Without user assignments between the communications the collective semantics that
    `async_refines_history` refers to is `runSt` on the history with the recorded schedules: a process that has finished
    `k` communications is in the state `runSt` gives it after the first `k` rounds. -/
theorem async_history_is_runSt (s : Setting) (h : s.OK) {Val Data : Type} (gather : Data → Nat → Nat → Val)
    (scatter : Data → Val → Nat → Nat → Data) (dirs : List Bool) (st0 : Nat → PState Val Data) {a : AState Val Data}
    (hr : AReach (s.asys gather scatter dirs (fun _ _ c => c)) st0 a) {p : Nat} (hp : p < s.sys.P)
    (hout : (a.σ p).inC = false) :
    (a.σ p).st = runSt s.comm gather scatter
      ((List.range (a.σ p).k).map (roundOf (s.asys gather scatter dirs (fun _ _ c => c)) (schedOf a.gh))) st0 p := by
  rw [((async_refines_history s h gather scatter dirs _ st0 hr).1 _ (schedOf_extends a.gh) p hp).1 hout,
    specSt_eq_runSt _ st0 _ (fun _ _ _ => rfl)]
  rfl

/-- **async_message_is_gathered.**  Whenever MPI can transfer a message in a reachable state — `p` has an outstanding send
    to `q`, `q` is inside `sendRecv` and still waits for `p` — that send was posted in the communication `q` is in, and
    what is read from `p`'s buffer at that moment is the message `p` gathered for `q` in that communication (`specMsg`):
    no process has overwritten a buffer that a neighbour has yet to read. -/
theorem async_message_is_gathered (s : Setting) (h : s.OK) {Val Data : Type} (gather : Data → Nat → Nat → Val)
    (scatter : Data → Val → Nat → Nat → Data) (dirs : List Bool) (pre : Nat → Nat → Cont Data → Cont Data)
    (st0 : Nat → PState Val Data) {a : AState Val Data} (hr : AReach (s.asys gather scatter dirs pre) st0 a)
    {p q k' : Nat} (hp : p < s.sys.P) (hq : q < s.sys.P) (hsend : (q, k') ∈ (a.σ p).outS) (hin : (a.σ q).inC = true)
    (hpend : p ∈ (a.σ q).pendR) :
    k' = (a.σ q).k ∧ ∀ sched, Extends sched a.gh →
      transferMsg (s.asys gather scatter dirs pre) p q k' (a.σ p) =
        specMsg (s.asys gather scatter dirs pre) st0 sched (a.σ q).k p q := by
  have hA := s.asys_ok h gather scatter dirs pre
  have hinv := areach_inv hA hr
  obtain ⟨hk', hkq, _⟩ := hinv.transfer_round hA p q k' hp hq hsend hin hpend
  exact ⟨by rw [hk', hkq], fun sched hext => hinv.transfer_msg hA p q k' hp hq hsend hin hpend sched hext⟩

/-- **async_returns_without_pending_send.**  A process that is outside `sendRecv` has no outstanding send: when
    `forward`/`backward` returns, every send request it posted has been completed (what harness/pmpi_c05.cc observes
    through the profiling interface), so the buffers may be gathered into again, or released. -/
theorem async_returns_without_pending_send (s : Setting) (h : s.OK) {Val Data : Type} (gather : Data → Nat → Nat → Val)
    (scatter : Data → Val → Nat → Nat → Data) (dirs : List Bool) (pre : Nat → Nat → Cont Data → Cont Data)
    (st0 : Nat → PState Val Data) {a : AState Val Data} (hr : AReach (s.asys gather scatter dirs pre) st0 a)
    {p : Nat} (hp : p < s.sys.P) (hout : (a.σ p).inC = false) : (a.σ p).outS = [] :=
  (areach_inv (s.asys_ok h gather scatter dirs pre) hr).outS_nil hp hout

/-- **async_progress** (termination over whole histories, part 1).  In no reachable state of the asynchronous system with
    a process that has not finished the history is everything blocked: a process outside `sendRecv` can enter its next
    communication; otherwise the process that is furthest behind either has a pending receive whose matching send is
    posted and outstanding (MPI can transfer it), or an outstanding send whose receiver is inside the same
    communication and waits for it, or can leave `sendRecv`.  (A late process delays its neighbours, it never blocks
    them for good.) -/
theorem async_progress (s : Setting) (h : s.OK) {Val Data : Type} (gather : Data → Nat → Nat → Val)
    (scatter : Data → Val → Nat → Nat → Data) (dirs : List Bool) (pre : Nat → Nat → Cont Data → Cont Data)
    (st0 : Nat → PState Val Data) {a : AState Val Data} (hr : AReach (s.asys gather scatter dirs pre) st0 a)
    (hnot : ∃ p, p < s.sys.P ∧ (a.σ p).k < dirs.length) : ∃ a', AStep (s.asys gather scatter dirs pre) a a' :=
  (areach_inv (s.asys_ok h gather scatter dirs pre) hr).progress (s.asys_ok h gather scatter dirs pre) hnot

/-- **async_measure** (termination, part 2).  Every move of the asynchronous system (entering a communication, a
    transfer, leaving `sendRecv`) strictly decreases the natural number `atodo`; so every execution of a history is
    finite, and by `async_progress` it can only end with every process having finished all communications — in the state
    `async_refines_history` describes. -/
theorem async_measure (s : Setting) (h : s.OK) {Val Data : Type} (gather : Data → Nat → Nat → Val)
    (scatter : Data → Val → Nat → Nat → Data) (dirs : List Bool) (pre : Nat → Nat → Cont Data → Cont Data)
    (st0 : Nat → PState Val Data) {a a' : AState Val Data} (hr : AReach (s.asys gather scatter dirs pre) st0 a)
    (hs : AStep (s.asys gather scatter dirs pre) a a') :
    atodo (s.asys gather scatter dirs pre) a'.σ < atodo (s.asys gather scatter dirs pre) a.σ :=
  (areach_inv (s.asys_ok h gather scatter dirs pre) hr).step_todo_lt hs

/-! ## 9. What the translator regenerates from the source (tools/translators/tr_c05.py → Gen/C05.lean) -/

/-- **interface_tests_regenerated.**  The attribute tests of the counting loop and of the adding loop of
    `InterfaceBuilder::buildInterface`, as read from the current interface.hh, are both the documented test
    (`passes`): remote attribute in the other side's set, own attribute in the own side's set.  `countPass` and
    `addPass` — and through them `interface_spec` and everything above — are evaluated with the regenerated tests. -/
theorem interface_tests_regenerated : passesCount = passes ∧ passesAdd = passes := ⟨passesCount_eq, passesAdd_eq⟩

/-- **attrsets_spec.**  The `contains` functions of the six attribute set classes, as read from the current
    enumset.hh, have the documented meaning (EnumRange includes both borders). -/
theorem attrsets_spec (i lo hi item : Int) (s s1 s2 : Int → Bool) :
    Gen.emptySetContains item = false ∧ Gen.allSetContains item = true ∧
    (Gen.enumItemContains i item = true ↔ item = i) ∧
    (Gen.enumRangeContains lo hi item = true ↔ lo ≤ item ∧ item ≤ hi) ∧
    Gen.negateSetContains s item = (!(s item)) ∧
    Gen.combineContains s1 s2 item = (s1 item || s2 item) :=
  ⟨emptySet_contains item, allSet_contains item, enumItem_contains i item, enumRange_contains lo hi item,
    negateSet_contains s item, combine_contains s1 s2 item⟩

/-- the set an expression over the enumset.hh classes denotes -/
def SetExpr.denote : SetExpr → Int → Prop
  | .empty, _ => False
  | .all, _ => True
  | .item i, x => x = i
  | .range lo hi, x => lo ≤ x ∧ x ≤ hi
  | .neg s, x => ¬ s.denote x
  | .comb a b, x => a.denote x ∨ b.denote x

/-- **setExpr_spec.**  Every attribute set written with these classes, however nested, contains exactly the
    attributes of the set it denotes. -/
theorem setExpr_spec (e : SetExpr) (x : Int) : e.contains x = true ↔ e.denote x := by
  induction e with
  | empty => simp [SetExpr.contains, SetExpr.denote, emptySet_contains]
  | all => simp [SetExpr.contains, SetExpr.denote, allSet_contains]
  | item i => simpa [SetExpr.contains, SetExpr.denote] using enumItem_contains i x
  | range lo hi => simpa [SetExpr.contains, SetExpr.denote] using enumRange_contains lo hi x
  | neg s ih =>
    simp only [SetExpr.contains, SetExpr.denote, negateSet_contains, ← ih]
    cases s.contains x <;> simp
  | comb a b iha ihb =>
    simp only [SetExpr.contains, SetExpr.denote, combine_contains, ← iha, ← ihb, Bool.or_eq_true]

/-- **attrset_tables.**  Both spellings of the sixteen attribute sets the harness uses (plain classes; nested
    `Combine`, `NegateSet<Combine<…>>`, `combine()`) denote the set given by the bit mask. -/
theorem attrset_tables : ∀ m, m < 16 → ∀ a, a < 4 →
    maskSet false m a = ((m >>> a) % 2 == 1) ∧ maskSet true m a = ((m >>> a) % 2 == 1) := by
  decide +kernel

/-- **strip_regenerated.**  `Interface::strip` with the erase condition as read from the current interface.hh erases
    exactly the neighbours with two empty lists; the interface the driver computes with it (`interfaceOfG`) is the
    `interfaceOf` of `interface_spec` / `interface_neighbours`. -/
theorem strip_regenerated :
    (∀ n1 n2, Gen.stripErase n1 n2 = true ↔ n1 = 0 ∧ n2 = 0) ∧ stripG = strip ∧ interfaceOfG = interfaceOf := by
  refine ⟨fun n1 n2 => by simp [stripErase_spec], funext stripG_eq, ?_⟩
  funext ign S T sys p
  exact interfaceOfG_eq ign S T sys p

/-- **layout_regenerated.**  The loop body of both `BufferedCommunicator::build` overloads as read from the current
    communicator.hh — message sizes from the `first`/`second` index list with the source/target container, entry inserted
    iff `noSend + noRecv > 0`, `MessageInformation(bufferSize_[0], noSend*sizeof)`, `MessageInformation(bufferSize_[1],
    noRecv*sizeof)`, then `bufferSize_[0] += noSend`, `bufferSize_[1] += noRecv` — is the `layout` of
    `slice_layout_disjoint_cover`, `recv_regions_disjoint`, `rebuild_is_fresh` …; the communicator the driver builds with
    it (`Comm.buildG`, either overload, any previous state of the object) is `Comm.build`. -/
theorem layout_regenerated (two : Bool) (sz : Nat) (csS csT : Nat → Nat) :
    layoutG two sz csS csT = layout sz csS csT ∧
    ∀ (c : Comm) (ifs : IfMap), c.buildG two sz csS csT ifs = c.build sz csS csT ifs :=
  ⟨by funext m s0 s1; exact layoutG_eq two sz csS csT m s0 s1, fun c ifs => Comm.buildG_eq c two sz csS csT ifs⟩

/-- **direction_selectors_regenerated.**  Every `FORWARD ? … : …` of `sendRecv`, of the two `MessageGatherer`s and the two
    `MessageScatterer`s, as read from the current communicator.hh, selects what the model selects: gather from the send
    side (`first` forward, `second` backward), scatter to the receive side; `MPI_Issend` start/size/guard from the send
    `MessageInformation`, `MPI_Irecv` start/size/guard and the scatter position after `MPI_Waitany` from the receive one;
    gather into `buffers_[0]` forward / `buffers_[1]` backward, receive into the other.  The members
    `forward(data)`, `backward(data)`, `forward(source,dest)`, `backward(source,dest)` instantiate `sendRecv` with
    `true/false/true/false` and gather from the source container forward, from the target container backward. -/
theorem direction_selectors_regenerated (fwd : Bool) :
    (∀ e : Info × Info,
      pick (Gen.gatherOneSize.side fwd) e = sendSide fwd e ∧ pick (Gen.gatherOneIndex.side fwd) e = sendSide fwd e ∧
      pick (Gen.gatherVarSize.side fwd) e = sendSide fwd e ∧ pick (Gen.gatherVarIndex.side fwd) e = sendSide fwd e ∧
      pick (Gen.scatterOneInfo.side fwd) e = recvSide fwd e ∧ pick (Gen.scatterVarInfo.side fwd) e = recvSide fwd e) ∧
    (∀ m : MsgInfo × MsgInfo,
      pick (Gen.issendStart.side fwd) m = sendMsgInfo fwd m ∧ pick (Gen.issendSize.side fwd) m = sendMsgInfo fwd m ∧
      pick (Gen.issendGuard.side fwd) m = sendMsgInfo fwd m ∧
      pick (Gen.irecvStart.side fwd) m = recvMsgInfo fwd m ∧ pick (Gen.irecvSize.side fwd) m = recvMsgInfo fwd m ∧
      pick (Gen.irecvGuard.side fwd) m = recvMsgInfo fwd m ∧ pick (Gen.waitanyInfo.side fwd) m = recvMsgInfo fwd m) ∧
    (∀ {Val Data : Type} (st : PState Val Data),
      pick (Gen.sendBuffer.side fwd) (st.b0, st.b1) = st.sendB fwd ∧ pick (Gen.recvBuffer.side fwd) (st.b0, st.b1) = st.recvB fwd) ∧
    (∀ {Data : Type} (c : Cont Data), c.one = false →
      Gen.forward1.fwd = true ∧ Gen.backward1.fwd = false ∧ Gen.forward2.fwd = true ∧ Gen.backward2.fwd = false ∧
      Gen.forward1.gatherArg = 0 ∧ Gen.forward1.scatterArg = 0 ∧ Gen.backward1.gatherArg = 0 ∧ Gen.backward1.scatterArg = 0 ∧
      argOf c Gen.forward2.gatherArg = c.get (!true) ∧ argOf c Gen.forward2.scatterArg = c.get true ∧
      argOf c Gen.backward2.gatherArg = c.get (!false) ∧ argOf c Gen.backward2.scatterArg = c.get false) :=
  ⟨ifaceSelectors_spec fwd, msgSelectors_spec fwd, fun st => bufSelectors_spec fwd st, fun c hc => wrappers_spec c hc⟩

/-- **datatype_selectors_regenerated.**  `DatatypeCommunicator` as read from the current communicator.hh: composing which
    `messageTypes` slot `createDataTypes<…,send>` fills, which datatype `createRequests<V,createForward>` hands to
    `MPI_Recv_init` / `MPI_Ssend_init`, which request set it fills and which one `forward()` / `backward()` start — in
    direction `fwd` the receives use the datatype built from the model's receive side of the (unstripped) interface entry
    and the sends the one built from the send side (`dtNeighbours`, `datatype_calls`); the receives go to the target
    container forward and to the source container backward, the sends leave from the other one, and each datatype is
    applied to the container its displacements were computed on. -/
theorem datatype_selectors_regenerated (fwd : Bool) (e : Info × Info) :
    dtRecvList fwd e = some (recvSide fwd e) ∧ dtSendList fwd e = some (sendSide fwd e) ∧
    dtRecvCont fwd = some (if fwd then .second else .first) ∧ dtRecvTypeCont fwd = dtRecvCont fwd ∧
    dtSendCont fwd = some (if fwd then .first else .second) ∧ dtSendTypeCont fwd = dtSendCont fwd :=
  dtSelectors_spec fwd e

/-- **loops_regenerated.**  The counting loops of `MessageSizeCalculator<Data,VariableSize>`, of both `MessageGatherer`s and of
    both `MessageScatterer`s, with start value and condition as read from the current communicator.hh, visit exactly
    `0 … n-1` (`n` = `info.size()` resp. `CommPolicy::getSize(data, info[i])`); with the statements the translator recognised
    (`entries += getSize(data, info[i])`; `buffer[index++] = gather(data, info[i][, j])`; `scatter(data, buffer[index++ | i],
    info[i][, j])`; `index` set to 0 once per call and advanced once per element) the nested loops compute the model's
    `sizeCalc` and enumerate the model's `slots` — the order in which `gatherBuf` fills and `scatterCalls` reads a message. -/
theorem loops_regenerated (cs : Nat → Nat) (info : Info) :
    (∀ n, Gen.loop_sizeVarI n = List.range n ∧ Gen.loop_gatherOneI n = List.range n ∧ Gen.loop_gatherVarI n = List.range n ∧
      Gen.loop_gatherVarJ n = List.range n ∧ Gen.loop_scatterOneI n = List.range n ∧ Gen.loop_scatterVarI n = List.range n ∧
      Gen.loop_scatterVarJ n = List.range n) ∧
    (((Gen.loop_sizeVarI info.size).map fun i => cs (info.idx.getD i 0)).sum = sizeCalc cs info ∧
      slotsLoop Gen.loop_gatherVarI Gen.loop_gatherVarJ cs info = slots cs info ∧
      slotsLoop Gen.loop_gatherOneI (fun _ => [0]) cs info = slots (fun _ => 1) info ∧
      slotsLoop Gen.loop_scatterVarI Gen.loop_scatterVarJ cs info = slots cs info ∧
      slotsLoop Gen.loop_scatterOneI (fun _ => [0]) cs info = slots (fun _ => 1) info) ∧
    Gen.counter_gatherOne = (0, 1) ∧ Gen.counter_gatherVar = (0, 1) ∧ Gen.counter_scatterVar = (0, 1) :=
  ⟨loops_spec, loopsModel_spec cs info, rfl, rfl, rfl⟩

/-! ## 10. Non-vacuity: the hypotheses are satisfiable by non-trivial decompositions

`exSys`: three processes, one index set each (global, local, attribute, public); attributes 0 = owner,
1 = overlap.  Process 0 owns 0,1 and holds 2 as overlap; process 1 owns 2,3 and holds 1 as overlap; process 2
holds 1 and 2 as overlap.  `ex`: owner → overlap, scalar payload.  `exBack`: overlap → owner (two senders per
owner entry: the accumulation case).  `exRed`: two processes, two index sets each (redistribution), process 0
keeps global index 0 (message to itself), three components per index. -/

def exSys : System :=
  { P := 3,
    rank := fun p => match p with
      | 0 => { src := [⟨0, 0, 0, true⟩, ⟨1, 1, 0, true⟩, ⟨2, 2, 1, true⟩], tgt := [], two := false }
      | 1 => { src := [⟨1, 0, 1, true⟩, ⟨2, 1, 0, true⟩, ⟨3, 2, 0, true⟩], tgt := [], two := false }
      | 2 => { src := [⟨1, 0, 1, true⟩, ⟨2, 1, 1, true⟩], tgt := [], two := false }
      | _ => { src := [], tgt := [], two := false } }

def ex : Setting :=
  { ign := false, S := fun a => a == 0, T := fun a => a == 1, sys := exSys, sz := 8,
    csS := fun _ _ => 1, csT := fun _ _ => 1, blk := fun _ => 1 }

def exBack : Setting := { ex with S := fun a => a == 1, T := fun a => a == 0 }

theorem exSys_wf : WF exSys := by
  constructor <;> intro p <;> unfold StrictSorted <;> match p with
  | 0 | 1 | 2 => decide +kernel
  | _ + 3 => exact List.Pairwise.nil

theorem ex_ok : ex.OK := ⟨exSys_wf, by decide +kernel, ⟨fun _ _ _ => rfl, fun _ _ _ => rfl⟩⟩
theorem exBack_ok : exBack.OK := ⟨exSys_wf, by decide +kernel, ⟨fun _ _ _ => rfl, fun _ _ _ => rfl⟩⟩

/-- interface_spec / interface_neighbours / interface_mirror: non-empty, asymmetric interfaces -/
example : ex.iface 0 = [(1, ⟨1, [1]⟩, ⟨1, [2]⟩), (2, ⟨1, [1]⟩, ⟨0, []⟩)] := by decide +kernel
example : ex.iface 2 = [(0, ⟨0, []⟩, ⟨1, [0]⟩), (1, ⟨0, []⟩, ⟨1, [1]⟩)] := by decide +kernel
example : (ex.sendL 0 2).map (·.g) = [1] ∧ (ex.recvL 2 0).map (·.g) = [1] := by decide +kernel
/-- forward_calls / forward_exactly_once / order_irrelevant_calls: two admissible schedules that differ -/
example : (ex.comm 2).postedRecvs true = [0, 1] := by decide +kernel
example : Sched ex true 2 [1, 0] [1, 0] := by decide +kernel
example : Sched ex true 2 [0, 1] [0, 1] := by decide +kernel
example : ex.expectedCalls (fun p l j => (p, l, j)) 2 = [((0, 1, 0), 0, 0), ((1, 1, 0), 1, 0)] := by decide +kernel
/-- forward_copy_spec: every target entry of process 2 has one sender -/
example : ((ex.expectedCalls (fun p l j => (p, l, j)) 2).map (·.2)).Nodup := by decide +kernel
/-- forward_add_spec: owner entry 1 of process 0 receives from processes 1 and 2 -/
example : exBack.expectedCalls (fun p l j => (p, l, j)) 0 = [((1, 0, 0), 1, 0), ((2, 0, 0), 1, 0)] := by decide +kernel
/-- backward_calls / backward_*_spec / recv_posted_iff_send_posted with `fwd = false` -/
example : (ex.comm 0).postedRecvs false = [1, 2] ∧ (ex.comm 1).postedSends false = [0] := by decide +kernel
example : Sched ex false 0 [2, 1] [1, 2] := by decide +kernel

/-- datatype_calls / datatype_copy_spec: the neighbours of process 2 with the index lists behind the datatypes -/
example : dtNeighbours (rawInterfaceOf ex.ign ex.S ex.T ex.sys) true 2 = [(0, ⟨1, [1]⟩, ⟨1, [0]⟩), (1, ⟨1, [1]⟩, ⟨1, [1]⟩)] := by
  decide +kernel

/-- a container with read-after-write semantics: functions from (local index, component) to values -/
def fnScatterCopy {Val} (d : Nat → Nat → Val) (v : Val) (l j : Nat) : Nat → Nat → Val :=
  fun l' j' => if l' = l ∧ j' = j then v else d l' j'
def fnScatterAdd (d : Nat → Nat → Int) (v : Int) (l j : Nat) : Nat → Nat → Int :=
  fun l' j' => if l' = l ∧ j' = j then d l j + v else d l' j'
example {Val} : CopyStore (fun (d : Nat → Nat → Val) => d) fnScatterCopy := ⟨fun _ _ _ _ _ _ => rfl⟩
example : AddStore (· + ·) (fun (d : Nat → Nat → Int) => d) fnScatterAdd := ⟨fun _ _ _ _ _ _ => rfl⟩

def exRedSys : System :=
  { P := 2,
    rank := fun p => match p with
      | 0 => { src := [⟨0, 1, 0, true⟩, ⟨1, 0, 0, true⟩], tgt := [⟨0, 0, 0, true⟩, ⟨2, 1, 0, true⟩], two := true }
      | 1 => { src := [⟨2, 0, 0, true⟩], tgt := [⟨1, 0, 0, true⟩], two := true }
      | _ => { src := [], tgt := [], two := true } }

def exRed : Setting :=
  { ign := true, S := fun a => a == 0, T := fun a => a == 0, sys := exRedSys, sz := 8,
    csS := fun _ _ => 3, csT := fun _ _ => 3, blk := fun _ => 3 }

theorem exRed_ok : exRed.OK := by
  refine ⟨?_, by decide, ⟨fun _ _ _ => rfl, fun _ _ _ => rfl⟩⟩
  constructor <;> intro p <;> unfold StrictSorted <;> match p with
  | 0 | 1 => decide +kernel
  | _ + 2 => exact List.Pairwise.nil

/-- two index sets: process 0 is its own neighbour; multi-component slices -/
example : exRed.iface 0 = [(0, ⟨1, [1]⟩, ⟨1, [0]⟩), (1, ⟨1, [0]⟩, ⟨1, [1]⟩)] := by decide +kernel
example : (exRed.comm 0).msgs = [(0, ⟨0, 24⟩, ⟨0, 24⟩), (1, ⟨3, 24⟩, ⟨3, 24⟩)] := by decide +kernel
example : Sched exRed true 0 [1, 0] [0, 1] := by decide +kernel

/-- expected_iff: process 0 owns global index 1 (local 1), process 2 holds it as overlap (local 0) -/
example : ((0, (1 : Int), 0), ((0, 1, 0), 0, 0)) ∈ ex.expectedTagged (fun p l j => (p, l, j)) 2 := by decide +kernel

/-- a history on `ex`: one forward, then one backward communication, with schedules that are not in rank order -/
def exRoundF : Round :=
  { fwd := true, arr := fun q => match q with | 0 => [1] | 1 => [0] | _ => [1, 0],
    order := fun q => match q with | 0 => [1] | 1 => [0] | _ => [1, 0] }
def exRoundB : Round :=
  { fwd := false, arr := fun q => match q with | 0 => [2, 1] | 1 => [2, 0] | _ => [],
    order := fun q => match q with | 0 => [1, 2] | 1 => [2, 0] | _ => [] }

/-- AllSched: every schedule of the history is admissible -/
example : AllSched ex [exRoundF, exRoundB] := by
  unfold AllSched
  decide +kernel

/-- BufOK: buffers of the allocated sizes (2 and 1 elements on process 0) holding junk -/
def exSt : Nat → PState (Nat × Nat × Nat) (Nat → Nat → Nat × Nat × Nat) := fun p =>
  { cont := { c0 := fun l j => (p, l, j), c1 := fun l j => (p, l, j), one := true },
    b0 := List.replicate ((ex.comm p).sendElems true) (9, 9, 9),
    b1 := List.replicate ((ex.comm p).sendElems false) (7, 7, 7) }
example : BufOK ex.sys.P ex.comm exSt := fun p _ => ⟨by simp [exSt], by simp [exSt]⟩
example : (ex.comm 0).sendElems true = 2 ∧ (ex.comm 0).sendElems false = 1 := by decide +kernel

/-- rebuild_is_fresh: the communicator object of `exBack` (other message sizes for neighbour 2), built again for `ex` -/
example : (exBack.comm 0).msgs ≠ (ex.comm 0).msgs ∧
    ((exBack.comm 0).build ex.sz (ex.csS 0) (ex.csT 0) (ex.iface 0)).msgs = (ex.comm 0).msgs := by decide +kernel

/-- comm_progress / comm_measure: a first move, and a waiting process whose requests are all matched -/
example : CommStep ex.comm true 3 (fun _ => Phase.idle) (fun x => if x = 1 then Phase.posted else Phase.idle) :=
  CommStep.post _ 1 (by decide +kernel) rfl
example : canFinish ex.comm true (fun _ => Phase.posted) 2 := by unfold canFinish; decide +kernel
example : todoSum 3 (fun _ => Phase.idle) = 6 := by decide +kernel

/-- copy_some_sender / datatype_copy_spec_backward: backward on `ex` sends overlap values to the owners, owner entry 1
    of process 0 has two senders; backward on `exBack` sends owner values to the overlap, every entry of process 2 has one -/
example : (ex.expectedBack (fun p l j => (p, l, j)) 0).map (·.2) = [(1, 0), (1, 0)] := by decide +kernel
example : ((exBack.expectedBack (fun p l j => (p, l, j)) 2).map (·.2)).Nodup := by decide +kernel

/-- setExpr_spec / attrset_tables: a negated union of a range and an item (mask 1 written as `A1` in the harness) -/
example : (altTable.getD 1 .empty).contains 0 = true ∧ (altTable.getD 1 .empty).contains 2 = false := by decide +kernel

/-! ### the asynchronous system on `ex`

forward twice; processes 0 and 1 send to each other and to 2, process 2 only receives (so on 0 and 1 the neighbour 2 sits
behind the number of posted receives: the position a send-wait loop bounded by `numberOfRealRecvRequests` would miss) -/
example : (ex.comm 0).boundVal true .realRecvs = 1 ∧ (ex.comm 0).boundVal true .neighbours = 2 ∧
    (ex.comm 0).postedSends true = [1, 2] ∧ (ex.comm 0).waitedSends true = [1, 2] := by decide +kernel

def exA : ASys (Nat × Nat × Nat) (Nat → Nat → Nat × Nat × Nat) :=
  ex.asys (fun d l j => d l j) fnScatterCopy [true, true] (fun _ _ c => c)

example : (ex.comm 0).postedSends true = [1, 2] ∧ (ex.comm 1).postedSends true = [0, 2] ∧ (ex.comm 2).postedSends true = [] ∧
   (ex.comm 2).postedRecvs true = [0, 1] := by decide +kernel

def exS1 : AState (Nat × Nat × Nat) (Nat → Nat → Nat × Nat × Nat) := AState.init exSt
def exS2 := ({ σ := upd exS1.σ 0 (enterProc exA 0 (exS1.σ 0)), gh := exS1.gh } : AState _ _)
def exS3 := ({ σ := upd exS2.σ 1 (enterProc exA 1 (exS2.σ 1)), gh := exS2.gh } : AState _ _)
def exS4 := ({ σ := upd exS3.σ 2 (enterProc exA 2 (exS3.σ 2)), gh := exS3.gh } : AState _ _)

example : (exS4.σ 1).outS = [] ++ (0, 0) :: [(2, 0)] := by decide +kernel

/-- the target of `AStep.transfer s p q k' pre post …` on `exA` (the steps to `exS5`, `exS6`, `exS7`) -/
def trans (s : AState (Nat × Nat × Nat) (Nat → Nat → Nat × Nat × Nat)) (p q k' : Nat) (pre post : List (Nat × Nat)) :
    AState (Nat × Nat × Nat) (Nat → Nat → Nat × Nat × Nat) :=
  { σ := let σ1 := upd s.σ p { s.σ p with outS := pre ++ post }
         upd σ1 q (landProc exA q p (transferMsg exA p q k' (s.σ p)) (σ1 q)),
    gh := s.gh }
def exS5 := trans exS4 1 0 0 [] [(2, 0)]
def exS6 := trans exS5 1 2 0 [] []
def exS7 := trans exS6 0 1 0 [] [(2, 0)]
def exS8 : AState (Nat × Nat × Nat) (Nat → Nat → Nat × Nat × Nat) :=
  { σ := upd exS7.σ 1 (finishProc exA 1 [0] (exS7.σ 1)),
    gh := fun k x => if k = (exS7.σ 1).k ∧ x = 1 then some ((exS7.σ 1).arrd, [0]) else exS7.gh k x }
def exS9 := ({ σ := upd exS8.σ 1 (enterProc exA 1 (exS8.σ 1)), gh := exS8.gh } : AState _ _)

theorem exS4_reach : AReach exA exSt exS4 :=
  AReach.step (AReach.step (AReach.step AReach.init (AStep.enter _ 0 (by decide +kernel) rfl (by decide +kernel)))
    (AStep.enter _ 1 (by decide +kernel) rfl (by decide +kernel))) (AStep.enter _ 2 (by decide +kernel) rfl (by decide +kernel))

theorem exS9_reach : AReach exA exSt exS9 := by
  have h5 : AReach exA exSt exS5 :=
    AReach.step exS4_reach (AStep.transfer exS4 1 0 0 [] [(2, 0)] (by decide +kernel) (by decide +kernel) (by decide +kernel) (by decide +kernel) (by decide +kernel) (by decide +kernel))
  have h6 : AReach exA exSt exS6 :=
    AReach.step h5 (AStep.transfer exS5 1 2 0 [] [] (by decide +kernel) (by decide +kernel) (by decide +kernel) (by decide +kernel) (by decide +kernel) (by decide +kernel))
  have h7 : AReach exA exSt exS7 :=
    AReach.step h6 (AStep.transfer exS6 0 1 0 [] [(2, 0)] (by decide +kernel) (by decide +kernel) (by decide +kernel) (by decide +kernel) (by decide +kernel) (by decide +kernel))
  have h8 : AReach exA exSt exS8 :=
    AReach.step h7 (AStep.finish exS7 1 [0] (by decide +kernel) (by decide +kernel) (by decide +kernel) (by decide +kernel) (by decide +kernel))
  exact AReach.step h8 (AStep.enter exS8 1 (by decide +kernel) (by decide +kernel) (by decide +kernel))

-- process 1 is inside its second communication, 0 and 2 still inside the first; 0 waits for its send to 2 only
example : (exS9.σ 1).k = 1 ∧ (exS9.σ 1).inC = true ∧ (exS9.σ 0).k = 0 ∧ (exS9.σ 0).pendR = [] ∧ (exS9.σ 0).outS = [(2, 0)] ∧
    (exS9.σ 2).pendR = [0] ∧ (exS9.σ 1).outS = [(0, 1), (2, 1)] ∧ exS9.gh 0 1 = some ([0], [0]) := by decide +kernel

/-- async_message_is_gathered: in `exS4` MPI can transfer the send of 0 to 2 -/
example : (2, 0) ∈ (exS4.σ 0).outS ∧ (exS4.σ 2).inC = true ∧ 0 ∈ (exS4.σ 2).pendR := by decide +kernel
/-- async_progress / async_measure: `exS9` is not final -/
example : ∃ p, p < ex.sys.P ∧ (exS9.σ p).k < [true, true].length := ⟨0, by decide +kernel, by decide +kernel⟩

-- `strip` as regenerated drops the middle neighbour (two empty lists) and keeps one with only a receive list
example : stripG [(0, ⟨1, [4]⟩, ⟨0, []⟩), (1, ⟨0, []⟩, ⟨0, []⟩), (2, ⟨0, []⟩, ⟨1, [3]⟩)] =
    [(0, ⟨1, [4]⟩, ⟨0, []⟩), (2, ⟨0, []⟩, ⟨1, [3]⟩)] := by decide +kernel
example : interfaceOfG ex.ign ex.S ex.T ex.sys 0 = [(1, ⟨1, [1]⟩, ⟨1, [2]⟩), (2, ⟨1, [1]⟩, ⟨0, []⟩)] := by decide +kernel
-- the regenerated loop of `build(source, dest, interface)` on the redistribution example: 3 components of 8 bytes
example : layoutG true exRed.sz (exRed.csS 0) (exRed.csT 0) (exRed.iface 0) 0 0 = [(0, ⟨0, 24⟩, ⟨0, 24⟩), (1, ⟨3, 24⟩, ⟨3, 24⟩)] := by
  decide +kernel
-- an entry with nothing to send and nothing to receive gets no message information, the offsets do not move
example : layoutG false 8 (fun _ => 1) (fun _ => 1) [(0, ⟨0, []⟩, ⟨0, []⟩), (1, ⟨2, [5, 6]⟩, ⟨1, [7]⟩), (3, ⟨0, []⟩, ⟨1, [2]⟩)] 0 0 =
    [(1, ⟨0, 16⟩, ⟨0, 8⟩), (3, ⟨2, 0⟩, ⟨1, 8⟩)] := by decide +kernel
example : pick (Gen.gatherOneIndex.side false) ((⟨1, [4]⟩, ⟨1, [9]⟩) : Info × Info) = ⟨1, [9]⟩ ∧
    pick (Gen.scatterVarInfo.side false) ((⟨1, [4]⟩, ⟨1, [9]⟩) : Info × Info) = ⟨1, [4]⟩ := by decide +kernel
example : (⟨(5 : Nat), 6, false⟩ : Cont Nat).one = false ∧ argOf (⟨(5 : Nat), 6, false⟩ : Cont Nat) Gen.backward2.gatherArg = 6 := by decide +kernel
example : dtFlagOf false = some false ∧ dtPassOf (Gen.dtReqRecvType.side false) = some true ∧
    dtRecvList false ((⟨1, [4]⟩, ⟨1, [9]⟩) : Info × Info) = some ⟨1, [4]⟩ ∧ dtRecvCont false = some .first := by decide +kernel

example : Gen.loop_gatherVarI 3 = [0, 1, 2] ∧ Gen.loop_scatterVarJ 0 = [] := by decide +kernel
example : slotsLoop Gen.loop_gatherVarI Gen.loop_gatherVarJ (fun l => l % 3) ⟨3, [4, 9, 5]⟩ = [(4, 0), (5, 0), (5, 1)] := by decide +kernel

end DV.C05
