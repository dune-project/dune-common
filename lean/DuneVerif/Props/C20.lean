import DuneVerif.Proofs.C20Ops
import DuneVerif.Proofs.C20Tuple
import DuneVerif.Proofs.C20Inv
import DuneVerif.Proofs.C20Gen
/-!
C20 — property theorems (all vector sizes, all entries, all integer indices, all store states, all programs).

The model (`DuneVerif/Model/C20.lean`) is tied to dune-common's bindings by the differential run of
`tools/check.py C20` and, for the straight-line lambdas / constants / binding lists, by the translator (the `gen_*` theorems);
the theorems below are about that model and about the generated definitions.

Clause of the property → theorems
* construction from list / tuple / args / buffer / NumPy array: `construct_spec`, `construct_buffer_spec`,
  `dyn_construct_spec`; byte strides of the buffer protocol: `byte_stride_addressing`
* indexing with Python semantics, IndexError outside `[-n, n)`: `getitem_spec`, `setitem_spec`,
  `getitem_out_of_range_error`, `getitem_out_of_range_untouched`
* length, iteration: `iter_spec`;  slicing through the buffer view: `slice_spec`, `slice_lists`, `slice_observation`
* arithmetic / comparison / norms / string conversion: `ops_agree_with_cxx_model`, `operand_kinds_agree`, `scalar_ops_spec`,
  `plain_ops_entrywise`, `norms_spec`, `inplace_agrees`, `str_spec`
* memory sharing: `view_aliases`, `sliceview_aliases`, `npvector_writes_through_view`, `npvector_scale_visible`,
  `converted_buffer_is_a_copy`, `converted_buffer_is_fresh`, `copy_independent`, `npcopy_independent`
* never touching memory outside the object, for all programs: `invariant_initial`, `invariant_step`,
  `all_histories_safe`
* tuple vectors: `tuplevector_preserves`; for all programs of tuple-vector operations: `tuple_histories_safe`
* tie to the source (definitions regenerated by `tools/translators/tr_c20.py` on every run, `DuneVerif/Gen/C20.lean`):
  `gen_normalize_index`, `gen_getitem_python`, `gen_copy_loops`, `gen_buffer_ctor`, `gen_str_consts`, `gen_bindings_modelled`
-/
namespace DV.C20

/-- The constructor loop of `registerFieldVector` (list, tuple, argument pack, `copy(*args)`) yields exactly `n`
    entries: the first `n` given numbers, zero-filled when fewer are given. -/
theorem construct_spec (n : Nat) (xs : List Int) :
    constructLoop n xs = (xs ++ List.replicate n 0).take n ∧
    (constructLoop n xs).length = n ∧
    ∀ i, i < n → (constructLoop n xs)[i]? = some (if i < xs.length then xs.getD i 0 else 0) := by
  rw [constructLoop_eq]
  exact ⟨rfl, construct_length n xs, fun i hi => construct_getElem? n xs i hi⟩

example : constructLoop 3 [7, 8] = [7, 8, 0] ∧ constructLoop 2 [7, 8, 9] = [7, 8] ∧ constructLoop 2 [] = [0, 0] := by
  decide +kernel

/-- The buffer constructor (NumPy array, strided or reversed NumPy view, `array.array`, a field of aligned records): the
    buffer protocol describes the buffer in **bytes** (`ptr`, `strides[0]`); the constructor addresses it in whole doubles,
    `ptr[i * (stride / 8)]`.  For every memory, every record size `rsz > 0` and field offset, base cell `off`, cell stride
    and shape: if the buffer has at most one entry or its byte stride `rsz*step` is a multiple of 8 — which is what NumPy's
    alignment flag, and with it the format check of the constructor, guarantees for every buffer that is accepted — the
    result is the first `n` entries *of the buffer* (entry `j` is the cell `off + j*step`), zero-filled, independently of
    what lies between the entries.  The length is `n` for any `buffer_info` whatsoever. -/
theorem construct_buffer_spec (n : Nat) (mem : List Int) (m : MemLay) (hr : 0 < m.rsz) (off step : Int) (shape : Nat)
    (hal : shape ≤ 1 ∨ (8 : Int) ∣ (m.rsz : Int) * step) :
    constructBuf n mem m (bufInfo m off step shape) = construct n ((List.range shape).map (bufEntry mem off step)) ∧
    (∀ b : BufInfo, (constructBuf n mem m b).length = n) ∧
    ((bufInfo m off step shape).aligned 8 = true → shape ≤ 1 ∨ (8 : Int) ∣ (m.rsz : Int) * step) :=
  ⟨constructBuf_eq n mem m hr off step shape hal, fun b => constructBuf_length n mem m b, aligned_stride m off step shape⟩

example : constructBuf 3 [1, 77, 2, 77] {} (bufInfo {} 0 2 2) = [1, 2, 0] ∧            -- a[::2] of [1,77,2,77], zero-filled
    constructBuf 2 [77, 3, 77, 2, 77, 1] {} (bufInfo {} 5 (-2) 3) = [1, 2] ∧            -- a[::-2], truncated
    constructBuf 2 (stridedMem (-2) [1, 2, 3]).1 {} (bufInfo {} (stridedMem (-2) [1, 2, 3]).2 (-2) 3) = [1, 2] ∧
    -- field at byte 8 of 24-byte records, walked backwards: byte stride -24, first entry at byte 56
    constructBuf 3 [3, 2, 1] { rsz := 24, fo := 8 } (bufInfo { rsz := 24, fo := 8 } 2 (-1) 3) = [1, 2, 3] ∧
    (bufInfo { rsz := 24, fo := 8 } 2 (-1) 3) = { ptr := 56, stride := -24, shape := 3 } := by decide +kernel

/-- Byte addressing versus addressing in whole items.  (1) For records of any size `rsz > 0` the byte address
    `ptr + j*stride` (`NumPyVector::entry`, NumPy's own indexing) of entry `j` of a buffer is where cell `off + j*step` of the
    object starts — in particular for a field of packed records, whose byte stride is no multiple of the item size.
    (2) Addressing in whole items of `w` bytes, `ptr[j * (stride / w)]` with C++'s truncating division, agrees with the byte
    address **iff** `j = 0` or `w` divides the byte stride; so for a stride that is no multiple of `w` every entry but the
    first is read from / written to the wrong bytes. -/
theorem byte_stride_addressing (m : MemLay) (hr : 0 < m.rsz) (off step : Int) (len j : Nat) (w : Nat) (hw : 0 < w)
    (b : BufInfo) :
    m.cellAt (entryAddr (bufInfo m off step len) j) = some (off + (j : Int) * step) ∧
    (elemAddr w b j = entryAddr b j ↔ (j = 0 ∨ (w : Int) ∣ b.stride)) ∧
    (¬ (w : Int) ∣ b.stride → 0 < j → elemAddr w b j ≠ entryAddr b j) := by
  refine ⟨cellAt_entryAddr m hr off step len j, elemAddr_eq_iff w hw b j, ?_⟩
  intro hnd hj he
  cases (elemAddr_eq_iff w hw b j).1 he with
  | inl h0 => omega
  | inr hd => exact hnd hd

-- `rec["x"]` of records `(x: f8, id: i4)`: 12 bytes per record.  Entry 1 is at byte 12 (cell 1); whole-item addressing
-- reads it at byte 8, where no double starts; with stride -20 the truncation gives -16.
example : entryAddr (bufInfo { rsz := 12 } 0 1 4) 1 = 12 ∧ elemAddr 8 (bufInfo { rsz := 12 } 0 1 4) 1 = 8 ∧
    ({ rsz := 12 } : MemLay).cellAt 12 = some 1 ∧ ({ rsz := 12 } : MemLay).cellAt 8 = none ∧
    elemAddr 8 { ptr := 60, stride := -20, shape := 4 } 1 = 44 ∧ entryAddr { ptr := 60, stride := -20, shape := 4 } 1 = 40 ∧
    elemAddr 8 (bufInfo {} 0 3 4) 2 = entryAddr (bufInfo {} 0 3 4) 2 := by decide +kernel

/-- DynamicVector's list constructor holds exactly the given numbers. -/
theorem dyn_construct_spec (xs : List Int) : dynConstructLoop xs = xs := dynConstructLoop_eq xs

example : dynConstructLoop [4, 5, 6] = [4, 5, 6] ∧ dynConstructLoop [] = [] := by decide +kernel

/-- For `-n ≤ i < n`, `v[i]` is entry `i mod n`: entry `i` for `i ≥ 0`, entry `n + i` for `i < 0`
    (the entry exists: `v[p]? = some x`, no default value is involved). -/
theorem getitem_spec (v : List Int) (i : Int) (h0 : -(v.length : Int) ≤ i) (h1 : i < v.length) :
    ∃ (p : Nat) (x : Int), (p : Int) = i % (v.length : Int) ∧ (0 ≤ i → (p : Int) = i) ∧ (i < 0 → (p : Int) = i + v.length) ∧
      v[p]? = some x ∧ getItem v i = .ok x := by
  obtain ⟨p, hn, hp, hpi⟩ := normIndex_mod v.length i h0 h1
  refine ⟨p, v.getD p 0, hpi, fun hi => ?_, fun hi => ?_, getElem?_eq_some_getD hp, getItem_of_norm v i p hn⟩
  · rw [hpi, Int.emod_eq_of_lt hi h1]
  · rw [hpi, emod_of_index h0 h1, if_pos hi]

example : getItem [5, 6, 7] (-1) = .ok 7 ∧ getItem [5, 6, 7] (-3) = .ok 5 ∧ getItem [5, 6, 7] 2 = .ok 7 :=
  ⟨rfl, rfl, rfl⟩

/-- An index outside `[-n, n)` — every such integer, however large — raises `IndexError`, for reading and for writing. -/
theorem getitem_out_of_range_error (v : List Int) (i x : Int)
    (h : i < -(v.length : Int) ∨ (v.length : Int) ≤ i) :
    getItem v i = .error .index ∧ setItem v i x = .error .index := by
  have hn := normIndex_out v.length i h
  simp [getItem, setItem, hn]

/-- In the store model an out-of-range access touches nothing: the state is unchanged (`okInt k` only says that
    the value written is in the range of exactly representable entries the model is run with; the index is arbitrary). -/
theorem getitem_out_of_range_untouched (kd : Kind) (hk : kd.isVec = true) (s : State) (x b : Nat) (i k : Int)
    (hx : s.xs x = some b) (hkk : okInt k = true)
    (h : i < -((s.read b).length : Int) ∨ ((s.read b).length : Int) ≤ i) :
    step kd s (.v (.get false x i)) = (s, "ERR:Index") ∧ step kd s (.v (.set false x i k)) = (s, "ERR:Index") := by
  have hg := getitem_out_of_range_error (s.read b) i k h
  rw [step_get kd hk s x b i hx, step_set kd hk s x b i k hx hkk, hg.1, hg.2]
  exact ⟨rfl, rfl⟩

example : getItem [5, 6, 7] 3 = .error .index ∧ getItem [5, 6, 7] (-4) = .error .index ∧
    setItem [5, 6, 7] 3 1 = .error .index ∧ getItem [] 0 = .error .index ∧
    getItem [5, 6, 7] 18446744073709551616 = .error .index ∧ setItem [5] (-9223372036854775809) 1 = .error .index :=
  ⟨rfl, rfl, rfl, rfl, rfl, rfl⟩

example :
    let s0 := (step (.fv 2) {} (.v (.new 0 .list [4, 5]))).1
    (step (.fv 2) s0 (.v (.get false 0 2))).2 = "ERR:Index" ∧ (step (.fv 2) s0 (.v (.set false 0 (-3) 1))).2 = "ERR:Index" := by
  decide +kernel

/-- For `-n ≤ i < n`, `v[i] = x` replaces entry `i mod n` and nothing else. -/
theorem setitem_spec (v : List Int) (i x : Int) (h0 : -(v.length : Int) ≤ i) (h1 : i < v.length) :
    ∃ (p : Nat) (w : List Int), (p : Int) = i % (v.length : Int) ∧ setItem v i x = .ok w ∧ w.length = v.length ∧
      w[p]? = some x ∧ (∀ q, q ≠ p → w[q]? = v[q]?) ∧ getItem w i = .ok x := by
  obtain ⟨p, hn, hp, hpi⟩ := normIndex_mod v.length i h0 h1
  refine ⟨p, v.set p x, hpi, setItem_of_norm v i x p hn, List.length_set, List.getElem?_set_self hp,
    fun q hq => List.getElem?_set_ne (Ne.symm hq), ?_⟩
  rw [getItem_of_norm _ i p (by rw [List.length_set]; exact hn), getD_set_same v p x hp]

example : setItem [5, 6, 7] (-2) 9 = .ok [5, 9, 7] := rfl

/-- Python iterates over a dense vector with the legacy sequence protocol (`__getitem__(0)`, `__getitem__(1)`, …
    until `IndexError`).  That loop yields exactly the entries, in order: it gets entry `i` for every `i < n`, and it
    is the `IndexError` at index `n` that ends it (not the fuel of the model). -/
theorem iter_spec (v : List Int) :
    pyIter v = v ∧ (pyIter v).length = v.length ∧
    (∀ i (h : i < v.length), getItem v (i : Int) = .ok v[i]) ∧ getItem v (v.length : Int) = .error .index := by
  refine ⟨pyIter_eq v, by rw [pyIter_eq], fun i h => getItem_nat_lt v i h, getItem_nat_ge v v.length (Nat.le_refl _)⟩

example : pyIter [3, 1, 4] = [3, 1, 4] ∧ pyIter [] = [] ∧ iterFrom [3, 1, 4] 0 2 = [3, 1] := by decide +kernel

/-- `v[i:j:st]` (`st ≠ 0`) is handed out as a view with first position `start` and `len` entries, entry `k` at position
    `start + k*st`.  Every entry is a position of the vector (nothing outside `[0, n)` is ever denoted), and the slice
    is exact: for a positive step, entry `k` exists iff `lo + k*st` is below the clamped stop; for a negative step iff
    it is above it (`sliceLo/Hi…` are the clamped bounds of CPython's `PySlice_AdjustIndices`). -/
theorem slice_spec (n : Nat) (i j : Option Int) (st : Int) (hst : st ≠ 0) :
    (∀ k : Nat, k < (sliceIdx n i j st).2 →
      0 ≤ (sliceIdx n i j st).1 + (k : Int) * st ∧ (sliceIdx n i j st).1 + (k : Int) * st < (n : Int)) ∧
    (0 < st → (sliceIdx n i j st).1 = sliceLo n i ∧
      ∀ k : Nat, k < (sliceIdx n i j st).2 ↔ sliceLo n i + (k : Int) * st < sliceHi n j) ∧
    (st < 0 → (sliceIdx n i j st).1 = sliceLoNeg n i ∧
      ∀ k : Nat, k < (sliceIdx n i j st).2 ↔ sliceHiNeg n j < sliceLoNeg n i + (k : Int) * st) :=
  ⟨fun k hk => slice_in_bounds n i j st hst k hk,
   fun h => ⟨sliceIdx_fst_pos n i j st h, fun k => slice_exact_pos n i j st h k⟩,
   fun h => ⟨sliceIdx_fst_neg n i j st h, fun k => slice_exact_neg n i j st h k⟩⟩

example : sliceIdx 6 (some 1) (some (-1)) 2 = (1, 2) ∧ sliceIdx 6 (some (-100)) none 4 = (0, 2) ∧
    sliceIdx 6 none (some 0) (-2) = (5, 3) ∧ sliceIdx 6 (some 2) (some 2) 1 = (2, 0) ∧
    sliceLo 6 (some (-100)) = 0 ∧ sliceHi 6 (some 100) = 6 ∧ sliceLoNeg 6 (some 100) = 5 ∧ sliceHiNeg 6 (some (-100)) = -1 := by
  decide +kernel

/-- What slices show of the entries `l`: `l[:]` is `l`, `l[::-1]` is `l` reversed, and a step-one slice from `lo` with
    `len` entries is `(l.drop lo).take len`. -/
theorem slice_lists (l : List Int) (lo len : Nat) (h : lo + len ≤ l.length) :
    sliceIdx l.length none none 1 = (0, l.length) ∧ cellsOf l 0 1 l.length = l ∧
    sliceIdx l.length none none (-1) = ((l.length : Int) - 1, l.length) ∧
    cellsOf l ((l.length : Int) - 1) (-1) l.length = l.reverse ∧
    cellsOf l (lo : Int) 1 len = (l.drop lo).take len :=
  ⟨slice_full l.length, cellsOf_full l, slice_reverse l.length, cellsOf_reverse l, cellsOf_step_one l lo len h⟩

/-- The bound operation `v[i:j:st]` shows exactly the cells of `v` at the positions of the slice. -/
theorem slice_observation (n : Nat) (s : State) (x b : Nat) (i j : Option Int) (st : Int) (hst : st ≠ 0)
    (hx : s.xs x = some b) :
    step (.fv n) s (.v (.slice x i j (some st))) =
      (s, showInts (cellsOf (s.read b) (sliceIdx (s.read b).length i j st).1 st (sliceIdx (s.read b).length i j st).2)) := by
  rw [step_v _ rfl]
  dsimp only [vecEff]
  simp [Kind.isFv, hx, hst, Eff.apply, State.viewVals, cellsOf, View.pos_plain]

example :
    let s0 := (step (.fv 6) {} (.v (.new 0 .list [10, 11, 12, 13, 14, 15]))).1
    (step (.fv 6) s0 (.v (.slice 0 (some 4) (some 0) (some (-2))))).2 = "[14,12]" ∧
    (step (.fv 6) s0 (.v (.slice 0 (some (-100)) (some 100) (some 3)))).2 = "[10,13]" := by decide +kernel

/-- An array register and a vector register over the same cells: entry `i` of the view `v` is cell `v.pos p` of the block,
    which the vector addresses as `j`.  A write through either is read back through the other. -/
theorem alias_write_read (kd : Kind) (hv : kd.isVec = true) (s : State) (x a : Nat) (v : View) (i j k : Int) (p : Nat)
    (hx : s.xs x = some v.blk) (ha : s.arrs a = some v) (hdt : v.dt = 0) (hb : v.blk < s.blocks.length)
    (hi : normIndex v.len i = some p) (hj : normIndex (s.read v.blk).length j = some (v.pos p))
    (hoki : okIdx i = true) (hk : okInt k = true) :
    (step kd (step kd s (.v (.aset a i k))).1 (.v (.get false x j))).2 = toString k ∧
    (step kd (step kd s (.v (.set false x j k))).1 (.v (.aget a i))).2 = toString k := by
  have hq := normIndex_lt _ _ _ hj
  constructor
  · rw [step_aset kd hv s a v i k ha hdt hoki hk]
    simp only [hi]
    rw [step_get kd hv _ x v.blk j (by rw [write_xs]; exact hx), read_write_same _ _ _ hb,
      getItem_of_norm _ j _ (by rw [List.length_set]; exact hj), getD_set_same _ _ k hq]
  · rw [step_set kd hv s x v.blk j k hx hk, setItem_of_norm _ j k _ hj]
    simp only []
    rw [step_aget kd hv _ a v i (by rw [write_arrs]; exact ha) hoki]
    simp only [hi]
    rw [read_write_same _ _ _ hb, getD_set_same _ _ k hq]

/-- `a = numpy.array(v, copy=False)` and `v` denote the same cells: the view shows the vector's entries, a write
    through the view is read back through the vector, a write through the vector is read back through the view.
    `Inv (.fv n) s` holds in every reachable state (`all_histories_safe`). -/
theorem view_aliases (n : Nat) (s : State) (hinv : Inv (.fv n) s) (x a b : Nat) (i k : Int)
    (hx : s.xs x = some b)
    (h0 : -((s.read b).length : Int) ≤ i) (h1 : i < (s.read b).length)
    (hi : okIdx i = true) (hk : okInt k = true) :
    (step (.fv n) s (.v (.view a x))).2 = showInts (s.read b) ∧
    (step (.fv n) (step (.fv n) (step (.fv n) s (.v (.view a x))).1 (.v (.aset a i k))).1 (.v (.get false x i))).2 = toString k ∧
    (step (.fv n) (step (.fv n) (step (.fv n) s (.v (.view a x))).1 (.v (.set false x i k))).1 (.v (.aget a i))).2 = toString k := by
  have hn := normIndex_eq_mod (s.read b).length i h0 h1
  rw [step_view n s a x b hx]
  refine ⟨by rw [viewVals_fullView], ?_⟩
  exact alias_write_read (.fv n) rfl _ x a (fullView b (s.read b).length) i i k _ hx (bindA_arrs_same _ _ _) rfl
    (hinv.xs_lt x b hx) hn (by rw [fullView_pos]; exact hn) hi hk

example :
    let s0 := (step (.fv 3) {} (.v (.new 0 .list [1, 2, 3]))).1
    let s1 := (step (.fv 3) s0 (.v (.view 0 0))).1
    let s2 := (step (.fv 3) s1 (.v (.aset 0 (-1) 9))).1
    (step (.fv 3) s2 (.v (.get false 0 2))).2 = "9" := by decide +kernel

/-- A slice `a = v[i:j:st]` is a view of the same cells: entry `p` of the slice *is* the vector's entry
    `start + p*st`.  A write through the slice is read back through the vector at that index and vice versa. -/
theorem sliceview_aliases (n : Nat) (s : State) (hinv : Inv (.fv n) s) (x a b : Nat) (i j : Option Int) (st : Int)
    (hst : st ≠ 0) (p : Nat) (k : Int) (hx : s.xs x = some b)
    (hp : p < (sliceIdx n i j st).2) (hpi : okIdx (p : Int) = true) (hk : okInt k = true) :
    let s1 := (step (.fv n) s (.v (.sl a x i j (some st)))).1
    let pos : Int := (sliceIdx n i j st).1 + (p : Int) * st
    (step (.fv n) (step (.fv n) s1 (.v (.aset a (p : Int) k))).1 (.v (.get false x pos))).2 = toString k ∧
    (step (.fv n) (step (.fv n) s1 (.v (.set false x pos k))).1 (.v (.aget a (p : Int)))).2 = toString k := by
  have hlen : (s.read b).length = n := hinv.xs_len n rfl x b hx
  have hbnd := slice_in_bounds n i j st hst p hp
  intro s1 pos
  have hs1 : s1 = s.bindA a { blk := b, off := (sliceIdx n i j st).1, step := st, len := (sliceIdx n i j st).2 } := by
    show (step (.fv n) s (.v (.sl a x i j (some st)))).1 = _
    rw [step_sl n s a x b i j st hx hst, hlen]
  rw [hs1]
  refine alias_write_read (.fv n) rfl _ x a { blk := b, off := (sliceIdx n i j st).1, step := st, len := (sliceIdx n i j st).2 }
    (p : Int) pos k p hx (bindA_arrs_same _ _ _) rfl (hinv.xs_lt x b hx) ?_ ?_ hpi hk
  · show normIndex (sliceIdx n i j st).2 (p : Int) = some p
    rw [normIndex_nonneg _ _ (by omega) (by omega)]; rfl
  · rw [View.pos_plain, bindA_read, hlen]
    exact normIndex_nonneg n pos hbnd.1 hbnd.2

example :
    let s0 := (step (.fv 6) {} (.v (.new 0 .list [10, 11, 12, 13, 14, 15]))).1
    let s1 := (step (.fv 6) s0 (.v (.sl 0 0 (some 4) (some 0) (some (-2))))).1      -- a0 = x0[4:0:-2] = [14, 12]
    let s2 := (step (.fv 6) s1 (.v (.aset 0 1 99))).1
    (step (.fv 6) s2 (.v (.get false 0 2))).2 = "99" ∧ (step (.fv 6) s2 (.v (.iter 0))).2 = "[10,11,99,13,14,15]" := by
  decide +kernel

/-- A NumPy-backed C++ vector (`NumPyVector` wrapping an array or a strided view of a vector) writes through: after
    writing `vals` the view shows exactly `vals`, the cells of the underlying object that the view does not enumerate
    keep their values, every other object is untouched, and no object changes its size. -/
theorem npvector_writes_through_view (s : State) (v : View) (vals : List Int) (hv : ViewOK s v)
    (hl : vals.length = v.len) :
    (s.viewWrite v vals).viewVals v = vals ∧
    (∀ q, (∀ j, j < v.len → v.pos j ≠ q) → ((s.viewWrite v vals).read v.blk)[q]? = (s.read v.blk)[q]?) ∧
    (∀ c, c ≠ v.blk → (s.viewWrite v vals).read c = s.read c) ∧
    ((s.viewWrite v vals).read v.blk).length = (s.read v.blk).length := by
  have hm : min v.len vals.length = v.len := by omega
  rw [viewWrite_eq s v vals hv.1, hm]
  refine ⟨?_, ?_, fun c hc => read_write_other s v.blk c _ (Ne.symm hc), ?_⟩
  · unfold State.viewVals
    rw [read_write_same s _ _ hv.1]
    refine map_getD_pos _ vals v.pos v.len hl fun j hj => ?_
    rw [writeCells_get_pos (s.read v.blk) v.pos vals v.len hv.pos_inj hv.pos_lt j hj]
    exact (getElem?_eq_some_getD (hl ▸ hj)).symm
  · intro q hq
    rw [read_write_same s _ _ hv.1]
    exact writeCells_get_other _ _ _ _ _ hq
  · rw [read_write_same s _ _ hv.1, writeCells_length]

/-- `npvector_writes_through_view` for `x *= k` on a `NumPyVector` over any array register of doubles of a reachable state,
    and for the `NumPyVector` over `numpy.array(v, copy=False)`: the FieldVector itself is scaled. -/
theorem npvector_scale_visible (kd : Kind) (hkd : kd.isVec = true) (s : State) (hinv : Inv kd s) (a : Nat) (v : View)
    (k : Int) (ha : s.arrs a = some v) (hdt : v.dt = 0) (hk : okInt k = true)
    (hok : okVals (vscale k (s.viewVals v)) = true) :
    let s1 := (step kd s (.v (.nscale a k))).1
    s1.viewVals v = vscale k (s.viewVals v) ∧
    (∀ c, c ≠ v.blk → s1.read c = s.read c) ∧
    (∀ b, v = fullView b (s.read b).length → s1.read b = vscale k (s.read b)) := by
  have hv := hinv.arrs_ok a v ha
  have hl : (vscale k (s.viewVals v)).length = v.len := (List.length_map _).trans (viewVals_length s v)
  have hspec := npvector_writes_through_view s v (vscale k (s.viewVals v)) hv hl
  intro s1
  have hs1 : s1 = s.viewWrite v (vscale k (s.viewVals v)) := by
    show (step kd s (.v (.nscale a k))).1 = _
    rw [step_nscale kd hkd s a v k ha hdt hk hok]
  rw [hs1]
  refine ⟨hspec.1, hspec.2.2.1, ?_⟩
  intro b hvb
  subst hvb
  have hlen : ((s.viewWrite (fullView b (s.read b).length) (vscale k (s.viewVals (fullView b (s.read b).length)))).read b).length
      = (s.read b).length := hspec.2.2.2
  rw [← viewVals_fullView (s.viewWrite _ _) b, hlen, hspec.1, viewVals_fullView s b]

example :
    let s0 := (step (.fv 6) {} (.v (.new 0 .list [1, 2, 3, 4, 5, 6]))).1
    let s1 := (step (.fv 6) s0 (.v (.sl 0 0 none none (some 2)))).1
    (step (.fv 6) s1 (.v (.nscale 0 3))).2 = "[3,9,15]" ∧
    (step (.fv 6) (step (.fv 6) s1 (.v (.nscale 0 3))).1 (.v (.iter 0))).2 = "[3,2,9,4,15,6]" := by decide +kernel

/-- Sharing only where the buffer protocol promises it: over a buffer whose element type is not `double` (int64, int32,
    int16, int8, uint8, uint16, float32 NumPy arrays, `array.array` of the corresponding typecodes) a `NumPyVector<double>`
    holds a converted copy.  Every writing operation of the vector (`*=`, `[i] =`, `axpy`, `+=`, the `x[i] += i` loop)
    leaves the whole store — in particular the buffer object — unchanged; a read-only buffer is rejected (also unchanged:
    the model encodes read-only as the element type `dt = 8`, so `hdt` covers it). -/
theorem converted_buffer_is_a_copy (kd : Kind) (hkd : kd.isVec = true) (s : State) (a b : Nat) (v : View) (i k : Int)
    (ha : s.arrs a = some v) (hdt : v.dt ≠ 0) :
    (step kd s (.v (.nscale a k))).1 = s ∧ (step kd s (.v (.nset a i k))).1 = s ∧
    (step kd s (.v (.naxpy a k b))).1 = s ∧ (step kd s (.v (.nadd a b))).1 = s ∧ (step kd s (.v (.nrun a))).1 = s := by
  have hw := fun R => nvWrite_foreign s v R hdt
  simp only [step_v kd hkd]
  dsimp only [vecEff]
  simp only [ha]
  refine ⟨apply_guard (hw _), apply_guard (nvWriteCell_foreign s v _ _ hdt), ?_, ?_, apply_guard (hw _)⟩
  all_goals
    cases s.arrs b with
    | none => rfl
    | some vb => exact apply_guard (apply_guard (apply_guard (apply_guard (hw _))))

/-- A buffer object built from the numbers of an array (`numpy.array(a, dtype=…)`, a strided / reversed layout of it,
    `array.array(typecode, a)`) is a new object: no existing object changes, and the new view denotes cells of the new
    object only. -/
theorem converted_buffer_is_fresh (kd : Kind) (hkd : kd.isVec = true) (s : State) (a b dt : Nat) (lay : Lay) (vb : View)
    (hb : s.arrs b = some vb) (hok : (s.viewVals vb).all (dtOk dt) = true) (hfit : lay.fits dt = true) :
    let s1 := (step kd s (.v (.ndt a b dt lay false))).1
    (∀ c, c < s.blocks.length → s1.read c = s.read c) ∧
    (∃ v, s1.arrs a = some v ∧ v.blk = s.blocks.length ∧ v.dt = dt ∧ v.len = vb.len ∧ v.lay = lay.memLay ∧
      s1.viewVals v = s.viewVals vb) := by
  intro s1
  have hs1 : s1 = (s.alloc (stridedMem lay.stride (s.viewVals vb)).1).1.bindA a
      { blk := s.blocks.length, off := (stridedMem lay.stride (s.viewVals vb)).2, step := lay.stride,
        len := (s.viewVals vb).length, dt := dt, lay := lay.memLay } := by
    show (step kd s (.v (.ndt a b dt lay false))).1 = _
    rw [step_v kd hkd]
    dsimp only [vecEff]
    simp [hb, hok, hfit, Eff.apply, alloc_fresh]
  rw [hs1]
  refine ⟨fun c hc => ?_, ⟨_, bindA_arrs_same _ _ _, rfl, rfl, ?_, rfl, ?_⟩⟩
  · rw [bindA_read, read_alloc_old s _ c hc]
  · exact viewVals_length s vb
  · exact stridedMem_shows lay (s.viewVals vb) s a dt (memLay_rsz_pos lay dt hfit)

example :
    let s0 := (step (.fv 3) {} (.v (.new 0 .list [1, 2, 3]))).1
    let s1 := (step (.fv 3) s0 (.v (.view 0 0))).1
    let s2 := (step (.fv 3) s1 (.v (.ndt 1 0 2 .r2 false))).1            -- a1 = an int32 array, reversed every 2nd entry
    (step (.fv 3) s2 (.v (.nscale 1 5))).2 = "w:30:[1,2,3]" ∧             -- the vector shows 5,10,15; the array keeps 1,2,3
    (step (.fv 3) s2 (.v (.nnorms 1))).2 = "[3,6,3,14]" ∧
    (step (.fv 3) (step (.fv 3) s2 (.v (.aset 1 0 9))).1 (.v (.iter 0))).2 = "[1,2,3]" := by decide +kernel

/-- Writing through one vector register does not change what a register naming other cells reads. -/
theorem set_get_other (kd : Kind) (hv : kd.isVec = true) (s : State) (u w c d : Nat) (i k j : Int)
    (hu : s.xs u = some c) (hw : s.xs w = some d) (hne : c ≠ d) (hk : okInt k = true) :
    (step kd (step kd s (.v (.set false u i k))).1 (.v (.get false w j))).2 = (step kd s (.v (.get false w j))).2 := by
  rw [step_set kd hv s u c i k hu hk]
  cases setItem (s.read c) i k with
  | error e => rfl
  | ok v =>
    simp only []
    rw [step_get kd hv _ w d j (by rw [write_xs]; exact hw), step_get kd hv s w d j hw, read_write_other _ c d v hne]

/-- Writing through a vector register does not change what an array register over another object shows. -/
theorem set_alist_other (kd : Kind) (hv : kd.isVec = true) (s : State) (u c a : Nat) (v : View) (i k : Int)
    (hu : s.xs u = some c) (ha : s.arrs a = some v) (hne : c ≠ v.blk) (hk : okInt k = true) :
    (step kd (step kd s (.v (.set false u i k))).1 (.v (.alist a))).2 = (step kd s (.v (.alist a))).2 := by
  rw [step_set kd hv s u c i k hu hk]
  cases setItem (s.read c) i k with
  | error e => rfl
  | ok w =>
    simp only []
    rw [step_alist kd hv _ a v (by rw [write_arrs]; exact ha), step_alist kd hv s a v ha,
      viewVals_congr s _ v (read_write_other s c v.blk w hne)]

/-- A copy (`T(v)`, `v.copy()`) denotes fresh cells: it has the same entries, and afterwards writes to either
    side are invisible on the other. -/
theorem copy_independent (n : Nat) (s : State) (hinv : Inv (.fv n) s) (x y b : Nat) (i k j : Int) (viaMethod : Bool)
    (hx : s.xs x = some b) (hxy : x ≠ y) (hk : okInt k = true) :
    let cp : Op := if viaMethod then .v (.mcopy y x) else .v (.copy y x)
    let s1 := (step (.fv n) s cp).1
    (step (.fv n) s1 (.v (.get false y j))).2 = (step (.fv n) s (.v (.get false x j))).2 ∧
    (step (.fv n) (step (.fv n) s1 (.v (.set false y i k))).1 (.v (.get false x j))).2 = (step (.fv n) s (.v (.get false x j))).2 ∧
    (step (.fv n) (step (.fv n) s1 (.v (.set false x i k))).1 (.v (.get false y j))).2 = (step (.fv n) s (.v (.get false x j))).2 := by
  intro cp s1
  have hv : Kind.isVec (.fv n) = true := rfl
  have hs1 : s1 = (s.alloc (s.read b)).1.bindX y (s.alloc (s.read b)).2 := by
    show (step (.fv n) s (if viaMethod then Op.v (.mcopy y x) else Op.v (.copy y x))).1 = _
    rw [step_copy n s viaMethod y x b hx]
  -- all that is used of the state after the copy: `y` names a fresh block with the cells of `b`, `x` still names `b`
  have hb : b < s.blocks.length := hinv.xs_lt x b hx
  have hy1 : s1.xs y = some s.blocks.length := by rw [hs1]; exact bindX_same _ _ _
  have hx1 : s1.xs x = some b := by rw [hs1, bindX_other _ y x _ hxy]; exact hx
  have hry : s1.read s.blocks.length = s.read b := by rw [hs1, bindX_read]; exact read_alloc_new s _
  have hrx : s1.read b = s.read b := by rw [hs1, bindX_read]; exact read_alloc_old s _ b hb
  -- so a register of `s1` whose block holds the cells of `b` shows what `x` showed
  have hget : ∀ w c, s1.xs w = some c → s1.read c = s.read b →
      (step (.fv n) s1 (.v (.get false w j))).2 = (step (.fv n) s (.v (.get false x j))).2 := fun w c hw hr => by
    rw [step_get _ hv s1 w c j hw, step_get _ hv s x b j hx, hr]
  have hne : s.blocks.length ≠ b := by omega
  exact ⟨hget y _ hy1 hry, (set_get_other _ hv s1 y x _ b i k j hy1 hx1 hne hk).trans (hget x b hx1 hrx),
    (set_get_other _ hv s1 x y b _ i k j hx1 hy1 hne.symm hk).trans (hget y _ hy1 hry)⟩

example :
    let s0 := (step (.fv 2) {} (.v (.new 0 .list [4, 5]))).1
    let s1 := (step (.fv 2) s0 (.v (.mcopy 1 0))).1
    let s2 := (step (.fv 2) s1 (.v (.set false 1 0 9))).1
    (step (.fv 2) s2 (.v (.get false 0 0))).2 = "4" ∧ (step (.fv 2) s2 (.v (.get false 1 0))).2 = "9" := by decide +kernel

/-- `numpy.array(v)` (a copy) shows the entries and is not affected by later writes to the vector. -/
theorem npcopy_independent (kd : Kind) (hv : kd.isVec = true) (s : State) (hinv : Inv kd s) (x a b : Nat) (i k : Int)
    (hx : s.xs x = some b) (hk : okInt k = true) :
    let s1 := (step kd s (.v (.npcopy a x))).1
    (step kd s (.v (.npcopy a x))).2 = showInts (s.read b) ∧
    (step kd (step kd s1 (.v (.set false x i k))).1 (.v (.alist a))).2 = showInts (s.read b) := by
  have hb : b < s.blocks.length := hinv.xs_lt x b hx
  rw [step_npcopy kd hv s a x b hx]
  refine ⟨rfl, ?_⟩
  simp only []
  have hshow := viewVals_fullView ((s.alloc (s.read b)).1.bindA a (fullView (s.alloc (s.read b)).2 (s.read b).length))
    (s.alloc (s.read b)).2
  rw [bindA_read, read_alloc_new] at hshow
  rw [set_alist_other kd hv _ x b a _ i k (by rw [bindA_xs, alloc_xs]; exact hx) (bindA_arrs_same _ _ _)
      (show b ≠ s.blocks.length by omega) hk,
    step_alist kd hv _ a _ (bindA_arrs_same _ _ _), hshow]

example :
    let s0 := (step .dyn {} (.v (.new 0 .list [4, 5]))).1
    let s1 := (step .dyn s0 (.v (.npcopy 0 0))).1
    let s2 := (step .dyn s1 (.v (.set false 0 0 9))).1
    (step .dyn s2 (.v (.alist 0))).2 = "[4,5]" ∧ (step .dyn s2 (.v (.iter 0))).2 = "[9,5]" := by decide +kernel

/-- Every copy-returning operator of `registerCopyingDenseVectorMethods` equals the plain vector operation on the
    entries (a list operand first becomes the vector `construct n L`); reflected subtraction has the sign of
    `L - v`; `0 - v` is the negation. -/
theorem ops_agree_with_cxx_model (n : Nat) (v L : List Int) (k : Int) :
    pyNeg v = vneg v ∧
    pyAddList n v L = vadd v (construct n L) ∧
    pySubList n v L = vsub v (construct n L) ∧
    pyRaddList n L v = vadd v (construct n L) ∧
    pyRsubList n L v = vsub (construct n L) v ∧
    pyRsubList n L v = vneg (pySubList n v L) ∧
    pyMul v k = v.map (fun e => k * e) ∧
    pyRsubZero v = vsub (List.replicate v.length 0) v ∧
    twoNorm2 v = vdot v v := by
  refine ⟨pyNeg_eq v, ?_, ?_, ?_, ?_, ?_, vscale_eq_map_mul_left k v, ?_, twoNorm2_eq_dot v⟩
  · simp [pyAddList, constructLoop_eq]
  · simp [pySubList, constructLoop_eq]
  · simp only [pyRaddList, constructLoop_eq]; exact vadd_comm _ _
  · simp [pyRsubList, constructLoop_eq]
  · simp only [pyRsubList, pySubList]; exact vsub_swap _ _
  · rw [vsub_zero_left]; exact pyNeg_eq v

example : pyRsubList 3 [10, 10] [1, 2, 3] = [9, 8, -3] ∧ pyAddList 2 [1, 2] [5, 6, 7] = [6, 8] := by decide +kernel

/-- Operands of the other Python kinds stand for the same vector: a tuple, a NumPy array, a strided NumPy view or an
    `array.array` is converted through the tuple / buffer constructor, i.e. to `construct n` of its entries. -/
theorem operand_kinds_agree (n : Nat) (L : List Int) (st : Int) :
    (Kind.fv n).operand .list L = construct n L ∧ (Kind.fv n).operand .tuple L = construct n L ∧
    (Kind.fv n).operand (.buf st) L
      = construct n ((List.range L.length).map (bufEntry (stridedMem st L).1 (stridedMem st L).2 st)) ∧
    Kind.dyn.operand .list L = L := by
  refine ⟨constructLoop_eq n L, constructLoop_eq n L, ?_, dynConstructLoop_eq L⟩
  exact constructBuf_eq n _ {} (by show 0 < 8; omega) _ st L.length (Or.inr ⟨st, rfl⟩)

example : (Kind.fv 3).operand (.buf (-1)) [7, 8] = [7, 8, 0] ∧ (Kind.fv 2).operand (.buf 2) [7, 8, 9] = [7, 8] ∧
    (Kind.fv 2).operand .tuple [7] = [7, 0] := by decide +kernel

/-- `FieldVector<K,1>` is also a scalar: `v + a`, `v - a`, `a + v`, `a - v` with a Python int or float act on the single
    entry (`a - v` has the sign of `a - v[0]`); every other vector accepts only the int `0` (the start value of Python's
    `sum`): `v + 0`, `v - 0`, `0 + v` are `v` itself (the same object), `0 - v` is a new vector `-v`; anything else is
    rejected without touching the store. -/
theorem scalar_ops_spec (kd : Kind) (hkd : kd.isVec = true) (s : State) (isSub r isFloat : Bool) (x y b : Nat) (k : Int)
    (hy : s.xs y = some b) (hk : okInt k = true) :
    (pyScalar false false 7 2 = 9 ∧ pyScalar true false 7 2 = 5 ∧ pyScalar false true 7 2 = 9 ∧ pyScalar true true 7 2 = -5) ∧
    (kd.scalarMode = true → okVals [pyScalar isSub r ((s.read b).getD 0 0) k] = true →
      (vecEff kd s (.intscal isSub r isFloat x y k)) = .newX x [pyScalar isSub r ((s.read b).getD 0 0) k]) ∧
    (kd.scalarMode = false → isFloat = true → step kd s (.v (.intscal isSub r isFloat x y k)) = (s, "ERR:Type")) ∧
    (kd.scalarMode = false → isFloat = false → k ≠ 0 → step kd s (.v (.intscal isSub r isFloat x y k)) = (s, "ERR:Value")) ∧
    (kd.scalarMode = false → isFloat = false → k = 0 → (isSub && r) = false →
      vecEff kd s (.intscal isSub r isFloat x y k) = .aliasX x b) ∧
    (kd.scalarMode = false → isFloat = false → k = 0 → (isSub && r) = true →
      vecEff kd s (.intscal isSub r isFloat x y k) = .newX x (vneg (s.read b))) := by
  simp only [step_v kd hkd]
  dsimp only [vecEff]
  simp only [hy, hk, Bool.not_true, Bool.false_eq_true, if_false]
  refine ⟨by decide +kernel, ?_, ?_, ?_, ?_, ?_⟩
  · intro hsm hok
    simp only [hsm, effNew, hok, Bool.not_true, Bool.false_eq_true, if_false, if_true]
  · intro hsm hf
    simp [hsm, hf, Eff.apply, Err.show]
  · intro hsm hf hk0
    simp [hsm, hf, hk0, Eff.apply, Err.show]
  · intro hsm hf hk0 hsr
    subst hk0
    simp [hsm, hf, hsr]
  · intro hsm hf hk0 hsr
    subst hk0
    simp only [Bool.and_eq_true] at hsr
    simp [hsm, hf, hsr.1, hsr.2, pyRsubZero, ← pyNeg_eq, pyNeg]

example :
    let s0 := (step (.fv 1) {} (.v (.new 0 .list [4]))).1
    (step (.fv 1) s0 (.v (.intscal true true false 1 0 10))).2 = "[6]" ∧          -- 10 - v
    (step (.fv 1) s0 (.v (.intscal true true true 1 0 10))).2 = "[6]" ∧           -- 10.0 - v
    (step (.fv 1) s0 (.v (.scal .mul true 1 0 3))).2 = "f:12" := by decide +kernel         -- v * 3 (int): the dot product

example :
    let s0 := (step (.fv 2) {} (.v (.new 0 .list [4, 5]))).1
    (step (.fv 2) s0 (.v (.intscal true true false 1 0 0))).2 = "[-4,-5]" ∧
    (step (.fv 2) s0 (.v (.intscal false false false 1 0 3))).2 = "ERR:Value" ∧
    (step (.fv 2) s0 (.v (.intscal false false true 1 0 0))).2 = "ERR:Type" := by decide +kernel

/-- entrywise meaning of the plain operations (so that `ops_agree_with_cxx_model` is not about opaque names) -/
theorem plain_ops_entrywise (a b : List Int) (k : Int) (i : Nat) (x y : Int)
    (ha : a[i]? = some x) (hb : b[i]? = some y) :
    (vadd a b)[i]? = some (x + y) ∧ (vsub a b)[i]? = some (x - y) ∧ (vscale k a)[i]? = some (x * k) ∧
    (vneg a)[i]? = some (-x) := by
  simp [vadd, vsub, vscale, vneg, List.getElem?_zipWith, ha, hb]

example : ([1, 2, 3] : List Int)[1]? = some 2 ∧ ([5, 6, 7] : List Int)[1]? = some 6 ∧ vsub [1, 2, 3] [5, 6, 7] = [-4, -4, -4] := by
  decide +kernel

/-- norms: the one norm is the sum of absolute values, the infinity norm is an upper bound that is attained
    (0 for the empty vector), `two_norm2` is the sum of squares. -/
theorem norms_spec (e : Int) (v : List Int) :
    oneNorm [] = 0 ∧ oneNorm (e :: v) = iabs e + oneNorm v ∧
    twoNorm2 [] = 0 ∧ twoNorm2 (e :: v) = e * e + twoNorm2 v ∧
    (∀ a ∈ v, iabs a ≤ infNorm v) ∧ (infNorm v = 0 ∨ ∃ a ∈ v, infNorm v = iabs a) := by
  refine ⟨rfl, oneNorm_cons e v, rfl, twoNorm2_cons e v, infNorm_spec v⟩

example : oneNorm [3, -4] = 7 ∧ infNorm [3, -4] = 4 ∧ twoNorm2 [3, -4] = 25 := by decide +kernel

/-- in-place `x += y` / `x -= y` (also when `x` and `y` are the same object): the vector's cells afterwards hold
    the plain sum / difference of the entries before. -/
theorem inplace_agrees (kd : Kind) (hv : kd.isVec = true) (s : State) (hinv : Inv kd s) (isSub : Bool) (x y bx by_ : Nat)
    (hx : s.xs x = some bx) (hy : s.xs y = some by_)
    (hl : (s.read bx).length = (s.read by_).length)
    (hok : okVals (if isSub then vsub (s.read bx) (s.read by_) else vadd (s.read bx) (s.read by_)) = true) :
    (step kd s (.v (.inplaceV isSub x y))).1.read bx
      = (if isSub then vsub (s.read bx) (s.read by_) else vadd (s.read bx) (s.read by_)) := by
  rw [step_inplaceV kd hv s isSub x y bx by_ hx hy hl hok]
  exact read_write_same s bx _ (hinv.xs_lt x bx hx)

example :
    let s0 := (step .dyn {} (.v (.new 0 .list [1, 2, 3]))).1
    (step .dyn s0 (.v (.inplaceV false 0 0))).2 = "[2,4,6]" := by decide +kernel

/-- String conversion: the delimiter loop of `Dune::Python::join` puts `", "` between the entries and nowhere else, so
    `str(v)` is `"(" + ", ".join(entries) + ")"`; `()` for an empty vector. -/
theorem str_spec (d : String) (l : List String) (v : List Int) :
    joinLoop d l = d.intercalate l ∧ pyStr v = "(" ++ ", ".intercalate (v.map toString) ++ ")" ∧ pyStr [] = "()" := by
  refine ⟨joinLoop_eq d l, ?_, by decide +kernel⟩
  unfold pyStr
  rw [joinLoop_eq]

example : pyStr [1, -2, 3] = "(1, -2, 3)" ∧ pyStr [7] = "(7)" := by decide +kernel

/-- The store invariant `Inv` (registers name existing vectors; a `FieldVector<K,n>` has exactly `n` cells; every
    NumPy view denotes cells inside an existing object; no array aliases a DynamicVector) holds in the empty store. -/
theorem invariant_initial (kd : Kind) : Inv kd {} := inv_init kd

/-- `Inv` is preserved by every bound operation, whatever its arguments. -/
theorem invariant_step (kd : Kind) (hk : kd.isVec = true) (s : State) (h : Inv kd s) (op : Op) :
    Inv kd (step kd s op).1 := step_inv kd hk s h op

/-- After *every* program of bound operations (any length, any operations, any arguments): every register
    names an existing vector, every `FieldVector<K,n>` object has exactly `n` cells, and every entry of every NumPy
    view / NumPy-backed C++ vector in an array register is an existing cell of an existing object (the `getD`/`set`
    of the model's view operations never fall outside a block). -/
theorem all_histories_safe (kd : Kind) (hk : kd.isVec = true) (ops : List Op) :
    Inv kd (run kd {} ops).1 ∧
    (∀ x b, (run kd {} ops).1.xs x = some b → b < (run kd {} ops).1.blocks.length) ∧
    (∀ n, kd = .fv n → ∀ x b, (run kd {} ops).1.xs x = some b → ((run kd {} ops).1.read b).length = n) ∧
    (∀ a v, (run kd {} ops).1.arrs a = some v → v.blk < (run kd {} ops).1.blocks.length ∧
      ∀ j, j < v.len → 0 ≤ v.off + (j : Int) * v.step ∧ v.pos j < ((run kd {} ops).1.read v.blk).length ∧
        -- … and the byte address `ptr + j*stride` the NumPy-backed C++ vector computes is where that cell starts
        ∃ c : Nat, v.lay.cellAt (entryAddr v.info j) = some (c : Int) ∧ c < ((run kd {} ops).1.read v.blk).length ∧
          v.pos j = c) := by
  have h := run_inv kd hk ops {} (inv_init kd)
  refine ⟨h, h.xs_lt, h.xs_len, ?_⟩
  intro a v ha
  have hv := h.arrs_ok a v ha
  exact ⟨hv.1, fun j hj => ⟨(hv.2.2.2 j hj).1, hv.pos_lt j hj, hv.byte_addr j hj⟩⟩

example :
    let s := (run (.fv 3) {} [.v (.new 0 .list [1, 2, 3]), .v (.sl 0 0 none none (some (-2))), .v (.aset 0 1 9)]).1
    s.arrs 0 = some { blk := 0, off := 2, step := -2, len := 2 } ∧ s.read 0 = [9, 2, 3] := by
  refine ⟨?_, by decide +kernel⟩
  decide +kernel

-- a NumPyVector over the field `x` of packed 12-byte records (every record, backwards): reads and writes hit the records
example :
    let s := (run (.fv 3) {} [.v (.new 0 .list [1, 2, 3]), .v (.view 0 0), .v (.ndt 1 0 0 (.q 12 4 true 0) false),
      .v (.nscale 1 5)]).1
    s.arrs 1 = some { blk := 1, off := 2, step := -1, len := 3, dt := 0, lay := { rsz := 12, fo := 4 } } ∧
    s.read 1 = [15, 10, 5] ∧ s.read 0 = [1, 2, 3] ∧
    (View.info { blk := 1, off := 2, step := -1, len := 3, dt := 0, lay := { rsz := 12, fo := 4 } })
      = { ptr := 28, stride := -12, shape := 3 } := by
  refine ⟨?_, by decide +kernel, by decide +kernel, by decide +kernel⟩
  decide +kernel

/-- A tuple vector built from Python objects shows, entry by entry, the type (double / int / FieldVector of
    size n) and the values it was built from; so do the Python-side objects; built by reference the entries
    are the very same cells as the Python objects. -/
theorem tuplevector_preserves (byRef : Bool) (sh : List SlotTy) (V : List Int) (s : State)
    (hV : V.length = shapeWidth sh) :
    let r := buildSlots byRef sh V s
    r.2.2.map (readSlot r.1) = expected sh V ∧ r.2.1.map (readSlot r.1) = expected sh V ∧
    (byRef = true → r.2.2 = r.2.1) ∧
    (∀ b, b < s.blocks.length → r.1.read b = s.read b) := by
  obtain ⟨he, _, _, ⟨_, rdA⟩, ⟨_, rdB⟩, q⟩ := buildSlots_all byRef sh V s (by omega)
  exact ⟨rdB, rdA, q, he.2⟩

example : expected [.d, .f 2, .i] [17, 2, 5, 3] = [(.d, [17]), (.f 2, [2, 5]), (.i, [3])] := by decide +kernel

example :
    (step (.tup [.d, .f 2, .i] false) {} (.t (.tnew 0 [17, 2, 5, 3]))).2 = "[d:17,F2:[2,5],i:3]" := by decide +kernel

/-- After **every** program of bound tuple-vector operations (construction by value or by reference from Python objects, copies,
    `assign`, element reads, scalar / list / FieldVector writes, writes through an element handle; any length, any arguments,
    also rejected ones) on a class generated for the shape `sh`: every tuple vector and every Python-side source object has
    exactly `sh.length` entries, entry `i` has the element type `sh[i]` (double / int / FieldVector), and a FieldVector entry of
    type `FieldVector<K,n>` names an existing object with exactly `n` cells — the wrappers preserve the element types they were
    built from through all histories, and no operation leaves an entry dangling. -/
theorem tuple_histories_safe (sh : List SlotTy) (byRef : Bool) (ops : List Op) :
    let s := (run (.tup sh byRef) {} ops).1
    TInv sh s ∧
    (∀ t T, s.ts t = some T ∨ s.ss t = some T →
      T.length = sh.length ∧
      (∀ (i : Nat) (x : Slot), T[i]? = some x → ∃ ty, sh[i]? = some ty ∧ SlotOK s ty x) ∧
      (∀ (i b : Nat), T[i]? = some (Slot.f b) → ∃ n, sh[i]? = some (SlotTy.f n) ∧ b < s.blocks.length ∧ (s.read b).length = n)) := by
  intro s
  have h : TInv sh s := run_tinv sh byRef ops {} (tinv_init sh)
  refine ⟨h, ?_⟩
  intro t T hT
  have hok : SlotsOK s sh T := hT.elim (h.ts_ok t T) (h.ss_ok t T)
  exact ⟨SlotsOK.length sh T hok, fun i x hx => hok.get hx, fun i b hx => hok.get_f hx⟩

example :
    let s := (run (.tup [.d, .f 2, .i] false) {} [.t (.tnew 0 [17, 2, 5, 3]), .t (.tcopy 1 0), .t (.tsetf 1 1 [8, 9]),
      .t (.tassign 0 1)]).1
    s.blocks = [[2, 5], [8, 9], [8, 9]] ∧ (s.ts 0).map (·.length) = some 3 ∧ (s.ts 1).map (·.length) = some 3 := by
  decide +kernel

/-- `normalizeIndex` as it stands in `densevector.hh` (statement order, both conditions, the addition; regenerated as
    `Gen.normalizeIndex`) is the model's index normalisation for **every** size and **every** integer index: hence
    `getitem_spec`, `setitem_spec`, `getitem_out_of_range_error`, `getitem_out_of_range_untouched`, `iter_spec` speak about
    that text.  (The translator also insists that `__getitem__(ssize_t)` / `__setitem__(ssize_t, x)` are the plain
    access through it and that the `pybind11::int_` overloads only throw `index_error`.) -/
theorem gen_normalize_index (n : Nat) (i : Int) :
    Gen.normalizeIndex (n : Int) i = (normIndex n i).map (fun (p : Nat) => Int.ofNat p) ∧
    (Gen.normalizeIndex (n : Int) i = none ↔ (i < -(n : Int) ∨ (n : Int) ≤ i)) ∧
    (∀ p, Gen.normalizeIndex (n : Int) i = some p → 0 ≤ p ∧ p < n ∧ (p = i ∨ p = i + n)) := by
  refine ⟨by rw [gen_norm_char, normIndex_char], ?_, ?_⟩ <;> rw [gen_norm_char] <;> split
  · rename_i hc
    exact ⟨fun _ => hc, fun _ => rfl⟩
  · rename_i hc
    exact ⟨fun h => (nomatch h), fun h => absurd h hc⟩
  · exact fun _ h => nomatch h
  · intro p h
    cases h
    split <;> omega

example : Gen.normalizeIndex 3 (-1) = some 2 ∧ Gen.normalizeIndex 3 2 = some 2 ∧ Gen.normalizeIndex 3 3 = none ∧
    Gen.normalizeIndex 3 (-4) = none ∧ Gen.normalizeIndex 0 0 = none ∧ Gen.normalizeIndex 3 (-3) = some 0 := by decide +kernel

/-- Indexing with Python semantics, stated on the **generated** normalisation: for every vector and
    every integer `i`, `normalizeIndex` throws exactly when `i` is outside `[-n, n)`, and otherwise returns `i mod n` (Python's
    `%`: non-negative), which is an existing entry — the entry `__getitem__` returns. -/
theorem gen_getitem_python (v : List Int) (i : Int) :
    match Gen.normalizeIndex (v.length : Int) i with
    | none => ¬ (-(v.length : Int) ≤ i ∧ i < v.length)
    | some p => -(v.length : Int) ≤ i ∧ i < v.length ∧ p = i % (v.length : Int) ∧
                getItem v i = .ok (v.getD p.toNat 0) ∧ v[p.toNat]? = some (v.getD p.toNat 0) := by
  rw [(gen_normalize_index v.length i).1]
  by_cases hr : -(v.length : Int) ≤ i ∧ i < v.length
  · obtain ⟨p, hn, hp, hpi⟩ := normIndex_mod v.length i hr.1 hr.2
    rw [hn]
    simp only [Option.map_some, Int.ofNat_eq_natCast, Int.toNat_natCast]
    exact ⟨hr.1, hr.2, hpi, getItem_of_norm v i p hn, getElem?_eq_some_getD hp⟩
  · rw [normIndex_out _ _ (by omega)]
    exact hr

example : Gen.normalizeIndex 4 (-1) = some ((-1 : Int) % 4) ∧ [5, 6, 7, 8][((-1 : Int) % 4).toNat]? = some (8 : Int) ∧
    Gen.normalizeIndex 4 (-5) = none ∧ Gen.normalizeIndex 4 (18446744073709551616) = none := by decide +kernel

/-- The copy loops as they stand in `fvector.hh` / `dynvector.hh` (initial value, first index, loop bound, destination and
    source index; regenerated as `Gen.loopTuple/List/Args/Copy/Dyn`): run on any size and any argument sequence, each of the
    four FieldVector loops yields the **specification** `construct n xs` (the first `n` numbers, zero-filled), `copy(*args)`
    leaves through the copy-of-self exit exactly when there are no arguments, and the DynamicVector loop yields exactly the
    list (allocating `len` entries). -/
theorem gen_copy_loops (n : Nat) (xs : List Int) :
    runLoop Gen.loopTuple n xs = construct n xs ∧ runLoop Gen.loopList n xs = construct n xs ∧
    runLoop Gen.loopArgs n xs = construct n xs ∧ runLoop Gen.loopCopy n xs = construct n xs ∧
    (Gen.copyReturnsSelf n xs.length = true ↔ xs = []) ∧
    runLoop Gen.loopDyn (Gen.dynAlloc n xs.length) xs = xs := by
  have key : ∀ c : Gen.CopyLoop, c.init = 0 → (∀ s l, c.first s l = 0) → (∀ s l, c.bound s l = min s l) →
      (∀ i, c.dst i = i) → (∀ i, c.src i = i) → runLoop c n xs = construct n xs := by
    intro c hi hf hb hd hs
    rw [runLoop_eq c (fun s l => min s l) hi hf hb hd hs, ← constructLoop_eq]
    rfl
  refine ⟨key _ rfl ?_ ?_ ?_ ?_, key _ rfl ?_ ?_ ?_ ?_, key _ rfl ?_ ?_ ?_ ?_, key _ rfl ?_ ?_ ?_ ?_, ?_, ?_⟩
  -- the side conditions are about generated text, whose shape a behaviour-preserving edit of the headers can change (the same
  -- bound through another control flow): each is closed by `simp` or by `omega`, whichever applies (likewise in `gen_buffer_ctor`)
  all_goals first
    | (intro s l; simp [Gen.loopTuple, Gen.loopList, Gen.loopArgs, Gen.loopCopy]; done)
    | (intro s l; simp only [Gen.loopTuple, Gen.loopList, Gen.loopArgs, Gen.loopCopy]; omega)
    | (intro i; simp [Gen.loopTuple, Gen.loopList, Gen.loopArgs, Gen.loopCopy]; done)
    | (intro i; simp only [Gen.loopTuple, Gen.loopList, Gen.loopArgs, Gen.loopCopy]; omega)
    | (simp [Gen.copyReturnsSelf, List.length_eq_zero_iff]; done)
    | skip
  have hdyn := runLoop_eq Gen.loopDyn (fun _ l => l) rfl (by intro s l; simp [Gen.loopDyn]) (by intro s l; simp [Gen.loopDyn])
    (by intro i; simp [Gen.loopDyn]) (by intro i; simp [Gen.loopDyn]) (Gen.dynAlloc n xs.length) xs
  rw [hdyn]
  have : Gen.dynAlloc n xs.length = xs.length := by simp [Gen.dynAlloc]
  rw [this]
  exact dynConstructLoop_eq xs

example : runLoop Gen.loopList 3 [7, 8] = [7, 8, 0] ∧ runLoop Gen.loopCopy 2 [7, 8, 9] = [7, 8] ∧
    runLoop Gen.loopDyn (Gen.dynAlloc 0 3) [4, 5, 6] = [4, 5, 6] ∧ Gen.copyReturnsSelf 3 0 = true := by decide +kernel

/-- The buffer constructor as it stands in `fvector.hh` (format and dimension checks present, `stride = strides[0] /
    sizeof(K)`, loop bound, `ptr[i*stride]`; regenerated as `Gen.bufStride/bufBound/bufSrc/…`) is the model's `constructBuf`
    for every `buffer_info`, and the generated source address is the whole-item address `elemAddr 8` that
    `byte_stride_addressing` and `construct_buffer_spec` are about. -/
theorem gen_buffer_ctor (n : Nat) (mem : List Int) (m : MemLay) (b : BufInfo) (i : Nat) :
    runBufLoop n mem m b = constructBuf n mem m b ∧
    b.ptr + 8 * Gen.bufSrc (i : Int) (Gen.bufStride b.stride 8) = elemAddr 8 b i := by
  have haddr : ∀ j : Nat, b.ptr + 8 * Gen.bufSrc (j : Int) (Gen.bufStride b.stride 8) = elemAddr 8 b j := by
    intro j
    simp only [Gen.bufSrc, Gen.bufStride, elemAddr]
    first | rfl | (simp [Int.mul_comm]; done) | (rw [Int.mul_comm (Int.tdiv b.stride 8) (j : Int)]; rfl)
  refine ⟨?_, haddr i⟩
  unfold runBufLoop constructBuf
  have hf : Gen.bufFirst n b.shape = 0 := by simp [Gen.bufFirst]
  have hb : Gen.bufBound n b.shape = min n b.shape := by
    first | (simp only [Gen.bufBound]; done) | (simp only [Gen.bufBound]; omega)
  have hd : Gen.bufDst = fun i => i := by funext i; simp [Gen.bufDst]
  have hi : Gen.bufInit = 0 := by simp [Gen.bufInit]
  rw [hf, hb, hd, hi, List.range_eq_range']
  simp only [Nat.sub_zero]
  first | rfl | (congr 1; funext acc j; rw [haddr j])

example : runBufLoop 3 [1, 77, 2, 77] {} (bufInfo {} 0 2 2) = [1, 2, 0] ∧
    runBufLoop 2 [77, 3, 77, 2, 77, 1] {} (bufInfo {} 5 (-2) 3) = [1, 2] := by decide +kernel

/-- The string constants as they stand in `fvector.hh` / `dynvector.hh`: `str(v)` of the model is
    `open ++ join(delim, entries) ++ close` with the constants of `to_string(FieldVector)`, which are `(`, `, `, `)`;
    DynamicVector's `__repr__` uses the same delimiter and closing and ends its prefix with `(`; `repr(FieldVector)` is
    `Dune::FieldVector<n>` followed by `str`. -/
theorem gen_str_consts (v : List Int) :
    pyStr v = Gen.strOpen ++ joinLoop Gen.strDelim (v.map toString) ++ Gen.strClose ∧
    Gen.dynDelim = Gen.strDelim ∧ Gen.dynClose = Gen.strClose ∧ Gen.dynOpen = "Dune::DynamicVector: " ++ Gen.strOpen ∧
    Gen.reprOpen = "Dune::FieldVector<" ∧ Gen.reprMid = ">" := by
  refine ⟨rfl, by decide +kernel, by decide +kernel, by decide +kernel, by decide +kernel, by decide +kernel⟩

example : Gen.strOpen ++ joinLoop Gen.strDelim ([1, -2].map toString) ++ Gen.strClose = "(1, -2)" := by decide +kernel

/-- What the registration functions bind (every `cls.def`, `def_property_readonly`, `def_buffer`, `pybind11::init`,
    `implicitly_convertible`, operator registration and the order in which registration functions are chained; parameter types
    canonicalised, order kept among overloads of one name — pybind11 tries them in that order) is exactly the list of
    `boundTable`, and no entry of that table has an empty second column, which names the operations of the op language that
    drive the binding (`-` for the six structural entries): a binding added to the headers is reported until the table says
    which programs of the check reach it. -/
theorem gen_bindings_modelled :
    Gen.bindings = boundTable.map Prod.fst ∧ ∀ e ∈ boundTable, e.2 ≠ "" := by
  constructor
  · rfl
  · decide +kernel

example : ("densevector.hh:registerDenseVector: def __getitem__(T,int_)", "get") ∈ boundTable ∧ boundTable.length = 78 :=
  ⟨List.mem_of_getElem? (i := 13) rfl, rfl⟩

end DV.C20
