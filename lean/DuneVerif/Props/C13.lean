import DuneVerif.Proofs.C13Sub
import DuneVerif.Proofs.C13Renumber
import DuneVerif.Proofs.C13Tie
import DuneVerif.Gen.C13
/-!
C13 — IndicesSyncer completes index sets and remote index lists to mutual consistency.

Property theorems about the protocol model `DV.C13.sync` (Model/C13.lean).  They hold for every process count
(`w.length`), every decomposition `D`, every state `w` that is a *partial view* of `D` (`PartialView D w`: per rank
an index set with each global index at most once in ascending order and the attribute `D` gives; neighbours in
ascending order; remote index lists in ascending order of the global index whose entries carry the attributes of `D`
and refer to a pair of the index set), every numbering `num` of new local indices and every processing order.
`partialView_of_deleted` shows that deleting arbitrary copies (with their remote entries) from the consistent state
of a decomposition — the specification of `RemoteIndices::rebuild` — gives such a state.

Reading of a remote index `en` found in the list that `p` keeps for neighbour `q`:  `en.g` global index, `en.own` the
attribute of `p`'s own pair, `en.rem` the attribute `p` believes `q`'s copy to have.
-/
namespace DV.C13

/-- consistent state minus arbitrary deleted copies (any subset per process) is a partial view of the decomposition -/
theorem partialView_of_deleted (D : Decomp) (hD : DecompWF D) (del : Nat → Int → Bool) :
    PartialView D (deleteCopies del (consistent D)) :=
  partialView_delete (partialView_consistent hD) del

/-- First sentence of the property: for every process `p`, neighbour `q` and global index `g` that `p` believed to be
present on `q` (remote index `en` in `p`'s list for `q`): after the sync `q` has `g` in its index set with the
attribute `p` believed, `q`'s list for `p` records `p`'s copy with `p`'s attribute, and for every other holder `r` of
`g` that `p` knew, `q`'s list for `r` records it with the attribute `p` knew (`r` becomes a neighbour if it was none). -/
theorem sync_postcondition (num : Int → Nat) (D : Decomp) (w : World) (hw : PartialView D w)
    (p q : Nat) (sp : RankState) (hp : w[p]? = some sp) (en : RemEntry) (hen : en ∈ listOf sp.remote q) :
    ∃ sq', (sync num w)[q]? = some sq' ∧
      hasKey sq'.idx en.g en.rem = true ∧
      (⟨en.g, en.rem, en.own⟩ : RemEntry) ∈ listOf sq'.remote p ∧
      ∀ r er, r ≠ q → er ∈ listOf sp.remote r → er.g = en.g →
        (⟨en.g, en.rem, er.rem⟩ : RemEntry) ∈ listOf sq'.remote r := by
  -- `q` is a neighbour of `p`, hence a process of the world
  obtain ⟨l, hl, _⟩ := mem_of_mem_listOf sp.remote q en hen
  have hq : q < w.length := ((hw p sp hp).rem.nbOk _ hl).2.1
  have hsq : w[q]? = some w[q] := List.getElem?_eq_getElem hq
  exact ⟨_, sync_getElem?_some num hsq, postcondition_rank num hw p q sp _ hp hsq en hen⟩

/-- Nothing known before is lost or altered: every pair of the index set (including its local number), every
neighbour and every remote index is still there (and by `sync_sorted` each global index still occurs only once, so
no second, different entry has appeared beside it). -/
theorem sync_monotone (num : Int → Nat) (D : Decomp) (w : World) (hw : PartialView D w)
    (q : Nat) (sq : RankState) (hq : w[q]? = some sq) :
    ∃ sq', (sync num w)[q]? = some sq' ∧
      (∀ e ∈ sq.idx, e ∈ sq'.idx) ∧
      (∀ x, isNeighbour sq.remote x = true → isNeighbour sq'.remote x = true) ∧
      (∀ x en, en ∈ listOf sq.remote x → en ∈ listOf sq'.remote x) := by
  have S := syncSpec_rank num hw q sq hq
  exact ⟨_, sync_getElem?_some num hq, fun e he => (S.idx e).2 (Or.inl he), fun x hx => (S.nb x).2 (Or.inl hx),
    fun x en hen => (S.rem x en).2 (Or.inl hen)⟩

/-- Nothing is invented: a pair of the index set after the sync was there before, or it is numbered by `num` and some
process `p` believed `q` to hold exactly this (global, attribute); a remote index of `q`'s list for `x` after the sync
was there before, or some process `p` that believed `q` to hold the index either is `x` itself (and the entry carries
`p`'s own attribute) or listed `x` as a holder with that attribute. -/
theorem sync_exact (num : Int → Nat) (D : Decomp) (w : World) (hw : PartialView D w)
    (q : Nat) (sq sq' : RankState) (hq : w[q]? = some sq) (hq' : (sync num w)[q]? = some sq') :
    (∀ e ∈ sq'.idx, e ∈ sq.idx ∨
      (e.loc = num e.g ∧ ∃ (p : Nat) (sp : RankState) (enq : RemEntry), w[p]? = some sp ∧ enq ∈ listOf sp.remote q ∧ enq.g = e.g ∧ enq.rem = e.attr)) ∧
    (∀ x en, en ∈ listOf sq'.remote x → en ∈ listOf sq.remote x ∨
      ∃ (p : Nat) (sp : RankState) (enq : RemEntry), w[p]? = some sp ∧ enq ∈ listOf sp.remote q ∧ enq.g = en.g ∧ enq.rem = en.own ∧
        ((x = p ∧ en.rem = enq.own) ∨ (x ≠ q ∧ ∃ er, er ∈ listOf sp.remote x ∧ er.g = en.g ∧ er.rem = en.rem))) := by
  have S := syncSpec_rank num hw q sq hq
  rw [Option.some.inj ((sync_getElem?_some num hq).symm.trans hq')] at S
  exact ⟨fun e he => ((S.idx e).1 he).imp id fun h => ⟨h.1, h.2.1⟩, fun x en hen => (S.rem x en).1 hen⟩

/-- All lists stay ordered by global index — strictly, i.e. without duplicates: the index set, the neighbour map and
every remote index list; attributes still agree with the decomposition.  (The whole invariant is preserved.) -/
theorem sync_sorted (num : Int → Nat) (D : Decomp) (w : World) (hw : PartialView D w) :
    PartialView D (sync num w) ∧
    ∀ (q : Nat) (sq' : RankState), (sync num w)[q]? = some sq' →
      sq'.idx.Pairwise (fun a b => a.g < b.g) ∧
      sq'.remote.Pairwise (fun a b => a.1 < b.1) ∧
      ∀ x ∈ sq'.remote, x.2.Pairwise (fun a b => a.g < b.g) := by
  have h := partialView_sync num hw
  refine ⟨h, fun q sq' hq => ?_⟩
  have hI := h q sq' hq
  exact ⟨hI.idxSorted, hI.rem.nbSorted, fun x hx => (hI.rem.nbOk x hx).2.2⟩

/-- Valid references into the re-sorted index set: `repairLocalIndexPointers` (`resolve`) finds for every remote
index a position in the new index set, and the pair at that position has the entry's global index and attribute. -/
theorem sync_refs_valid (num : Int → Nat) (D : Decomp) (w : World) (hw : PartialView D w)
    (q : Nat) (sq' : RankState) (hq : (sync num w)[q]? = some sq') :
    ∀ x ∈ sq'.remote, ∀ en ∈ x.2,
      ∃ k e, resolve sq'.idx en = some k ∧ sq'.idx[k]? = some e ∧ e.g = en.g ∧ e.attr = en.own := by
  intro x hx en hen
  have hI := partialView_sync num hw q sq' hq
  exact resolve_of_hasKey sq'.idx en (hI.rem.remTrue x hx en hen).2

/-- The remote indices count as in sync afterwards (on every rank, for every state). -/
theorem sync_synced (num : Int → Nat) (w : World) (q : Nat) (sq' : RankState)
    (hq : (sync num w)[q]? = some sq') : isSynced sq' = true := by
  obtain ⟨st, _, rfl⟩ := sync_getElem?_inv hq
  exact beq_self_eq_true _

/-- All message orders: whatever order each rank processes its neighbours' messages in (any permutation of its
inbox, chosen per rank), the resulting state of every rank is the same as with the fixed order. -/
theorem order_irrelevant (num : Int → Nat) (D : Decomp) (w : World) (hw : PartialView D w)
    (ord : Nat → List (Nat × List Item) → List (Nat × List Item))
    (hord : ∀ q, (ord q (inbox w q)).Perm (inbox w q)) :
    syncOrd ord num w = sync num w := by
  refine List.mapIdx_eq_mapIdx_iff.2 fun q hq => congrArg finish ?_
  rw [recvAll_eq_flat, recvAll_eq_flat]
  exact recvFlat_ext num _ (hw q _ (List.getElem?_eq_getElem hq)) _ _ (trueItems_inbox hw q)
    fun _ => ((hord q).flatMap_right _).mem_iff

/-- Receives commute: two published indices (from any sources) can be received in either order. -/
theorem receives_commute (num : Int → Nat) (D : Decomp) (P me : Nat) (st : RankState) (hI : RankInv D P me st)
    (x y : Nat × Item) (hx : TrueItem D P me x.1 x.2) (hy : TrueItem D P me y.1 y.2) :
    receiveItem num me y.1 (receiveItem num me x.1 st x.2) y.2 =
      receiveItem num me x.1 (receiveItem num me y.1 st y.2) x.2 := by
  have := recvFlat_ext num st hI [x, y] [y, x] (by intro z hz; simp at hz; rcases hz with rfl | rfl <;> assumption)
    (by intro z; simp [or_comm])
  simpa [recvFlat] using this

/-- Message matching (the exchange itself is well-formed for every arrival order): when the neighbour relation is
symmetric, the messages addressed to `q` come from exactly `q`'s neighbours, one each, in ascending order of the
source — the receives `q` posts (one per old neighbour, `MPI_ANY_SOURCE` or the neighbours in map order) and the
sends of the others pair off. -/
theorem sync_message_matching (D : Decomp) (w : World) (hw : PartialView D w) (hs : NbSym w)
    (q : Nat) (sq : RankState) (hq : w[q]? = some sq) :
    (inbox w q).map (fun m => m.1) = sq.remote.map (fun x => x.1) := by
  have hI := hw q sq hq
  apply ext_of_sorted id (inbox_sources_sorted w q) (List.pairwise_map.2 hI.rem.nbSorted)
  intro p
  simp only [List.mem_map]
  constructor
  · rintro ⟨m, hm, rfl⟩
    obtain ⟨sp, hsp, hn, _⟩ := (mem_inbox w q m).1 hm
    have := (hs m.1 q sp sq hsp hq).1 hn
    obtain ⟨l, hl⟩ := (isNeighbour_iff _ _).1 this
    exact ⟨(m.1, l), hl, rfl⟩
  · rintro ⟨⟨p', l⟩, hx, rfl⟩
    have hp : p' < w.length := (hI.rem.nbOk _ hx).2.1
    have hsp : w[p']? = some w[p'] := List.getElem?_eq_getElem hp
    have hn : isNeighbour w[p'].remote q = true :=
      (hs p' q _ sq hsp hq).2 ((isNeighbour_iff _ _).2 ⟨l, hx⟩)
    exact ⟨(p', itemsFor w[p'] q), (mem_inbox w q _).2 ⟨_, hsp, hn, rfl⟩, rfl⟩

/-- ... and the consistent state with arbitrary copies deleted has a symmetric neighbour relation. -/
theorem nbSym_of_deleted (D : Decomp) (hD : DecompWF D) (del : Nat → Int → Bool) :
    NbSym (deleteCopies del (consistent D)) :=
  nbSym_delete (nbSym_consistent hD) del

/-- ... and the sync keeps it symmetric (processes that discover each other as new neighbours do so mutually), so the
operation can be repeated. -/
theorem sync_keeps_symmetry (num : Int → Nat) (D : Decomp) (w : World) (hw : PartialView D w) (hs : NbSym w) :
    NbSym (sync num w) := by
  intro p q sp' sq' hp' hq'
  obtain ⟨sp, hp, rfl⟩ := sync_getElem?_inv hp'
  obtain ⟨sq, hq, rfl⟩ := sync_getElem?_inv hq'
  exact ⟨isNeighbour_sync_of num hw hs p q sp sq hp hq, isNeighbour_sync_of num hw hs q p sq sp hq hp⟩

/-- The property's last sentence.  From the consistent state of any decomposition delete, on every process, any set
of locally held copies together with their remote entries (`del p g`).  If every deleted copy is still listed by
another process (some `r` has, after its own deletions, a remote index for `g` in its list for `p`), the sync restores
exactly the original state: on every rank the index set has the original (global, attribute) pairs in order and the
neighbour map with all remote index lists equals the original one.  (Restored pairs get their local number from
`num`; the pairs that were kept keep theirs by `sync_monotone`.) -/
theorem restore_after_delete (num : Int → Nat) (D : Decomp) (hD : DecompWF D) (del : Nat → Int → Bool)
    (hlisted : ∀ p g, del p g = true → (D.attrOf p g).isSome = true →
      ∃ (r : Nat) (sr : RankState) (en : RemEntry),
        (deleteCopies del (consistent D))[r]? = some sr ∧ en ∈ listOf sr.remote p ∧ en.g = g)
    (q : Nat) (s0 : RankState) (h0 : (consistent D)[q]? = some s0) :
    ∃ s', (sync num (deleteCopies del (consistent D)))[q]? = some s' ∧
      s'.idx.map (fun e => (e.g, e.attr)) = s0.idx.map (fun e => (e.g, e.attr)) ∧
      s'.remote = s0.remote := by
  obtain ⟨hq, rfl⟩ := consistent_getElem?_some h0
  exact restore_rank hD num del (fun p g hd hh =>
    survivor_of_listed (partialView_consistent hD) del (hlisted p g hd hh)) q hq

/-- The invariant survives growing the ground truth: a partial view of `D` is a partial view of every decomposition
that knows everything `D` knows (used when a process announces copies that were not part of the rebuilt state). -/
theorem partialView_of_grown (D D' : Decomp) (w : World) (hw : PartialView D w) (hD : DecompLe D D') :
    PartialView D' w :=
  fun q st hq => (hw q st hq).mono hD

/-- Newly discovered neighbours come from states in which a process `p` has added an index `g` it did not hold and
announces it to neighbours (`known`: neighbour ↦ attribute there).  If the announcement agrees with the decomposition,
the state is again a partial view with a symmetric neighbour relation, so every theorem of this file applies to it. -/
theorem partialView_of_added (D : Decomp) (w : World) (hw : PartialView D w) (p : Nat) (g : Int) (a loc : Nat)
    (known : List (Nat × Nat)) (hq : D.attrOf p g = some a) (hnew : ∀ st, w[p]? = some st → ∀ e ∈ st.idx, e.g ≠ g)
    (hk : ∀ x b, known.lookup x = some b → D.attrOf x g = some b) :
    PartialView D (addCopyAt w p g a loc known) := by
  unfold addCopyAt
  cases hp : w[p]? with
  | none => exact hw
  | some st => exact partialView_set hw p _ (rankInv_addCopy (hw p st hp) g a loc known hq (hnew st hp) hk)

theorem nbSym_of_added (w : World) (hs : NbSym w) (p : Nat) (g : Int) (a loc : Nat) (known : List (Nat × Nat)) :
    NbSym (addCopyAt w p g a loc known) := by
  unfold addCopyAt
  cases hp : w[p]? with
  | none => exact hs
  | some st => exact nbSym_set hs p st _ hp (isNeighbour_addCopy st g a loc known)

/-- All histories: after any sequence of syncs (each rank processing its inbox in any order), deletions of arbitrary
copies and announcements of new copies, the state is a partial view of the decomposition with a symmetric neighbour
relation — the hypotheses of `sync_postcondition`, `sync_monotone`, `sync_exact`, `sync_sorted`, `sync_refs_valid`,
`order_irrelevant` and `sync_message_matching` hold again before every further sync. -/
theorem history_invariant (D : Decomp) : ∀ (steps : List Step) (w : World), PartialView D w → NbSym w →
    stepsOk D steps w → PartialView D (runSteps steps w) ∧ NbSym (runSteps steps w) := by
  intro steps
  induction steps with
  | nil => exact fun _ hw hs _ => ⟨hw, hs⟩
  | cons s ss ih =>
    intro w hw hs hok
    have h1 : PartialView D (s.run w) ∧ NbSym (s.run w) := by
      cases s with
      | sync num => exact ⟨partialView_sync num hw, sync_keeps_symmetry num D w hw hs⟩
      | syncOrd ord num =>
        rw [Step.run, order_irrelevant num D w hw ord hok.1]
        exact ⟨partialView_sync num hw, sync_keeps_symmetry num D w hw hs⟩
      | delete del => exact ⟨partialView_delete hw del, nbSym_delete hs del⟩
      | add p g a loc known =>
        exact ⟨partialView_of_added D w hw p g a loc known hok.1.1 hok.1.2.1 hok.1.2.2, nbSym_of_added w hs p g a loc known⟩
    exact ih _ h1.1 h1.2 hok.2

/-- The last sentence of the property for every round, with the local numbers.  Let `w` be any state with the shape
of the consistent state of `D` (same (global, attribute) pairs, same remote index lists; local numbers and sequence
numbers arbitrary — e.g. the result of an earlier delete-and-sync round).  Delete any copies; if every deleted copy is
still listed by another process, the sync gives a state of that shape again, and the index set of every rank is the
one before the deletion with exactly the deleted pairs renumbered by `num` (kept pairs keep their local number).
The consistent state itself has that shape (`Shape.refl`), and the conclusion is the hypothesis again: the theorem
applies to the result of every further delete-and-sync round. -/
theorem restore_after_delete_any (num : Int → Nat) (D : Decomp) (hD : DecompWF D) (w : World)
    (hw : Shape w (consistent D)) (del : Nat → Int → Bool)
    (hlisted : ∀ p g, del p g = true → (D.attrOf p g).isSome = true →
      ∃ (r : Nat) (sr : RankState) (en : RemEntry),
        (deleteCopies del w)[r]? = some sr ∧ en ∈ listOf sr.remote p ∧ en.g = g) :
    Shape (sync num (deleteCopies del w)) (consistent D) ∧
    ∀ (q : Nat) (sq s' : RankState), w[q]? = some sq → (sync num (deleteCopies del w))[q]? = some s' →
      s'.idx = sq.idx.map (fun e => if del q e.g then { e with loc := num e.g } else e) := by
  have hpv := partialView_of_shape hw (partialView_consistent hD)
  -- "still listed" in `w` says who survives, and that restores the consistent state from its own deletions
  have h3 : Shape (sync num (deleteCopies del (consistent D))) (consistent D) := by
    refine ⟨by rw [sync_length, deleteCopies_length], fun q a b ha hb => ?_⟩
    obtain ⟨hq, rfl⟩ := consistent_getElem?_some hb
    obtain ⟨s', hs', hs⟩ := restore_rank hD num del (fun p g hd hh =>
      survivor_of_listed hpv del (hlisted p g hd hh)) q hq
    cases ha.symm.trans hs'
    exact hs
  have hsh := (sync_shape num num (deleteCopies_shape del hw)).trans h3
  refine ⟨hsh, fun q sq s' hq hs' => ?_⟩
  obtain ⟨sc, hc, hsc⟩ := hw.getElem? hq
  exact idx_sync_delete hpv num del q sq s' hq hs' ((hsh.2 q s' sc hs' hc).1.trans hsc.1.symm)

/-- A numberer object without state behaves as the function it computes: the model with the numberer state threaded
through the receives coincides with `sync` (so the theorems above speak about it). -/
theorem stateful_numberer_conservative {σ : Type} (num : Int → Nat) (w : World) (q : Nat) (st : RankState) (s : σ) :
    syncRankS (fun s g => (num g, s)) w q (st, s) = (syncRank num w q st, s) := by
  unfold syncRankS syncRank
  rw [recvAllS_pure]

/-- Any numberer object, whatever its state does: the sync yields the same (global, attribute) pairs and the same
remote index lists as with a pure numbering (hence post-condition, monotonicity, sortedness, restoration of the shape
carry over), and counts as in sync.  Only the local numbers of the new pairs depend on the numberer. -/
theorem stateful_numberer_shape {σ : Type} (nm : σ → Int → Nat × σ) (num : Int → Nat) (w : World) (ss : List σ)
    (q : Nat) (x : RankState × σ) (sq' : RankState)
    (hx : (syncS nm w ss)[q]? = some x) (hq : (sync num w)[q]? = some sq') :
    ShapeEq x.1 sq' ∧ isSynced x.1 = true := by
  simp only [syncS, List.getElem?_mapIdx, Option.map_eq_some_iff] at hx
  obtain ⟨⟨a, s⟩, hz, rfl⟩ := hx
  have ha : w[q]? = some a := (List.getElem?_zip_eq_some.1 hz).1
  cases (sync_getElem?_some num ha).symm.trans hq
  exact ⟨syncRankS_shape nm num w q a s, syncRankS_isSynced nm w q (a, s)⟩

/-- Any numberer object, equipped with a counter of its calls: it is called exactly once per index that the sync adds
to the index set (the counter grows by the growth of the index set) — on the object the caller passed in, whose state
after the sync is the state after all these calls.  (A numberer that is copied per message, or called for indices
that are already there, violates this.) -/
theorem numberer_called_once_per_new_index {σ : Type} (nm : σ → Int → Nat × σ) (w : World) (q : Nat)
    (st : RankState) (s : σ) (c : Nat) :
    c ≤ (syncRankS (counted nm) w q (st, (s, c))).2.2 ∧
    (syncRankS (counted nm) w q (st, (s, c))).1.idx.length =
      st.idx.length + ((syncRankS (counted nm) w q (st, (s, c))).2.2 - c) :=
  calls_syncRankS (counted nm) Prod.snd (fun _ _ => rfl) w q (st, (s, c))

/-- The counting numberer (`base, base+1, …`, state = number of calls so far): it is called exactly once per index
that the sync adds (the call counter grows by the growth of the index set), nothing known before is lost, every new
pair gets a number from the block handed out during this sync, and no number is given twice. -/
theorem counting_numberer_spec (base : Nat) (w : World) (q : Nat) (st : RankState) (c : Nat) :
    c ≤ (syncRankS (countingNumberer base) w q (st, c)).2 ∧
    (syncRankS (countingNumberer base) w q (st, c)).1.idx.length =
      st.idx.length + ((syncRankS (countingNumberer base) w q (st, c)).2 - c) ∧
    (∀ e ∈ st.idx, e ∈ (syncRankS (countingNumberer base) w q (st, c)).1.idx) ∧
    (∀ e ∈ (syncRankS (countingNumberer base) w q (st, c)).1.idx, e ∈ st.idx ∨
      (base + c ≤ e.loc ∧ e.loc < base + (syncRankS (countingNumberer base) w q (st, c)).2)) ∧
    (∀ e₁ ∈ (syncRankS (countingNumberer base) w q (st, c)).1.idx,
      ∀ e₂ ∈ (syncRankS (countingNumberer base) w q (st, c)).1.idx,
        e₁ ∉ st.idx → e₂ ∉ st.idx → e₁.loc = e₂.loc → e₁ = e₂) := by
  have h := syncRankS_inv (countingNumberer base) (CountInv base st.idx c) (fun _ _ g a h => h.insert g a) w q (st, c)
    (CountInv.init base st.idx c)
  exact ⟨h.le, h.len, h.old, h.locs, h.distinct⟩

/-- A sync on a sub-communicator.  The model numbers the processes as the communicator of the remote indices numbers
them; processes of MPI_COMM_WORLD that are not part of that communicator appear (if at all) as further processes
`k, k+1, …` that know nobody.  They do not take part: for the first `k` processes the sync of the whole world is the
sync of these `k` processes alone — so every theorem of this file applies to the processes of the communicator by
themselves, whatever else exists in the world — and a process that nobody lists receives nothing: its index set and
remote indices are unchanged, only the sequence numbers advance. -/
theorem sync_subcommunicator (num : Int → Nat) (w : World) (k : Nat)
    (hidle : ∀ (p : Nat) (st : RankState), k ≤ p → w[p]? = some st → st.remote = []) :
    (∀ q, q < k → (sync num w)[q]? = (sync num (w.take k))[q]?) ∧
    (∀ (q : Nat) (st : RankState), w[q]? = some st →
      (∀ (p : Nat) (sp : RankState), w[p]? = some sp → isNeighbour sp.remote q = false) →
      (sync num w)[q]? = some (finish st)) := by
  refine ⟨fun q hq => ?_, fun q st hst h => ?_⟩
  · rw [sync_getElem?, sync_getElem?, List.getElem?_take, if_pos hq]
    cases w[q]? with
    | none => rfl
    | some st => simp only [Option.map_some, syncRank, inbox_take w k q hidle]
  · rw [sync_getElem?_some num hst, syncRank, inbox_unknown w q h]
    rfl

/-- The state after the sync is *determined* by a set-theoretic specification (`SyncSpec`, Proofs/C13Restore.lean —
the closure the harness' oracle computes): process `q` ends with exactly its old pairs plus one pair numbered by `num`
for every (global, attribute) some process believed it to hold and it did not; exactly its old remote indices plus,
for every such belief of a process `p`, `p` itself and every holder `p` listed; exactly the old neighbours plus the
processes of the new remote indices; everything strictly ascending; sequence numbers advanced and equal.  The sync
produces a state meeting this specification and no other state meets it — `sync_postcondition`, `sync_monotone`,
`sync_exact`, `sync_sorted` and `sync_synced` together leave no freedom. -/
theorem sync_determined (num : Int → Nat) (D : Decomp) (w : World) (hw : PartialView D w)
    (q : Nat) (sq : RankState) (hq : w[q]? = some sq) :
    ∃ sq', (sync num w)[q]? = some sq' ∧ SyncSpec num w q sq sq' ∧ ∀ s, SyncSpec num w q sq s → s = sq' := by
  have S := syncSpec_rank num hw q sq hq
  exact ⟨_, sync_getElem?_some num hq, S, fun s hs => syncSpec_unique hs S⟩

/-- The numbering of the processes is irrelevant.  Let `w'` be the world `w` with process `p` called `ρ p` (`ρ` a
permutation of the process numbers: another communicator over the same processes, e.g. `MPI_Comm_split` with a key or a
Cartesian communicator with reordering) — same index sets, and what `p` lists for `y` in `w`, `ρ p` lists for `ρ y` in
`w'`.  Then the states after the sync correspond in the same way.  Neither the order in which the messages are
processed (ascending source rank in fixed-order mode), nor the order of the neighbours in the remote index map, nor
the order of the (process, attribute) pairs inside a message — all of which follow the numbering — influence the
result. -/
theorem sync_numbering_irrelevant (num : Int → Nat) (D D' : Decomp) (ρ ρi : Nat → Nat) (w w' : World)
    (hw : PartialView D w) (hw' : PartialView D' w') (hP : PermOn w.length ρ ρi) (hR : Renumbered ρ w w') :
    Renumbered ρ (sync num w) (sync num w') := by
  refine ⟨by rw [sync_length, sync_length, hR.1], fun q tq htq => ?_⟩
  rw [sync_length]
  obtain ⟨sq, hsq, rfl⟩ := sync_getElem?_inv htq
  have hq : q < w.length := (List.getElem?_eq_some_iff.1 hsq).1
  obtain ⟨sq', hsq', hren⟩ := hR.2 q sq hsq
  refine ⟨_, sync_getElem?_some num hsq', ?_⟩
  have S := syncSpec_rank num hw q sq hsq
  have S' := syncSpec_rank num hw' (ρ q) sq' hsq'
  obtain ⟨ri, rs1, rs2, rl, rn⟩ := hren
  refine ⟨?_, ?_, ?_, ?_, ?_⟩
  · exact ext_of_sorted IdxEntry.g S'.idxSorted S.idxSorted fun e => by
      rw [S'.idx, S.idx, ri, belief_renumbered hR hP q hq]
  · rw [S'.idxSeq, S.idxSeq, rs1]
  · rw [S'.remSeq, S.remSeq, rs1]
  · intro y hy
    exact ext_of_sorted RemEntry.g (S'.remSorted _) (S.remSorted _) fun en => by
      rw [S'.rem, S.rem, rl y hy, beliefRem_renumbered hR hP q y hq hy]
  · intro y hy
    rw [Bool.eq_iff_iff, S'.nb, S.nb, rn y hy]
    exact or_congr Iff.rfl (exists_congr (beliefRem_renumbered hR hP q y hq hy))

/-! Non-vacuity: the hypotheses are satisfiable by a concrete non-trivial input.

Three ranks; index 3 owned by rank 0 with an overlap/copy on ranks 2/1, index 4 a copy everywhere, 6 owned by rank 1
with an overlap on rank 2, 1 private to rank 0.  Rank 1 deletes its copy of 3, rank 2 deletes 3 and 4. -/

def exD : Decomp := [[(1, 0), (3, 0), (4, 2)], [(3, 2), (4, 2), (6, 0)], [(3, 1), (4, 2), (6, 1)]]
def exDel : Nat → Int → Bool := fun p g => (p == 1 && g == 3) || (p == 2 && (g == 3 || g == 4))
def exW : World := deleteCopies exDel (consistent exD)
def exNum : Int → Nat := fun g => (1000 + g).toNat

theorem exWF : DecompWF exD := by unfold DecompWF; decide

/-- `PartialView` holds for the example (hypothesis of all theorems above) -/
example : PartialView exD exW := partialView_of_deleted exD exWF exDel

/-- rank 2 after the sync of the example, evaluated once -/
theorem exSync2 : (sync exNum exW)[2]? = some ⟨[⟨3, 1, 1003⟩, ⟨4, 2, 1004⟩, ⟨6, 1, 2⟩],
    [(0, [⟨3, 1, 0⟩, ⟨4, 2, 2⟩]), (1, [⟨3, 1, 2⟩, ⟨4, 2, 2⟩, ⟨6, 1, 0⟩])], 3, 3⟩ := by decide +kernel

/-- hypotheses of `sync_postcondition`: rank 0 still lists rank 2 for index 3, which rank 2 no longer holds -/
example : ∃ sp, exW[0]? = some sp ∧ (⟨3, 0, 1⟩ : RemEntry) ∈ listOf sp.remote 2 := ⟨_, rfl, by decide +kernel⟩
example : ∃ s2, exW[2]? = some s2 ∧ hasKey s2.idx 3 1 = false := ⟨_, rfl, by decide +kernel⟩
/-- ... and its conclusion, evaluated: rank 2 has index 3 (overlap) again and lists ranks 0 and 1 for it -/
example : ∃ s2, (sync exNum exW)[2]? = some s2 ∧ hasKey s2.idx 3 1 = true ∧
    (⟨3, 1, 0⟩ : RemEntry) ∈ listOf s2.remote 0 ∧ (⟨3, 1, 2⟩ : RemEntry) ∈ listOf s2.remote 1 :=
  ⟨_, exSync2, by decide +kernel⟩

/-- hypothesis of `order_irrelevant`: a processing order that really differs (rank 2 receives two non-empty messages) -/
example : (inbox exW 2).map (fun m => (m.1, m.2.length)) = [(0, 2), (1, 2)] := by decide +kernel
example : syncOrd (fun _ l => l.reverse) exNum exW = sync exNum exW :=
  order_irrelevant exNum exD exW (partialView_of_deleted exD exWF exDel) _ (fun _ => List.reverse_perm _)

example : (inbox exW 2).map (fun m => m.1) = [0, 1] :=
  sync_message_matching exD exW (partialView_of_deleted exD exWF exDel) (nbSym_of_deleted exD exWF exDel) 2 _ rfl

/-- in a world in which, after the deletions, rank 0 lists the copies that ranks 1 and 2 delete, every deleted copy is
still listed -/
theorem exListed_of (w : World)
    (h : ∃ s0, (deleteCopies exDel w)[0]? = some s0 ∧ (⟨3, 0, 2⟩ : RemEntry) ∈ listOf s0.remote 1 ∧
      (⟨3, 0, 1⟩ : RemEntry) ∈ listOf s0.remote 2 ∧ (⟨4, 2, 2⟩ : RemEntry) ∈ listOf s0.remote 2) :
    ∀ p g, exDel p g = true →
      ∃ (r : Nat) (sr : RankState) (en : RemEntry), (deleteCopies exDel w)[r]? = some sr ∧ en ∈ listOf sr.remote p ∧ en.g = g := by
  obtain ⟨s0, h0, h1, h2, h3⟩ := h
  intro p g h
  simp only [exDel, Bool.or_eq_true, Bool.and_eq_true, beq_iff_eq] at h
  rcases h with ⟨rfl, rfl⟩ | ⟨rfl, rfl | rfl⟩
  · exact ⟨0, s0, _, h0, h1, rfl⟩
  · exact ⟨0, s0, _, h0, h2, rfl⟩
  · exact ⟨0, s0, _, h0, h3, rfl⟩

/-- hypothesis of `restore_after_delete` for the example: every deleted copy is still listed by rank 0 -/
theorem exListed : ∀ p g, exDel p g = true → (exD.attrOf p g).isSome = true →
    ∃ (r : Nat) (sr : RankState) (en : RemEntry), (deleteCopies exDel (consistent exD))[r]? = some sr ∧ en ∈ listOf sr.remote p ∧ en.g = g :=
  fun p g h _ => exListed_of (consistent exD) ⟨_, rfl, by decide +kernel⟩ p g h

example : ∃ s', (sync exNum exW)[2]? = some s' ∧
    s'.idx.map (fun e => (e.g, e.attr)) = [(3, 1), (4, 2), (6, 1)] ∧
    s'.remote = [(0, [⟨3, 1, 0⟩, ⟨4, 2, 2⟩]), (1, [⟨3, 1, 2⟩, ⟨4, 2, 2⟩, ⟨6, 1, 0⟩])] := by
  obtain ⟨s', h1, h2, h3⟩ := restore_after_delete exNum exD exWF exDel exListed 2 _ rfl
  exact ⟨s', h1, h2, h3⟩

/-- the deletion really removed something on rank 2 (so the restoration is not trivial) -/
example : ∃ s2, exW[2]? = some s2 ∧ s2.idx.map (fun e => (e.g, e.attr)) = [(6, 1)] ∧
    s2.remote = [(0, []), (1, [⟨6, 1, 0⟩])] := ⟨_, rfl, by decide +kernel⟩

/-! `sync_subcommunicator`: the example world inside a larger MPI_COMM_WORLD — a fourth process, not part of the
communicator, with an index of its own -/
def exW4 : World := exW ++ [⟨[⟨7, 0, 0⟩], [], 1, 1⟩]

theorem exIdle : ∀ (p : Nat) (st : RankState), 3 ≤ p → exW4[p]? = some st → st.remote = [] := by
  intro p st hp h
  have hl : exW4.length = 4 := by decide +kernel
  have hp4 : p < 4 := hl ▸ (List.getElem?_eq_some_iff.1 h).1
  have : p = 3 := by omega
  subst this
  have : exW4[3]? = some ⟨[⟨7, 0, 0⟩], [], 1, 1⟩ := by decide +kernel
  rw [this] at h
  cases h
  rfl

/-- the three processes of the communicator get what they get without the fourth (rank 2 restores 3 and 4) ... -/
example : ∀ q, q < 3 → (sync exNum exW4)[q]? = (sync exNum exW)[q]? := by
  have h := (sync_subcommunicator exNum exW4 3 exIdle).1
  have e : exW4.take 3 = exW := List.take_left' (by decide +kernel)
  rw [e] at h
  exact h

/-- ... and the fourth keeps its index set -/
example : (sync exNum exW4)[3]? = some ⟨[⟨7, 0, 0⟩], [], 2, 2⟩ :=
  (sync_subcommunicator exNum exW4 3 exIdle).2 3 _ rfl (by
    intro p sp h
    have hl : exW4.length = 4 := by decide +kernel
    have hp4 : p < 4 := hl ▸ (List.getElem?_eq_some_iff.1 h).1
    have hall : ∀ p, p < 4 → ∀ sp, exW4[p]? = some sp → isNeighbour sp.remote 3 = false := by decide +kernel
    exact hall p hp4 sp h)

/-! `sync_determined` on the example: rank 2's state after the sync meets the specification -/
example : ∃ s2, SyncSpec exNum exW 2 (exW[2]?.getD ⟨[], [], 0, 0⟩) s2 ∧ s2.idx = [⟨3, 1, 1003⟩, ⟨4, 2, 1004⟩, ⟨6, 1, 2⟩] := by
  obtain ⟨s2, h1, h2, _⟩ := sync_determined exNum exD exW (partialView_of_deleted exD exWF exDel) 2 _ rfl
  cases exSync2.symm.trans h1
  exact ⟨_, h2, rfl⟩

/-! `sync_numbering_irrelevant`: the example world with the processes 0, 1, 2 called 2, 0, 1 -/
def exRho : Nat → Nat := fun p => if p = 0 then 2 else if p = 1 then 0 else if p = 2 then 1 else p
def exRhoInv : Nat → Nat := fun p => if p = 0 then 1 else if p = 1 then 2 else if p = 2 then 0 else p
def exDρ : Decomp := [[(3, 2), (4, 2), (6, 0)], [(3, 1), (4, 2), (6, 1)], [(1, 0), (3, 0), (4, 2)]]
def exDelρ : Nat → Int → Bool := fun p g => (p == 0 && g == 3) || (p == 1 && (g == 3 || g == 4))
def exWρ : World := deleteCopies exDelρ (consistent exDρ)

theorem exWFρ : DecompWF exDρ := by unfold DecompWF; decide
theorem exPerm : PermOn exW.length exRho exRhoInv := by unfold PermOn; decide

theorem exRen : Renumbered exRho exW exWρ :=
  renumbered_of_forall _ _ _ (by decide +kernel) (by decide +kernel)

example : Renumbered exRho (sync exNum exW) (sync exNum exWρ) :=
  sync_numbering_irrelevant exNum exD exDρ exRho exRhoInv exW exWρ (partialView_of_deleted exD exWF exDel)
    (partialView_of_deleted exDρ exWFρ exDelρ) exPerm exRen

/-- ... evaluated: what process 2 lists for 0 and 1 after the sync, process 1 = ρ 2 of the renumbered world lists for
2 = ρ 0 and 0 = ρ 1 (so the order of the two lists in the map is the other way round) -/
example : ((sync exNum exW)[2]?).map (·.remote) = some [(0, [⟨3, 1, 0⟩, ⟨4, 2, 2⟩]), (1, [⟨3, 1, 2⟩, ⟨4, 2, 2⟩, ⟨6, 1, 0⟩])] ∧
    ((sync exNum exWρ)[1]?).map (·.remote) = some [(0, [⟨3, 1, 2⟩, ⟨4, 2, 2⟩, ⟨6, 1, 0⟩]), (2, [⟨3, 1, 0⟩, ⟨4, 2, 2⟩])] :=
  ⟨by rw [exSync2]; rfl, by decide +kernel⟩

/-! The bytes: statements about the field layouts regenerated from the source (Gen/C13.lean, tr_c13.py). -/

/-- The receiver reads exactly what the sender wrote: `recvAndUnpack` unpacks, per message, per published index and
per (process, attribute) pair, fields of the same types in the same order as `packAndSend` packs them - so a message
is decoded as the item list the protocol model lets it be. -/
theorem wire_unpack_matches_pack : Gen.unpackLayout = Gen.packLayout := by decide +kernel

/-- The send buffer never overflows: for every number of published indices and pairs and whatever the packed size of
an int, a char and a global index is, `calculateMessageSizes` reserves at least the bytes `packAndSend` writes. -/
theorem wire_buffer_sufficient (sz : WireTy → Nat) (publish pairs : Nat) :
    Gen.packLayout.bytes sz publish pairs ≤ Gen.sizeLayout.bytes sz publish pairs :=
  bytes_le_of_covers sz Gen.packLayout Gen.sizeLayout (by decide +kernel) (by decide +kernel) (by decide +kernel) publish pairs

/-- non-vacuity: the layouts are not empty - a message carries a count, per index a global index, the sender's
attribute and a pair count, per pair a process and an attribute -/
example : Gen.packLayout.header.length = 1 ∧ Gen.packLayout.perIndex.length = 3 ∧ Gen.packLayout.perPair.length = 2 ∧
    Gen.packLayout.perIndex.count .global = 1 := by decide +kernel

/-- hypotheses of `receives_commute`: rank 2's state and two true items from different sources -/
def exS2 : RankState := exW[2]?.getD ⟨[], [], 0, 0⟩
example : receiveItem exNum 2 1 (receiveItem exNum 2 0 exS2 ⟨3, 0, [(1, 2), (2, 1)]⟩) ⟨4, 2, [(0, 2), (2, 2)]⟩ =
    receiveItem exNum 2 0 (receiveItem exNum 2 1 exS2 ⟨4, 2, [(0, 2), (2, 2)]⟩) ⟨3, 0, [(1, 2), (2, 1)]⟩ :=
  receives_commute exNum exD 3 2 exS2 (partialView_of_deleted exD exWF exDel 2 exS2 rfl)
    (0, ⟨3, 0, [(1, 2), (2, 1)]⟩) (1, ⟨4, 2, [(0, 2), (2, 2)]⟩)
    ⟨rfl, by decide +kernel, by decide +kernel, by decide +kernel⟩ ⟨rfl, by decide +kernel, by decide +kernel, by decide +kernel⟩

/-- a grown decomposition: index 9, owned by rank 0, with copies on ranks 1 and 2 that do not exist yet -/
def exD' : Decomp := List.zipWith (· ++ ·) exD [[(9, 0)], [(9, 2)], [(9, 1)]]
theorem exLe : DecompLe exD exD' := decompLe_zipWith_append exD _ (by decide +kernel)

/-- rank 0 adds index 9 and announces it to its neighbours 1 and 2 -/
def exW' : World := addCopyAt exW 0 9 0 509 [(1, 2), (2, 1)]

theorem exNew0 : ∀ st, exW[0]? = some st → ∀ e ∈ st.idx, e.g ≠ 9 := by
  have h : ∀ e ∈ ((exW[0]?).map (·.idx)).getD [], e.g ≠ 9 := by decide +kernel
  intro st hst e he
  exact h e (by rw [hst]; exact he)

/-- hypotheses of `partialView_of_added` (and of `partialView_of_grown`) -/
theorem exPV' : PartialView exD' exW' :=
  partialView_of_added exD' exW (partialView_of_grown exD exD' exW (partialView_of_deleted exD exWF exDel) exLe)
    0 9 0 509 _ rfl exNew0 (known_of_forall exD' 9 _ (by decide +kernel))

/-- ... the announced copies are really new, and the sync creates them on ranks 1 and 2, which list each other for 9 -/
example : ∃ s1, exW'[1]? = some s1 ∧ hasKey s1.idx 9 2 = false := ⟨_, rfl, by decide +kernel⟩
example : ∃ s1, (sync exNum exW')[1]? = some s1 ∧ hasKey s1.idx 9 2 = true ∧
    (⟨9, 2, 0⟩ : RemEntry) ∈ listOf s1.remote 0 ∧ (⟨9, 2, 1⟩ : RemEntry) ∈ listOf s1.remote 2 := by
  obtain ⟨s1, h1, h2, h3, h4⟩ := sync_postcondition exNum exD' exW' exPV' 0 1 _ rfl ⟨9, 0, 2⟩ (by decide +kernel)
  exact ⟨s1, h1, h2, h3, h4 2 ⟨9, 0, 1⟩ (by decide +kernel) (by decide +kernel) rfl⟩

/-- hypotheses of `history_invariant`: delete, announce, sync in reversed processing order, delete again, sync -/
def exSteps : List Step :=
  [.delete exDel, .add 0 9 0 509 [(1, 2), (2, 1)], .syncOrd (fun _ l => l.reverse) exNum, .delete exDel, .sync exNum]

example : PartialView exD' (runSteps exSteps (consistent exD)) ∧ NbSym (runSteps exSteps (consistent exD)) :=
  history_invariant exD' exSteps (consistent exD)
    (partialView_of_grown exD exD' _ (partialView_consistent exWF) exLe) (nbSym_consistent exWF)
    ⟨trivial, ⟨rfl, exNew0, known_of_forall exD' 9 _ (by decide +kernel)⟩, fun _ => List.reverse_perm _, trivial, trivial, trivial⟩

/-- hypotheses of `restore_after_delete_any`, second round: the state after one delete-and-sync round (restored pairs
carry the numbers 1003, 1004) is deleted from again and synced with another numbering -/
theorem exRound1 : Shape (sync exNum exW) (consistent exD) :=
  (restore_after_delete_any exNum exD exWF (consistent exD) (Shape.refl _) exDel exListed).1

example : ∃ s2, (sync exNum exW)[2]? = some s2 ∧ s2.idx = [⟨3, 1, 1003⟩, ⟨4, 2, 1004⟩, ⟨6, 1, 2⟩] := ⟨_, exSync2, rfl⟩

theorem exListed2 : ∀ p g, exDel p g = true → (exD.attrOf p g).isSome = true →
    ∃ (r : Nat) (sr : RankState) (en : RemEntry),
      (deleteCopies exDel (sync exNum exW))[r]? = some sr ∧ en ∈ listOf sr.remote p ∧ en.g = g :=
  fun p g h _ => exListed_of (sync exNum exW) ⟨_, rfl, by decide +kernel⟩ p g h

example : ∃ s2, (sync (fun g => (2000 + g).toNat) (deleteCopies exDel (sync exNum exW)))[2]? = some s2 ∧
    s2.idx = [⟨3, 1, 2003⟩, ⟨4, 2, 2004⟩, ⟨6, 1, 2⟩] := by
  have h := (restore_after_delete_any (fun g => (2000 + g).toNat) exD exWF (sync exNum exW) exRound1 exDel exListed2).2
    2 _ _ exSync2 rfl
  exact ⟨_, rfl, h.trans (by decide +kernel)⟩

/-- the counting numberer on the example: rank 2 restores two indices with the numbers 2000 and 2001, two calls -/
example : ((syncS (countingNumberer 2000) exW [0, 0, 0])[2]?).map (fun x => (x.1.idx, x.2)) =
    some ([⟨3, 1, 2000⟩, ⟨4, 2, 2001⟩, ⟨6, 1, 2⟩], 2) := by decide +kernel

/-- the slot-recycling numberer of the harness on the example: rank 2 had the slots 0 and 1 freed by its deletions and
gets them back, two calls, free list empty afterwards -/
example : ((syncS (counted slotNumberer) exW [(([], 3000), 0), (([0], 3000), 0), (([0, 1], 3000), 0)])[2]?).map
    (fun x => (x.1.idx, x.2)) = some ([⟨3, 1, 0⟩, ⟨4, 2, 1⟩, ⟨6, 1, 2⟩], (([], 3000), 2)) := by decide +kernel

/-! Statement order, branch conditions and counting increments of the source, read as data (Gen/C13.lean, tr_c13.py) and
tied to the protocol model. -/

/-- **Statement order of `sync(numberer, useFixedOrder)`**, regenerated from the source: the message sizes are computed
once and before the packing loop; packing and receiving are two different loops over *all* old neighbours (start 0,
`<` number of old neighbours, step 1), the first finished before the second begins — so every message is packed from
the pre-sync state and no process waits before all its messages are on their way (what `inbox` assumes); the receives
lie between `beginResize` and `endResize` (one resize: `finish`); `repairLocalIndexPointers` runs after `endResize` and
not after `globalMap_` was emptied (`resolve`); `iteratorsMap_`, `oldMap_`, `addedIndices_`, `globalMap_`, `infoSend_` are
each emptied exactly once per sync, unconditionally, before their first or after their last use (a second sync on
the same object behaves like the first: histories are compositions of `sync`); both sequence numbers are taken from the
index set after `endResize` (`isSynced`); the wait for the synchronous sends comes after the receives. -/
theorem sync_phases_sound :
    syncPhasesOK Gen.syncPhases = true ∧ Gen.packLoop.full = true ∧ Gen.recvLoop.full = true := by decide +kernel

/-- non-vacuity: the predicate rejects orders the model does not describe - receiving before all messages are packed
(one loop doing both), a member that is not emptied (the object-reuse defect of `fixes/C13_syncer_object_reusable.patch`),
repair before the index set is sorted again -, the generated list has all 15 events, and an equivalent order is
accepted (`infoSend_` emptied at the start of `sync` instead of at its end) -/
example : syncPhasesOK (Gen.syncPhases.map fun e => if e.ph == .recv then { e with loop := 2 } else e) = false ∧
    syncPhasesOK (Gen.syncPhases.filter fun e => e.ph != .clearInfo) = false ∧
    syncPhasesOK (Gen.syncPhases.map fun e =>
      if e.ph == .repair then { e with ph := .endResize } else if e.ph == .endResize then { e with ph := .repair } else e) = false ∧
    Gen.syncPhases.length = 15 ∧
    syncPhasesOK ((⟨.clearInfo, 0, false⟩ : SyncEv) :: Gen.syncPhases.filter fun e => e.ph != .clearInfo) = true := by decide +kernel

/-- **Branch conditions of `insertIntoRemoteIndexList`**, regenerated from the source: the control-flow skeleton the
translator checks (advance / insert-and-return / scan the run of equal keys / insert unless found) with the
conditions found in the source *is* the `insertEntry` of the protocol model, on every list - so every theorem above
that goes through `insertEntry` (all of them, via `insertRemote`) is about the comparisons the code makes. -/
theorem insert_conditions_tied (n : RemEntry) (l : List RemEntry) :
    insertEntryG Gen.insertConds n l = insertEntry n l := by
  have h : Gen.insertConds = InsertConds.reference := by decide +kernel
  rw [h]
  exact insertEntryG_reference n l

/-- non-vacuity: other conditions give other functions (`<=` in the advancing loop duplicates a known entry, `==` in
place of `!=` duplicates too, a dropped negation in the last test duplicates) -/
example : insertEntryG ⟨.le, .ne, .eq, .eq, true⟩ ⟨3, 1, 0⟩ [⟨3, 1, 0⟩] ≠ insertEntry ⟨3, 1, 0⟩ [⟨3, 1, 0⟩] ∧
    insertEntryG ⟨.lt, .eq, .eq, .eq, true⟩ ⟨5, 1, 0⟩ [⟨5, 1, 0⟩] ≠ insertEntry ⟨5, 1, 0⟩ [⟨5, 1, 0⟩] ∧
    insertEntryG ⟨.lt, .ne, .eq, .eq, false⟩ ⟨3, 1, 0⟩ [⟨3, 1, 0⟩] ≠ insertEntry ⟨3, 1, 0⟩ [⟨3, 1, 0⟩] ∧
    insertEntry ⟨4, 2, 1⟩ [⟨3, 1, 0⟩, ⟨6, 1, 0⟩] = [⟨3, 1, 0⟩, ⟨4, 2, 1⟩, ⟨6, 1, 0⟩] := by decide +kernel

/-- **The counters of `calculateMessageSizes` are the counts of the message that is packed.**  `calcInfo` is the
counting loop (for every index in order, for every holder `h` of it: `infoSend_[h].publish += …`,
`infoSend_[h].pairs += …`) with the increments regenerated from the source; `itemsFor st q` is the message the model
lets `packAndSend(q)` write.  For every process count, every partial view, every process and every destination the
two agree: number of published indices and total number of pairs - the assertions `published == infoSend_[…].publish`
and `pairs == infoSend_[…].pairs` of `packAndSend` can never fire. -/
theorem sizes_match_messages (D : Decomp) (w : World) (hw : PartialView D w) (p : Nat) (st : RankState)
    (hp : w[p]? = some st) (q : Nat) :
    calcInfo Gen.sizeIncr st q = msgCounts (itemsFor st q) := by
  have h : Gen.sizeIncr = CountIncr.reference := by decide +kernel
  rw [h]
  exact calcInfo_reference st ((hw p st hp).rem.nbSorted.imp (fun h => Nat.ne_of_lt h)) q

/-- **The send buffer fits the real message** (`wire_buffer_sufficient` for the counts that occur): whatever the
packed size of an int, a char and a global index, the bytes `packAndSend(q)` writes for the message of the model are
at most the bytes `calculateMessageSizes` reserved from *its own* counters. -/
theorem wire_message_fits (sz : WireTy → Nat) (D : Decomp) (w : World) (hw : PartialView D w) (p : Nat)
    (st : RankState) (hp : w[p]? = some st) (q : Nat) :
    Gen.packLayout.bytes sz (msgCounts (itemsFor st q)).1 (msgCounts (itemsFor st q)).2 ≤
      Gen.sizeLayout.bytes sz (calcInfo Gen.sizeIncr st q).1 (calcInfo Gen.sizeIncr st q).2 := by
  rw [sizes_match_messages D w hw p st hp q]
  exact wire_buffer_sufficient sz _ _

/-- non-vacuity: in the example process 0 publishes two indices with two holders each to process 2 (and the same to
process 1), nothing to itself; counted pairs differ from published indices -/
example : ∃ s0, exW[0]? = some s0 ∧ calcInfo Gen.sizeIncr s0 2 = (2, 4) ∧ msgCounts (itemsFor s0 2) = (2, 4) ∧
    calcInfo Gen.sizeIncr s0 0 = (0, 0) := ⟨_, rfl, by decide +kernel, by decide +kernel, by decide +kernel⟩

end DV.C13
