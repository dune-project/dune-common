/-
C17 — property theorems: tolerant comparison, rounding and the integer helpers satisfy their laws.

`K` is an arbitrary linearly ordered field; `eqS s`, `neS s`, `ltS s`, … are `FloatCmp::eq<T,style>` … of the model,
whose formulas are the definitions generated from float_cmp.cc (`Gen/C17.lean`).  `tol s a b e` is the documented
tolerance of the style (`e·max(|a|,|b|)`, `e·min(|a|,|b|)`, `e`), `IsTrunc tr` states that `tr` is the C++ conversion
`I(val)`.  Integer helpers: `IType` = signedness and width, result `none` = some intermediate value is not representable.

`round` / `trunc` are the algorithms over mathematical integers; `roundM t` / `truncM t` are the same statements with the
integer target type `t` explicit (values stored in an `I` variable are reduced as the type does) — what the driver executes.
Section "The integer target type made explicit" ties the two together (`roundM_eq_round`, `truncM_eq_trunc`, `round_of_fits`,
`trunc_of_fits_nonneg`) and proves what happens where a stored value wraps around: an unsigned type and an argument in (-1,0)
(`trunc_unsigned_neg_up`, `round_unsigned_neg`), the ends of the range of unsigned and narrow types (`trunc_unsigned_top_down`,
`trunc_narrow_bottom_up`, `trunc_snap_conversion`).

Three layers carry the quantifier "for all pairs of values of a floating type":
* the theorems over an arbitrary ordered field `K` (exact arithmetic: documented definitions, algebra, rounding laws);
* the `rat_…` theorems: the functions the driver executes on exact inputs (`eqRat`, `roundRat`, … of Model/C17.lean,
  compiled against core Lean's `Rat`) ARE the generic functions at `K = ℚ`, so the field theorems speak about the very
  values the harness compares with the C++ results;
* the `fp_…` theorems: the comparison algebra holds verbatim in the rounding arithmetic `FP f` of every binary
  floating-point format `f` (binary32/64, x87 extended, the harness' 8-bit format), for all finite operands — no
  exactness assumption.  (The documented *definitions* and the distance/direction laws of round/trunc are statements
  about real numbers and are proved in exact arithmetic only.)
-/
import DuneVerif.Proofs.C17
import DuneVerif.Proofs.C17Int
import DuneVerif.Proofs.C17RT
import Mathlib.Algebra.Order.Field.Rat
import Mathlib.Algebra.Order.Field.Power
import Mathlib.Algebra.Order.Floor.Ring
import Mathlib.Data.Rat.Floor

-- every statement of a section takes the instance arguments of its one `variable` line, needed or not; `and_comm` /
-- `or_comm` handed to `simp` (`gt_def`, `ge_def`) are unused for the present order of the operands in the source
set_option linter.unusedSectionVars false
set_option linter.unusedSimpArgs false
namespace DV.C17
open Nat

section comparisons
variable {K : Type} [Field K] [LinearOrder K] [IsStrictOrderedRing K]

/-- the generated formulas are the documented definitions:
    `eq(a,b) ⇔ |a-b| ≤ ε·max(|a|,|b|)` (relativeWeak), `… ε·min(|a|,|b|)` (relativeStrong), `… ε` (absolute) -/
theorem eq_def (s : Style) (a b e : K) : eqS s a b e = true ↔ |a - b| ≤ tol s a b e := eqS_iff s a b e

example : eqS .relativeWeak (1 : ℚ) (3/2) (1/2) = true := by decide +kernel
example : eqS .relativeStrong (1 : ℚ) (3/2) (1/3) = false := by decide +kernel
example : eqS .relativeWeak (Dy.mk2 1 0) (Dy.mk2 3 (-1)) (Dy.mk2 1 (-1)) = true := by decide +kernel

/-- enum documentation of relativeWeak: `|a-b|/|a| ≤ ε || |a-b|/|b| ≤ ε` (written without the division) -/
theorem eq_weak_iff_or (a b e : K) (h : 0 ≤ e) :
    eqS .relativeWeak a b e = true ↔ (|a - b| ≤ e * |a| ∨ |a - b| ≤ e * |b|) := by
  rw [eqS_iff]; simp only [tol]
  rw [mul_max_of_nonneg _ _ h, le_max_iff]

/-- enum documentation of relativeStrong: `|a-b|/|a| ≤ ε && |a-b|/|b| ≤ ε` -/
theorem eq_strong_iff_and (a b e : K) (h : 0 ≤ e) :
    eqS .relativeStrong a b e = true ↔ (|a - b| ≤ e * |a| ∧ |a - b| ≤ e * |b|) := by
  rw [eqS_iff]; simp only [tol]
  rw [mul_min_of_nonneg _ _ h, le_min_iff]

theorem eq_strong_imp_weak (a b e : K) (h : 0 ≤ e) (hs : eqS .relativeStrong a b e = true) :
    eqS .relativeWeak a b e = true := by
  rw [eq_strong_iff_and a b e h] at hs
  rw [eq_weak_iff_or a b e h]; exact Or.inl hs.1

theorem eq_symm (s : Style) (a b e : K) : eqS s a b e = eqS s b a e := eqS_symm s a b e

theorem eq_refl (s : Style) (a e : K) (h : 0 ≤ e) : eqS s a a e = true := eqS_refl s a e h

theorem ne_not_eq (s : Style) (a b e : K) : neS s a b e = !eqS s a b e := rfl

/-- documented: `lt = ne && first < second`, `gt = ne && first > second` -/
theorem lt_def (s : Style) (a b e : K) : ltS s a b e = true ↔ (a < b ∧ eqS s a b e = false) := ltS_iff s a b e
theorem gt_def (s : Style) (a b e : K) : gtS s a b e = true ↔ (b < a ∧ eqS s a b e = false) := by
  simp [gtS, Gen.gt, Gen.ne, and_comm]
/-- documented: `le = eq || first < second`, `ge = eq || first > second` -/
theorem le_def (s : Style) (a b e : K) : leS s a b e = true ↔ (a < b ∨ eqS s a b e = true) := leS_iff s a b e
theorem ge_def (s : Style) (a b e : K) : geS s a b e = true ↔ (b < a ∨ eqS s a b e = true) := by
  simp [geS, Gen.ge, or_comm]

theorem trichotomy (s : Style) (a b e : K) (h : 0 ≤ e) :
    (ltS s a b e = true ∧ eqS s a b e = false ∧ gtS s a b e = false) ∨
    (ltS s a b e = false ∧ eqS s a b e = true ∧ gtS s a b e = false) ∨
    (ltS s a b e = false ∧ eqS s a b e = false ∧ gtS s a b e = true) :=
  trichotomy_of s a b e (tri_of_linear a b) (eqS_refl s a e h)

-- all three cases occur …
example : ltS .absolute (1 : ℚ) 2 (1/2) = true := by decide +kernel
example : eqS .absolute (1 : ℚ) 2 1 = true := by decide +kernel
example : gtS .absolute (2 : ℚ) 1 (1/2) = true := by decide +kernel
-- … and the hypothesis `0 ≤ ε` is needed: with a negative epsilon none of the three holds for equal operands
example : ltS .absolute (1 : ℚ) 1 (-1) = false ∧ eqS .absolute (1 : ℚ) 1 (-1) = false ∧ gtS .absolute (1 : ℚ) 1 (-1) = false := by decide +kernel

theorem le_iff_lt_or_eq (s : Style) (a b e : K) : leS s a b e = (ltS s a b e || eqS s a b e) := leS_eq s a b e

theorem ge_iff (s : Style) (a b e : K) : geS s a b e = (gtS s a b e || eqS s a b e) := geS_eq s a b e

theorem lt_iff_gt_swap (s : Style) (a b e : K) : ltS s a b e = gtS s b a e := ltS_eq_gtS_swap s (eqS_symm s a b e)

/-- `std::vector`: equal iff the sizes agree and every pair of components is equal -/
theorem vec_eq_conj (s : Style) (a b : List K) (e : K) :
    eqVec s a b e = true ↔ a.length = b.length ∧
      ∀ (i : Nat) (ha : i < a.length) (hb : i < b.length), eqS s a[i] b[i] e = true := eqVec_iff s a b e

/-- `FieldVector<T,n>`: equal iff every pair of components is equal.  `h` is the common `n` of the two operands; the loop
    stops at the shorter operand, so the proof does not use it -/
theorem fvec_eq_conj (s : Style) (a b : List K) (e : K) (h : a.length = b.length) :
    eqFV s a b e = true ↔ ∀ (i : Nat) (ha : i < a.length) (hb : i < b.length), eqS s a[i] b[i] e = true :=
  eqLoop_iff s a b e

example : eqVec .absolute [(1 : ℚ), 2] [1, 5/2] 1 = true := by decide +kernel

theorem vec_ne_not_eq (s : Style) (a b : List K) (e : K) : neVec s a b e = !eqVec s a b e := rfl
theorem fvec_ne_not_eq (s : Style) (a b : List K) (e : K) : neFV s a b e = !eqFV s a b e := rfl

theorem vec_eq_symm (s : Style) (a b : List K) (e : K) : eqVec s a b e = eqVec s b a e :=
  eqVec_symm_of s a b e fun x _ y _ => eqS_symm s x y e

theorem vec_eq_refl (s : Style) (a : List K) (e : K) (h : 0 ≤ e) : eqVec s a a e = true := by
  rw [vec_eq_conj]; exact ⟨rfl, fun i _ _ => eqS_refl s _ e h⟩

/-- `std::vector` (ordered lexicographically by `operator<`): exactly one of less / equal / greater -/
theorem vec_trichotomy (s : Style) (a b : List K) (e : K) (h : 0 ≤ e) :
    (ltVec s a b e = true ∧ eqVec s a b e = false ∧ gtVec s a b e = false) ∨
    (ltVec s a b e = false ∧ eqVec s a b e = true ∧ gtVec s a b e = false) ∨
    (ltVec s a b e = false ∧ eqVec s a b e = false ∧ gtVec s a b e = true) :=
  vec_trichotomy_of s a b e (fun x _ y _ => tri_of_linear x y) (fun x _ => eqS_refl s x e h)

theorem vec_le_iff (s : Style) (a b : List K) (e : K) : leVec s a b e = (ltVec s a b e || eqVec s a b e) := leVec_eq s a b e

theorem vec_ge_iff (s : Style) (a b : List K) (e : K) : geVec s a b e = (gtVec s a b e || eqVec s a b e) := geVec_eq s a b e

end comparisons

/-- the default epsilons read off float_cmp.cc (for float, double, long double and the harness' 8-bit type) are
    non-negative, so the laws above apply to calls that omit the epsilon argument -/
theorem defaultEps_nonneg :
    (0 : Dy) ≤ Gen.defaultEps_relativeWeak_f32 ∧ (0 : Dy) ≤ Gen.defaultEps_relativeWeak_f64 ∧
    (0 : Dy) ≤ Gen.defaultEps_relativeStrong_f32 ∧ (0 : Dy) ≤ Gen.defaultEps_relativeStrong_f64 ∧
    (0 : Dy) ≤ Gen.defaultEps_absolute_f32 ∧ (0 : Dy) ≤ Gen.defaultEps_absolute_f64 ∧
    (0 : Dy) ≤ Gen.defaultEps_relativeWeak_f80 ∧ (0 : Dy) ≤ Gen.defaultEps_relativeStrong_f80 ∧
    (0 : Dy) ≤ Gen.defaultEps_absolute_f80 ∧ (0 : Dy) ≤ Gen.defaultEps_relativeWeak_mf8 ∧
    (0 : Dy) ≤ Gen.defaultEps_relativeStrong_mf8 ∧ (0 : Dy) ≤ Gen.defaultEps_absolute_mf8 := by decide +kernel

section rounding
variable {K : Type} [Field K] [LinearOrder K] [IsStrictOrderedRing K]

theorem round_of_near_integer (s : Style) (rs : RStyle) (tr : K → Int) (x e : K)
    (h : eqS s ((tr x : Int) : K) x e = true) : round s rs tr x e = tr x := by
  rw [round_eq_roundBy]; exact roundBy_of_eq _ s tr x e h

theorem round_within (s : Style) (rs : RStyle) {tr : K → Int} (htr : IsTrunc tr) (x e : K) (h0 : 0 ≤ e) :
    |((round s rs tr x e : Int) : K) - x| < 1 ∧
    (eqS s ((round s rs tr x e : Int) : K) x e = true ∨ |((round s rs tr x e : Int) : K) - x| ≤ 1 / 2 + e / 2) := by
  cases hE : eqS s ((tr x : Int) : K) x e
  · obtain ⟨hl, hu⟩ := strict_bracket s htr x e h0 hE
    rw [round_eq_roundBy, roundBy_floor _ s tr x e hE]
    have h := choice_within s _ x e _ h0 hl hu (tieCmp_of_ne s rs x)
    exact ⟨h.1, Or.inr h.2⟩
  · rw [round_of_near_integer s rs tr x e hE]
    exact ⟨trunc_abs_lt_one htr x, Or.inl hE⟩

theorem round_nearest (s : Style) (rs : RStyle) {tr : K → Int} (htr : IsTrunc tr) (x e : K) (l : Int)
    (hl : (l : K) < x) (hu : x < (l : K) + 1) (hne : eqS s ((tr x : Int) : K) x e = false)
    (hnt : eqS s (x - (l : K)) ((l : K) + 1 - x) e = false) :
    round s rs tr x e = if x - (l : K) < (l : K) + 1 - x then l else l + 1 := by
  rw [round_eq_roundBy, roundBy_floor _ s tr x e hne, floorOf_eq htr hl.le hu, tieCmp_of_ne s rs x hnt]
  simp only [decide_eq_true_eq]

theorem round_tie (s : Style) (rs : RStyle) {tr : K → Int} (htr : IsTrunc tr) (x e : K) (l : Int)
    (hl : (l : K) < x) (hu : x < (l : K) + 1) (hne : eqS s ((tr x : Int) : K) x e = false)
    (ht : eqS s (x - (l : K)) ((l : K) + 1 - x) e = true) :
    round s rs tr x e = tieChoice rs x l := by
  have hle : leS s (x - (l : K)) ((l : K) + 1 - x) e = true := (leS_iff s _ _ e).mpr (Or.inr ht)
  have hlt : ltS s (x - (l : K)) ((l : K) + 1 - x) e = false := by
    rw [Bool.eq_false_iff, Ne, ltS_iff, ht]; exact fun h => Bool.noConfusion h.2
  rw [round_eq_roundBy, roundBy_floor _ s tr x e hne, floorOf_eq htr hl.le hu]
  cases rs <;> simp only [tieCmp, tieChoice, Int.cast_zero, gt_iff_lt] <;> (try split) <;>
    simp only [hle, hlt, if_true, Bool.false_eq_true, if_false]

theorem round_int (s : Style) (rs : RStyle) {tr : K → Int} (htr : IsTrunc tr) (n : Int) (e : K) (h0 : 0 ≤ e) :
    round s rs tr (n : K) e = n := by
  rw [round_of_near_integer s rs tr (n : K) e (by rw [htr.apply_intCast]; exact eqS_refl s _ e h0), htr.apply_intCast]

/-- truncation toward zero exists in every floor ring (non-vacuity of `IsTrunc`) -/
theorem isTrunc_floor_ceil [FloorRing K] : IsTrunc (fun x : K => if 0 ≤ x then ⌊x⌋ else ⌈x⌉) := by
  intro x
  constructor
  · intro h; simp only [h, if_true]; exact ⟨Int.floor_le x, Int.lt_floor_add_one x⟩
  · intro h
    by_cases h0 : 0 ≤ x
    · have hx : x = 0 := le_antisymm h h0
      subst hx; simp
    · simp only [h0, if_false]
      exact ⟨Int.le_ceil x, sub_lt_iff_lt_add.mpr (Int.ceil_lt_add_one x)⟩

/-- the truncation used in the examples -/
def trQ : ℚ → Int := fun x => if 0 ≤ x then ⌊x⌋ else ⌈x⌉
theorem trQ_isTrunc : IsTrunc trQ := isTrunc_floor_ceil

-- 5/2 with epsilon 1/10 (absolute): a tie; downward gives 2, upward 3, towardZero 2, towardInf 3
example : round .absolute .downward trQ (5/2) (1/10) = 2 ∧ round .absolute .upward trQ (5/2) (1/10) = 3 ∧
    round .absolute .towardZero trQ (5/2) (1/10) = 2 ∧ round .absolute .towardInf trQ (5/2) (1/10) = 3 := by decide +kernel

/-- closed form of `trunc<downward>` (`l = ⌊x⌋`): an integer argument is returned unchanged; otherwise `l+1` if the
    argument is equal to it within epsilon, else `l` -/
theorem trunc_downward_spec (s : Style) {tr : K → Int} (htr : IsTrunc tr) (x e : K) (l : Int)
    (hl : (l : K) ≤ x) (hu : x < (l : K) + 1) :
    trunc s false .downward tr x e = if (l : K) = x then l else if eqS s ((l : K) + 1) x e then l + 1 else l :=
  truncDown_eq s htr x e l hl hu

theorem trunc_upward_spec (s : Style) {tr : K → Int} (htr : IsTrunc tr) (x e : K) (l : Int) (h0 : 0 ≤ e)
    (hl : (l : K) ≤ x) (hu : x < (l : K) + 1) :
    trunc s false .upward tr x e =
      if (l : K) = x then l else
      if eqS s ((l : K) + 1) x e then l + 1 else if eqS s (l : K) x e then l else l + 1 :=
  truncUp_eq s htr x e l h0 hl hu

/-- integers are fixed points of `trunc` in every comparison and rounding style, for EVERY magnitude and every
    epsilon ≥ 0 (before fixes/C17_trunc_large.patch an integer `n` with `eq(n+1, n)`, i.e. `1 ≤ ε·|n|` resp. `1 ≤ ε`,
    was moved to `n+1`: `trunc<int,float>(2000000.f) = 2000001` with the default epsilon) -/
theorem trunc_int (s : Style) (rs : RStyle) {tr : K → Int} (htr : IsTrunc tr) (n : Int) (e : K) (h0 : 0 ≤ e) :
    trunc s false rs tr (n : K) e = n := by
  have h := trunc_of_exact s rs tr (n : K) e (by rw [htr.apply_intCast]) (lt_irrefl _) (eqS_refl s _ e h0)
  rwa [htr.apply_intCast] at h

theorem trunc_direction_downward (s : Style) {tr : K → Int} (htr : IsTrunc tr) (x e : K) :
    let r := trunc s false .downward tr x e
    (((r : Int) : K) ≤ x ∨ eqS s ((r : Int) : K) x e = true) ∧ x - 1 < ((r : Int) : K) ∧ ((r : Int) : K) ≤ x + 1 := by
  intro r
  obtain ⟨hl, hu⟩ := floorOf_spec htr x
  rcases truncDown_floor_cases s htr x e with h | ⟨h, h1⟩
  · have hr : r = floorOf tr x := h
    rw [hr]; exact ⟨Or.inl hl, near_floor_bounds hl hu (Or.inl rfl)⟩
  · have hr : r = floorOf tr x + 1 := h
    rw [hr]; exact ⟨Or.inr h1, near_floor_bounds hl hu (Or.inr rfl)⟩

theorem trunc_direction_upward (s : Style) {tr : K → Int} (htr : IsTrunc tr) (x e : K) (h0 : 0 ≤ e) :
    let r := trunc s false .upward tr x e
    (x ≤ ((r : Int) : K) ∨ eqS s ((r : Int) : K) x e = true) ∧ x - 1 < ((r : Int) : K) ∧ ((r : Int) : K) ≤ x + 1 := by
  intro r
  obtain ⟨hl, hu⟩ := floorOf_spec htr x
  rcases truncUp_floor_cases s htr x e h0 with ⟨h, h1⟩ | ⟨h, _⟩
  · have hr : r = floorOf tr x := h
    rw [hr]; exact ⟨h1.imp (fun hi => hi.ge) id, near_floor_bounds hl hu (Or.inl rfl)⟩
  · have hr : r = floorOf tr x + 1 := h
    rw [hr]; exact ⟨Or.inl (by rw [Int.cast_add, Int.cast_one]; exact hu.le), near_floor_bounds hl hu (Or.inr rfl)⟩

theorem trunc_direction_towardInf (s : Style) {tr : K → Int} (htr : IsTrunc tr) (x e : K) (h0 : 0 ≤ e) :
    let r := trunc s false .towardInf tr x e
    |x| ≤ |((r : Int) : K)| ∨ eqS s ((r : Int) : K) x e = true := by
  intro r
  have hr : r = _ := trunc_towardInf_eq s false tr x e
  by_cases hx : 0 < x
  · rw [hr, if_pos hx]
    exact (trunc_direction_upward s htr x e h0).1.imp (abs_le_abs_of_nonneg hx.le) id
  · rw [hr, if_neg hx]
    exact (trunc_direction_downward s htr x e).1.imp (abs_le_abs_of_nonpos (not_lt.mp hx)) id

theorem trunc_direction_towardZero (s : Style) {tr : K → Int} (htr : IsTrunc tr) (x e : K) (h0 : 0 ≤ e) :
    let r := trunc s false .towardZero tr x e
    |((r : Int) : K)| ≤ |x| ∨ eqS s ((r : Int) : K) x e = true := by
  intro r
  have hr : r = _ := trunc_towardZero_eq s false tr x e
  obtain ⟨hl, hu⟩ := floorOf_spec htr x
  by_cases hx : 0 < x
  · -- downward: `⌊x⌋ ≥ 0` is below `x`
    rw [hr, if_pos hx]
    rcases truncDown_floor_cases s htr x e with h | ⟨h, h1⟩ <;> rw [h]
    · have hl0 : (0 : Int) ≤ floorOf tr x := int_le_of_cast_lt_add_one (K := K) (by rw [Int.cast_zero]; exact hx.trans hu)
      exact Or.inl (abs_le_abs_of_nonneg (Int.cast_nonneg hl0) hl)
    · exact Or.inr h1
  · -- upward: `⌊x⌋ + 1` is returned only for `⌊x⌋ < x ≤ 0`, and then `x ≤ ⌊x⌋ + 1 ≤ 0`
    rw [hr, if_neg hx]
    rcases truncUp_floor_cases s htr x e h0 with ⟨h, h1⟩ | ⟨h, h1⟩ <;> rw [h]
    · exact h1.imp (fun hi => by rw [hi]) id
    · have hl1 : floorOf tr x + 1 ≤ 0 :=
        Int.add_one_le_iff.mpr ((Int.cast_lt (R := K)).mp (by rw [Int.cast_zero]; exact h1.trans_le (not_lt.mp hx)))
      exact Or.inl (abs_le_abs_of_nonpos (Int.cast_nonpos.mpr hl1) (by rw [Int.cast_add, Int.cast_one]; exact hu.le))

/-- a non-integer argument equal (within epsilon) to the integer above it is truncated to that integer in every style -/
theorem trunc_snap_up (s : Style) (rs : RStyle) {tr : K → Int} (htr : IsTrunc tr) (x e : K) (l : Int) (h0 : 0 ≤ e)
    (hl : (l : K) < x) (hu : x < (l : K) + 1) (h : eqS s ((l : K) + 1) x e = true) :
    trunc s false rs tr x e = l + 1 := by
  have hd := truncDown_eq s htr x e l hl.le hu
  have hup := truncUp_eq s htr x e l h0 hl.le hu
  rw [if_neg hl.ne, if_pos h] at hd hup
  exact trunc_of_down_up rs hd hup

theorem trunc_unsigned_zero (s : Style) (rs : RStyle) (tr : K → Int) (x e : K) (h : eqS s x 0 e = true) :
    trunc s true rs tr x e = 0 := by
  have hd : truncDown s true tr x e = 0 := by simp [truncDown, h]
  have hup : truncUp s true tr x e = 0 := by
    have h' : eqS s (0 : K) x e = true := by rw [eqS_symm]; exact h
    simp [truncUp, hd, neS, Gen.ne, h']
  exact trunc_of_down_up rs hd hup

/-- unsigned target type: an argument that is not equal to 0 within epsilon is truncated exactly as for a signed type -/
theorem trunc_unsigned_eq_signed (s : Style) (rs : RStyle) (tr : K → Int) (x e : K) (h : eqS s x 0 e = false) :
    trunc s true rs tr x e = trunc s false rs tr x e := by
  have hd : truncDown s true tr x e = truncDown s false tr x e := by simp [truncDown, h]
  have hu : truncUp s true tr x e = truncUp s false tr x e := by simp [truncUp, hd]
  cases rs <;> simp only [trunc, hd, hu]

/-- every rounding style: the truncated value is the floor of the argument or the integer above it (distance at
    most 1; it is the integer above only in the cases listed in `trunc_downward_spec` / `trunc_upward_spec`) -/
theorem trunc_within (s : Style) (rs : RStyle) {tr : K → Int} (htr : IsTrunc tr) (x e : K) (h0 : 0 ≤ e) :
    let r := trunc s false rs tr x e
    (r = floorOf tr x ∨ r = floorOf tr x + 1) ∧ x - 1 < ((r : Int) : K) ∧ ((r : Int) : K) ≤ x + 1 := by
  intro r
  have hr : r = floorOf tr x ∨ r = floorOf tr x + 1 := by
    change trunc s false rs tr x e = _ ∨ trunc s false rs tr x e = _
    rcases trunc_cases s false rs tr x e with hc | hc <;> rw [hc]
    · exact (truncDown_floor_cases s htr x e).imp id And.left
    · exact (truncUp_floor_cases s htr x e h0).imp And.left And.left
  exact ⟨hr, near_floor_bounds (floorOf_spec htr x).1 (floorOf_spec htr x).2 hr⟩

example : trunc .absolute true .downward trQ (3/2) 2 = 0 ∧ trunc .absolute false .downward trQ (3/2) 2 = 2 := by decide +kernel

-- integers stay where they are even when the next integer is "equal" to them: 2·10^6 with the default epsilon of
-- float, 2^-20 (relativeWeak: 1 ≤ 2^-20 · 2000001)
example : eqS .relativeWeak (2000001 : ℚ) 2000000 (1 / 2 ^ 20) = true ∧
    trunc .relativeWeak false .towardZero trQ ((2000000 : Int) : ℚ) (1 / 2 ^ 20) = 2000000 := 
  ⟨by decide +kernel, trunc_int .relativeWeak .towardZero trQ_isTrunc 2000000 _ (by norm_num)⟩

-- -5/2 with epsilon 0: downward -3, upward -2, towardZero -2, towardInf -3
example : trunc .relativeWeak false .downward trQ (-5/2) 0 = -3 ∧ trunc .relativeWeak false .upward trQ (-5/2) 0 = -2 ∧
    trunc .relativeWeak false .towardZero trQ (-5/2) 0 = -2 ∧ trunc .relativeWeak false .towardInf trQ (-5/2) 0 = -3 := by decide +kernel

/-! ### The integer target type made explicit: `roundM` / `truncM`

`round` / `trunc` above compute with mathematical integers.  The code stores its integers in variables of the target type
`I`; `roundM t` / `truncM t` (Model/C17.lean; what the driver executes) reduce every stored value as the type `t` does
(unsigned: modulo `2^bits`; `T(lower+1)` after the integral promotions).  `NoWrap t tr x` says that none of the stored
values leaves the type; then the two agree and every theorem above speaks about the code.  Where a stored value does wrap
around, the theorems after these say what is returned: an unsigned target with an argument in (-1,0), where `lower--`
turns 0 into the largest value `M = 2^bits - 1` of the type (`trunc_unsigned_neg_up`, `round_unsigned_neg`), and the ends
of the range of the unsigned and the narrow types (`trunc_unsigned_top_down`, `trunc_narrow_bottom_up`,
`trunc_snap_conversion`). -/

theorem truncM_eq_trunc (t : IType) (s : Style) (rs : RStyle) {tr : K → Int} (x e : K) (h : NoWrap t tr x) :
    truncM t s rs tr x e = trunc s (!t.signed) rs tr x e := truncM_eq s rs e h

theorem roundM_eq_round (t : IType) (s : Style) (rs : RStyle) {tr : K → Int} (x e : K) (h : NoWrap t tr x) :
    roundM t s rs tr x e = round s rs tr x e := roundM_eq s rs e h

/-- `NoWrap` holds for `int` and wider signed target types (overflow at the ends of the range is undefined behaviour,
    outside the model), for every type when `I(val)-1 … I(val)+2` (and 1) are values of it, and for an unsigned one
    whenever the argument is non-negative and `I(val) + 2` is a value of the type -/
theorem noWrap_cases (t : IType) {tr : K → Int} (htr : IsTrunc tr) (x : K)
    (h : (t.signed = true ∧ 32 ≤ t.bits) ∨
         (0 < t.bits ∧ t.fits (tr x - 1) = true ∧ t.fits (tr x + 2) = true ∧ t.fits 1 = true) ∨
         (t.signed = false ∧ 0 ≤ x ∧ tr x + 2 < 2 ^ t.bits)) : NoWrap t tr x := by
  rcases h with ⟨h, hw⟩ | ⟨hb, h1, h2, h3⟩ | ⟨hu, h0, hhi⟩
  · exact noWrap_signed h hw tr x
  · exact noWrap_of_fits hb tr x h1 h2 h3
  · have h1 := (htr x).1 h0
    refine noWrap_unsigned hu tr x (not_lt.mpr h1.1) ?_ hhi
    exact int_le_of_cast_lt_add_one (K := K) (by rw [Int.cast_zero]; exact h0.trans_lt h1.2)

/-- **`round` for every integer target type and every argument whose integer part is a value of the type** (also beyond
    the largest / smallest value of the type and in (-1,0) for an unsigned type): whenever the mathematical result — the
    one all the theorems above describe — is a value of the type, it is returned.  Before
    fixes/C17_round_range_end.patch this failed above the largest value: `round<unsigned char>(255.25)` was 0 and
    `round<signed char>(127.25)` was -128 (`roundOld_range_end`); for `int` the neighbour `lower+1` overflowed. -/
theorem round_of_fits (t : IType) (hb : 0 < t.bits) (s : Style) (rs : RStyle) (tr : K → Int) (x e : K)
    (h0 : t.fits (tr x) = true) (hr : t.fits (round s rs tr x e) = true) :
    roundM t s rs tr x e = round s rs tr x e := roundM_of_fits hb s rs tr x e h0 hr

/-- **`trunc` of a non-negative argument, every target type, the upper end of its range included**: if `I(val)` and the
    mathematical result (the one `trunc_downward_spec` … `trunc_within` describe) are values of the type, it is returned.
    `ha`: `lower+1` as an expression does not wrap — all types narrower than `int` (integral promotion), wider ones when
    `I(val)+1` is a value of the type. -/
theorem trunc_of_fits_nonneg (t : IType) (hb : 0 < t.bits) (s : Style) (rs : RStyle) {tr : K → Int} (htr : IsTrunc tr)
    (x e : K) (hx : 0 ≤ x) (ha : t.bits < 32 ∨ t.fits (tr x + 1) = true) (h0 : t.fits (tr x) = true)
    (hD : t.fits (trunc s (!t.signed) rs tr x e) = true) :
    truncM t s rs tr x e = trunc s (!t.signed) rs tr x e := by
  apply truncM_of_fits_nodec hb s rs e (not_lt.mpr ((htr x).1 hx).1) ?_ h0 hD
  rcases ha with h | h
  · simp [IType.arith, h]
  · exact IType.arith_of_wrap (IType.wrap_of_fits hb _ h)

/-- the lower end: where `I(val)` lies above `val` and is equal to it within epsilon the downward truncation returns it
    without decrementing — `trunc<short,double,relativeWeak,downward>(-32768.00000000001)` is -32768 (it was 32767 before
    fixes/C17_trunc_range_end.patch, `truncOld_range_end`) -/
theorem trunc_snap_conversion (t : IType) (s : Style) (tr : K → Int) (x e : K)
    (hz : t.signed = true ∨ eqS s x 0 e = false)
    (hg : ((tr x : Int) : K) > x) (hE : eqS s ((tr x : Int) : K) x e = true) :
    truncM t s .downward tr x e = tr x := by
  apply truncDownM_snap_conversion s tr x e ?_ hg hE
  rcases hz with h | h <;> simp [h]

/-- a positive integer `N` is not equal within epsilon to an argument `x` in (-1,0) that is not equal to 0 within
    epsilon — for the relative-strong style provided `ε·|x| < N + |x|` (the tolerance `ε·min(N,|x|)` is `ε·|x|`) -/
theorem eqS_posInt_neg_false (s : Style) (N : Int) (x e : K) (hN : 1 ≤ N) (hx1 : -1 < x) (hx0 : x < 0)
    (hz : eqS s x 0 e = false) (hs : s = .relativeStrong → e * (-x) < (N : K) - x) :
    eqS s ((N : Int) : K) x e = false := by
  have hNK : (1 : K) ≤ (N : K) := one_le_intCast hN
  have hN0 : (0 : K) ≤ (N : K) := zero_le_one.trans hNK
  have hx1' : -x < 1 := neg_lt.mpr hx1
  rw [eqS_eq_false_iff, sub_zero, abs_of_neg hx0] at hz
  cases s
  · -- relativeWeak: `x` is not 0 within epsilon means ε·|x| < |x|, so ε < 1
    simp only [tol, abs_zero, abs_of_neg hx0, max_eq_left (neg_pos.mpr hx0).le] at hz
    exact eqS_opposite_false_of_one_le_max _ hN0 hx0 (lt_of_mul_lt_mul_right (by rwa [one_mul]) (neg_pos.mpr hx0).le)
      (le_max_of_le_left hNK)
  · -- relativeStrong: the tolerance ε·min(N,|x|) is ε·|x|
    rw [eqS_eq_false_iff, abs_of_pos (sub_pos.mpr (hx0.trans_le hN0))]
    simp only [tol, abs_of_neg hx0, abs_of_nonneg hN0, min_eq_right (hx1'.le.trans hNK)]
    exact hs rfl
  · -- absolute: ε < |x| < 1
    simp only [tol] at hz
    exact eqS_opposite_false_of_one_le_max _ hN0 hx0 (hz.trans hx1') (le_max_of_le_left hNK)

/-- **unsigned target, argument in (-1,0), truncation upward / toward zero: the result is 0.**  The downward step
    decrements 0 to the largest value `M = 2^bits - 1` of the type; the correction `if(ne(T(upper), val)) ++upper` sees
    `T(M)`, which differs from `val`, and the increment wraps around to 0 — the integer above the argument, the only
    value of the type within distance 1.  Every comparison style and every epsilon ≥ 0; for the relative-strong style
    provided `ε·|val| < M + |val|` (otherwise `M` itself is "equal to val within epsilon"; the documented result is then
    the integer -1, which the type does not have). -/
theorem trunc_unsigned_neg_up (t : IType) (ht : t.signed = false) (hb : 0 < t.bits) (s : Style) (rs : RStyle)
    (hrs : rs = .upward ∨ rs = .towardZero) {tr : K → Int} (htr : IsTrunc tr) (x e : K) (hx1 : -1 < x) (hx0 : x < 0)
    (hs : s = .relativeStrong → e * (-x) < (((2 : Int) ^ t.bits - 1 : Int) : K) - x) :
    truncM t s rs tr x e = 0 := by
  have htr0 : tr x = 0 := htr.eq_zero_of_neg hx1 hx0
  have hp := IType.two_le_two_pow_bits hb
  have hgt : ((tr x : Int) : K) > x := by rw [htr0, Int.cast_zero]; exact hx0
  rw [truncM_eq_truncUpM hrs e (by rw [Int.cast_zero]; exact not_lt.mpr hx0.le)]
  cases hz : eqS s x ((0 : Int) : K) e
  · have hz' : eqS s x 0 e = false := by rwa [Int.cast_zero] at hz
    have hM : eqS s (((2 : Int) ^ t.bits - 1 : Int) : K) x e = false :=
      eqS_posInt_neg_false s _ x e (by omega) hx1 hx0 hz' hs
    have hsame : sameVal ((((2 : Int) ^ t.bits - 1 : Int) : Int) : K) x = false :=
      sameVal_of_ne (ne_of_gt (hx0.trans_le (Int.cast_nonneg (by omega))))
    have harith : eqS s ((t.arith ((2 : Int) ^ t.bits - 1 + 1) : Int) : K) x e = false := by
      unfold IType.arith
      split
      · exact eqS_posInt_neg_false s _ x e (by omega) hx1 hx0 hz'
          (fun h => (hs h).trans (sub_lt_sub_right (Int.cast_lt.mpr (Int.lt_succ _)) x))
      · rw [IType.wrap_pow ht, eqS_symm]; exact hz
    have hE : eqS s ((tr x : Int) : K) x e = false := by rw [htr0, eqS_symm]; exact hz
    have hw : t.wrap (tr x - 1) = 2 ^ t.bits - 1 := by rw [htr0]; exact IType.wrap_neg_one ht
    rw [truncUpM_wrapped s tr x e _ (by rw [hz, Bool.and_false]) hgt hE hw hsame harith hM, IType.wrap_pow ht]
  · have hd : truncDownM t s tr x e = 0 := by
      unfold truncDownM; simp only [ht, hz, Bool.not_false, Bool.and_true, if_true]
    have h' : eqS s ((0 : Int) : K) x e = true := by rw [eqS_symm]; exact hz
    unfold truncUpM
    simp only [hd, neS, Gen.ne, h', Bool.not_true, Bool.false_eq_true, if_false]

/-- the same with the hypothesis in the form of the check's domain predicate: the argument is not equal within epsilon
    to the integer -1 below it (otherwise the documented result is -1, which the type does not have; `truncUnrep`
    in Driver/C17.lean and the harness leave that case out) -/
theorem trunc_unsigned_neg_up_doc (t : IType) (ht : t.signed = false) (hb : 0 < t.bits) (s : Style) (rs : RStyle)
    (hrs : rs = .upward ∨ rs = .towardZero) {tr : K → Int} (htr : IsTrunc tr) (x e : K) (hx1 : -1 < x) (hx0 : x < 0)
    (hL : eqS s (((-1 : Int) : Int) : K) x e = false) :
    truncM t s rs tr x e = 0 := by
  apply trunc_unsigned_neg_up t ht hb s rs hrs htr x e hx1 hx0
  rintro rfl
  have hp := IType.two_le_two_pow_bits hb
  have hM : (1 : K) ≤ (((2 : Int) ^ t.bits - 1 : Int) : K) := one_le_intCast (by omega)
  -- `-1` is not equal to `x` within epsilon: ε·|x| < |-1 - x| = 1 + x, which is below 1 ≤ M
  rw [eqS_eq_false_iff, Int.cast_neg, Int.cast_one, abs_of_neg (sub_neg.mpr hx1), neg_sub, sub_neg_eq_add] at hL
  simp only [tol, abs_neg, abs_one, abs_of_neg hx0, min_eq_right (neg_lt.mpr hx1).le] at hL
  exact hL.trans (((add_lt_iff_neg_right 1).mpr hx0).trans_le (hM.trans (le_sub_self_iff _ |>.mpr hx0.le)))

/-- **narrow signed target (`signed char`, `short`), argument just below its smallest value `m`, truncation upward / toward
    zero: the result is `m`.**  If the argument is equal to `m` within epsilon the repaired downward step returns `m` at once;
    otherwise the decrement wraps around to the largest value `M`, `T(M+1)` and `T(M)` are far from the argument, and
    `++upper` wraps back. -/
theorem truncM_narrow_bottom_up (t : IType) (hs : t.signed = true) (hn : t.bits < 32) (hb : 0 < t.bits) (s : Style)
    (rs : RStyle) (hrs : rs = .upward ∨ rs = .towardZero) {tr : K → Int} (htr : IsTrunc tr) (x e : K)
    (hx0 : ((t.lo : Int) : K) - 1 < x) (hx1 : x < ((t.lo : Int) : K)) :
    truncM t s rs tr x e = t.lo := by
  have hlo : ((t.lo : Int) : K) ≤ -1 := Int.cast_le_neg_one_of_neg (IType.lo_neg hs)
  have hxneg : x ≤ -1 := hx1.le.trans hlo
  have hx0' : x ≤ 0 := hxneg.trans neg_one_lt_zero.le
  have htr0 : tr x = t.lo := htr.eq_of_nonpos hx0' hx0 hx1.le
  have hgt : ((tr x : Int) : K) > x := by rw [htr0]; exact hx1
  have hz : (!t.signed && eqS s x ((0 : Int) : K) e) = false := by rw [hs]; rfl
  rw [truncM_eq_truncUpM hrs e (by rw [Int.cast_zero]; exact not_lt.mpr hx0')]
  cases hE : eqS s ((tr x : Int) : K) x e
  · -- `m` and the argument, both of size at least 1 and less than 1 apart, are not equal within epsilon: epsilon is
    -- below 1, and the wrapped values (non-negative) are far away
    have he : e < 1 := lt_one_of_not_eq_near s _ x e (one_le_abs_of_le_neg_one (by rw [htr0]; exact hlo))
      (one_le_abs_of_le_neg_one hxneg) (trunc_abs_lt_one htr x) hE
    have hw : t.wrap (tr x - 1) = t.hi := by rw [htr0]; exact IType.wrap_lo_pred hn hb
    have hM0 : (0 : K) ≤ ((t.hi : Int) : K) := Int.cast_nonneg (IType.hi_nonneg t)
    have hM : eqS s ((t.hi : Int) : K) x e = false := eqS_opposite_false s _ x e hM0 hxneg he
    have har : eqS s ((t.arith (t.hi + 1) : Int) : K) x e = false := by
      rw [IType.arith, if_pos hn]
      exact eqS_opposite_false s _ x e (Int.cast_nonneg (Int.add_nonneg (IType.hi_nonneg t) Int.one_nonneg)) hxneg he
    have hsame : sameVal ((t.hi : Int) : K) x = false :=
      sameVal_of_ne (ne_of_gt ((hxneg.trans_lt neg_one_lt_zero).trans_le hM0))
    rw [truncUpM_wrapped s tr x e t.hi hz hgt hE hw hsame har hM, IType.wrap_hi_succ hn hb]
  · rw [truncUpM_snap_conversion s tr x e hz hgt hE, htr0]

/-- the same with the check's domain predicate `hL`: the argument is not equal within epsilon to the integer `m-1` below
    it (otherwise the documented result is `m-1`, which the type does not have; the code returns `m` all the same, so
    the proof does not use `hL`) -/
theorem trunc_narrow_bottom_up (t : IType) (hs : t.signed = true) (hn : t.bits < 32) (hb : 0 < t.bits) (s : Style)
    (rs : RStyle) (hrs : rs = .upward ∨ rs = .towardZero) {tr : K → Int} (htr : IsTrunc tr) (x e : K)
    (hx0 : ((t.lo : Int) : K) - 1 < x) (hx1 : x < ((t.lo : Int) : K))
    (hL : eqS s (((t.lo - 1 : Int) : Int) : K) x e = false) :
    truncM t s rs tr x e = t.lo := truncM_narrow_bottom_up t hs hn hb s rs hrs htr x e hx0 hx1

/-- **`unsigned` / `unsigned long` target, argument between the largest value `M` and `M+1`, truncation downward / toward
    zero: the result is `M`.**  `lower+1` wraps around to 0 in the expression `T(lower+1)`; the argument is not equal to 0
    within epsilon (otherwise the unsigned special case returns 0), so the snap test fails and `lower = M` is returned. -/
theorem trunc_unsigned_top_down (t : IType) (hu : t.signed = false) (hw : 32 ≤ t.bits) (s : Style) (rs : RStyle)
    (hrs : rs = .downward ∨ rs = .towardZero) {tr : K → Int} (htr : IsTrunc tr) (x e : K)
    (hx0 : ((t.hi : Int) : K) < x) (hx1 : x < ((t.hi : Int) : K) + 1) (hz : eqS s x 0 e = false) :
    truncM t s rs tr x e = t.hi := by
  have hhi : t.hi = 2 ^ t.bits - 1 := by simp [IType.hi, hu]
  have hM0 : (0 : K) ≤ ((t.hi : Int) : K) := Int.cast_nonneg (IType.hi_nonneg t)
  have hxpos : 0 < x := hM0.trans_lt hx0
  have htr0 : tr x = t.hi := htr.eq_of_nonneg hxpos.le hx0.le hx1
  have hng : ¬ ((t.hi : Int) : K) > x := not_lt.mpr hx0.le
  have hsame : sameVal ((t.hi : Int) : K) x = false := sameVal_of_ne (ne_of_lt hx0)
  have hnw : ¬ t.bits < 32 := by omega
  have har : t.arith (t.hi + 1) = 0 := by
    rw [hhi]; simp only [IType.arith, hnw, if_false]; exact IType.wrap_pow hu
  have hz' : eqS s x ((0 : Int) : K) e = false := by rw [Int.cast_zero]; exact hz
  have hz0 : eqS s ((0 : Int) : K) x e = false := by rw [eqS_symm]; exact hz'
  rw [truncM_eq_truncDownM hrs e (by rw [Int.cast_zero]; exact hxpos)]
  unfold truncDownM
  simp only [hu, hz', Bool.not_false, Bool.and_false, Bool.false_eq_true, if_false, htr0, hng, decide_false, Bool.false_and,
    hsame, har, hz0]

/-- unsigned target, argument in (-1,0): `round` returns 0 where the mathematical result is 0, and the largest value
    of the type where it is -1 (the nearest integer is then not a value of the type).  Which of the two neighbours is
    returned depends on epsilon, that it is one of them does not: the proof does not use `h0` -/
theorem round_unsigned_neg (t : IType) (ht : t.signed = false) (hb : 0 < t.bits) (s : Style) (rs : RStyle)
    {tr : K → Int} (htr : IsTrunc tr) (x e : K) (h0 : 0 ≤ e) (hx1 : -1 < x) (hx0 : x < 0) :
    (round s rs tr x e = 0 ∧ roundM t s rs tr x e = 0) ∨
    (round s rs tr x e = -1 ∧ roundM t s rs tr x e = 2 ^ t.bits - 1) := by
  have htr0 : tr x = 0 := htr.eq_zero_of_neg hx1 hx0
  have hp := IType.two_le_two_pow_bits hb
  have hw0 : t.wrap 0 = 0 := IType.wrap_of_range ht 0 (by omega) (by omega)
  have hw : roundM t s rs tr x e = t.wrap (round s rs tr x e) := roundM_eq_wrap s rs tr x e (by rw [htr0]; exact hw0)
  -- `T(I(val)) = 0` lies above the argument, so the result is `I(val) = 0` or the integer below it
  rcases round_mem_of_gt s rs tr x e (by rw [htr0, Int.cast_zero]; exact hx0) with hr | hr <;> rw [htr0] at hr
  · left; refine ⟨hr, ?_⟩; rw [hw, hr]; exact hw0
  · right; refine ⟨hr, ?_⟩; rw [hw, hr]; exact IType.wrap_neg_one ht

-- -4/5 with the absolute epsilon 3/10 truncated upward: the argument is within epsilon of the integer -1 below it.  With
-- mathematical integers (a signed target) the result is -1; an `unsigned` target returns 0 — this is where `truncM`
-- and `trunc` part, and why the check runs the machine-integer version against the code
example : trunc .absolute false .upward trQ (-4/5) (3/10) = -1 ∧ truncM uint32 .absolute .upward trQ (-4/5) (3/10) = 0 :=
  ⟨by decide +kernel,
   trunc_unsigned_neg_up uint32 rfl (by decide) .absolute .upward (Or.inl rfl) trQ_isTrunc _ _ (by norm_num) (by norm_num)
     (fun h => by cases h)⟩

end rounding

/-- the defect repaired by fixes/C17_round_range_end.patch, on concrete inputs (exact dyadics `m·2^e` of
    Model/C17/Base.lean): 255.25 rounded to `unsigned char` was 0 and 127.25 rounded to `signed char` was -128 — the
    unrepaired algorithm stored `upper = lower+1` in the target type and computed both distances from the wrapped-around
    value.  The repaired one returns 255 and 127. -/
theorem roundOld_range_end :
    roundDownOldM uint8 .absolute Dy.trunc (Dy.mk2 1021 (-2)) (Dy.mk2 1 (-10)) = 0 ∧
    roundM uint8 .absolute .downward Dy.trunc (Dy.mk2 1021 (-2)) (Dy.mk2 1 (-10)) = 255 ∧
    roundDownOldM int8 .absolute Dy.trunc (Dy.mk2 509 (-2)) (Dy.mk2 1 (-10)) = -128 ∧
    roundM int8 .absolute .downward Dy.trunc (Dy.mk2 509 (-2)) (Dy.mk2 1 (-10)) = 127 := by decide +kernel

/-- the defect repaired by fixes/C17_trunc_range_end.patch on a concrete input: -32768.5 truncated downward to `short`
    with the relative-strong epsilon 2^-13 (tolerance 4) is equal to -32768 within epsilon; the unrepaired algorithm
    decremented first, wrapped around to 32767 and returned it -/
theorem truncOld_range_end :
    truncDownOldM int16 .relativeStrong Dy.trunc (Dy.mk2 (-65537) (-1)) (Dy.mk2 1 (-13)) = 32767 ∧
    truncM int16 .relativeStrong .downward Dy.trunc (Dy.mk2 (-65537) (-1)) (Dy.mk2 1 (-13)) = -32768 := by decide +kernel

-- outside the property: -1/2 truncated upward to `unsigned char` with the relative-strong epsilon 1024 is 1 (`T(lower+1)` =
-- T(256) is "equal" to -1/2, `return lower+1` converts 256 to 0, `ne(0, val)` holds, `++upper`).  The documented result
-- is the integer -1 (-1/2 is equal to -1 within that epsilon); `trunc_unsigned_neg_up` excludes the case by its
-- hypothesis on epsilon, the check prints `unrep` on both sides
example : truncM uint8 .relativeStrong .upward Dy.trunc (Dy.mk2 (-1) (-1)) (Dy.mk2 1 10) = 1 := by decide +kernel

/-! ## The functions the driver executes on exact inputs are the generic ones at `ℚ`

`eqRat`, `roundRat`, … are defined in Model/C17.lean with the instances of core Lean's `Rat` (that file cannot import
Mathlib).  Each statement below is an application to them of a theorem about every scalar type (the laws that hold by
the shape of the code) or of a field theorem: the latter type-checks only because the core instances and Mathlib's
ordered-field structure on `ℚ` are the same operations. -/

theorem trRat_eq (x : ℚ) : trRat x = if 0 ≤ x then ⌊x⌋ else ⌈x⌉ := by
  unfold trRat
  by_cases h : 0 ≤ x
  · have hn : 0 ≤ x.num := Rat.num_nonneg.mpr h
    rw [if_pos h, Rat.floor_def', Int.tdiv_eq_ediv_of_nonneg hn]
  · have hn : x.num < 0 := Rat.num_neg.mpr (not_le.mp h)
    rw [if_neg h]
    have hc : ⌈x⌉ = -⌊-x⌋ := by rw [Int.floor_neg, neg_neg]
    rw [hc, Rat.floor_def', Rat.num_neg_eq_neg_num, Rat.den_neg_eq_den]
    have : Int.tdiv x.num (x.den : Int) = -(Int.tdiv (-x.num) (x.den : Int)) := by rw [Int.neg_tdiv, neg_neg]
    rw [this, Int.tdiv_eq_ediv_of_nonneg (by omega)]

/-- the driver's float → integer conversion is truncation toward zero -/
theorem trRat_isTrunc : IsTrunc trRat := by
  have : trRat = trQ := by funext x; rw [trRat_eq]; rfl
  rw [this]; exact trQ_isTrunc

theorem rat_eq_def (s : Style) (a b e : ℚ) : eqRat s a b e = true ↔ |a - b| ≤ tol s a b e := eq_def s a b e
theorem rat_eq_symm (s : Style) (a b e : ℚ) : eqRat s a b e = eqRat s b a e := eq_symm s a b e
theorem rat_ne_not_eq (s : Style) (a b e : ℚ) : neRat s a b e = !eqRat s a b e := rfl
theorem rat_trichotomy (s : Style) (a b e : ℚ) (h : 0 ≤ e) :
    (ltRat s a b e = true ∧ eqRat s a b e = false ∧ gtRat s a b e = false) ∨
    (ltRat s a b e = false ∧ eqRat s a b e = true ∧ gtRat s a b e = false) ∨
    (ltRat s a b e = false ∧ eqRat s a b e = false ∧ gtRat s a b e = true) := trichotomy s a b e h
theorem rat_le_ge (s : Style) (a b e : ℚ) :
    leRat s a b e = (ltRat s a b e || eqRat s a b e) ∧ geRat s a b e = (gtRat s a b e || eqRat s a b e) :=
  ⟨leS_eq s a b e, geS_eq s a b e⟩
theorem rat_vec_eq_conj (s : Style) (a b : List ℚ) (e : ℚ) :
    eqVecRat s a b e = true ↔ a.length = b.length ∧
      ∀ (i : Nat) (ha : i < a.length) (hb : i < b.length), eqRat s a[i] b[i] e = true := eqVec_iff s a b e
theorem rat_fvec_eq_conj (s : Style) (a b : List ℚ) (e : ℚ) (h : a.length = b.length) :
    eqFVRat s a b e = true ↔ ∀ (i : Nat) (ha : i < a.length) (hb : i < b.length), eqRat s a[i] b[i] e = true :=
  eqLoop_iff s a b e
theorem rat_vec_trichotomy (s : Style) (a b : List ℚ) (e : ℚ) (h : 0 ≤ e) :
    (ltVecRat s a b e = true ∧ eqVecRat s a b e = false ∧ gtVecRat s a b e = false) ∨
    (ltVecRat s a b e = false ∧ eqVecRat s a b e = true ∧ gtVecRat s a b e = false) ∨
    (ltVecRat s a b e = false ∧ eqVecRat s a b e = false ∧ gtVecRat s a b e = true) := vec_trichotomy s a b e h
theorem rat_vec_le_ge (s : Style) (a b : List ℚ) (e : ℚ) :
    neVecRat s a b e = (!eqVecRat s a b e) ∧ leVecRat s a b e = (ltVecRat s a b e || eqVecRat s a b e) ∧
    geVecRat s a b e = (gtVecRat s a b e || eqVecRat s a b e) ∧ neFVRat s a b e = (!eqFVRat s a b e) :=
  ⟨rfl, leVec_eq s a b e, geVec_eq s a b e, rfl⟩
theorem rat_round_within (s : Style) (rs : RStyle) (x e : ℚ) (h0 : 0 ≤ e) :
    |((roundRat s rs x e : Int) : ℚ) - x| < 1 ∧
    (eqRat s ((roundRat s rs x e : Int) : ℚ) x e = true ∨ |((roundRat s rs x e : Int) : ℚ) - x| ≤ 1 / 2 + e / 2) :=
  round_within s rs trRat_isTrunc x e h0
theorem rat_round_nearest (s : Style) (rs : RStyle) (x e : ℚ) (l : Int)
    (hl : (l : ℚ) < x) (hu : x < (l : ℚ) + 1) (hne : eqRat s ((trRat x : Int) : ℚ) x e = false)
    (hnt : eqRat s (x - (l : ℚ)) ((l : ℚ) + 1 - x) e = false) :
    roundRat s rs x e = if x - (l : ℚ) < (l : ℚ) + 1 - x then l else l + 1 :=
  round_nearest s rs trRat_isTrunc x e l hl hu hne hnt
theorem rat_round_tie (s : Style) (rs : RStyle) (x e : ℚ) (l : Int)
    (hl : (l : ℚ) < x) (hu : x < (l : ℚ) + 1) (hne : eqRat s ((trRat x : Int) : ℚ) x e = false)
    (ht : eqRat s (x - (l : ℚ)) ((l : ℚ) + 1 - x) e = true) :
    roundRat s rs x e = tieChoice rs x l := round_tie s rs trRat_isTrunc x e l hl hu hne ht
theorem rat_trunc_spec (s : Style) (x e : ℚ) (l : Int) (h0 : 0 ≤ e) (hl : (l : ℚ) ≤ x) (hu : x < (l : ℚ) + 1) :
    truncRat s false .downward x e = (if (l : ℚ) = x then l else if eqRat s ((l : ℚ) + 1) x e then l + 1 else l) ∧
    truncRat s false .upward x e =
      (if (l : ℚ) = x then l else if eqRat s ((l : ℚ) + 1) x e then l + 1 else if eqRat s (l : ℚ) x e then l else l + 1) :=
  ⟨trunc_downward_spec s trRat_isTrunc x e l hl hu, trunc_upward_spec s trRat_isTrunc x e l h0 hl hu⟩
theorem rat_trunc_int (s : Style) (rs : RStyle) (n : Int) (e : ℚ) (h0 : 0 ≤ e) : truncRat s false rs (n : ℚ) e = n :=
  trunc_int s rs trRat_isTrunc n e h0
theorem rat_trunc_unsigned (s : Style) (rs : RStyle) (x e : ℚ) :
    (eqRat s x 0 e = true → truncRat s true rs x e = 0) ∧
    (eqRat s x 0 e = false → truncRat s true rs x e = truncRat s false rs x e) :=
  ⟨trunc_unsigned_zero s rs trRat x e, trunc_unsigned_eq_signed s rs trRat x e⟩

/-- the op lines `round` / `trunc` are evaluated with `roundRatM t` / `truncRatM t` (integer type `t` explicit).  Where
    nothing wraps around (the hypothesis is that of `noWrap_cases`) these are `roundRat` / `truncRat`, about which the
    theorems above speak -/
theorem rat_roundM_truncM_eq (t : IType) (s : Style) (rs : RStyle) (x e : ℚ)
    (h : (t.signed = true ∧ 32 ≤ t.bits) ∨
         (0 < t.bits ∧ t.fits (trRat x - 1) = true ∧ t.fits (trRat x + 2) = true ∧ t.fits 1 = true) ∨
         (t.signed = false ∧ 0 ≤ x ∧ trRat x + 2 < 2 ^ t.bits)) :
    roundRatM t s rs x e = roundRat s rs x e ∧ truncRatM t s rs x e = truncRat s (!t.signed) rs x e :=
  have hw := noWrap_cases t trRat_isTrunc x h
  ⟨roundM_eq s rs e hw, truncM_eq s rs e hw⟩
theorem rat_trunc_unsigned_neg_up (t : IType) (ht : t.signed = false) (hb : 0 < t.bits) (s : Style) (rs : RStyle)
    (hrs : rs = .upward ∨ rs = .towardZero) (x e : ℚ) (hx1 : -1 < x) (hx0 : x < 0)
    (hs : s = .relativeStrong → e * (-x) < (((2 : Int) ^ t.bits - 1 : Int) : ℚ) - x) :
    truncRatM t s rs x e = 0 := trunc_unsigned_neg_up t ht hb s rs hrs trRat_isTrunc x e hx1 hx0 hs
theorem rat_round_unsigned_neg (t : IType) (ht : t.signed = false) (hb : 0 < t.bits) (s : Style) (rs : RStyle)
    (x e : ℚ) (h0 : 0 ≤ e) (hx1 : -1 < x) (hx0 : x < 0) :
    (roundRat s rs x e = 0 ∧ roundRatM t s rs x e = 0) ∨
    (roundRat s rs x e = -1 ∧ roundRatM t s rs x e = 2 ^ t.bits - 1) :=
  round_unsigned_neg t ht hb s rs trRat_isTrunc x e h0 hx1 hx0
theorem rat_trunc_of_fits_nonneg (t : IType) (hb : 0 < t.bits) (s : Style) (rs : RStyle) (x e : ℚ) (hx : 0 ≤ x)
    (ha : t.bits < 32 ∨ t.fits (trRat x + 1) = true) (h0 : t.fits (trRat x) = true)
    (hD : t.fits (truncRat s (!t.signed) rs x e) = true) :
    truncRatM t s rs x e = truncRat s (!t.signed) rs x e :=
  trunc_of_fits_nonneg t hb s rs trRat_isTrunc x e hx ha h0 hD
theorem rat_round_of_fits (t : IType) (hb : 0 < t.bits) (s : Style) (rs : RStyle) (x e : ℚ)
    (h0 : t.fits (trRat x) = true) (hr : t.fits (roundRat s rs x e) = true) :
    roundRatM t s rs x e = roundRat s rs x e := roundM_of_fits hb s rs trRat x e h0 hr

-- the driver's own evaluation of `trunc f64 u8 absolute towardZero -1:-1 1:-3` is 0; without the hypothesis on epsilon of
-- the relative-strong style the result can be the largest value: `trunc f64 u8 relativeStrong upward -1:-1 1:10`
example : truncRatM uint8 .absolute .towardZero (-1/2) (1/8) = 0 :=
  rat_trunc_unsigned_neg_up uint8 rfl (by decide) .absolute .towardZero (Or.inr rfl) _ _ (by norm_num) (by norm_num) (fun h => by cases h)

-- the driver's own evaluation of `cmp f64 relativeWeak 1:0 3:-1 1:-1`, and its conversion `I(val)` of ∓5/2
example : eqRat .relativeWeak 1 (3/2) (1/2) = true := by decide +kernel
example : trRat (-5/2) = -2 ∧ trRat (5/2) = 2 := by decide +kernel

/-! ## The comparison algebra in the rounding arithmetic of a floating-point format

`FP f` = the finite numbers of the binary format `f` (`.fin n` is `n` times its smallest subnormal) plus ±∞ and NaN;
`-`, `*`, the conversions and the order are the IEEE 754 operations with round-to-nearest-even (Model/C17/Base.lean;
executed by the driver against `float`, `double`, `long double` and the 8-bit class on arbitrary finite inputs).
The statements hold for EVERY format and ALL finite operands, with a finite non-negative epsilon where the real-number
version needs `0 ≤ ε` — overflow of `a-b` or of `ε·max(|a|,|b|)` to infinity included. -/

section floating
variable {f : Fmt}

theorem fp_eq_symm (s : Style) (a b : Int) (e : FP f) :
    eqS s (.fin a : FP f) (.fin b) e = eqS s (.fin b) (.fin a) e := FP.eqS_symm s a b e

theorem fp_eq_refl (s : Style) (a m : Int) (hm : 0 ≤ m) : eqS s (.fin a : FP f) (.fin a) (.fin m) = true :=
  FP.eqS_refl s a m hm

theorem fp_ne_not_eq (s : Style) (a b e : FP f) : neS s a b e = !eqS s a b e := rfl

theorem fp_trichotomy (s : Style) (a b m : Int) (hm : 0 ≤ m) :
    let x : FP f := .fin a; let y : FP f := .fin b; let e : FP f := .fin m
    (ltS s x y e = true ∧ eqS s x y e = false ∧ gtS s x y e = false) ∨
    (ltS s x y e = false ∧ eqS s x y e = true ∧ gtS s x y e = false) ∨
    (ltS s x y e = false ∧ eqS s x y e = false ∧ gtS s x y e = true) := FP.trichotomy s a b m hm

theorem fp_le_ge (s : Style) (a b e : FP f) :
    leS s a b e = (ltS s a b e || eqS s a b e) ∧ geS s a b e = (gtS s a b e || eqS s a b e) :=
  ⟨leS_eq s a b e, geS_eq s a b e⟩

theorem fp_lt_iff_gt_swap (s : Style) (a b : Int) (e : FP f) :
    ltS s (.fin a : FP f) (.fin b) e = gtS s (.fin b) (.fin a) e := ltS_eq_gtS_swap s (FP.eqS_symm s a b e)

theorem fp_vec_eq_conj (s : Style) (a b : List (FP f)) (e : FP f) :
    (eqVec s a b e = true ↔ a.length = b.length ∧
      ∀ (i : Nat) (ha : i < a.length) (hb : i < b.length), eqS s a[i] b[i] e = true) ∧
    (a.length = b.length → (eqFV s a b e = true ↔
      ∀ (i : Nat) (ha : i < a.length) (hb : i < b.length), eqS s a[i] b[i] e = true)) :=
  ⟨eqVec_iff s a b e, fun _ => eqLoop_iff s a b e⟩

theorem fp_vec_eq_symm (s : Style) (a b : List Int) (e : FP f) :
    eqVec s (a.map (FP.fin (f := f))) (b.map FP.fin) e = eqVec s (b.map FP.fin) (a.map FP.fin) e := by
  apply eqVec_symm_of
  exact List.forall_mem_map.mpr fun p _ => List.forall_mem_map.mpr fun q _ => FP.eqS_symm s p q e

theorem fp_vec_trichotomy (s : Style) (a b : List Int) (m : Int) (hm : 0 ≤ m) :
    let x : List (FP f) := a.map FP.fin; let y : List (FP f) := b.map FP.fin; let e : FP f := .fin m
    (ltVec s x y e = true ∧ eqVec s x y e = false ∧ gtVec s x y e = false) ∨
    (ltVec s x y e = false ∧ eqVec s x y e = true ∧ gtVec s x y e = false) ∨
    (ltVec s x y e = false ∧ eqVec s x y e = false ∧ gtVec s x y e = true) := by
  intro x y e
  apply vec_trichotomy_of
  · exact List.forall_mem_map.mpr fun p _ => List.forall_mem_map.mpr fun q _ => FP.tri_fin p q
  · exact List.forall_mem_map.mpr fun p _ => FP.eqS_refl s p m hm

theorem fp_vec_le_ge (s : Style) (a b : List (FP f)) (e : FP f) :
    neVec s a b e = (!eqVec s a b e) ∧ leVec s a b e = (ltVec s a b e || eqVec s a b e) ∧
    geVec s a b e = (gtVec s a b e || eqVec s a b e) :=
  ⟨rfl, leVec_eq s a b e, geVec_eq s a b e⟩

/-- `round` and `trunc` of an integer-valued floating-point number return it, in every comparison / rounding style, for
    every magnitude — in particular from `2^digits` on, where every number of the format is an integer but `i+1` need
    not be one (`T(lower+1)` rounds back to the argument: the defect repaired by fixes/C17_trunc_large.patch) -/
theorem fp_round_trunc_int (s : Style) (rs : RStyle) (n i m : Int) (hm : 0 ≤ m)
    (hT : ((i : Int) : FP f) = .fin n) (hI : FP.trunc (.fin n : FP f) = i) :
    round s rs FP.trunc (.fin n : FP f) (.fin m) = i ∧ trunc s false rs FP.trunc (.fin n : FP f) (.fin m) = i := by
  subst hI
  have hrefl := FP.eqS_refl (f := f) s n m hm
  exact ⟨by rw [round_eq_roundBy, roundBy_of_eq _ s _ _ _ (by rw [hT]; exact hrefl)],
    trunc_of_exact s rs FP.trunc _ _ hT (by rw [FP.fin_lt_iff]; omega) hrefl⟩

/-- the same for the functions the driver executes (`roundM` / `truncM`), signed target types in which nothing wraps
    around (`int`, `long`; the narrow ones when `i-1 … i+2` are values of the type) -/
theorem fp_roundM_truncM_int (t : IType) (ht : t.signed = true) (s : Style) (rs : RStyle) (n i m : Int) (hm : 0 ≤ m)
    (hT : ((i : Int) : FP f) = .fin n) (hI : FP.trunc (.fin n : FP f) = i)
    (hw : NoWrap t FP.trunc (.fin n : FP f)) :
    roundM t s rs FP.trunc (.fin n : FP f) (.fin m) = i ∧ truncM t s rs FP.trunc (.fin n : FP f) (.fin m) = i := by
  have h := fp_round_trunc_int s rs n i m hm hT hI
  rw [roundM_eq s rs _ hw, truncM_eq s rs _ hw, ht]
  exact h

/-- in the rounding arithmetic too, `round` returns the mathematical result whenever it and `I(val)` are values of the
    target type (every type, range ends included) -/
theorem fp_round_of_fits (t : IType) (hb : 0 < t.bits) (s : Style) (rs : RStyle) (x e : FP f)
    (h0 : t.fits (FP.trunc x) = true) (hr : t.fits (round s rs FP.trunc x e) = true) :
    roundM t s rs FP.trunc x e = round s rs FP.trunc x e := roundM_of_fits hb s rs FP.trunc x e h0 hr

/-- … and so does `trunc` wherever `lower` is not decremented (`T(I(val))` is not above `val`) and the expression `lower+1`
    does not wrap — in particular at the upper end of the range of the narrow types -/
theorem fp_trunc_of_fits_nodec (t : IType) (hb : 0 < t.bits) (s : Style) (rs : RStyle) (x e : FP f)
    (hnd : ¬ ((FP.trunc x : Int) : FP f) > x) (ha : t.arith (FP.trunc x + 1) = FP.trunc x + 1)
    (h0 : t.fits (FP.trunc x) = true) (hD : t.fits (trunc s (!t.signed) rs FP.trunc x e) = true) :
    truncM t s rs FP.trunc x e = trunc s (!t.signed) rs FP.trunc x e :=
  truncM_of_fits_nodec hb s rs e hnd ha h0 hD

end floating

-- the 8-bit format (grid unit 2^-9): 1 = 512, 1.125 = 576 (the next number after 1), epsilon 0.125 = 64, 0.0625 = 32.
-- |1 - 1.125| = 0.125 ≤ 0.125 · 1.125 = 0.140625 → rounds to 0.140625 (72 units): equal; with epsilon 0.0625 not equal, less.
example : eqS .relativeWeak (.fin 512 : FP Fmt.mf8) (.fin 576) (.fin 64) = true := by decide +kernel
example : eqS .relativeWeak (.fin 512 : FP Fmt.mf8) (.fin 576) (.fin 32) = false ∧
    ltS .relativeWeak (.fin 512 : FP Fmt.mf8) (.fin 576) (.fin 32) = true := by decide +kernel
-- rounding matters: 1.125 · 0.1875 = 0.2109375 (108 units) is not a number of the format; it lies half way between
-- 0.203125 (104 units) and 0.21875 (112 units) and goes to the one with the even significand
example : ((.fin 576 : FP Fmt.mf8) * (.fin 96 : FP Fmt.mf8)) = .fin 112 := by decide +kernel
-- overflow: 240 - (-240) = +∞ and 2 · 240 = +∞, the laws still hold (eq is true: ∞ ≤ ∞)
example : ((.fin 122880 : FP Fmt.mf8) - (.fin (-122880) : FP Fmt.mf8)) = .inf false ∧
    eqS .relativeWeak (.fin 122880 : FP Fmt.mf8) (.fin (-122880)) (.fin 1024) = true := by decide +kernel
-- the 8-bit format: 16 = 8192 units is an integer, 17 is not a number of the format (T(17) = 16), absolute epsilon 0:
-- the hypotheses of `fp_round_trunc_int` hold and trunc returns 16 (the unrepaired code returned 17)
example : (((16 : Int) : FP Fmt.mf8) = .fin 8192 ∧ ((17 : Int) : FP Fmt.mf8) = .fin 8192 ∧ FP.trunc (.fin 8192 : FP Fmt.mf8) = 16) ∧
    trunc .absolute false .downward FP.trunc (.fin 8192 : FP Fmt.mf8) (.fin 0) = 16 := by decide +kernel
-- binary32: 1 and the next float above it compare equal with the default epsilon 2^-20 (grid unit 2^-149)
example : eqS .relativeWeak (.fin (2 ^ 149) : FP Fmt.f32) (.fin (2 ^ 149 + 2 ^ 126)) (.fin (2 ^ 129)) = true := by decide +kernel

/-- `power(m,p)` over a field (floating-point `Base`): the integer power, negative exponents included -/
theorem power_eq_zpow {F : Type} [Field F] (m : F) (p : Int) : powerK m p = m ^ p := by
  unfold powerK
  rcases Int.eq_nat_or_neg p with ⟨n, rfl | rfl⟩
  · have : ¬ ((n : Int) < 0) := by omega
    simp [this, powLoopK_eq]
  · by_cases hn : n = 0
    · subst hn; simp [powLoopK]
    · have hpos : 0 < n := Nat.pos_of_ne_zero hn
      simp [hpos, powLoopK_eq]

/-- `power(m,p)`, integer `Base`, `p ≥ 0`: every intermediate product is representable exactly when the result is,
    and then the result is `m^p`; otherwise the computation overflows -/
theorem power_eq_pow (t te : IType) (m : Int) (p : Nat) (h1 : t.fits 1 = true) (hm : t.fits m = true) :
    powerI t te m (p : Int) = if t.fits (m ^ p) then some (m ^ p) else none := by
  have hp : ¬ ((p : Int) < 0) := by omega
  simp only [powerI, hp, if_false, Option.bind_some, Int.toNat_natCast, powerLoop_pow t m p h1 hm]
  cases t.fits (m ^ p) <;> rfl

example : powerI int32 int32 (-2) 31 = some (-2147483648) := by decide +kernel
example : powerI int32 int32 2 31 = none := by decide +kernel

/-- `factorial(n)`: `n!` exactly when it is representable -/
theorem factorial_eq (t : IType) (n : Nat) (h1 : t.fits 1 = true) :
    factorial t (n : Int) = if t.fits ((n ! : Nat) : Int) then some ((n ! : Nat) : Int) else none := by
  simpa [factorial] using factLoop_eq t n 0 (Nat.zero_add n) (by simpa using h1)

theorem factorial_neg (t : IType) (n : Int) (h : n < 0) : factorial t n = some 1 := by
  have : n.toNat = 0 := by omega
  simp [factorial, this, factLoop]

example : factorial int64 20 = some 2432902008176640000 := by decide +kernel
example : factorial int64 21 = none := by decide +kernel

/-- `binomial(n,k)` for `0 ≤ k ≤ n`: the binomial coefficient exactly when it is representable -/
theorem binomial_eq_choose (t : IType) (n k : Nat) (hk : k ≤ n) (h1 : t.fits 1 = true) (hn : t.fits (n : Int) = true) :
    binomial t (n : Int) (k : Int) =
      if t.fits ((n.choose k : Nat) : Int) then some ((n.choose k : Nat) : Int) else none := by
  have fnk : t.fits ((n : Int) - (k : Int)) = true := IType.fits_between (IType.fits_zero t) hn (by omega) (by omega)
  have hc : ¬ ((k : Int) < 0 ∨ (k : Int) > (n : Int)) := by omega
  simp only [binomial, hc, if_false, chk_of_fits fnk, Option.bind_some]
  by_cases hgt : (k : Int) > (n : Int) - (k : Int)
  · simp only [hgt, if_true]
    have e : (n : Int) - (k : Int) = ((n - k : Nat) : Int) := by omega
    rw [e, binomCore_nat t n (n - k) (by omega) (by omega) h1 hn, Nat.choose_symm hk]
  · simp only [hgt, if_false]
    exact binomCore_nat t n k hk (by omega) h1 hn

/-- no intermediate value of `binomial` leaves the type when the result is representable
    (the model returns `some` only if every intermediate passed `chk`) -/
theorem binomial_no_overflow (t : IType) (n k : Nat) (hk : k ≤ n) (h1 : t.fits 1 = true) (hn : t.fits (n : Int) = true)
    (hc : t.fits ((n.choose k : Nat) : Int) = true) :
    binomial t (n : Int) (k : Int) = some ((n.choose k : Nat) : Int) := by
  rw [binomial_eq_choose t n k hk h1 hn, hc]; rfl

example : binomial int32 18 9 = some 48620 := by decide +kernel
example : binomial int32 2147483647 2147483646 = some 2147483647 := by decide +kernel

/-- the algorithm of the unrepaired tree overflows on representable results (DESIGN.md section 6 #15):
    `binomial(18,9)` in `int`, and `binomial(26,13)` through `factorial(13)` -/
theorem binomialOld_overflows : binomialOld int32 18 9 = none ∧ binomialOld int32 26 13 = none ∧
    int32.fits (((18 : Nat).choose 9 : Nat) : Int) = true := by decide +kernel

theorem binomial_symm (t : IType) (n k : Nat) (hk : k ≤ n) (h1 : t.fits 1 = true) (hn : t.fits (n : Int) = true) :
    binomial t (n : Int) (k : Int) = binomial t (n : Int) ((n : Int) - (k : Int)) := by
  have e : (n : Int) - (k : Int) = ((n - k : Nat) : Int) := by omega
  rw [e, binomial_eq_choose t n k hk h1 hn, binomial_eq_choose t n (n - k) (by omega) h1 hn, Nat.choose_symm hk]

theorem pascal (t : IType) (n k : Nat) (hk : k + 1 ≤ n) (h1 : t.fits 1 = true)
    (hn : t.fits ((n : Int) + 1) = true) (hc : t.fits (((n + 1).choose (k + 1) : Nat) : Int) = true) :
    ∃ a b : Int, binomial t (n : Int) (k : Int) = some a ∧ binomial t (n : Int) ((k : Int) + 1) = some b ∧
      binomial t ((n : Int) + 1) ((k : Int) + 1) = some (a + b) := by
  have hn' : t.fits (n : Int) = true := IType.fits_between (IType.fits_zero t) hn (by omega) (by omega)
  have hsum : (n + 1).choose (k + 1) = n.choose k + n.choose (k + 1) := Nat.choose_succ_succ n k
  have fa : t.fits ((n.choose k : Nat) : Int) = true := IType.fits_natCast_of_le t (by omega) hc
  have fb : t.fits ((n.choose (k + 1) : Nat) : Int) = true := IType.fits_natCast_of_le t (by omega) hc
  refine ⟨(n.choose k : Nat), (n.choose (k + 1) : Nat), ?_, ?_, ?_⟩
  · exact binomial_no_overflow t n k (by omega) h1 hn' fa
  · exact_mod_cast binomial_no_overflow t n (k + 1) hk h1 hn' fb
  · have := binomial_no_overflow t (n + 1) (k + 1) (by omega) h1 (by exact_mod_cast hn) hc
    rw [hsum] at this
    exact_mod_cast this

theorem binomial_outside (t : IType) (n k : Int) (h : k < 0 ∨ k > n) : binomial t n k = some 0 := by
  simp [binomial, h]

-- the hypotheses of `pascal` / `binomial_symm` at the top of the 32-bit range: C(33,16) = 1166803110 < 2^31 ≤ C(34,17)
example : binomial int32 32 15 = some 565722720 ∧ binomial int32 32 16 = some 601080390 ∧
    binomial int32 33 16 = some (565722720 + 601080390) ∧ binomial int32 33 17 = binomial int32 33 16 ∧
    binomial int32 34 17 = none ∧ binomial int32 (-1) 0 = some 0 ∧ binomial uint64 67 33 = some 14226520737620288370 := by decide +kernel

section sign
variable {K : Type} [Ring K] [LinearOrder K] [IsStrictOrderedRing K]
/-- `sign` over any ordered ring (the integers and every ordered field): -1 exactly for negative arguments, else 1,
    and `sign x · |x| = x` -/
theorem sign_spec (x : K) :
    (signK x = -1 ↔ x < 0) ∧ (signK x = 1 ↔ 0 ≤ x) ∧ ((signK x : Int) : K) * |x| = x := by
  unfold signK
  by_cases h : x < 0
  · simp [h, abs_of_neg h, not_le.mpr h]
  · have h' : 0 ≤ x := not_lt.mp h
    simp [h, abs_of_nonneg h', h']
end sign

example : signK (-3 : Int) = -1 ∧ signK (0 : Int) = 1 ∧ signK (7/2 : ℚ) = 1 := by decide +kernel

theorem isNaN_any {α} (f : α → Bool) (v : List α) : isNaNV f v = v.any f := by simp [isNaNV, foldl_or]
theorem isInf_any {α} (f : α → Bool) (v : List α) : isInfV f v = v.any f := by simp [isInfV, foldl_or]
theorem isFinite_all {α} (f : α → Bool) (v : List α) : isFiniteV f v = v.all f := by simp [isFiniteV, foldl_and]

theorem isFinite_iff_not_nan_inf (v : List FpClass) :
    isFiniteV isFinite1 v = (!isNaNV isNaN1 v && !isInfV isInf1 v) := by
  rw [isFinite_all, isNaN_any, isInf_any]
  induction v with
  | nil => simp
  | cons c cs ih =>
    simp only [List.all_cons, List.any_cons, ih]
    cases c <;> cases cs.any isNaN1 <;> cases cs.any isInf1 <;> decide

theorem complex_classifiers (z : FpClass × FpClass) :
    isNaNC z = [z.1, z.2].any isNaN1 ∧ isInfC z = [z.1, z.2].any isInf1 ∧ isFiniteC z = [z.1, z.2].all isFinite1 := by
  simp [isNaNC, isInfC, isFiniteC]

/-- `isUnordered(FieldVector<K,1>, FieldVector<K,1>)`: true iff one of the two numbers is NaN -/
theorem isUnordered_any (a b : FpClass) : isUnordered1 a b = [a, b].any isNaN1 := by
  simp [isUnordered1]

-- binary32 bit patterns: 0x7fc00000 is a NaN, 0x7f800000 is +∞, 0x3f800000 is 1.0
example : isNaNV isNaN1 [classify 8 23 0x3f800000, classify 8 23 0x7fc00000] = true ∧
    isInfV isInf1 [classify 8 23 0x3f800000, classify 8 23 0x7f800000] = true ∧
    isFiniteV isFinite1 [classify 8 23 0x3f800000, classify 8 23 0x7f800000] = false ∧
    isFiniteV isFinite1 [classify 8 23 0x3f800000, classify 8 23 0x00000001] = true := by decide +kernel

/-! ## The regenerated rounding-style dispatch and the vector overloads of round / trunc

`Gen/C17RT.lean` and `Gen/C17Vec.lean` are regenerated from float_cmp.cc on every run.  The theorems of this section are
stated about those generated definitions: an edit of the dispatch (`if(val > T(0)) return round_t<…,downward>… else …upward…`)
or of a component loop (bounds, the specialisation called, the styles / epsilon passed on, the helper a vector
specialisation derives from) changes what Lean has to prove here. -/

section dispatch
variable {K : Type} [Zero K] [Neg K] [Sub K] [Mul K] [LT K] [LE K] [DecidableLT K] [DecidableLE K] [IntCast K] [Add K]

/-- the model's `round` for `towardZero` / `towardInf` is the dispatch read from the source, for every scalar type -/
theorem round_dispatch_tied (s : Style) (tr : K → Int) (x e : K) :
    round s .towardZero tr x e = GenRT.round_towardZero.run (fun rs => round s rs tr) x e ∧
    round s .towardInf tr x e = GenRT.round_towardInf.run (fun rs => round s rs tr) x e := dispatch_round s tr x e

theorem trunc_dispatch_tied (s : Style) (uns : Bool) (tr : K → Int) (x e : K) :
    trunc s uns .towardZero tr x e = GenRT.trunc_towardZero.run (fun rs => trunc s uns rs tr) x e ∧
    trunc s uns .towardInf tr x e = GenRT.trunc_towardInf.run (fun rs => trunc s uns rs tr) x e := by
  constructor <;> simp [Dispatch.run, ZeroTest.eval, GenRT.trunc_towardZero, GenRT.trunc_towardInf, trunc]

/-- … and so are the machine-integer versions the driver executes -/
theorem roundM_dispatch_tied (t : IType) (s : Style) (tr : K → Int) (x e : K) :
    roundM t s .towardZero tr x e = GenRT.round_towardZero.run (fun rs => roundM t s rs tr) x e ∧
    roundM t s .towardInf tr x e = GenRT.round_towardInf.run (fun rs => roundM t s rs tr) x e := dispatch_roundM t s tr x e

theorem truncM_dispatch_tied (t : IType) (s : Style) (tr : K → Int) (x e : K) :
    truncM t s .towardZero tr x e = GenRT.trunc_towardZero.run (fun rs => truncM t s rs tr) x e ∧
    truncM t s .towardInf tr x e = GenRT.trunc_towardInf.run (fun rs => truncM t s rs tr) x e := by
  constructor <;> simp [Dispatch.run, ZeroTest.eval, GenRT.trunc_towardZero, GenRT.trunc_towardInf, truncM]

/-- the dispatching specialisations forward to `downward` / `upward` only (no recursion between them) -/
theorem dispatch_no_recursion :
    ∀ d ∈ [GenRT.round_towardZero, GenRT.round_towardInf, GenRT.trunc_towardZero, GenRT.trunc_towardInf],
      (d.thenStyle = .downward ∨ d.thenStyle = .upward) ∧ (d.elseStyle = .downward ∨ d.elseStyle = .upward) := by
  decide

-- -5/2 with absolute epsilon 1/8: toward zero -2, toward infinity -3 (a tie, so the direction decides)
example : GenRT.round_towardZero.run (fun rs => roundM int32 .absolute rs Dy.trunc) (Dy.mk2 (-5) (-1)) (Dy.mk2 1 (-3)) = -2 ∧
    GenRT.round_towardInf.run (fun rs => roundM int32 .absolute rs Dy.trunc) (Dy.mk2 (-5) (-1)) (Dy.mk2 1 (-3)) = -3 ∧
    GenRT.trunc_towardZero.run (fun rs => truncM int32 .absolute rs Dy.trunc) (Dy.mk2 (-5) (-1)) (Dy.mk2 1 (-3)) = -2 ∧
    GenRT.trunc_towardInf.run (fun rs => truncM int32 .absolute rs Dy.trunc) (Dy.mk2 (-5) (-1)) (Dy.mk2 1 (-3)) = -3 := by decide +kernel

end dispatch

section vector_eq
variable {K : Type} [Zero K] [Neg K] [Sub K] [Mul K] [LT K] [LE K] [DecidableLT K] [DecidableLE K]

/-- **the vector comparisons regenerated from float_cmp.cc** (`Gen/C17EqVec.lean`: size test, loop bounds, the component
    comparison called with which style / operands / epsilon, the helper each `eq_t<vector, style>` derives from) **are the model's
    `eqVec` / `eqFV`**, about which `vec_eq_conj`, `fvec_eq_conj`, `vec_trichotomy`, `fp_vec_*` … are stated — every scalar
    type, every length -/
theorem vec_eq_tied (s : Style) (a b : List K) (e : K) :
    GenEqVec.eq_std_vec eqS s a b e = eqVec s a b e ∧
    (a.length = b.length → GenEqVec.eq_fvec eqS s a b e = eqFV s a b e) := eqvec_tied s a b e

example : GenEqVec.eq_std_vec eqS .absolute [Dy.mk2 1 0, Dy.mk2 3 (-1)] [Dy.mk2 1 0, Dy.mk2 13 (-3)] (Dy.mk2 1 (-2)) = true ∧
    GenEqVec.eq_std_vec eqS .absolute [Dy.mk2 1 0, Dy.mk2 3 (-1)] [Dy.mk2 1 0, Dy.mk2 3 (-1), Dy.mk2 0 0] (Dy.mk2 1 (-2)) = false ∧
    GenEqVec.eq_fvec eqS .relativeStrong [Dy.mk2 1 0, Dy.mk2 3 (-1)] [Dy.mk2 1 0, Dy.mk2 2 0] (Dy.mk2 1 (-3)) = false := by decide +kernel

end vector_eq

section vector_round

/-- **vector round / trunc = the scalar function applied to every component** — `std::vector` and `FieldVector`, every
    rounding style, every length, every scalar type, whatever the component functions are
    (after fixes/C17_vector_round_trunc.patch; before it these overloads cannot be instantiated) -/
theorem vec_round_trunc_eq_map {K : Type} [Zero K] (round_t trunc_t : Style → RStyle → K → K → Int) (cs : Style) (rs : RStyle)
    (v : List K) (e : K) :
    GenVec.round_std_vec round_t trunc_t cs rs v e = v.map (fun x => round_t cs rs x e) ∧
    GenVec.round_fvec round_t trunc_t cs rs v e = v.map (fun x => round_t cs rs x e) ∧
    GenVec.trunc_std_vec round_t trunc_t cs rs v e = v.map (fun x => trunc_t cs rs x e) ∧
    GenVec.trunc_fvec round_t trunc_t cs rs v e = v.map (fun x => trunc_t cs rs x e) := vec_eq_map round_t trunc_t cs rs v e

example : GenVec.round_std_vec (fun s rs x e => roundM int32 s rs Dy.trunc x e) (fun s rs x e => truncM int32 s rs Dy.trunc x e)
      .absolute .downward [Dy.mk2 1 (-1), Dy.mk2 (-5) (-1), Dy.mk2 3 0] (Dy.mk2 1 (-3)) = [0, -3, 3] ∧
    GenVec.trunc_fvec (fun s rs x e => roundM uint8 s rs Dy.trunc x e) (fun s rs x e => truncM uint8 s rs Dy.trunc x e)
      .absolute .upward [Dy.mk2 1 (-1), Dy.mk2 (-1) (-1), Dy.mk2 3 0] (Dy.mk2 1 (-3)) = [1, 0, 3] := by decide +kernel

variable {K : Type} [Field K] [LinearOrder K] [IsStrictOrderedRing K]

/-- the scalar specialisations as the vector loops see them -/
abbrev roundT (tr : K → Int) : Style → RStyle → K → K → Int := fun s rs x e => round s rs tr x e
abbrev truncT (uns : Bool) (tr : K → Int) : Style → RStyle → K → K → Int := fun s rs x e => trunc s uns rs tr x e
abbrev roundMT (t : IType) (tr : K → Int) : Style → RStyle → K → K → Int := fun s rs x e => roundM t s rs tr x e
abbrev truncMT (t : IType) (tr : K → Int) : Style → RStyle → K → K → Int := fun s rs x e => truncM t s rs tr x e

/-- **vector round: every component of the result is within the documented distance of the corresponding component of the
    argument** (`round_within` lifted through the regenerated loops; all lengths) -/
theorem vec_round_within (s : Style) (rs : RStyle) {tr : K → Int} (htr : IsTrunc tr) (v : List K) (e : K) (h0 : 0 ≤ e) :
    let P := fun (x : K) (r : Int) => |((r : Int) : K) - x| < 1 ∧ (eqS s ((r : Int) : K) x e = true ∨ |((r : Int) : K) - x| ≤ 1 / 2 + e / 2)
    Componentwise P v (GenVec.round_std_vec (roundT tr) (truncT false tr) s rs v e) ∧
    Componentwise P v (GenVec.round_fvec (roundT tr) (truncT false tr) s rs v e) := by
  intro P
  obtain ⟨h1, h2, _, _⟩ := vec_eq_map (roundT tr) (truncT false tr) s rs v e
  rw [h1, h2]
  have h := componentwise_map P _ v (fun x _ => round_within s rs htr x e h0)
  exact ⟨h, h⟩

/-- **vector trunc: every component is `⌊x⌋` or `⌊x⌋+1` of its argument component, `x-1 < r ≤ x+1`** -/
theorem vec_trunc_within (s : Style) (rs : RStyle) {tr : K → Int} (htr : IsTrunc tr) (v : List K) (e : K) (h0 : 0 ≤ e) :
    let P := fun (x : K) (r : Int) => (r = floorOf tr x ∨ r = floorOf tr x + 1) ∧ x - 1 < ((r : Int) : K) ∧ ((r : Int) : K) ≤ x + 1
    Componentwise P v (GenVec.trunc_std_vec (roundT tr) (truncT false tr) s rs v e) ∧
    Componentwise P v (GenVec.trunc_fvec (roundT tr) (truncT false tr) s rs v e) := by
  intro P
  obtain ⟨_, _, h3, h4⟩ := vec_eq_map (roundT tr) (truncT false tr) s rs v e
  rw [h3, h4]
  have h := componentwise_map P _ v (fun x _ => trunc_within s rs htr x e h0)
  exact ⟨h, h⟩

/-- the vector overloads with the integer target type explicit (what the driver executes) are the mathematical ones whenever
    nothing wraps around in any component (`noWrap_cases`) -/
theorem vec_roundM_truncM_eq (t : IType) (s : Style) (rs : RStyle) {tr : K → Int} (v : List K) (e : K)
    (h : ∀ x ∈ v, NoWrap t tr x) :
    GenVec.round_std_vec (roundMT t tr) (truncMT t tr) s rs v e = GenVec.round_std_vec (roundT tr) (truncT (!t.signed) tr) s rs v e ∧
    GenVec.round_fvec (roundMT t tr) (truncMT t tr) s rs v e = GenVec.round_fvec (roundT tr) (truncT (!t.signed) tr) s rs v e ∧
    GenVec.trunc_std_vec (roundMT t tr) (truncMT t tr) s rs v e = GenVec.trunc_std_vec (roundT tr) (truncT (!t.signed) tr) s rs v e ∧
    GenVec.trunc_fvec (roundMT t tr) (truncMT t tr) s rs v e = GenVec.trunc_fvec (roundT tr) (truncT (!t.signed) tr) s rs v e := by
  obtain ⟨a1, a2, a3, a4⟩ := vec_eq_map (roundMT t tr) (truncMT t tr) s rs v e
  obtain ⟨b1, b2, b3, b4⟩ := vec_eq_map (roundT tr) (truncT (!t.signed) tr) s rs v e
  rw [a1, a2, a3, a4, b1, b2, b3, b4]
  have hr : v.map (fun x => roundMT t tr s rs x e) = v.map (fun x => roundT tr s rs x e) :=
    List.map_congr_left fun x hx => roundM_eq_round t s rs x e (h x hx)
  have ht : v.map (fun x => truncMT t tr s rs x e) = v.map (fun x => truncT (!t.signed) tr s rs x e) :=
    List.map_congr_left fun x hx => truncM_eq_trunc t s rs x e (h x hx)
  exact ⟨hr, hr, ht, ht⟩

-- [1/2, -5/2, 3] over ℚ, absolute epsilon 1/8: hypotheses satisfiable (trQ is a truncation, every int32 component is NoWrap)
example : Componentwise (fun (x : ℚ) (r : Int) => |((r : Int) : ℚ) - x| < 1 ∧
      (eqS .absolute ((r : Int) : ℚ) x (1/8) = true ∨ |((r : Int) : ℚ) - x| ≤ 1 / 2 + (1/8) / 2))
    [1/2, -5/2, 3] (GenVec.round_std_vec (roundT trQ) (truncT false trQ) .absolute .downward [1/2, -5/2, 3] (1/8)) :=
  (vec_round_within .absolute .downward trQ_isTrunc [1/2, -5/2, 3] (1/8) (by norm_num)).1
example : ∀ x ∈ ([1/2, -5/2, 3] : List ℚ), NoWrap int32 trQ x :=
  fun x _ => noWrap_cases int32 trQ_isTrunc x (Or.inl ⟨rfl, by decide⟩)

end vector_round

section floating_vector
variable {f : Fmt}

/-- in the rounding arithmetic of every format: the vector overloads of round and trunc return a vector of integer-valued
    numbers unchanged (component `p = (n, i)`: the number `.fin n` is `T(i)` and `I(.fin n) = i`), every length, every style -/
theorem fp_vec_round_trunc_int (s : Style) (rs : RStyle) (m : Int) (hm : 0 ≤ m) (c : List (Int × Int))
    (h : ∀ p ∈ c, ((p.2 : Int) : FP f) = .fin p.1 ∧ FP.trunc (.fin p.1 : FP f) = p.2) :
    let rT : Style → RStyle → FP f → FP f → Int := fun s rs x e => round s rs FP.trunc x e
    let tT : Style → RStyle → FP f → FP f → Int := fun s rs x e => trunc s false rs FP.trunc x e
    let v : List (FP f) := c.map fun p => .fin p.1
    GenVec.round_std_vec rT tT s rs v (.fin m) = c.map (·.2) ∧ GenVec.round_fvec rT tT s rs v (.fin m) = c.map (·.2) ∧
    GenVec.trunc_std_vec rT tT s rs v (.fin m) = c.map (·.2) ∧ GenVec.trunc_fvec rT tT s rs v (.fin m) = c.map (·.2) := by
  intro rT tT v
  obtain ⟨h1, h2, h3, h4⟩ := vec_eq_map rT tT s rs v (.fin m)
  rw [h1, h2, h3, h4]
  have key := fun (p : Int × Int) (hp : p ∈ c) => fp_round_trunc_int (f := f) s rs p.1 p.2 m hm (h p hp).1 (h p hp).2
  have hr : v.map (fun x => rT s rs x (.fin m)) = c.map (·.2) := by
    simp only [v, List.map_map]
    exact List.map_congr_left fun p hp => (key p hp).1
  have ht : v.map (fun x => tT s rs x (.fin m)) = c.map (·.2) := by
    simp only [v, List.map_map]
    exact List.map_congr_left fun p hp => (key p hp).2
  exact ⟨hr, hr, ht, ht⟩

-- the 8-bit format (grid unit 2^-9): the vector (16, -3, 0); 17 is not a number of the format, so `16+1` converts back to 16
example : ∀ p ∈ [((8192 : Int), (16 : Int)), (-1536, -3), (0, 0)],
    ((p.2 : Int) : FP Fmt.mf8) = .fin p.1 ∧ FP.trunc (.fin p.1 : FP Fmt.mf8) = p.2 := by decide +kernel

end floating_vector

end DV.C17
