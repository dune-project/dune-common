import DuneVerif.Proofs.C04H
import DuneVerif.Proofs.C04L
/-!
C04 — RemoteIndices equals the pairwise intersection of the published index sets.

Property theorems about the two-layer model of remoteindices.hh (after fixes/C04_*.patch):

* the per-rank layer `DuneVerif/Model/C04.lean` (`DV.C04`): merge-joins, `unpackCreateRemote`, `buildRemote` of one rank
  given the ranks whose original messages it processes, `RIState`;
* the faithful layer `DuneVerif/Model/C04F.lean` (`DV.C04.F`, what the driver runs): buffer cursor and entry counts,
  the ring as a state machine over all ranks, the neighbour exchange at network level, the `World` of index set
  objects / `RemoteIndices` objects with its events; its decisions and rank arithmetic are the definitions
  `DV.C04.Gen.*` regenerated from the source on every run;
* beside them `DuneVerif/Model/C04L.lean` (`DV.C04.L`): the ways a local index is constructed (regenerated, `DV.C04.GenL`)
  and the chunked storage the pairs lie in.

All theorems are for every process count `P ≥ 1`, every decomposition (`System.Strict` = no repeated global indices,
where needed), `ignorePublic` and `includeSelf` arbitrary, one or two index sets on each rank independently, every
arrival order, every history.  MPI itself is trusted (reliable, pairwise FIFO).

Vocabulary (Model/C04.lean): `spec A B` = one entry per pair of `A` whose global index occurs in `B`, in `A`'s
order, carrying `B`'s attribute; `srcPairs/dstPairs ign` = the published source / (effective) target pairs;
`buildRemote ign sys p order` = the map rank ↦ (send, receive) on rank `p`, `order` = arrival order of the
hinted neighbours' messages (neighbour mode); `sendList/recvList m q` = the lists for `q`, empty if `q` has no entry.
-/
namespace DV.C04

/-- `unpackIndices` on inputs without repeated globals is the sorted intersection: one remote index per local pair
    whose global index was received, in ascending order, carrying the *remote* attribute and the local pair
    (the rewind branch is dead code here; `fromSelf` drops equal attributes). -/
theorem unpack_spec_strict (fromSelf : Bool) (remote : List Wire) (loc : List Pair)
    (hr : StrictW remote) (hl : StrictG loc) :
    unpackLoop fromSelf remote loc = join fromSelf loc remote := by
  rw [unpackLoop_eq_joinAll fromSelf remote loc (hr.imp Int.le_of_lt) (hl.imp Int.le_of_lt), joinAll_eq_join hr hl]

example : StrictW [⟨1, 0⟩, ⟨3, 2⟩, ⟨4, 1⟩] ∧ StrictG [⟨0, 0, 1, true⟩, ⟨3, 1, 3, true⟩, ⟨4, 2, 1, false⟩] ∧
    unpackLoop false [⟨1, 0⟩, ⟨3, 2⟩, ⟨4, 1⟩] [⟨0, 0, 1, true⟩, ⟨3, 1, 3, true⟩, ⟨4, 2, 1, false⟩]
      = [⟨2, ⟨3, 1, 3, true⟩⟩, ⟨1, ⟨4, 2, 1, false⟩⟩] := by decide +kernel

/-- **unpack_spec** (Tier B, repeated global indices allowed): for inputs that are merely sorted, the merge-join with
    its rewind yields every pair (remote entry, local pair) with equal global index — except, for the own message,
    those of equal attribute — ordered by remote entry, then local pair. -/
theorem unpack_spec (fromSelf : Bool) (remote : List Wire) (loc : List Pair)
    (hr : SortedW remote) (hl : SortedG loc) :
    unpackLoop fromSelf remote loc = joinAll fromSelf loc remote :=
  unpackLoop_eq_joinAll fromSelf remote loc hr hl

/-- global index 5 twice on both sides (attributes 0/3 remote, 1/2 local): the rewind produces all four pairs -/
example : SortedW [⟨5, 0⟩, ⟨5, 3⟩, ⟨7, 1⟩] ∧ SortedG [⟨2, 0, 0, true⟩, ⟨5, 1, 1, true⟩, ⟨5, 2, 2, true⟩, ⟨7, 3, 1, true⟩] ∧
    unpackLoop true [⟨5, 0⟩, ⟨5, 3⟩, ⟨7, 1⟩] [⟨2, 0, 0, true⟩, ⟨5, 1, 1, true⟩, ⟨5, 2, 2, true⟩, ⟨7, 3, 1, true⟩]
      = [⟨0, ⟨5, 1, 1, true⟩⟩, ⟨0, ⟨5, 2, 2, true⟩⟩, ⟨3, ⟨5, 1, 1, true⟩⟩, ⟨3, ⟨5, 2, 2, true⟩⟩] := by decide +kernel

/-- **unpack_cursor_refines**: the faithful single-list `unpackIndices` — one `MPI_Unpack` per entry read, rewind test on
    the entry just unpacked, trailing unpack loop — computes the list-level merge-join and leaves the position behind
    the `n` announced entries.  (`h` is not used: where the buffer ends early, `take` and `drop` end with it.) -/
theorem unpack_cursor_refines (fromSelf : Bool) (buf : List Wire) (n : Nat) (loc : List Pair) (h : n ≤ buf.length) :
    F.unpackIndices fromSelf buf n loc = (if n = 0 then [] else unpackLoop fromSelf (buf.take n) loc, buf.drop n) := by
  rw [F.unpackIndices_eq, unpackIndices_pair]

/-- the buffer position after the faithful `unpackIndices`: exactly `n` entries are consumed, whatever the loop did
    (exhausted local list, break after the last entry, rewinds) — needed by the two-set path -/
theorem unpack_consumes_all (fromSelf : Bool) (buf : List Wire) (n : Nat) (loc : List Pair) (h : n ≤ buf.length) :
    (F.unpackIndices fromSelf buf n loc).2 = buf.drop n := by
  rw [unpack_cursor_refines fromSelf buf n loc h]

/-- local list exhausted after the first of four announced entries: the three others are still skipped -/
example : F.unpackIndices false [⟨1, 0⟩, ⟨3, 2⟩, ⟨3, 1⟩, ⟨9, 1⟩, ⟨20, 0⟩] 4 [⟨1, 0, 1, true⟩]
    = ([⟨0, ⟨1, 0, 1, true⟩⟩], [⟨20, 0⟩]) := by decide +kernel

/-- the two-list `unpackIndices` (one remote set against our source and target sets) -/
theorem unpackBoth_spec_strict (remote : List Wire) (ls ld : List Pair)
    (hr : StrictW remote) (hs : StrictG ls) (hd : StrictG ld) :
    unpackBoth remote ls ld = (join false ls remote, join false ld remote) := by
  rw [unpackBoth_eq_joinAll (hr.imp Int.le_of_lt) hs hd, joinAll_eq_join hr hs, joinAll_eq_join hr hd]

example : unpackBoth [⟨1, 0⟩, ⟨3, 2⟩] [⟨3, 0, 1, true⟩] [⟨1, 0, 0, true⟩, ⟨3, 1, 1, true⟩]
    = ([⟨2, ⟨3, 0, 1, true⟩⟩], [⟨0, ⟨1, 0, 0, true⟩⟩, ⟨2, ⟨3, 1, 1, true⟩⟩]) := by decide +kernel

/-! ### an example system used for the non-vacuity examples: 3 ranks, rank 1 with two index sets -/

def exSys : System where
  P := 3
  rank
    | 0 => { src := [⟨1, 0, 0, true⟩, ⟨2, 1, 1, true⟩, ⟨5, 2, 0, false⟩], incl := true, hints := [1, 2] }
    | 1 => { src := [⟨2, 0, 0, true⟩, ⟨3, 1, 0, true⟩], tgt := [⟨1, 0, 3, true⟩, ⟨5, 1, 2, true⟩], two := true, hints := [0, 1] }
    | 2 => { src := [⟨5, 7, 3, true⟩], hints := [0] }
    | _ => {}

theorem exSys_ranks : ∀ {p : Nat}, p < exSys.P → p = 0 ∨ p = 1 ∨ p = 2
  | 0, _ => Or.inl rfl
  | 1, _ => Or.inr (Or.inl rfl)
  | 2, _ => Or.inr (Or.inr rfl)
  | n + 3, h => absurd h (Nat.not_lt.mpr (Nat.le_add_left 3 n))

theorem exSys_strict : exSys.Strict := by
  intro p hp
  rcases exSys_ranks hp with rfl | rfl | rfl <;> decide +kernel

theorem GoodMode.valid {ign : Bool} {sys : System} {p : Nat} {order : List Nat} (hp : p < sys.P)
    (h : GoodMode ign sys p order) : ValidSources sys p order := by
  rcases h with h | h
  · exact validSources_ring hp order h
  · exact validSources_nb h.1.1 h.1.2 hp

/-- a rank whose message is not processed (neighbour mode, not a neighbour) shares nothing, by the covering hints -/
theorem GoodMode.unprocessed {ign : Bool} {sys : System} {p q : Nat} {order : List Nat} (hm : GoodMode ign sys p order)
    (hs : sys.Strict) (hp : p < sys.P) (hq : q < sys.P) (hpq : q ≠ p) (hnot : q ∉ sources sys p order) :
    fromRank ign sys p q false = none := by
  by_cases hnil : nbIds (sys.rank p) p = []
  · exact absurd ((mem_ringOrder hp q).mpr ⟨hq, hpq⟩) (sources_ring hnil order ▸ hnot)
  · rw [sources_nb hnil] at hnot
    obtain ⟨hvo, hcov⟩ := hm.resolve_left hnil
    rw [fromRank_spec ign sys hs hp hq false (by simp)]
    exact (optLists_none_iff _).mpr (hcov q hq hpq fun hin => hnot (hvo.1.mem_iff.mpr hin))

/-- in ring mode or with covering hints every lookup is as if the message of every other rank had been processed -/
theorem GoodMode.find {ign : Bool} {sys : System} {p : Nat} {order : List Nat} (hm : GoodMode ign sys p order)
    (hs : sys.Strict) (hp : p < sys.P) (k : Nat) :
    (buildRemote ign sys p order).find k =
      if k = p then
        (if ((sys.rank p).two || (sys.rank p).incl) = true then fromRank ign sys p p (sys.rank p).incl else none)
      else if k < sys.P then fromRank ign sys p k false else none := by
  rw [find_buildRemote ign sys p order (hm.valid hp) hp k]
  by_cases hk : k = p
  · rw [if_pos hk, if_pos hk]
  · rw [if_neg hk, if_neg hk]
    by_cases hin : k ∈ sources sys p order
    · rw [if_pos hin, if_pos (hm.valid hp k hin).1]
    · rw [if_neg hin]
      by_cases hkP : k < sys.P
      · rw [if_pos hkP, hm.unprocessed hs hp hkP hk hin]
      · rw [if_neg hkP]

/-- **rebuild_spec**: after the collective rebuild, rank `p` holds for every other rank `q`
    send list = `spec (published src_p) (published tgt_q)` and receive list = `spec (published tgt_p) (published src_q)`:
    exactly one entry per global index present (and public unless ignored) on both sides, carrying `p`'s own pair
    and the attribute on `q`.  All `P ≥ 1`, all strict decompositions, one or two sets per rank, ring mode or
    covering hints with any arrival order. -/
theorem rebuild_spec (ign : Bool) (sys : System) (hs : sys.Strict) (p q : Nat) (hp : p < sys.P) (hq : q < sys.P)
    (hpq : q ≠ p) (order : List Nat) (hm : GoodMode ign sys p order) :
    (buildRemote ign sys p order).sendList q = spec ((sys.rank p).srcPairs ign) ((sys.rank q).dstPairs ign) ∧
    (buildRemote ign sys p order).recvList q = spec ((sys.rank p).dstPairs ign) ((sys.rank q).srcPairs ign) := by
  have hf := hm.find hs hp q
  rw [if_neg hpq, if_pos hq, fromRank_spec ign sys hs hp hq false (by simp)] at hf
  exact RMap.lists_of_find hf

theorem exSys_order : ValidOrder exSys 0 [2, 1] := ⟨by decide +kernel, by decide +kernel⟩

/-- rank 0 of the example names both other ranks -/
theorem exSys_cover : HintsCover false exSys 0 := by
  intro q hq hne hnot
  rcases exSys_ranks hq with rfl | rfl | rfl
  · exact absurd rfl hne
  · exact absurd hnot (by decide +kernel)
  · exact absurd hnot (by decide +kernel)

example : exSys.Strict ∧ GoodMode false exSys 0 [2, 1] ∧
    (buildRemote false exSys 0 [2, 1]).sendList 1 = [⟨3, ⟨1, 0, 0, true⟩⟩] ∧
    (buildRemote false exSys 0 [2, 1]).recvList 1 = [⟨0, ⟨2, 1, 1, true⟩⟩] :=
  ⟨exSys_strict, Or.inr ⟨exSys_order, exSys_cover⟩, by decide +kernel, by decide +kernel⟩

/-- **rebuild_sorted**: the ranks of the map are strictly ascending, and every send and receive list is strictly
    ascending in the global index. -/
theorem rebuild_sorted (ign : Bool) (sys : System) (hs : sys.Strict) (p : Nat) (hp : p < sys.P)
    (order : List Nat) (hv : ValidSources sys p order) :
    (buildRemote ign sys p order).SortedKeys ∧
    ∀ e ∈ buildRemote ign sys p order, StrictR e.2.1 ∧ StrictR e.2.2 := by
  refine ⟨sorted_buildRemote ign sys p order, fun e he => ?_⟩
  have key : ∀ (q : Nat) (fs : Bool), q < sys.P → (fs = true → (sys.rank p).two = (sys.rank q).two) →
      fromRank ign sys p q fs = some e.2 → StrictR e.2.1 ∧ StrictR e.2.2 := by
    intro q fs hq hfs h
    rw [fromRank_spec ign sys hs hp hq fs hfs] at h
    rw [optLists_some h]
    exact ⟨strictR_join (strictG_published (hs p hp).1 ign) _ _,
      strictR_join (strictG_dstPairs (hs p hp).1 (hs p hp).2 ign) _ _⟩
  rcases mem_buildRemote he with ⟨_, h⟩ | ⟨hq, h⟩
  · exact key p _ hp (fun _ => rfl) h
  · exact key e.1 false (hv e.1 hq).1 (by simp) h

example : ValidSources exSys 1 [0] := validSources_nb (by decide +kernel) (by decide +kernel) (by decide +kernel)

/-- **no_empty_neighbour**: a rank with which nothing is shared does not appear (no hypotheses at all). -/
theorem no_empty_neighbour (ign : Bool) (sys : System) (p : Nat) (order : List Nat) :
    ∀ e ∈ buildRemote ign sys p order, e.2.1 ≠ [] ∨ e.2.2 ≠ [] := by
  intro e he
  rcases mem_buildRemote he with ⟨_, h⟩ | ⟨_, h⟩ <;> exact unpackCreateRemote_some_nonempty h

/-- ranks 0 and 2 of the example share only the non-public index 5: no entry for 2 on rank 0 unless ignorePublic -/
example : (buildRemote false exSys 0 [1, 2]).find 2 = none ∧ (buildRemote true exSys 0 [1, 2]).find 2 ≠ none := by decide +kernel

/-- **self_entry_cases**: entries for the process itself.
    (1) one index set, `includeSelf = false`: none.
    (2) two index sets, `includeSelf = false`: the process is treated like any other rank.
    (3) one index set, `includeSelf = true`: only pairs of *different* attribute on the same global index would be
        listed (`join true`), hence with at most one entry per global index there is no self entry.
    (4) two index sets, `includeSelf = true`: like (2) but without the pairs of equal attribute (this is what the
        code does: `fromOurSelf = includeSelf`). -/
theorem self_entry_cases (ign : Bool) (sys : System) (hs : sys.Strict) (p : Nat) (hp : p < sys.P)
    (order : List Nat) (hv : ValidSources sys p order) :
    let me := sys.rank p
    let m := buildRemote ign sys p order
    (me.two = false → me.incl = false → m.find p = none) ∧
    (me.two = true → me.incl = false →
      m.sendList p = spec (me.srcPairs ign) (me.dstPairs ign) ∧ m.recvList p = spec (me.dstPairs ign) (me.srcPairs ign)) ∧
    (me.two = false → me.incl = true → m.find p = none) ∧
    (me.two = true → me.incl = true →
      m.sendList p = join true (me.srcPairs ign) (wire (me.dstPairs ign)) ∧
      m.recvList p = join true (me.dstPairs ign) (wire (me.srcPairs ign))) := by
  have hf := find_buildRemote ign sys p order hv hp p
  rw [if_pos rfl] at hf
  have hself := fun b => fromRank_spec ign sys hs hp hp b (fun _ => rfl)
  have two : ∀ b, (sys.rank p).two = true → (sys.rank p).incl = b →
      (buildRemote ign sys p order).sendList p = join b ((sys.rank p).srcPairs ign) (wire ((sys.rank p).dstPairs ign)) ∧
      (buildRemote ign sys p order).recvList p = join b ((sys.rank p).dstPairs ign) (wire ((sys.rank p).srcPairs ign)) := by
    intro b h2 hi
    rw [if_pos (by rw [h2]; rfl), hi, hself] at hf
    exact RMap.lists_of_find hf
  refine ⟨fun h2 hi => ?_, two false, fun h2 hi => ?_, two true⟩
  · rw [hf, h2, hi]
    rfl
  · have := join_self_fromSelf (strictG_published (hs p hp).1 ign)
    rw [hf, hi, if_pos (Bool.or_true _), hself, optLists_none_iff, specLists, dstPairs_of_one h2]
    exact ⟨this, this⟩

example : (buildRemote false exSys 1 [0]).sendList 1 = [] ∧
    (buildRemote true exSys 1 [0]).find 1 = none ∧ (buildRemote false exSys 0 [1, 2]).find 0 = none := by decide +kernel

/-- **arrival_order_irrelevant**: in neighbour mode the result does not depend on the order in which
    `MPI_Probe(MPI_ANY_SOURCE)` delivers the neighbours' messages. -/
theorem arrival_order_irrelevant (ign : Bool) (sys : System) (p : Nat) (o₁ o₂ : List Nat) (h : o₁.Perm o₂) :
    buildRemote ign sys p o₁ = buildRemote ign sys p o₂ :=
  buildRemote_perm ign sys p o₁ o₂ h

example : ([2, 1] : List Nat).Perm [1, 2] ∧ buildRemote false exSys 0 [2, 1] = buildRemote false exSys 0 [1, 2] :=
  have h : ([2, 1] : List Nat).Perm [1, 2] := by decide +kernel
  ⟨h, arrival_order_irrelevant false exSys 0 _ _ h⟩

/-- **neighbours_eq_ring**: with hints that name every rank sharing a published index (any arrival order) the
    result is the one of the ring algorithm. -/
theorem neighbours_eq_ring (ign : Bool) (sys : System) (hs : sys.Strict) (p : Nat) (hp : p < sys.P)
    (order : List Nat) (hv : ValidOrder sys p order) (hc : HintsCover ign sys p) :
    buildRemote ign sys p order = buildRemote ign sys.ring p [] := by
  have hm : GoodMode ign sys p order := Or.inr ⟨hv, hc⟩
  have hmr : GoodMode ign sys.ring p [] := Or.inl rfl
  refine RMap.ext (sorted_buildRemote _ _ _ _) (sorted_buildRemote _ _ _ _) fun k => ?_
  rw [hm.find hs hp k, hmr.find hs hp k]
  rfl

example : buildRemote false exSys 0 [2, 1] = buildRemote false exSys.ring 0 [] :=
  neighbours_eq_ring false exSys exSys_strict 0 (by decide) _ exSys_order exSys_cover

/-- **rebuild_spec_repeated** (Tier B): systems in which every rank uses one index set that may contain a global
    index several times (with different attributes; lists sorted by global index).  For every rank `q` whose message
    `p` processes (ring mode: every other rank) send and receive list are the same list: all pairs of a published
    local pair and a published remote entry with equal global index; with `includeSelf` the self entry lists exactly
    the pairs of *different* attribute on the same global index. -/
theorem rebuild_spec_repeated (ign : Bool) (sys : System)
    (h1 : ∀ p, p < sys.P → (sys.rank p).two = false ∧ SortedG (sys.rank p).src)
    (p : Nat) (hp : p < sys.P) (order : List Nat) (hv : ValidSources sys p order) :
    (∀ q, q ≠ p → q ∈ sources sys p order →
      (buildRemote ign sys p order).sendList q = joinAll false ((sys.rank p).srcPairs ign) (wire ((sys.rank q).srcPairs ign)) ∧
      (buildRemote ign sys p order).recvList q = joinAll false ((sys.rank p).srcPairs ign) (wire ((sys.rank q).srcPairs ign))) ∧
    ((sys.rank p).incl = true →
      (buildRemote ign sys p order).sendList p = joinAll true ((sys.rank p).srcPairs ign) (wire ((sys.rank p).srcPairs ign)) ∧
      (buildRemote ign sys p order).recvList p = joinAll true ((sys.rank p).srcPairs ign) (wire ((sys.rank p).srcPairs ign))) := by
  constructor
  · intro q hqp hq
    have hqP := (hv q hq).1
    have hf := find_buildRemote ign sys p order hv hp q
    rw [if_neg hqp, if_pos hq, fromRank_oneset ign sys (h1 p hp).1 (h1 q hqP).1 (h1 p hp).2 (h1 q hqP).2] at hf
    exact RMap.lists_of_find hf
  · intro hi
    have hf := find_buildRemote ign sys p order hv hp p
    rw [if_pos rfl, if_pos (by simp [hi]), hi,
      fromRank_oneset ign sys (h1 p hp).1 (h1 p hp).1 (h1 p hp).2 (h1 p hp).2] at hf
    exact RMap.lists_of_find hf

/-- one rank, one set, includeSelf: global index 4 as (local 0, attr 0) and (local 1, attr 2) -/
def exDup : System where
  P := 1
  rank _ := { src := [⟨4, 0, 0, true⟩, ⟨4, 1, 2, true⟩, ⟨6, 2, 1, true⟩], incl := true }

example : (∀ p, p < exDup.P → (exDup.rank p).two = false ∧ SortedG (exDup.rank p).src) ∧
    (buildRemote false exDup 0 []).sendList 0 = [⟨0, ⟨4, 1, 2, true⟩⟩, ⟨2, ⟨4, 0, 0, true⟩⟩] :=
  ⟨fun _ _ => by simp only [exDup]; decide +kernel, by decide +kernel⟩

/-- **synced_iff**: after `rebuild` (whether it really rebuilt or found itself in sync) the object reports itself in
    sync exactly as long as neither of the index set objects it refers to has completed a resize; resizing an
    unrelated index set does not matter.  (`two = false`: source and target are the same object.) -/
theorem synced_iff (st : RIState) (ign two : Bool) (s : Seqs) (build : Unit → RMap) (evs : List Resize) :
    (st.rebuild ign s.src s.dst build).isSynced (s.applyAll two evs).src (s.applyAll two evs).dst = true
      ↔ ∀ e ∈ evs, e = Resize.other := by
  have h := rebuild_seqs st ign s build
  rw [← Seqs.applyAll_eq_iff two evs s]
  unfold RIState.isSynced
  rw [h.1, h.2, Bool.and_eq_true, beq_iff_eq, beq_iff_eq, Int.ofNat_inj, Int.ofNat_inj]

/-- a freshly constructed object (sequence numbers -1) is never in sync -/
theorem fresh_not_synced (a b : Nat) : ({} : RIState).isSynced a b = false := by
  simp only [RIState.isSynced]
  have : ((-1 : Int) == (a : Int)) = false := by
    rw [beq_eq_false_iff_ne]; omega
  simp [this]

example : (({} : RIState).rebuild false 1 1 (fun _ => [])).isSynced
      ((Seqs.mk 1 1).applyAll true [.other, .target]).src ((Seqs.mk 1 1).applyAll true [.other, .target]).dst = false ∧
    (({} : RIState).rebuild false 1 1 (fun _ => [])).isSynced
      ((Seqs.mk 1 1).applyAll true [.other]).src ((Seqs.mk 1 1).applyAll true [.other]).dst = true := by decide +kernel

/-- **mem_spec_iff**: `spec A B` is the set of doc/comm/communication.tex (eqs. ri_s_set / ri_t_set): an entry is in it
    exactly if its local pair is in `A`, a pair with the same global index is in `B`, and the entry carries that pair's
    attribute. -/
theorem mem_spec_iff (A B : List Pair) (hB : StrictG B) (x : RIdx) :
    x ∈ spec A B ↔ x.loc ∈ A ∧ ∃ b ∈ B, b.g = x.loc.g ∧ b.a = x.ra := by
  unfold spec
  rw [mem_join_iff (strictW_wire hB)]
  refine and_congr_right fun _ => ⟨?_, ?_⟩
  · rintro ⟨r, hr, hg, ha, -⟩
    obtain ⟨b, hb, rfl⟩ := List.mem_map.mp hr
    exact ⟨b, hb, hg, ha⟩
  · rintro ⟨b, hb, hg, ha⟩
    exact ⟨b.wire, List.mem_map_of_mem hb, hg, ha, fun h => by cases h⟩

/-- … and it has exactly one entry per such global index, in ascending order -/
theorem spec_one_per_global (A B : List Pair) (hA : StrictG A) : StrictR (spec A B) := strictR_join hA false _

example : spec [⟨1, 0, 0, true⟩, ⟨2, 1, 1, true⟩] [⟨2, 5, 3, true⟩, ⟨4, 6, 0, true⟩] = [⟨3, ⟨2, 1, 1, true⟩⟩] := by decide +kernel

/-- **appears_iff**: another rank `q` has an entry in `p`'s map exactly if they share something (in either
    direction); together with `rebuild_spec`: processes sharing nothing do not appear, all others do. -/
theorem appears_iff (ign : Bool) (sys : System) (hs : sys.Strict) (p q : Nat) (hp : p < sys.P) (hq : q < sys.P)
    (hpq : q ≠ p) (order : List Nat) (hm : GoodMode ign sys p order) :
    (buildRemote ign sys p order).find q ≠ none ↔
      spec ((sys.rank p).srcPairs ign) ((sys.rank q).dstPairs ign) ≠ [] ∨
      spec ((sys.rank p).dstPairs ign) ((sys.rank q).srcPairs ign) ≠ [] := by
  rw [hm.find hs hp q, if_neg hpq, if_pos hq, fromRank_spec ign sys hs hp hq false (by simp), Ne, optLists_none_iff,
    Decidable.not_and_iff_not_or_not]
  rfl

/-- the map only has entries for ranks of the communicator -/
theorem keys_are_ranks (ign : Bool) (sys : System) (p : Nat) (hp : p < sys.P) (order : List Nat)
    (hv : ValidSources sys p order) : ∀ e ∈ buildRemote ign sys p order, e.1 < sys.P := by
  intro e he
  rcases mem_buildRemote he with ⟨h, _⟩ | ⟨h, _⟩
  · exact h ▸ hp
  · exact (hv e.1 h).1

theorem spec_mirror (A B : List Pair) (hA : StrictG A) (hB : StrictG B) :
    (spec A B).map (fun x => (x.loc.g, x.loc.a, x.ra)) = (spec B A).map (fun x => (x.loc.g, x.ra, x.loc.a)) := by
  refine eq_of_pairwise_of_mem_iff (R := fun s t : Int × Nat × Nat => s.1 < t.1) (fun _ _ => Int.lt_asymm)
    (List.pairwise_map.mpr (strictR_join hA false _)) (List.pairwise_map.mpr (strictR_join hB false _)) fun t => ?_
  simp only [List.mem_map]
  constructor
  · rintro ⟨x, hx, rfl⟩
    obtain ⟨hl, b, hb, hg, ha⟩ := (mem_spec_iff A B hB x).mp hx
    refine ⟨⟨x.loc.a, b⟩, (mem_spec_iff B A hA _).mpr ⟨hb, x.loc, hl, hg.symm, rfl⟩, ?_⟩
    simp [hg, ha]
  · rintro ⟨x, hx, rfl⟩
    obtain ⟨hl, a, ha, hg, haa⟩ := (mem_spec_iff B A hA x).mp hx
    refine ⟨⟨x.loc.a, a⟩, (mem_spec_iff A B hB _).mpr ⟨ha, x.loc, hl, hg.symm, rfl⟩, ?_⟩
    simp [hg, haa]

/-- **send_recv_mirror**: what `p` plans to send to `q` is what `q` expects to receive from `p`: the two lists name the
    same global indices in the same order, `p`'s entry carrying (own attribute, attribute on `q`) and `q`'s entry the
    same two attributes seen from the other side.  (Both ranks in ring mode or with covering hints.) -/
theorem send_recv_mirror (ign : Bool) (sys : System) (hs : sys.Strict) (p q : Nat) (hp : p < sys.P) (hq : q < sys.P)
    (hpq : q ≠ p) (op oq : List Nat) (hmp : GoodMode ign sys p op) (hmq : GoodMode ign sys q oq) :
    ((buildRemote ign sys p op).sendList q).map (fun x => (x.loc.g, x.loc.a, x.ra)) =
    ((buildRemote ign sys q oq).recvList p).map (fun x => (x.loc.g, x.ra, x.loc.a)) := by
  rw [(rebuild_spec ign sys hs p q hp hq hpq op hmp).1, (rebuild_spec ign sys hs q p hq hp (Ne.symm hpq) oq hmq).2]
  exact spec_mirror _ _ (strictG_published (hs p hp).1 ign) (strictG_dstPairs (hs q hq).1 (hs q hq).2 ign)

example : ((buildRemote false exSys 0 [2, 1]).sendList 1).map (fun x => (x.loc.g, x.loc.a, x.ra)) = [(1, 0, 3)] ∧
    ((buildRemote false exSys 1 [0]).recvList 0).map (fun x => (x.loc.g, x.ra, x.loc.a)) = [(1, 0, 3)] := by decide +kernel

/-- the bookkeeping of `rebuild`, `free` and `setIndexSets` as read from the source is what the model performs
    (`RankW.built`, `RankW.free`, `World.step`): `rebuild` frees, builds, then records both sequence numbers,
    `firstBuild=false` and `publicIgnored`; `free` empties the map and makes the next rebuild a real one; `setIndexSets`
    frees (a function the translator cannot locate is `none` and left to the differential run). -/
theorem gen_bookkeeping :
    Gen.rebuildAssigns = ["destSeqNo_=target_->seqNo()", "firstBuild=false", "publicIgnored=ignorePublic",
      "sourceSeqNo_=source_->seqNo()"] ∧
    Gen.rebuildBefore = ["free()"] ∧ Gen.freeClears ≠ some false ∧ Gen.freeMarksFirstBuild ≠ some false ∧
    Gen.setIndexSetsFrees ≠ some false :=
  ⟨rfl, rfl, by decide +kernel, by decide +kernel, by decide +kernel⟩

/-- **gen_configuration**: the configuration calls, as read from the source on this run, *replace* the stored
    configuration by their arguments unconditionally — `setNeighbours` clears before it inserts, `setIndexSets` and the
    five-argument constructor hand their `neighbours` argument on whatever it contains (an empty vector = the omitted
    argument switches back to the ring), `setIndexSets` stores both index sets and the communicator, `setIncludeSelf`
    its argument.  This is what `World.step` / `Config.step` (hence `config_in_force`) say; a statement that was put
    under a condition, dropped or made partial turns the fact into `some false` (one the reader cannot locate is
    `none` and left to the differential run). -/
theorem gen_configuration :
    Gen.setNeighboursReplaces ≠ some false ∧ Gen.setIndexSetsReplacesHints ≠ some false ∧
    Gen.ctorSetsHints ≠ some false ∧ Gen.setIndexSetsSetsBothSets ≠ some false ∧
    Gen.setIndexSetsSetsComm ≠ some false ∧ Gen.setIncludeSelfAssigns ≠ some false := by decide +kernel

/-- the generated `isSynced()` / rebuild test are the ones `synced_iff` speaks about -/
theorem faithful_isSynced (r : F.RankW) :
    r.isSynced = r.ri.isSynced (r.obj r.srcObj).seq (r.obj r.tgtObj).seq := rfl

theorem faithful_rebuild_test (r : F.RankW) (ign : Bool) :
    r.needs ign = (r.ri.firstBuild || ign != r.ri.publicIgnored ||
      !r.ri.isSynced (r.obj r.srcObj).seq (r.obj r.tgtObj).seq) := rfl

/-- **ring_partners_agree**: the rank `p` receives from sends to `p`; it is a rank of the communicator. -/
theorem ring_partners_agree (p P : Nat) (hp : p < P) :
    (Gen.ringRecvFrom p P).toNat < P ∧ (Gen.ringSendTo (Gen.ringRecvFrom p P).toNat P).toNat = p := by
  have hP : 0 < P := by omega
  rw [F.ringRecvFrom_eq hP, F.ringSendTo_eq]
  refine ⟨Nat.mod_lt _ hP, ?_⟩
  rw [Nat.mod_add_mod, Nat.sub_add_cancel (Nat.le_trans hP (Nat.le_add_left P p)), Nat.add_mod_right,
    Nat.mod_eq_of_lt hp]

/-- **ring_buffers_distinct**: in every round the buffer sent and the buffer received into differ (both are 0 or 1) —
    so a rank never overwrites what it is sending. -/
theorem ring_buffers_distinct (k : Nat) :
    Gen.ringOutBuf k ≠ Gen.ringInBuf k ∧ (Gen.ringInBuf k = 0 ∨ Gen.ringInBuf k = 1) ∧
    (Gen.ringOutBuf k = 0 ∨ Gen.ringOutBuf k = 1) := by
  rw [show Gen.ringOutBuf (k : Int) = 1 - Gen.ringInBuf (k : Int) from rfl, F.ringInBuf_eq k]
  rcases Nat.mod_two_eq_zero_or_one k with h | h <;> rw [h] <;> decide

/-- **ring_delivers**: forwarding works — after `k` ring rounds (`k < P`) rank `p` holds, in the buffer it received into,
    the *original* message of rank `(p+P-k)%P`, and that is the rank `buildRemote` labels the content with.
    (`hl` is not used: beyond the end of `msgs` both sides are the default message.) -/
theorem ring_delivers (P : Nat) (msgs : List Msg) (hl : msgs.length = P) (k p : Nat) (hk : k < P) (hp : p < P) :
    ((F.ringState P msgs k).getD p default).get (Gen.ringInBuf k) = msgs.getD ((p + P - k) % P) default ∧
    (Gen.ringOrigin p P k).toNat = (p + P - k) % P ∧ (p + P - k) % P < P :=
  ⟨F.held_ringState hk p hp, F.ringOrigin_eq (Nat.le_trans (Nat.le_of_lt hk) (Nat.le_add_left P p)),
    Nat.mod_lt _ (Nat.zero_lt_of_lt hp)⟩

/-- three ranks, two rounds: rank 0 ends with the message of rank 1 (two places before it) in buffer 0 -/
example : let msgs : List Msg := [⟨false, 0, 0, []⟩, ⟨true, 1, 0, [⟨7, 1⟩]⟩, ⟨false, 2, 0, [⟨1, 0⟩, ⟨2, 0⟩]⟩]
    (((F.ringState 3 msgs 2).getD 0 default).get (Gen.ringInBuf 2)).nS = 1 := by decide +kernel

/-- **consistent_hints_network**: with consistent (symmetric, in-range) hints the ranks that send to `p` are exactly
    the ranks `p` waits for; hence with hints on every rank and any arrival orders, or with no hints anywhere, the
    collective call returns on every rank (`netOK`). -/
theorem consistent_hints_network (sys : System) (arrivals : Nat → List Nat) :
    (F.SymHints sys → ∀ p, p < sys.P → F.senders sys p = nbIds (sys.rank p) p) ∧
    (F.AllRing sys → F.netOK sys arrivals = true) ∧
    (F.AllNb sys → F.SymHints sys → (∀ p, p < sys.P → (arrivals p).Perm (nbIds (sys.rank p) p)) →
      F.netOK sys arrivals = true) :=
  ⟨fun h _ hp => F.senders_eq_nbIds sys h hp, fun h => F.netOK_iff.mpr (Or.inl h),
    fun hn hs ha => F.netOK_iff.mpr (Or.inr fun p hp => by
      rw [F.senders_eq_nbIds sys hs hp]
      exact ⟨hn p hp, fun q hq => (hs p hp q hq).1, ha p hp, rfl⟩)⟩

/-- non-vacuity of `F.SymHints` in `consistent_hints_network` and `history_rebuild_spec` -/
theorem exSys_sym : F.SymHints exSys := by
  intro p hp
  rcases exSys_ranks hp with rfl | rfl | rfl <;> decide +kernel

example : F.AllNb exSys ∧ F.senders exSys 0 = [1, 2] ∧ F.netOK exSys (fun p => if p = 0 then [2, 1] else F.senders exSys p) = true := by
  refine ⟨?_, by decide +kernel, by decide +kernel⟩
  intro p hp
  rcases exSys_ranks hp with rfl | rfl | rfl <;> decide +kernel

/-- **collective_refines**: the faithful collective `buildRemote` (generated decisions, entry counts and buffer cursor,
    ring state machine on all ranks, network-level neighbour exchange) returns, on a working network, on every rank
    the map of the per-rank model — about which `rebuild_spec`, `rebuild_sorted`, … speak. -/
theorem collective_refines (ign : Bool) (sys : System) (arrivals : Nat → List Nat)
    (hn : F.netOK sys arrivals = true) (hP : 0 < sys.P) :
    ∃ maps, F.buildAll ign sys arrivals = some maps ∧ maps.length = sys.P ∧
      ∀ p, p < sys.P → maps.getD p [] = buildRemote ign sys p (arrivals p) :=
  F.buildAll_refines ign sys arrivals hn hP

example : (F.buildAll false exSys (F.stdArrivals exSys)).map (fun maps => maps.getD 0 [])
    = some (buildRemote false exSys 0 [1, 2]) := by decide +kernel

/-- **history_rebuild_fresh**: for every history of resizes (any rank, any index set object, any new contents), `free`,
    `setIndexSets` and collective rebuilds, starting from freshly constructed objects: a collective `rebuild<ign>()`
    that returns leaves every rank with exactly the lists `buildRemote` computes from the *current* index sets of
    all ranks (also when `rebuild` found nothing to do), in sync, with `publicIgnored = ign`.
    (A collective rebuild on which the ranks disagree — some resized, others did not — does not return: `World.rebuild`
    is `none`, and so is the run.) -/
theorem history_rebuild_fresh (w0 : F.World) (h0 : ∀ r ∈ w0, r.ri.firstBuild = true) (evs : List F.Ev)
    (hc : ∀ e ∈ evs, e.core = true) (ign : Bool) (arrivals : Nat → List Nat) (w : F.World)
    (hr : F.World.run w0 (evs ++ [F.Ev.rebuild ign arrivals]) = some w) (p : Nat) (hp : p < w.length) :
    (w.getD p default).ri.remote = buildRemote ign w.sys p (F.senders w.sys p) ∧
    (w.getD p default).isSynced = true ∧ (w.getD p default).ri.publicIgnored = ign := by
  rw [F.run_append] at hr
  obtain ⟨w1, h1, h2⟩ := Option.bind_eq_some_iff.mp hr
  obtain ⟨w2, h3, h4⟩ := F.run_cons_some h2
  cases h4
  have := F.rebuild_fresh (F.inv_run evs (F.inv_fresh w0 h0) hc h1) ign arrivals h3 p hp
  exact ⟨this.remote, this.synced, this.pub⟩

/-- **history_rebuild_spec**: … and therefore, when the current decomposition has no repeated global indices and the
    hints are consistent and covering (or absent), the lists are the pairwise intersections of the *current*
    published index sets. -/
theorem history_rebuild_spec (w0 : F.World) (h0 : ∀ r ∈ w0, r.ri.firstBuild = true) (evs : List F.Ev)
    (hc : ∀ e ∈ evs, e.core = true) (ign : Bool) (arrivals : Nat → List Nat) (w : F.World)
    (hr : F.World.run w0 (evs ++ [F.Ev.rebuild ign arrivals]) = some w)
    (hs : w.sys.Strict) (hsym : F.SymHints w.sys) (p q : Nat) (hp : p < w.length) (hq : q < w.length) (hpq : q ≠ p)
    (hcov : nbIds (w.sys.rank p) p = [] ∨ HintsCover ign w.sys p) :
    (w.getD p default).ri.remote.sendList q = spec ((w.sys.rank p).srcPairs ign) ((w.sys.rank q).dstPairs ign) ∧
    (w.getD p default).ri.remote.recvList q = spec ((w.sys.rank p).dstPairs ign) ((w.sys.rank q).srcPairs ign) := by
  rw [(history_rebuild_fresh w0 h0 evs hc ign arrivals w hr p hp).1]
  apply rebuild_spec ign w.sys hs p q hp hq hpq
  rcases hcov with h | h
  · exact Or.inl h
  · refine Or.inr ⟨⟨?_, fun x hx => (hsym p hp x hx).1⟩, h⟩
    rw [F.senders_eq_nbIds w.sys hsym hp]

/-- **config_in_force**: after *any* history (all events, also `setIncludeSelf`/`setNeighbours`, any interleaving with
    resizes, frees and rebuilds) that returns, every rank works with the configuration of the *last* calls addressed to
    it: index set objects and hints of its last `setIndexSets` (hints: or of a later `setNeighbours`), `includeSelf` of
    its last `setIncludeSelf`, else what it was constructed with.  Nothing of an earlier configuration survives a
    call that sets it — in particular hints do not survive a `setIndexSets` without hints. -/
theorem config_in_force (w0 : F.World) (evs : List F.Ev) (w : F.World) (hr : F.World.run w0 evs = some w) :
    w.length = w0.length ∧
    ∀ p, p < w0.length → (w.getD p default).config = F.Config.after p (w0.getD p default).config evs :=
  F.run_config evs hr

/-- rank 0 is constructed with hints [1], gets hints [1,2] by `setNeighbours`, is re-targeted by `setIndexSets` without
    hints, and `setIncludeSelf(true)` is called: objects (1,0), includeSelf, no hints; rank 1 keeps its hints -/
example : let w0 : F.World := [{ hints := [1] }, { hints := [0] }, {}]
    let evs : List F.Ev := [.setNb 0 [1, 2], .resize 0 0 [⟨1, 0, 0, true⟩], .setSets 0 1 0 [], .setIncl 0 true]
    (F.World.run w0 evs).map (fun w => ((w.getD 0 default).config, (w.getD 1 default).hints))
      = some (⟨1, 0, true, []⟩, [0]) ∧
    F.Config.after 0 (w0.getD 0 default).config evs = ⟨1, 0, true, []⟩ := by decide +kernel

/-- **history_last_hints_ring**: whatever hints the objects had before — a history whose last hint-setting call on
    every rank passes no hints (e.g. `setIndexSets(source, target, comm)` on all ranks after a phase with neighbour
    hints) ends, after the collective rebuild, with the *full* pairwise intersections on every rank and for every
    other rank: no covering hypothesis is left, the ring visits everybody. -/
theorem history_last_hints_ring (w0 : F.World) (h0 : ∀ r ∈ w0, r.ri.firstBuild = true) (evs : List F.Ev)
    (hc : ∀ e ∈ evs, e.core = true) (ign : Bool) (arrivals : Nat → List Nat) (w : F.World)
    (hr : F.World.run w0 (evs ++ [F.Ev.rebuild ign arrivals]) = some w)
    (hlast : ∀ p, p < w0.length → (F.Config.after p (w0.getD p default).config evs).hints = [])
    (hs : w.sys.Strict) (p q : Nat) (hp : p < w.length) (hq : q < w.length) (hpq : q ≠ p) :
    (w.getD p default).ri.remote.sendList q = spec ((w.sys.rank p).srcPairs ign) ((w.sys.rank q).dstPairs ign) ∧
    (w.getD p default).ri.remote.recvList q = spec ((w.sys.rank p).dstPairs ign) ((w.sys.rank q).srcPairs ign) := by
  obtain ⟨hlen, hcfg⟩ := F.run_config _ hr
  have hnil : ∀ r, r < w.length → nbIds (w.sys.rank r) r = [] := by
    intro r hr'
    refine nbIds_nil_of_hints (?_ : (w.getD r default).config.hints = []) r
    -- the final rebuild leaves the configuration alone
    rw [hcfg r (hlen ▸ hr'), F.Config.after, List.foldl_append]
    exact hlast r (hlen ▸ hr')
  have hsym : F.SymHints w.sys := by
    intro r hr' x hx
    rw [hnil r hr'] at hx
    cases hx
  exact history_rebuild_spec w0 h0 evs hc ign arrivals w hr hs hsym p q hp hq hpq (Or.inl (hnil p hp))

/-- three ranks; neighbour hints 0–1, 1–2 (rank 0 and 2 share index 30 but do not name each other: after the first
    rebuild rank 0 has nothing about rank 2); every rank calls `setIndexSets` without hints; the rebuild then gives
    rank 0 its entry for rank 2 -/
def exChain : F.World :=
  [{ o0 := { pairs := [⟨10, 0, 0, true⟩, ⟨30, 1, 0, true⟩] }, hints := [1] },
   { o0 := { pairs := [⟨10, 0, 1, true⟩, ⟨20, 1, 0, true⟩] }, hints := [0, 2] },
   { o0 := { pairs := [⟨20, 0, 1, true⟩, ⟨30, 1, 2, true⟩] }, hints := [1] }]
def exRetarget : List F.Ev := [.rebuild false (fun p => F.senders exChain.sys p), .setSets 0 0 0 [], .setSets 1 0 0 [], .setSets 2 0 0 []]

example : (∀ r ∈ exChain, r.ri.firstBuild = true) ∧ (∀ e ∈ exRetarget, e.core = true) ∧
    (∀ p, p < exChain.length → (F.Config.after p (exChain.getD p default).config exRetarget).hints = []) := by decide +kernel

example : ((F.World.run exChain (exRetarget.take 1)).map fun w => ((w.getD 0 default).ri.remote.sendList 2).map (fun x => (x.loc.g, x.ra)))
      = some [] ∧
    ((F.World.run exChain (exRetarget ++ [.rebuild false (fun _ => [])])).map
      fun w => ((w.getD 0 default).ri.remote.sendList 2).map (fun x => (x.loc.g, x.ra))) = some [(30, 2)] := by decide +kernel

/-- **world_synced_iff**: in the faithful world, a rank that is in sync (as it is after every collective rebuild that
    returned, `history_rebuild_fresh`) stays in sync through any sequence of resizes — of any index set object on any
    rank — exactly if none of them resized the object that is *its* source or target index set. -/
theorem world_synced_iff (w : F.World) (p : Nat) (hp : p < w.length) (hsy : (w.getD p default).isSynced = true)
    (rs : List (Nat × Nat × List Pair)) :
    ((w.resizes rs).getD p default).isSynced = true ↔
      ∀ e ∈ rs, e.1 = p → (w.getD p default).refers e.2.1 = false := by
  obtain ⟨h1, h2, h3, h4⟩ := F.resizes_rank rs w p hp
  rw [F.isSynced_iff] at hsy ⊢
  rw [h1, h2, h3, h4, h4, hsy.1, hsy.2, Int.ofNat_inj, Int.ofNat_inj, Nat.left_eq_add, Nat.left_eq_add,
    countP_eq_zero_and]
  exact forall₂_congr fun e _ => by
    rw [F.RankW.refers, Bool.or_eq_false_iff, Bool.and_eq_false_imp, Bool.and_eq_false_imp, beq_iff_eq, imp_and]

/-- rank 0 uses objects 0 (source) and 1 (target): resizing object 2 of rank 0 and object 0 of rank 1 keeps rank 0 in
    sync, resizing its target object does not -/
example : let w : F.World := [{ tgtObj := 1, ri := { sourceSeqNo := 0, destSeqNo := 0 } }, {}]
    (w.getD 0 default).isSynced = true ∧
    ((w.resizes [(0, 2, []), (1, 0, [])]).getD 0 default).isSynced = true ∧
    ((w.resizes [(0, 2, []), (0, 1, [])]).getD 0 default).isSynced = false := by decide +kernel

/-- two ranks, one index set each: build, rank 1 gets global index 2 as well, both ranks resize (rank 0 without a
    change), rebuild: rank 0 now lists index 2 for rank 1; a second rebuild changes nothing; a rebuild after a
    resize on rank 1 only does not return -/
def exWorld : F.World := [{ o0 := { pairs := [⟨1, 0, 0, true⟩, ⟨2, 1, 0, true⟩] } }, { o0 := { pairs := [⟨1, 0, 1, true⟩] } }]
def exEvs : List F.Ev :=
  [.rebuild false (fun _ => []), .resize 1 0 [⟨1, 0, 1, true⟩, ⟨2, 1, 3, true⟩], .resize 0 0 [⟨1, 0, 0, true⟩, ⟨2, 1, 0, true⟩]]

example : (∀ r ∈ exWorld, r.ri.firstBuild = true) ∧ (∀ e ∈ exEvs, e.core = true) := by decide +kernel

example : ((F.World.run exWorld (exEvs ++ [.rebuild false (fun _ => [])])).map
      fun w => ((w.getD 0 default).ri.remote.sendList 1).map (fun x => (x.loc.g, x.ra)))
    = some [(1, 1), (2, 3)] := by decide +kernel

example : ((F.World.run exWorld (exEvs ++ [.rebuild false (fun _ => []), .rebuild false (fun _ => [])])).map
      fun w => ((w.getD 0 default).ri.remote.sendList 1).map (fun x => (x.loc.g, x.ra)))
    = some [(1, 1), (2, 3)] ∧
    (F.World.run exWorld [.rebuild false (fun _ => []), .resize 1 0 [], .rebuild false (fun _ => [])]).isNone = true := by
  decide +kernel

/-- **localindex_variants_agree**: every way of making a local index that the correspondence uses — the three
    constructors of `ParallelLocalIndex` (member-initialiser lists and delegations *regenerated from plocalindex.hh*,
    `DV.C04.GenL`), the default argument `isPublic=true`, `operator=(size_t)`, `setAttribute`, `IndexPair(global)` +
    assignment, `setLocal` — yields the pair `(g, l, a, pub)` it was asked for, as seen through the getters
    `local()`, `attribute()`, `isPublic()`, and a `VALID` one.  So "arbitrary attributes and public flags" of the
    property do not depend on the overload through which an index is created.  (A constructor that drops an argument
    changes a generated definition and this proof fails.) -/
theorem localindex_variants_agree (how : Nat) (g : Int) (l a : Nat) (pub : Bool) :
    L.mkPair how g l a pub = { g := g, l := l, a := a, pub := pub } ∧ (L.build how l a pub).valid = true :=
  ⟨L.mkPair_eq how g l a pub, L.build_valid how l a pub⟩

example : L.mkPair 1 7 5 2 false = ⟨7, 5, 2, false⟩ ∧ L.mkPair 2 7 5 2 true = ⟨7, 5, 2, true⟩ ∧
    L.mkPair 3 (-1) 9 0 false = ⟨-1, 9, 0, false⟩ ∧ L.mkPair 4 0 0 3 true = ⟨0, 0, 3, true⟩ := by decide +kernel

/-- **gen_pair_facts**: what the variants rest on in indexset.hh, read from the source: `IndexPair(global, local)`
    stores both, `IndexPair(global)` default-constructs the local index, `setLocal` assigns, the two `add` overloads
    append exactly these pairs unconditionally — none of the facts is contradicted by the source. -/
theorem gen_pair_facts : ∀ f ∈ L.pairFacts, f ≠ some false := by decide +kernel

example : L.pairFacts.length = 5 := rfl

/-- **chunked_storage**: `ArrayList<T,N>` keeps `l` in chunks that are never empty, never longer than `N` (`N = 0`
    counts as 1), and whose concatenation — what the iterator walks through — is `l`, for every `N` and every `l`. -/
theorem chunked_storage (N : Nat) (l : List α) :
    (L.chunked N l).flatten = l ∧ ∀ c ∈ L.chunked N l, c ≠ [] ∧ c.length ≤ max N 1 :=
  ⟨L.chunked_go_flatten N l.length l (Nat.le_refl _), L.chunked_go_sizes N l.length l⟩

example : L.chunked 2 [1, 2, 3, 4, 5] = [[1, 2], [3, 4], [5]] ∧ L.chunked 100 [1, 2, 3] = [[1, 2, 3]] ∧
    L.chunked 1 [1, 2] = [[1], [2]] := by decide +kernel

/-- **pack_chunked**: `packEntries`' loop over the chunked storage — every published pair packed by one `MPI_Pack`
    call of `Gen.packCount n` pairs (*the count argument read from the source*) starting at the pair's address —
    never reads past the end of a chunk and produces exactly the published pairs in set order (the entries of the
    model's message, `F.published`), for every chunk size `N`, every index set (any size: fewer than `N`, exactly `N`,
    `N+1`, many chunks), both values of `ignorePublic`, every entry count `n`. -/
theorem pack_chunked (N : Nat) (n : Int) (ign : Bool) (l : List Pair) :
    L.packWalk (fun p => Gen.publishes ign p.pub) (Gen.packCount n).toNat (L.chunked N l) = some (F.published ign l) := by
  have h1 : (Gen.packCount n).toNat = 1 := by simp [Gen.packCount]
  rw [h1, L.packWalk_one, (chunked_storage N l).1]
  rfl

/-- three pairs in chunks of two, the middle one not public: both flags; and what a single call for all `n = 3` pairs
    starting at the first pair would do: it leaves the first chunk (`none`), while for `N ≥ 3` nothing is wrong —
    the reason why sets that fit into one chunk cannot show such a change -/
example : let l : List Pair := [⟨1, 0, 0, true⟩, ⟨2, 1, 1, false⟩, ⟨3, 2, 0, true⟩]
    L.packWalk (fun p => Gen.publishes false p.pub) 1 (L.chunked 2 l) = some [⟨1, 0, 0, true⟩, ⟨3, 2, 0, true⟩] ∧
    L.packWalk (fun p => Gen.publishes true p.pub) 1 (L.chunked 2 l) = some l ∧
    L.packAt ((L.chunked 2 l).headD []) 0 3 = none ∧
    L.packAt ((L.chunked 100 l).headD []) 0 3 = some l := by decide +kernel

/-- the receiving side takes one pair per `MPI_Unpack` call as well (count read from all five calls of the two
    `unpackIndices`): the cursor model `F.unpackGo`, which advances by one entry per call, is the code's -/
theorem unpack_one_per_call (remoteEntries : Int) : Gen.unpackCount remoteEntries = 1 := rfl

example : Gen.unpackCount 5 = 1 := rfl

/-- **announced_count_is_packed_count**: the entry count a rank announces for an index set
    (`Gen.publishCount`: `size()` when publicity is ignored, otherwise `noPublic()`, which counts the pairs passing
    `Gen.countedPublic` — both read from the source) is the number of pairs `packEntries` packs (`F.published`), for
    every index set and both flag values; so the `assert(i==n)` of `packEntries` holds and the receiver's loop bound is
    the number of entries in the buffer. -/
theorem announced_count_is_packed_count (ign : Bool) (l : List Pair) :
    Gen.publishCount ign l.length ((l.filter fun p => Gen.countedPublic p.pub).length) = (F.published ign l).length := by
  cases ign
  · simp [Gen.publishCount, Gen.countedPublic, F.published, Gen.publishes]
  · have h : l.filter (fun p => Gen.publishes true p.pub) = l := by
      simp [Gen.publishes]
    simp [Gen.publishCount, F.published, h]

example : Gen.publishCount false 3 (([⟨1, 0, 0, true⟩, ⟨2, 1, 1, false⟩, ⟨3, 2, 0, true⟩] : List Pair).filter
    fun p => Gen.countedPublic p.pub).length = 2 := by decide +kernel

end DV.C04
