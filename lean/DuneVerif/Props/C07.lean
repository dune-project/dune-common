import DuneVerif.Proofs.C07Coll
import DuneVerif.Proofs.C07Pack
import DuneVerif.Proofs.C07Reg
import DuneVerif.Gen.C07
/-!
# C07 — property theorems

The lemmas live in `Proofs/C07*.lean`, but for `CExpr.eval_one` and `wrapper_counts`, which stand with the `*_counts`
theorems that use them.  A few statements stand under the same name in `DV.C07` and in `DV.C07.Proofs` (`transfer_length`,
the `*_covers`, `received_full_*`): the latter holds the proof.

All theorems are for arbitrary cell types, arbitrary typemaps / lengths / process counts.  MPI itself (that a
transfer with a datatype moves exactly the typemap's blocks, that reductions with a commutative op fold the
contributions in some order and bracketing, that `MPI_Unpack` inverts `MPI_Pack` for a basic type) is the trusted
part and appears here as the *definitions* `transfer`, `Spec.*`, `Codec`, `Proofs.Tree`.
-/
namespace DV.C07
open TMap

/-- After moving one element of datatype `tm`, a destination cell holds the corresponding source cell iff it lies in one
of the typemap's blocks; every other cell is untouched. -/
theorem typemap_transfers_exactly {α} (tm : TMap) (src : List α) (soff : Nat) (dst : List α) (doff i : Nat) :
    (transfer tm src soff dst doff)[i]? =
      if doff ≤ i ∧ tm.covers (i - doff) = true then ovw src[soff + (i - doff)]? dst[i]? else dst[i]? :=
  Proofs.transfer_getElem? tm src soff dst doff i

theorem transfer_length {α} (tm : TMap) (src : List α) (soff : Nat) (dst : List α) (doff : Nat) :
    (transfer tm src soff dst doff).length = dst.length :=
  Proofs.transfer_length tm src soff dst doff

example : transfer (Types.indexPair 0 (basic 1) 1 (Types.localIndex 1 (basic 1) 4) 5) [10, 11, 12, 13, 14] 0
    [0, 1, 2, 3, 4] 0 = [10, 1, 12, 3, 4] := by decide +kernel

/-- `typemap_transfers_exactly` for arrays: with all blocks inside the extent, `count` elements stride correctly: cell
`i` is overwritten iff its element index is `< n` and its position inside the element is covered. (`hpos` is not used: a
well-formed typemap of extent 0 covers no cell.) -/
theorem typemap_transfers_exactly_strided {α} (tm : TMap) (hwf : tm.wf) (hpos : 0 < tm.extent) (n : Nat)
    (src : List α) (soff : Nat) (dst : List α) (doff i : Nat) :
    (transferN tm n src soff dst doff)[i]? =
      if doff ≤ i ∧ (i - doff) / tm.extent < n ∧ tm.covers ((i - doff) % tm.extent) = true
      then ovw src[soff + (i - doff)]? dst[i]? else dst[i]? :=
  Proofs.transferN_getElem? tm hwf n src soff dst doff i

example : transferN (Types.localIndex 1 (basic 1) 4) 2 [10, 11, 12, 13, 20, 21, 22, 23] 0
    [0, 0, 0, 0, 0, 0, 0, 0, 0] 0 = [0, 11, 0, 0, 0, 21, 0, 0, 0] := by decide +kernel

theorem transfer_eq_unpack_pack {α} (tm : TMap) (src : List α) (soff : Nat) (dst : List α) (doff : Nat)
    (hsrc : ∀ b ∈ tm.blocks, soff + b.1 + b.2 ≤ src.length) :
    unpackElem tm (packElem tm src soff) dst doff = transfer tm src soff dst doff := by
  simpa using Proofs.unpackElem_stream tm src soff dst doff [] hsrc

/-- The datatype built in remoteindices.hh / plocalindex.hh consists of exactly the block of `global_` and the one byte
`attribute_` inside `local_`; its extent is `sizeof`. -/
theorem indexpair_typemap (offG szG offL offA szL size : Nat) :
    Types.indexPair offG (basic szG) offL (Types.localIndex offA (basic 1) szL) size
      = ⟨[(offG, szG), (offL + offA, 1)], size⟩ := by
  simp [Types.indexPair, Types.localIndex, resized, struct, contiguous, basic, shift, List.range_succ, List.range_zero]

-- the hypotheses hold for the IndexPair datatype at cell level
example : (Types.indexPair 0 (basic 1) 1 (Types.localIndex 1 (basic 1) 4) 5).wf ∧
    0 < (Types.indexPair 0 (basic 1) 1 (Types.localIndex 1 (basic 1) 4) 5).extent := by
  unfold TMap.wf; decide +kernel

theorem localindex_typemap (offA size : Nat) :
    Types.localIndex offA (basic 1) size = ⟨[(offA, 1)], size⟩ := by
  simp [Types.localIndex, resized, struct, contiguous, basic, shift, List.range_succ, List.range_zero]

theorem pair_typemap (off1 s1 off2 s2 size : Nat) :
    Types.pair off1 (basic s1) off2 (basic s2) size = ⟨[(off1, s1), (off2, s2)], size⟩ := by
  simp [Types.pair, resized, struct, contiguous, basic, shift, List.range_succ, List.range_zero]

-- hypothesis of `transfer_eq_unpack_pack` for a pair stored in two cells
example : ∀ b ∈ (Types.pair 0 (basic 1) 1 (basic 1) 2).blocks, 0 + b.1 + b.2 ≤ [10, 20].length := by
  decide +kernel

/-- `FieldVector<K,n>` / `bigunsignedint<k>`: every cell of the `n` components (digits) is communicated, nothing else -/
theorem fieldvector_typemap (d n w : Nat) (j : Nat) :
    (Types.fieldVector d n (basic w)).covers j = true ↔ d ≤ j ∧ j < d + n * w := by
  rw [Types.fieldVector, Proofs.struct_covers]
  simp only [List.mem_singleton, exists_eq_left, Proofs.contiguous_one_covers, Proofs.contiguous_basic_covers]
  exact and_congr_right fun h => Nat.sub_lt_iff_lt_add' h

theorem fieldvector_extent (d n w : Nat) : (Types.fieldVector d n (basic w)).extent = d + n * w := by
  show max (d + 1 * (n * w)) 0 = d + n * w
  rw [Nat.one_mul, Nat.max_zero]

theorem bigunsigned_typemap (d n w : Nat) (j : Nat) :
    (Types.bigUnsigned d n (basic w)).covers j = true ↔ d ≤ j ∧ j < d + n * w :=
  fieldvector_typemap d n w j

/-- the predefined datatypes (arithmetic element types): the whole object is communicated -/
theorem basic_typemap (w j : Nat) : (basic w).covers j = true ↔ j < w :=
  Proofs.full_covers w j

/-- IndexPair: exactly global index and attribute travel (instance of `typemap_transfers_exactly`) -/
theorem indexpair_transfers_global_and_attribute {α} (offG szG offL offA szL size : Nat) (src dst : List α) (i : Nat) :
    (transfer (Types.indexPair offG (basic szG) offL (Types.localIndex offA (basic 1) szL) size) src 0 dst 0)[i]? =
      if (offG ≤ i ∧ i < offG + szG) ∨ i = offL + offA then ovw src[i]? dst[i]? else dst[i]? := by
  rw [typemap_transfers_exactly, indexpair_typemap]
  simp only [Nat.zero_le, true_and, Nat.sub_zero, Nat.zero_add, covers, List.any_cons, List.any_nil, Bool.or_false,
    Bool.or_eq_true, Bool.and_eq_true, decide_eq_true_eq, Proofs.one_cell_iff]

/-! `struct_covers`, `contiguous_covers`, `resized_covers`: for *any* nesting of `MPI_Type_create_struct`,
`MPI_Type_contiguous` and `MPI_Type_create_resized` (pairs of pairs, pairs of FieldVectors, …) a cell is communicated
iff some member, in one of its `count` copies, communicates it. -/

theorem struct_covers (members : List (Nat × Nat × TMap)) (j : Nat) :
    (struct members).covers j = true ↔
      ∃ m ∈ members, m.1 ≤ j ∧ (contiguous m.2.1 m.2.2).covers (j - m.1) = true :=
  Proofs.struct_covers members j

theorem contiguous_covers (n : Nat) (t : TMap) (j : Nat) :
    (contiguous n t).covers j = true ↔ ∃ k, k < n ∧ k * t.extent ≤ j ∧ t.covers (j - k * t.extent) = true :=
  Proofs.contiguous_covers n t j

theorem resized_covers (t : TMap) (ext j : Nat) : (resized t ext).covers j = t.covers j := rfl

-- pair<FieldVector<int,3>, char> at cell level: cells 0..2 and 3 are covered, the padding cell 4 is not
example : (List.range 6).map (Types.pair 0 (Types.fieldVector 0 3 (basic 1)) 3 (basic 1) 5).covers
    = [true, true, true, true, false, false] := by decide +kernel

/-- The resize step: the extent of the pair / IndexPair / ParallelLocalIndex datatypes is the `sizeof` handed to
`MPI_Type_create_resized`, whatever the members are and wherever they end (tail padding, members that MPI only knows as
bytes) — the stride of arrays (`typemap_transfers_exactly_strided`) depends on exactly this. -/
theorem resized_extents (off1 off2 size offA : Nat) (t1 t2 c : TMap) :
    (Types.pair off1 t1 off2 t2 size).extent = size ∧ (Types.indexPair off1 t1 off2 t2 size).extent = size ∧
      (Types.localIndex offA c size).extent = size := ⟨rfl, rfl, rfl⟩

/-- a pair communicates exactly what its two members communicate, for *arbitrary* member datatypes (pairs of pairs,
of FieldVectors, of byte blobs) -/
theorem pair_covers (off1 off2 size : Nat) (t1 t2 : TMap) (j : Nat) :
    (Types.pair off1 t1 off2 t2 size).covers j = true ↔
      (off1 ≤ j ∧ t1.covers (j - off1) = true) ∨ (off2 ≤ j ∧ t2.covers (j - off2) = true) :=
  Proofs.pair_covers off1 off2 size t1 t2 j

/-- Arrays of pairs: `count` pairs stride by `sizeof(pair)`: cell `i` is overwritten iff its pair index is `< n` and its
offset inside the pair lies in a communicated cell of `first` or `second`. -/
theorem pair_array_transfers {α} (off1 off2 size : Nat) (t1 t2 : TMap)
    (h1 : ∀ b ∈ t1.blocks, off1 + b.1 + b.2 ≤ size) (h2 : ∀ b ∈ t2.blocks, off2 + b.1 + b.2 ≤ size) (hpos : 0 < size)
    (n : Nat) (src dst : List α) (i : Nat) :
    (transferN (Types.pair off1 t1 off2 t2 size) n src 0 dst 0)[i]? =
      if i / size < n ∧ ((off1 ≤ i % size ∧ t1.covers (i % size - off1) = true) ∨
                         (off2 ≤ i % size ∧ t2.covers (i % size - off2) = true))
      then ovw src[i]? dst[i]? else dst[i]? := by
  rw [typemap_transfers_exactly_strided _ (Proofs.pair_wf off1 off2 size t1 t2 h1 h2) hpos]
  have hext : (Types.pair off1 t1 off2 t2 size).extent = size := rfl
  simp only [hext, Nat.zero_le, true_and, Nat.sub_zero, Nat.zero_add, Proofs.pair_covers]

-- pair<long long, char> with one padding cell (sizeof = 3 cells): with the resize step two pairs are moved
-- correctly; with the bare struct (extent = 2, what MPI computes when it only sees bytes) the second pair is read
-- from and written to the wrong cells
example : transferN (Types.pair 0 (contiguous 1 (basic 1)) 1 (basic 1) 3) 2 [1, 2, 0, 3, 4, 0] 0 [9, 9, 9, 9, 9, 9] 0
      = [1, 2, 9, 3, 4, 9] ∧
    transferN (struct [(0, 1, contiguous 1 (basic 1)), (1, 1, basic 1)]) 2 [1, 2, 0, 3, 4, 0] 0 [9, 9, 9, 9, 9, 9] 0
      = [1, 2, 0, 3, 9, 9] := by decide +kernel

-- the hypotheses hold for the nested pair<pair<long long,char>,short> of the harness at byte level
example : (∀ b ∈ (Types.pair 0 (contiguous 8 (basic 1)) 8 (basic 1) 16).blocks, 0 + b.1 + b.2 ≤ 24) ∧
    (∀ b ∈ (basic 2).blocks, 16 + b.1 + b.2 ≤ 24) := by decide +kernel

/-- Every line `ComposeMPITraits(p, m)` of the current mpitraits.hh maps the C++ type `p` to the predefined datatype
that the MPI standard defines for `p`; no type is listed twice.  (The table is regenerated from the source on every
run.) -/
theorem traits_table_sound :
    (∀ r ∈ Gen.traitsTable, mpiCType r.2 = some r.1) ∧ (Gen.traitsTable.map (·.1)).Nodup := by decide +kernel

/-- `ComposeMPIOp(func, op)` replaces a functor on an intrinsic type by the predefined MPI operation that computes that
functor. -/
theorem op_table_sound :
    (∀ r ∈ Gen.opTable, mpiOpFunctor r.2 = some r.1) ∧ (Gen.opTable.map (·.1)).Nodup := by decide +kernel

/-- Every `ComposeMPITraits` line makes its type `is_intrinsic`, and `Generic_MPI_Op` then hands the four named functors
on that type to the predefined operation of `Gen.opTable`: that operation must be one the MPI standard defines on the
line's datatype (otherwise every `sum`/`prod`/`min`/`max` of that element type is erroneous, `MPI_ERR_OP`).  `Min`/`Max`
on a complex type are not instantiable (no `operator<`), so those pairs are exempt.  A line for `bool` (`MPI_CXX_BOOL`,
a logical type) breaks this. -/
theorem builtin_ops_defined :
    ∀ r ∈ Gen.traitsTable, ∀ o ∈ Gen.opTable,
      (mpiOpDefinedOn o.2 r.2 || ((o.1 == "Min" || o.1 == "Max") && mpiTypeClass r.2 == some "complex")) = true := by
  decide +kernel

/-- User functors are registered with `commute = false`, and the callback computes `inout[i] = func(in[i], inout[i])` —
the operand order MPI prescribes (`in` holds the lower ranks' partial result). -/
theorem user_op_registration :
    Gen.userOpCommute = false ∧ Gen.userOpArgs = ["in", "inout"] ∧ Gen.userOpTarget = "inout" := ⟨rfl, rfl, rfl⟩

/-- The lazily created handles (one `MPI_Op` per `Generic_MPI_Op<Type,BinaryFunction>`, one `MPI_Datatype` per
`MPITraits<…>`): for any table of class templates in which every template parameter that the creating code depends on
also selects the storage of the handle, after *any* history of `get()`/`getType()` calls of any instantiations (from the
empty state of a fresh process), every call obtains a handle whose creator agrees with the caller on all parameters the
creation depends on — i.e. the handle its own `create()` would have built. -/
theorem singleton_history_independent (tbl : List Reg.Row) (hsub : ∀ r ∈ tbl, ∀ p ∈ r.used, p ∈ r.slot)
    (hist : List Reg.Use) (u : Reg.Use) :
    Reg.faithful tbl u (Reg.get tbl (Reg.run tbl [] hist) u).1 = true :=
  Proofs.get_faithful tbl hsub _ u (Proofs.run_inv tbl hist [] (Proofs.inv_nil tbl))

/-- … and the cells of the static storage are only ever filled by an instantiation that selects that cell. -/
theorem singleton_storage_invariant (tbl : List Reg.Row) (hist : List Reg.Use) :
    ∀ e ∈ Reg.run tbl [] hist, ∃ r, Reg.rowOf tbl e.1.1 = some r ∧ e.1.2 = Reg.proj r.slot e.2 :=
  Proofs.run_inv tbl hist [] (Proofs.inv_nil tbl)

/-- In the current sources (`Gen.singletonTable`, extracted by `tr_c07.py`) the seven class templates that create a
handle lazily are the ones the model knows, and in each of them every template parameter the creation depends on selects
the storage (`Type` and `BinaryFunction` for the user-op singleton; all arguments of `FieldVector<K,n>`,
`bigunsignedint<k>`, `std::pair<T1,T2>`, `ParallelLocalIndex<T>`, `IndexPair<TG,…<TA>>`, and `T` for the byte-wise
fallback). -/
theorem singleton_table_sound :
    (∀ r ∈ Gen.singletonTable, ∀ p ∈ r.used, p ∈ r.slot) ∧
    Gen.singletonTable.map (·.family) =
      ["Generic_MPI_Op<$1,$2,$3>", "MPITraits<$1>", "MPITraits<FieldVector<$1,$2>>", "MPITraits<bigunsignedint<$1>>",
       "MPITraits<std::pair<$1,$2>>", "MPITraits<ParallelLocalIndex<$1>>",
       "MPITraits<IndexPair<$1,ParallelLocalIndex<$2>>>"] ∧
    (∀ r ∈ Gen.singletonTable, r.used ≠ []) := ⟨by decide +kernel, rfl, by decide +kernel⟩

/-- Hence, in the current sources, a reduction with element type `ty` and functor `fn` — whatever reductions, transfers
and packs with whatever element types and functors the process performed before, step by step — runs the callback
instantiated for this very `(Type, BinaryFunction)` and uses the datatype built for this very type: no step of any
history is served a foreign handle. -/
theorem user_op_per_type_and_functor (steps : List (List Reg.Use)) :
    ∀ b ∈ Reg.runSteps Gen.singletonTable [] steps, b = true :=
  Proofs.runSteps_all Gen.singletonTable singleton_table_sound.1 steps [] (Proofs.inv_nil _)

-- a generic functor (`std::plus<>`) first used with `long`, then with `double`, and `FieldVector<int,2>` after
-- `FieldVector<int,3>`: every step gets its own handles
example : Reg.runSteps Gen.singletonTable []
    [opUses "long" "gsum", tyUses "fv3" ++ opUses "fv3" "gsum", opUses "double" "gsum", tyUses "fv2"] = [true, true, true, true] :=
  List.eq_replicate_iff.mpr ⟨Proofs.runSteps_length _ _ _, user_op_per_type_and_functor _⟩
-- non-vacuity of the hypothesis: a table whose user-op storage is selected by the functor alone (what the seeded change
-- C07_w2m1 does) serves `double` the handle created for `long` …
example : Reg.runSteps [⟨"Generic_MPI_Op<$1,$2,$3>", ["2"], ["1", "2"]⟩] []
    [opUses "long" "gsum", opUses "double" "gsum", opUses "double" "sum", opUses "long" "gsum"] = [true, false, true, true] := by
  decide +kernel
-- … and a datatype stored per `K` of `FieldVector<K,n>` serves `FieldVector<int,2>` the type built for `FieldVector<int,3>`
example : Reg.runSteps [⟨"MPITraits<FieldVector<$1,$2>>", ["1"], ["1", "2"]⟩] [] [tyUses "fv3", tyUses "fv2"] = [true, false] := by
  decide +kernel

/-- With prefix-sum displacements the root's receive buffer is what one transfer of the concatenation of all
contributions (in rank order) gives.  (`parts` = every rank's (send buffer, element count).) -/
theorem gatherv_concat {α} (tm : TMap) (hwf : tm.wf) (parts : List (List α × Nat))
    (hl : ∀ p ∈ parts, p.1.length = p.2 * tm.extent) (out : List α) :
    Spec.gathervAt tm (parts.map (·.1)) (parts.map (·.2)) (Proofs.prefixSums (parts.map (·.2))) out
      = transferN tm (parts.map (·.2)).sum (parts.map (·.1)).flatten 0 out 0 := by
  rw [Proofs.prefixSums, Proofs.gathervAt_prefix_gen tm hwf parts hl 0 out, Nat.zero_mul]

-- three ranks with 2, 0 and 1 ParallelLocalIndex elements (4 cells each) satisfy the hypotheses
example : (Types.localIndex 1 (basic 1) 4).wf ∧
    ∀ p ∈ [([1, 2, 3, 4, 5, 6, 7, 8], 2), ([], 0), ([9, 10, 11, 12], 1)],
      p.1.length = p.2 * (Types.localIndex 1 (basic 1) 4).extent := by
  unfold TMap.wf; decide +kernel

/-- … and when every cell is communicated and the buffer has exactly the total size, it *is* the concatenation -/
theorem gatherv_concat_full {α} (e : Nat) (parts : List (List α × Nat))
    (hl : ∀ p ∈ parts, p.1.length = p.2 * e) (out : List α)
    (hout : out.length = (parts.map (·.2)).sum * e) :
    Spec.gathervAt (full e) (parts.map (·.1)) (parts.map (·.2)) (Proofs.prefixSums (parts.map (·.2))) out
      = (parts.map (·.1)).flatten := by
  rw [gatherv_concat (full e) (Proofs.full_wf e) parts hl out]
  exact Proofs.transferN_full_all e _ _ out (Proofs.flatten_length_parts e parts hl) hout

example : Spec.gathervAt (full 1) [[1, 2], [], [3]] [2, 0, 1] (Proofs.prefixSums [2, 0, 1]) [0, 0, 0]
    = [1, 2, 3] := by decide +kernel

/-- `gather` is the equal-length case: the root's buffer is one transfer of the concatenation -/
theorem gather_concat {α} (tm : TMap) (hwf : tm.wf) (n : Nat) (ins : List (List α))
    (hl : ∀ inp ∈ ins, inp.length = n * tm.extent) (out : List α) :
    Spec.gatherAt tm n ins out = transferN tm (ins.length * n) ins.flatten 0 out 0 :=
  Proofs.gatherAt_concat tm hwf n ins hl out

/-- `scatterv` out of a concatenation with prefix-sum displacements hands rank `r` exactly its part -/
theorem scatterv_concat {α} (tm : TMap) (hwf : tm.wf) (parts : List (List α × Nat))
    (hl : ∀ p ∈ parts, p.1.length = p.2 * tm.extent) (r : Nat) (hr : r < parts.length) (rcv : List α) :
    Spec.scattervAt tm (parts.map (·.1)).flatten (parts[r].2) ((Proofs.prefixSums (parts.map (·.2))).getD r 0) rcv
      = transferN tm (parts[r].2) (parts[r].1) 0 rcv 0 := by
  unfold Spec.scattervAt Proofs.prefixSums
  rw [Proofs.prefixSumsFrom_getD 0 _ r (by rwa [List.length_map])]
  apply Proofs.transferN_src_congr tm hwf
  intro j hj
  rw [Nat.zero_add, Nat.zero_add]
  exact Proofs.flatten_getElem?_parts tm.extent parts hl r hr j hj

/-- Scattering what `gatherv` collected gives every rank its own contribution back. -/
theorem scatterv_inverse {α} (e : Nat) (parts : List (List α × Nat))
    (hl : ∀ p ∈ parts, p.1.length = p.2 * e) (out : List α) (hout : out.length = (parts.map (·.2)).sum * e)
    (r : Nat) (hr : r < parts.length) (rcv : List α) (hrcv : rcv.length = parts[r].2 * e) :
    Spec.scattervAt (full e)
      (Spec.gathervAt (full e) (parts.map (·.1)) (parts.map (·.2)) (Proofs.prefixSums (parts.map (·.2))) out)
      (parts[r].2) ((Proofs.prefixSums (parts.map (·.2))).getD r 0) rcv = parts[r].1 := by
  rw [gatherv_concat_full e parts hl out hout, scatterv_concat (full e) (Proofs.full_wf e) parts hl r hr]
  exact Proofs.transferN_full_all e _ _ rcv (hl _ (List.getElem_mem hr)) hrcv

example : Spec.scattervAt (full 1) (Spec.gathervAt (full 1) [[1, 2], [], [3]] [2, 0, 1] (Proofs.prefixSums [2, 0, 1])
    [0, 0, 0]) 1 2 [9] = [3] := by decide +kernel

theorem allreduce_rank_order_assoc {β : Type} (op : β → β → β) (hassoc : ∀ a b c, op (op a b) c = op a (op b c))
    (t : Proofs.Tree β) : some (t.eval op) = Spec.foldRanks op t.leaves := by
  obtain ⟨a, as, hl, he⟩ := Proofs.tree_eval_foldl op hassoc t
  rw [hl, he]
  rfl

/-- For an associative and commutative `op`, *every* reduction tree over *any* permutation of the contributions
evaluates to the left fold in rank order (for a commutative operation — the predefined ones — MPI may choose tree
and order; user functors are registered with `commute = false`, `user_op_registration`, and get
`allreduce_any_bracketing`). -/
theorem allreduce_rank_order {β : Type} (op : β → β → β) (hassoc : ∀ a b c, op (op a b) c = op a (op b c))
    (hcomm : ∀ a b, op a b = op b a) (t : Proofs.Tree β) (xs : List β) (hp : t.leaves.Perm xs) :
    some (t.eval op) = Spec.foldRanks op xs := by
  rw [allreduce_rank_order_assoc op hassoc t]
  exact Proofs.foldRanks_perm op hassoc hcomm _ _ hp

example : (Proofs.Tree.node (.leaf 3) (.node (.leaf 1) (.leaf 2))).leaves.Perm [1, 2, 3] := by decide +kernel

example : (Proofs.Tree.node (.leaf 3) (.node (.leaf 1) (.leaf 2))).eval (· + ·) = 6 := by decide +kernel

/-! `seq_eq_oneproc`: one theorem per collective of `Communication<No_Comm>`. -/

theorem seq_eq_oneproc_sum_scalar {α} (e : Nat) (op : List α → List α → List α) (x : List α) (hx : x.length = e) :
    Spec.allreduceVal e 1 op [x] = Seq.reduceScalar x := by
  rw [Proofs.allreduceVal_one e 1 op x, Nat.one_mul, List.take_of_length_le (Nat.le_of_eq hx)]
  rfl

-- `h` is not used in the next two: of a contribution shorter than `len` elements both sides copy what there is
theorem seq_eq_oneproc_allreduce_inplace {α} (e len : Nat) (op : List α → List α → List α) (inout : List α)
    (h : len * e ≤ inout.length) :
    Spec.allreduce e len op [inout] [inout] = [Seq.reduceInplace inout len] := by
  rw [Proofs.allreduce_one e len op inout inout, Proofs.copyCells_self]
  rfl

theorem seq_eq_oneproc_allreduce {α} (e len : Nat) (op : List α → List α → List α) (inp out : List α)
    (h : len * e ≤ inp.length) :
    Spec.allreduce e len op [inp] [out] = [Seq.allreduceInOut e inp out len] := by
  rw [Proofs.allreduce_one e len op inp out, Seq.allreduceInOut, Proofs.copyLoop_eq, Proofs.transferN_full, Nat.zero_mul]

example : Spec.allreduce 2 1 (fun a _ => a) [[1, 2, 3]] [[0, 0, 0]] = [Seq.allreduceInOut 2 [1, 2, 3] [0, 0, 0] 1] := by
  decide +kernel

theorem seq_eq_oneproc_iallreduce {α} (e n : Nat) (op : List α → List α → List α) (dataIn dataOut : List α)
    (hi : dataIn.length = n * e) (ho : dataOut.length = n * e) :
    Spec.allreduce e n op [dataIn] [dataOut] = [Seq.iallreduceInOut dataIn dataOut] := by
  rw [Proofs.allreduce_one e n op dataIn dataOut, Proofs.copyCells_all _ _ _ hi ho]
  rfl

theorem seq_eq_oneproc_iallreduce_inplace {α} (e n : Nat) (op : List α → List α → List α) (data : List α)
    (h : data.length = n * e) :
    Spec.allreduce e n op [data] [data] = [Seq.iallreduceInplace data] :=
  seq_eq_oneproc_iallreduce e n op data data h h

theorem seq_eq_oneproc_broadcast {α} (tm : TMap) (inout : List α) (len root : Nat) :
    Spec.bcast tm len 0 [inout] = [Seq.broadcast inout len root] := rfl

theorem seq_eq_oneproc_ibroadcast {α} (tm : TMap) (data : List α) (n root : Nat) :
    Spec.bcast tm n 0 [data] = [Seq.ibroadcast data root] := rfl

theorem seq_eq_oneproc_gather {α} (e : Nat) (inp out : List α) (len root : Nat) :
    Spec.gather (full e) len 0 [inp] [out] = [Seq.gather e inp out len root] := by
  rw [Proofs.gather_one, Seq.gather, Proofs.copyLoop_eq, Nat.zero_mul]

theorem seq_eq_oneproc_igather {α} (e : Nat) (dataIn dataOut : List α) (root : Nat) :
    Spec.gather (full e) 1 0 [dataIn] [dataOut] = [Seq.igather e dataIn dataOut root] := by
  rw [Proofs.gather_one, Seq.igather, Proofs.assignElem_copyLoop, Proofs.copyLoop_eq, Nat.zero_mul]

theorem seq_eq_oneproc_gatherv {α} (e : Nat) (inp : List α) (sendLen : Nat) (out : List α) (displ root : Nat) :
    Spec.gatherv (full e) 0 [inp] [sendLen] [displ] [out] = [Seq.gatherv e inp sendLen out sendLen displ root] := by
  rw [Proofs.gatherv_one, Seq.gatherv, Proofs.copyLoop_eq, Nat.zero_mul]; rfl

theorem seq_eq_oneproc_scatter {α} (e : Nat) (send recv : List α) (len root : Nat) :
    Spec.scatter (full e) len 0 [send] [recv] = [Seq.scatter e send recv len root] := by
  rw [Proofs.scatter_one, Seq.scatter, Proofs.copyLoop_eq, Nat.zero_mul]

theorem seq_eq_oneproc_iscatter {α} (e : Nat) (dataIn dataOut : List α) (root : Nat) :
    Spec.scatter (full e) 1 0 [dataIn] [dataOut] = [Seq.iscatter e dataIn dataOut root] := by
  rw [Proofs.scatter_one, Seq.iscatter, Proofs.assignElem_copyLoop, Proofs.copyLoop_eq, Nat.zero_mul]

theorem seq_eq_oneproc_scatterv {α} (e : Nat) (send : List α) (sendLen displ : Nat) (recv : List α) (root : Nat) :
    Spec.scatterv (full e) 0 [send] [sendLen] [displ] [recv] = [Seq.scatterv e send sendLen displ recv sendLen root] := by
  rw [Proofs.scatterv_one, Seq.scatterv, Proofs.copyLoop_eq, Nat.zero_mul]; rfl

theorem seq_eq_oneproc_allgather {α} (e : Nat) (sbuf : List α) (count : Nat) (rbuf : List α) :
    Spec.allgather (full e) count [sbuf] [rbuf] = [Seq.allgather e sbuf count rbuf] := by
  rw [Proofs.allgather_one, Seq.allgather, Proofs.copyLoop_eq, Nat.zero_mul]

theorem seq_eq_oneproc_iallgather {α} (e : Nat) (dataIn dataOut : List α) :
    Spec.allgather (full e) 1 [dataIn] [dataOut] = [Seq.iallgather e dataIn dataOut] :=
  Proofs.seq_iallgather e dataIn dataOut

theorem seq_eq_oneproc_allgatherv {α} (e : Nat) (inp : List α) (sendLen : Nat) (out : List α) (displ : Nat) :
    Spec.allgatherv (full e) [inp] [sendLen] [displ] [out] = [Seq.allgatherv e inp sendLen out sendLen displ] := by
  rw [Proofs.allgatherv_one, Seq.allgatherv, Proofs.copyLoop_eq, Nat.zero_mul]; rfl

/-- `seq_eq_oneproc` for partially communicated types (IndexPair, ParallelLocalIndex).  The stand-in assigns whole
objects where MPI moves only the typemap's blocks; every loop of the stand-in (`Seq.copyLoop`, of which all its
collectives consist) agrees with the MPI transfer on every communicated cell. (`hpos` is not used: a well-formed typemap
of extent 0 covers no cell.) -/
theorem seq_agrees_on_communicated_state {α} (tm : TMap) (hwf : tm.wf) (hpos : 0 < tm.extent) (src : List α) (io : Nat)
    (dst : List α) (oo len i : Nat) (hc : tm.covers ((i - oo * tm.extent) % tm.extent) = true) :
    (Seq.copyLoop tm.extent src io dst oo len)[i]? = (transferN tm len src (io * tm.extent) dst (oo * tm.extent))[i]? := by
  rw [Proofs.copyLoop_eq]
  exact Proofs.transferN_full_agree tm hwf len src _ dst _ i hc

-- gather of one IndexPair: MPI keeps local index / public / state of the receive buffer, the stand-in copies them;
-- global index (cell 0) and attribute (cell 2) agree
example : Seq.gather 5 [1, 2, 3, 0, 0] [5, 6, 7, 1, 1] 1 0 = [1, 2, 3, 0, 0] ∧
    Spec.gather (Types.indexPair 0 (basic 1) 1 (Types.localIndex 1 (basic 1) 4) 5) 1 0 [[1, 2, 3, 0, 0]] [[5, 6, 7, 1, 1]]
      = [[1, 6, 3, 1, 1]] := by decide +kernel

-- the displacement says where the contribution lands in `out`, not where the loop starts
example : Seq.gatherv 1 [1, 2, 3] 3 [0, 0, 0, 0, 0, 0] 3 2 0 = [0, 0, 1, 2, 3, 0] := by decide +kernel

/-- `gatherv` for arbitrary displacement layouts (gaps, reversed, any order): a cell of the root's buffer that lies in a
communicated block of rank `k`'s segment and in no later rank's segment holds rank `k`'s cell (`segs` = per rank (send
buffer, count, displacement), `pre ++ s :: post` splits at rank `k`). (`hpos` is not used, here and in
`gatherv_untouched`: with extent 0 no cell lies in a segment.) -/
theorem gatherv_cells {α} (tm : TMap) (hwf : tm.wf) (hpos : 0 < tm.extent) (pre post : List (List α × Nat × Nat))
    (s : List α × Nat × Nat) (hs : s.1.length = s.2.1 * tm.extent) (out : List α) (i : Nat) (hi : i < out.length)
    (hin : Proofs.inSeg tm s.2.1 s.2.2 i) (hpost : ∀ t ∈ post, ¬ Proofs.inSeg tm t.2.1 t.2.2 i) :
    (Spec.gathervAt tm ((pre ++ s :: post).map (·.1)) ((pre ++ s :: post).map (·.2.1))
        ((pre ++ s :: post).map (·.2.2)) out)[i]? = s.1[i - s.2.2 * tm.extent]? := by
  rw [Proofs.gathervAt_eq_fold, Proofs.gathervFold_append, Proofs.gathervFold_cons,
    Proofs.gathervFold_untouched tm hwf post _ i hpost]
  exact Proofs.transferN_inSeg tm hwf s.1 s.2.1 s.2.2 hs _ i (by rw [Proofs.gathervFold_length]; exact hi) hin

/-- … and a cell in nobody's segment is untouched. -/
theorem gatherv_untouched {α} (tm : TMap) (hwf : tm.wf) (hpos : 0 < tm.extent) (segs : List (List α × Nat × Nat))
    (out : List α) (i : Nat) (h : ∀ t ∈ segs, ¬ Proofs.inSeg tm t.2.1 t.2.2 i) :
    (Spec.gathervAt tm (segs.map (·.1)) (segs.map (·.2.1)) (segs.map (·.2.2)) out)[i]? = out[i]? := by
  rw [Proofs.gathervAt_eq_fold]
  exact Proofs.gathervFold_untouched tm hwf segs out i h

-- reversed layout with a gap: rank 0's two ints land at 3 and 4, rank 1's int at 0, cells 1 and 2 stay untouched
example : Spec.gathervAt (full 1) [[1, 2], [3]] [2, 1] [3, 0] [9, 9, 9, 9, 9] = [3, 9, 9, 1, 2] := by decide +kernel
example : Proofs.inSeg (full 1) 2 3 4 ∧ ¬ Proofs.inSeg (full 1) 1 0 4 := by decide +kernel

/-! The `*_ranks` theorems: what `gather`, `gatherv`, `scatter`, `scatterv`, `allgather(v)`, `broadcast`, `allreduce`
leave on rank `r`. -/

theorem gather_ranks {α} (tm : TMap) (n root : Nat) (ins outs : List (List α)) (r : Nat) :
    (Spec.gather tm n root ins outs)[r]? =
      (outs[r]?).map (fun out => if r = root then Spec.gatherAt tm n ins out else out) := by
  rw [Spec.gather, List.getElem?_mapIdx]

theorem gatherv_ranks {α} (tm : TMap) (root : Nat) (ins : List (List α)) (lens displs : List Nat)
    (outs : List (List α)) (r : Nat) :
    (Spec.gatherv tm root ins lens displs outs)[r]? =
      (outs[r]?).map (fun out => if r = root then Spec.gathervAt tm ins lens displs out else out) := by
  rw [Spec.gatherv, List.getElem?_mapIdx]

theorem allgather_ranks {α} (tm : TMap) (n : Nat) (ins outs : List (List α)) (r : Nat) :
    (Spec.allgather tm n ins outs)[r]? = (outs[r]?).map (Spec.gatherAt tm n ins) :=
  Proofs.allgather_mem tm n ins outs r

theorem allgatherv_ranks {α} (tm : TMap) (ins : List (List α)) (lens displs : List Nat) (outs : List (List α))
    (r : Nat) :
    (Spec.allgatherv tm ins lens displs outs)[r]? = (outs[r]?).map (Spec.gathervAt tm ins lens displs) := by
  rw [Spec.allgatherv, List.getElem?_map]

theorem scatter_ranks {α} (tm : TMap) (n root : Nat) (sends recvs : List (List α)) (s : List α)
    (hroot : sends[root]? = some s) (r : Nat) :
    (Spec.scatter tm n root sends recvs)[r]? = (recvs[r]?).map (Spec.scatterAt tm n s r) := by
  simp only [Spec.scatter, hroot, List.getElem?_mapIdx]

theorem scatterv_ranks {α} (tm : TMap) (root : Nat) (sends : List (List α)) (lens displs : List Nat)
    (recvs : List (List α)) (s : List α) (hroot : sends[root]? = some s) (r l d : Nat)
    (hl : lens[r]? = some l) (hd : displs[r]? = some d) :
    (Spec.scatterv tm root sends lens displs recvs)[r]? = (recvs[r]?).map (Spec.scattervAt tm s l d) := by
  simp only [Spec.scatterv, hroot, List.getElem?_mapIdx, hl, hd]

theorem bcast_ranks {α} (tm : TMap) (n root : Nat) (bufs : List (List α)) (s : List α)
    (hroot : bufs[root]? = some s) (r : Nat) :
    (Spec.bcast tm n root bufs)[r]? = (bufs[r]?).map (fun b => if r = root then b else transferN tm n s 0 b 0) := by
  simp only [Spec.bcast, hroot, List.getElem?_mapIdx]

theorem allreduce_ranks {α} (e n : Nat) (op : List α → List α → List α) (ins outs : List (List α)) (r : Nat) :
    (Spec.allreduce e n op ins outs)[r]? =
      (outs[r]?).map (fun out => transferN (full e) n (Spec.allreduceVal e n op ins) 0 out 0) := by
  rw [Spec.allreduce, List.getElem?_map]

/-! `allgather_full`, `gather_full`: for fully communicated types the receive buffer (of exactly the total size) *is*
the concatenation of the contributions in rank order — on every rank for `allgather`, on the root for `gather`. -/

theorem allgather_full {α} (e n : Nat) (ins outs : List (List α)) (hl : ∀ inp ∈ ins, inp.length = n * e)
    (hout : ∀ out ∈ outs, out.length = ins.length * n * e) :
    Spec.allgather (full e) n ins outs = List.replicate outs.length ins.flatten :=
  List.map_eq_replicate_iff.mpr fun out ho => Proofs.gatherAt_full e n ins hl out (hout out ho)

theorem gather_full {α} (e n root : Nat) (ins outs : List (List α)) (hl : ∀ inp ∈ ins, inp.length = n * e)
    (hroot : root < outs.length) (hout : outs[root].length = ins.length * n * e) :
    (Spec.gather (full e) n root ins outs)[root]? = some ins.flatten ∧
      ∀ r, r ≠ root → (Spec.gather (full e) n root ins outs)[r]? = outs[r]? := by
  constructor
  · rw [gather_ranks, List.getElem?_eq_getElem hroot]
    simp only [Option.map_some, if_true]
    rw [Proofs.gatherAt_full e n ins hl _ hout]
  · intro r hr
    rw [gather_ranks]
    simp only [if_neg hr, Option.map_id']

example : Spec.allgather (full 2) 1 [[1, 2], [3, 4], [5, 6]] [[0, 0, 0, 0, 0, 0], [9, 9, 9, 9, 9, 9], [7, 7, 7, 7, 7, 7]]
    = List.replicate 3 [1, 2, 3, 4, 5, 6] := by decide +kernel

/-! `scatter` hands rank `r` the `r`-th chunk of the root's buffer (`scatter_chunks`; `scatter_full` for fully
communicated types), and scatter ∘ gather = id (`scatter_inverse`). -/

theorem scatter_chunks {α} (tm : TMap) (hwf : tm.wf) (n : Nat) (parts : List (List α))
    (hl : ∀ p ∈ parts, p.length = n * tm.extent) (r : Nat) (hr : r < parts.length) (rcv : List α) :
    Spec.scatterAt tm n parts.flatten r rcv = transferN tm n (parts[r]) 0 rcv 0 := by
  unfold Spec.scatterAt
  apply Proofs.transferN_src_congr tm hwf
  intro j hj
  rw [Nat.zero_add, Nat.mul_assoc]
  exact Proofs.flatten_getElem?_uniform (n * tm.extent) parts hl r hr j hj

theorem scatter_full {α} (e n : Nat) (parts : List (List α)) (hl : ∀ p ∈ parts, p.length = n * e) (r : Nat)
    (hr : r < parts.length) (rcv : List α) (hrcv : rcv.length = n * e) :
    Spec.scatterAt (full e) n parts.flatten r rcv = parts[r] := by
  rw [scatter_chunks (full e) (Proofs.full_wf e) n parts hl r hr rcv]
  exact Proofs.transferN_full_all e n _ rcv (hl _ (List.getElem_mem hr)) hrcv

theorem scatter_inverse {α} (e n : Nat) (ins : List (List α)) (hl : ∀ inp ∈ ins, inp.length = n * e) (out : List α)
    (hout : out.length = ins.length * n * e) (r : Nat) (hr : r < ins.length) (rcv : List α)
    (hrcv : rcv.length = n * e) :
    Spec.scatterAt (full e) n (Spec.gatherAt (full e) n ins out) r rcv = ins[r] := by
  rw [Proofs.gatherAt_full e n ins hl out hout]
  exact scatter_full e n ins hl r hr rcv hrcv

example : Spec.scatterAt (full 1) 2 (Spec.gatherAt (full 1) 2 [[1, 2], [3, 4], [5, 6]] [0, 0, 0, 0, 0, 0]) 1 [9, 9]
    = [3, 4] := by decide +kernel

/-- `broadcast`, fully communicated types: afterwards every rank holds the root's buffer -/
theorem bcast_full {α} (e n root : Nat) (bufs : List (List α)) (hl : ∀ b ∈ bufs, b.length = n * e)
    (hroot : root < bufs.length) : Spec.bcast (full e) n root bufs = List.replicate bufs.length bufs[root] := by
  simp only [Spec.bcast, List.getElem?_eq_getElem hroot]
  refine List.mapIdx_eq_replicate_iff.mpr fun r hr => ?_
  by_cases hrr : r = root
  · subst hrr
    rw [if_pos rfl]
  · rw [if_neg hrr, Proofs.transferN_full_all e n _ _ (hl _ (List.getElem_mem hroot)) (hl _ (List.getElem_mem hr))]

example : Spec.bcast (full 1) 2 1 [[0, 0], [7, 8], [1, 1]] = List.replicate 3 [7, 8] := by decide +kernel

/-- Element by element, the value `MPI_Allreduce` leaves on every rank is what *any* family of reduction trees evaluates
to — trees over any permutation of the ranks' `j`-th elements when `op` is associative and commutative (the predefined
operations) … -/
theorem allreduce_any_tree {α} (e n : Nat) (op : List α → List α → List α)
    (hassoc : ∀ a b c, op (op a b) c = op a (op b c)) (hcomm : ∀ a b, op a b = op b a) (ins : List (List α))
    (ts : Nat → Proofs.Tree (List α)) (hts : ∀ j, j < n → (ts j).leaves.Perm (ins.map (Spec.elem e j))) :
    Spec.allreduceVal e n op ins = (List.range n).flatMap (fun j => (ts j).eval op) :=
  Proofs.allreduceVal_trees e n op ins ts
    (fun j hj => allreduce_rank_order op hassoc hcomm (ts j) _ (hts j hj))

/-- … and trees whose leaves are the ranks' elements *in rank order* (any bracketing) when `op` is only associative:
what MPI guarantees for operations created with `commute = false` (`user_op_registration`), i.e. for every user
functor. -/
theorem allreduce_any_bracketing {α} (e n : Nat) (op : List α → List α → List α)
    (hassoc : ∀ a b c, op (op a b) c = op a (op b c)) (ins : List (List α))
    (ts : Nat → Proofs.Tree (List α)) (hts : ∀ j, j < n → (ts j).leaves = ins.map (Spec.elem e j)) :
    Spec.allreduceVal e n op ins = (List.range n).flatMap (fun j => (ts j).eval op) :=
  Proofs.allreduceVal_trees e n op ins ts
    (fun j hj => by rw [← hts j hj]; exact allreduce_rank_order_assoc op hassoc (ts j))

-- "keep the first" is associative, not commutative; ((x0 x1) (x2 x3)) over four ranks = rank 0's element
example : (Proofs.Tree.node (.node (.leaf [1]) (.leaf [2])) (.node (.leaf [3]) (.leaf [4]))).leaves
    = [[1, 2, 3, 4], [2, 0, 0, 0], [3, 0, 0, 0], [4, 0, 0, 0]].map (Spec.elem 1 0) := by decide +kernel
example : Spec.allreduceVal 1 1 (fun a _ => a) [[1], [2], [3], [4]] = [1] := by decide +kernel

/-- `allreduce`, every rank: with buffers of exactly `n` elements every rank ends up with the element-wise rank-order
fold, which has `n` elements again. -/
theorem allreduce_full {α} (e n : Nat) (op : List α → List α → List α)
    (hop : ∀ a b, a.length = e → b.length = e → (op a b).length = e) (ins outs : List (List α)) (hne : ins ≠ [])
    (hl : ∀ x ∈ ins, x.length = n * e) (hout : ∀ out ∈ outs, out.length = n * e) :
    Spec.allreduce e n op ins outs = List.replicate outs.length (Spec.allreduceVal e n op ins) ∧
      (Spec.allreduceVal e n op ins).length = n * e := by
  have hlen := Proofs.allreduceVal_length e n op hop ins hne hl
  exact ⟨List.map_eq_replicate_iff.mpr fun out ho => Proofs.transferN_full_all e n _ out hlen (hout out ho), hlen⟩

example : Spec.allreduce 1 2 (zipOp (· + ·)) [[1, 2], [10, 20], [100, 200]] [[0, 0], [0, 0], [0, 0]]
    = List.replicate 3 [111, 222] := by decide +kernel

/-! The container views of the MPIData-based reductions (`allreduce(Type&&)`, `iallreduce`): `MPIData` hands MPI the
*entries* of a `std::vector<T>`, a `DynamicVector<K>`, a `FieldVector<K,n>` (element type `T` / `K`), and the functor is
applied to the entries.  For a functor that acts cell by cell this is the same reduction as the one over the whole
objects. -/

/-- With a functor that acts cell by cell (`zipWith f`: `std::plus`, `Min`, `Max`, … on arithmetic entries) cell `j*e+i`
of the result is the fold, in rank order, of the ranks' cells `j*e+i`. -/
theorem allreduce_cellwise {α} (f : α → α → α) (e n : Nat) (ins : List (List α)) (hne : ins ≠ [])
    (hl : ∀ x ∈ ins, x.length = n * e) (j i : Nat) (hj : j < n) (hi : i < e) :
    (Spec.allreduceVal e n (List.zipWith f) ins)[j * e + i]? = Spec.foldCells f (ins.map (·[j * e + i]?)) := by
  have hc : j * e + i < n * e :=
    Nat.lt_of_lt_of_le (Nat.add_lt_add_left hi _) (Nat.succ_mul j e ▸ Nat.mul_le_mul_right e hj)
  cases ins with
  | nil => exact absurd rfl hne
  | cons x xs =>
    rw [Proofs.allreduceVal_zipWith, List.getElem?_take_of_lt hc, Proofs.foldl_zipWith_getElem?]
    rfl

/-- Hence the grouping of the cells into elements does not matter: reducing `n` objects of `e` entries with the
entry-wise functor (`allreduce<std::plus<FieldVector<int,3>>>(FieldVector<int,3>*, …, n)`) and reducing their `n*e`
entries with the functor on the entries (`allreduce<std::plus<int>>(FieldVector<int,3>&&)`, MPIData's view of the object
as a container) give the same result, for every process count. -/
theorem allreduce_container_view {α} (f : α → α → α) (e n : Nat) (ins : List (List α)) (hne : ins ≠ [])
    (hl : ∀ x ∈ ins, x.length = n * e) :
    Spec.allreduceVal e n (List.zipWith f) ins = Spec.allreduceVal 1 (n * e) (List.zipWith f) ins := by
  cases ins with
  | nil => exact absurd rfl hne
  | cons x xs => rw [Proofs.allreduceVal_zipWith, Proofs.allreduceVal_zipWith, Nat.mul_one]

-- three ranks, one FieldVector<int,3> each: whole-object sum = entry-wise sum of the 3 entries; cell 1 folds 20, 21, 22
example : Spec.allreduceVal 3 1 (List.zipWith (· + ·)) [[10, 20, 30], [11, 21, 31], [12, 22, 32]] = [(33 : Int), 63, 93]
    ∧ Spec.allreduceVal 1 3 (List.zipWith (· + ·)) [[10, 20, 30], [11, 21, 31], [12, 22, 32]] = [(33 : Int), 63, 93]
    ∧ Spec.foldCells (· + ·) ([[10, 20, 30], [11, 21, 31], [(12 : Int), 22, 32]].map (·[1]?)) = some (63 : Int) := by decide +kernel

/-! The `seq_agrees_*` theorems: for IndexPair / ParallelLocalIndex every collective of the stand-in agrees with the
one-process MPI result on every communicated cell (the stand-in assigns whole objects). -/

theorem seq_agrees_gather {α} (tm : TMap) (hwf : tm.wf) (hpos : 0 < tm.extent) (inp out : List α) (len root i : Nat)
    (hc : tm.covers (i % tm.extent) = true) :
    (Seq.gather tm.extent inp out len root)[i]? = ((Spec.gather tm len 0 [inp] [out]).getD 0 [])[i]? := by
  have h := seq_agrees_on_communicated_state tm hwf hpos inp 0 out 0 len i (by rwa [Nat.zero_mul, Nat.sub_zero])
  rw [Nat.zero_mul] at h
  rwa [Proofs.gather_one]

theorem seq_agrees_gatherv {α} (tm : TMap) (hwf : tm.wf) (hpos : 0 < tm.extent) (inp : List α) (sendLen : Nat)
    (out : List α) (displ root i : Nat) (hc : tm.covers ((i - displ * tm.extent) % tm.extent) = true) :
    (Seq.gatherv tm.extent inp sendLen out sendLen displ root)[i]? =
      ((Spec.gatherv tm 0 [inp] [sendLen] [displ] [out]).getD 0 [])[i]? := by
  have h := seq_agrees_on_communicated_state tm hwf hpos inp 0 out displ sendLen i hc
  rw [Nat.zero_mul] at h
  rwa [Proofs.gatherv_one]

theorem seq_agrees_scatter {α} (tm : TMap) (hwf : tm.wf) (hpos : 0 < tm.extent) (send recv : List α) (len root i : Nat)
    (hc : tm.covers (i % tm.extent) = true) :
    (Seq.scatter tm.extent send recv len root)[i]? = ((Spec.scatter tm len 0 [send] [recv]).getD 0 [])[i]? := by
  have h := seq_agrees_on_communicated_state tm hwf hpos send 0 recv 0 len i (by rwa [Nat.zero_mul, Nat.sub_zero])
  rw [Nat.zero_mul] at h
  rwa [Proofs.scatter_one]

theorem seq_agrees_scatterv {α} (tm : TMap) (hwf : tm.wf) (hpos : 0 < tm.extent) (send : List α) (sendLen displ : Nat)
    (recv : List α) (root i : Nat) (hc : tm.covers (i % tm.extent) = true) :
    (Seq.scatterv tm.extent send sendLen displ recv sendLen root)[i]? =
      ((Spec.scatterv tm 0 [send] [sendLen] [displ] [recv]).getD 0 [])[i]? := by
  have h := seq_agrees_on_communicated_state tm hwf hpos send displ recv 0 sendLen i
    (by rwa [Nat.zero_mul, Nat.sub_zero])
  rw [Nat.zero_mul] at h
  rwa [Proofs.scatterv_one]

theorem seq_agrees_allgather {α} (tm : TMap) (hwf : tm.wf) (hpos : 0 < tm.extent) (sbuf : List α) (count : Nat)
    (rbuf : List α) (i : Nat) (hc : tm.covers (i % tm.extent) = true) :
    (Seq.allgather tm.extent sbuf count rbuf)[i]? = ((Spec.allgather tm count [sbuf] [rbuf]).getD 0 [])[i]? := by
  have h := seq_agrees_on_communicated_state tm hwf hpos sbuf 0 rbuf 0 count i (by rwa [Nat.zero_mul, Nat.sub_zero])
  rw [Nat.zero_mul] at h
  rwa [Proofs.allgather_one]

theorem seq_agrees_allgatherv {α} (tm : TMap) (hwf : tm.wf) (hpos : 0 < tm.extent) (inp : List α) (sendLen : Nat)
    (out : List α) (displ i : Nat) (hc : tm.covers ((i - displ * tm.extent) % tm.extent) = true) :
    (Seq.allgatherv tm.extent inp sendLen out sendLen displ)[i]? =
      ((Spec.allgatherv tm [inp] [sendLen] [displ] [out]).getD 0 [])[i]? := by
  have h := seq_agrees_on_communicated_state tm hwf hpos inp 0 out displ sendLen i hc
  rw [Nat.zero_mul] at h
  rwa [Proofs.allgatherv_one]

/-- the single-element forms (`igather`, `iscatter`, `iallgather`) are loops of length one -/
theorem seq_agrees_single {α} (tm : TMap) (hwf : tm.wf) (hpos : 0 < tm.extent) (dataIn dataOut : List α) (i : Nat)
    (hc : tm.covers (i % tm.extent) = true) :
    (Seq.assignElem tm.extent dataIn 0 dataOut 0)[i]? = (transferN tm 1 dataIn 0 dataOut 0)[i]? := by
  have h := seq_agrees_on_communicated_state tm hwf hpos dataIn 0 dataOut 0 1 i (by rwa [Nat.zero_mul, Nat.sub_zero])
  rwa [Nat.zero_mul, ← Proofs.assignElem_copyLoop] at h

/-! The `seq_source_*` theorems: the bodies of `Communication<No_Comm>` as translated from the current communication.hh
(`Gen.Seq.*`, regenerated on every run) are the model functions `Seq.*` the `seq_eq_oneproc_*` theorems talk about. -/

theorem seq_source_reductions {α} (e : Nat) (x : List α) (len : Nat) :
    Gen.Seq.sum_1 e x = Seq.reduceScalar x ∧ Gen.Seq.prod_1 e x = Seq.reduceScalar x ∧
    Gen.Seq.min_1 e x = Seq.reduceScalar x ∧ Gen.Seq.max_1 e x = Seq.reduceScalar x ∧
    Gen.Seq.sum_2 e x len = Seq.reduceInplace x len ∧ Gen.Seq.prod_2 e x len = Seq.reduceInplace x len ∧
    Gen.Seq.min_2 e x len = Seq.reduceInplace x len ∧ Gen.Seq.max_2 e x len = Seq.reduceInplace x len ∧
    Gen.Seq.allreduce_2 e x len = Seq.reduceInplace x len ∧ Gen.Seq.iallreduce_1 e x = Seq.iallreduceInplace x :=
  ⟨rfl, rfl, rfl, rfl, rfl, rfl, rfl, rfl, rfl, rfl⟩

theorem seq_source_allreduce {α} (e : Nat) (inp out : List α) (len : Nat) :
    Gen.Seq.allreduce_3 e inp out len = Seq.allreduceInOut e inp out len ∧
    Gen.Seq.iallreduce_2 e inp out = Seq.iallreduceInOut inp out := by
  refine ⟨?_, rfl⟩
  simpa [Gen.Seq.allreduce_3, Seq.allreduceInOut] using Proofs.forCopy_eq_copyLoop e inp out 0 0 len

theorem seq_source_broadcast {α} (e : Nat) (x : List α) (len root : Nat) :
    Gen.Seq.broadcast_3 e x len root = Seq.broadcast x len root ∧ Gen.Seq.ibroadcast_2 e x root = Seq.ibroadcast x root :=
  ⟨rfl, rfl⟩

theorem seq_source_gather {α} (e : Nat) (inp out : List α) (len root : Nat) :
    Gen.Seq.gather_4 e inp out len root = Seq.gather e inp out len root ∧
    Gen.Seq.igather_3 e inp out root = Seq.igather e inp out root := by
  refine ⟨?_, rfl⟩
  simpa [Gen.Seq.gather_4, Seq.gather] using Proofs.forCopy_eq_copyLoop e inp out 0 0 len

-- (the documented precondition of the v-variants on one process: the receive count is the send count)
theorem seq_source_gatherv {α} (e : Nat) (inp : List α) (sendLen : Nat) (out : List α) (displ root : Nat) :
    Gen.Seq.gatherv_6 e inp sendLen out sendLen displ root = Seq.gatherv e inp sendLen out sendLen displ root ∧
    Gen.Seq.allgatherv_5 e inp sendLen out sendLen displ = Seq.allgatherv e inp sendLen out sendLen displ := by
  constructor
  · simpa [Gen.Seq.gatherv_6, Seq.gatherv] using Proofs.forCopy_eq_copyLoop e inp out 0 displ sendLen
  · simpa [Gen.Seq.allgatherv_5, Seq.allgatherv] using Proofs.forCopy_eq_copyLoop e inp out 0 displ sendLen

theorem seq_source_scatter {α} (e : Nat) (send recv : List α) (len root : Nat) :
    Gen.Seq.scatter_4 e send recv len root = Seq.scatter e send recv len root ∧
    Gen.Seq.iscatter_3 e send recv root = Seq.iscatter e send recv root := by
  refine ⟨?_, rfl⟩
  simpa [Gen.Seq.scatter_4, Seq.scatter] using Proofs.forCopy_eq_copyLoop e send recv 0 0 len

theorem seq_source_scatterv {α} (e : Nat) (send : List α) (sendLen displ : Nat) (recv : List α) (root : Nat) :
    Gen.Seq.scatterv_6 e send sendLen displ recv sendLen root = Seq.scatterv e send sendLen displ recv sendLen root := by
  simpa [Gen.Seq.scatterv_6, Seq.scatterv] using Proofs.forCopy_eq_copyLoop e send recv displ 0 sendLen

theorem seq_source_allgather {α} (e : Nat) (sbuf : List α) (count : Nat) (rbuf dataIn dataOut : List α) :
    Gen.Seq.allgather_3 e sbuf count rbuf = Seq.allgather e sbuf count rbuf ∧
    Gen.Seq.iallgather_2 e dataIn dataOut = Seq.iallgather e dataIn dataOut := by
  refine ⟨?_, rfl⟩
  simpa [Gen.Seq.allgather_3, Seq.allgather] using Proofs.forCopy_eq_copyLoop e sbuf rbuf 0 0 count

/-- rank 0 of 1, `barrier()` returns 0, and all five point-to-point methods refuse (`ParallelError`) -/
theorem seq_source_constants :
    Gen.Seq.rank = Seq.rank ∧ Gen.Seq.size = Seq.size ∧ Gen.Seq.barrier = Seq.barrier ∧
    Gen.Seq.p2pThrows = [("send", true), ("isend", true), ("recv", true), ("irecv", true), ("rrecv", true)] :=
  ⟨rfl, rfl, rfl, rfl⟩

/-- After the growth step of `MPIPack::pack` the bytes `MPI_Pack` writes fit: the position never passes the end of the
buffer, and the buffer up to the new position is the old content up to the old position followed by the item's wire
format. -/
theorem pack_growth_sufficient {α β} (C : Codec α β) (ofNat : Nat → α) (bound : Nat → Nat) (hb : ∀ k, k ≤ bound k)
    (zero : β) (st : PState β) (hpos : st.pos ≤ st.buf.length) (it : Item α β) :
    let st' := packItem C ofNat bound zero st it
    st'.pos ≤ st'.buf.length ∧ st'.pos = st.pos + (it.wire C ofNat).length ∧
      st'.buf.take st'.pos = st.buf.take st.pos ++ it.wire C ofNat :=
  have h := Proofs.packItem_spec C ofNat bound hb zero st hpos it
  ⟨h.pos_le, h.pos_eq, h.take_eq⟩

-- with a pessimistic `MPI_Pack_size` (bound k = k + 3) the buffer is larger than the position, never smaller
example : (packItem idCodec Int.ofNat (· + 3) 0 ⟨[], 0⟩ (.dyn (basic 1) 2 [8, 9])).pos = 3 ∧
    (packItem idCodec Int.ofNat (· + 3) 0 ⟨[], 0⟩ (.dyn (basic 1) 2 [8, 9])).buf = [2, 8, 9, 0, 0, 0, 0, 0, 0] := by
  decide +kernel

/-- Whatever sequence of items is written (static, dynamic incl. empty, nested packs), reading with destinations of the
same kinds (`pairs` = (item, destination)) from the start position returns, item by item, what a direct MPI transfer of
the written value into the destination would have produced, and ends at the position the writer ended at. -/
theorem pack_unpack_roundtrip {α β} (C : Codec α β) (ofNat : Nat → α) (toNat : α → Nat)
    (hnat : ∀ n, toNat (ofNat n) = n) (bound : Nat → Nat) (hb : ∀ k, k ≤ bound k) (zero : β)
    (st : PState β) (hpos : st.pos ≤ st.buf.length) (pairs : List (Item α β × Dest α β))
    (hwf : ∀ p ∈ pairs, Proofs.Item.wf p.1 ∧ Proofs.compatible p.1 p.2) :
    let st' := packAll C ofNat bound zero st (pairs.map (·.1))
    unpackAll C toNat zero ⟨st'.buf, st.pos⟩ (pairs.map (·.2))
      = (pairs.map (fun p => Proofs.received p.1 p.2), ⟨st'.buf, st'.pos⟩) := by
  intro st'
  have h := Proofs.packAll_spec C ofNat bound hb zero (pairs.map (·.1)) st hpos
  -- behind the old content the buffer holds the wire formats of all items, which is what `unpackAll` reads back
  rw [Proofs.unpackAll_wires C ofNat toNat hnat zero st'.buf pairs hwf st.pos _ (h.drop_eq hpos), ← h.pos_eq]

-- the hypotheses hold for a vector of two IndexPairs read into an empty vector
example : Proofs.Item.wf (.dyn (Types.indexPair 0 (basic 1) 1 (Types.localIndex 1 (basic 1) 4) 5) 2
      [1, 2, 3, 0, 0, 4, 5, 6, 1, 1] : Item Int Int) ∧
    Proofs.compatible (.dyn (Types.indexPair 0 (basic 1) 1 (Types.localIndex 1 (basic 1) 4) 5) 2
      [1, 2, 3, 0, 0, 4, 5, 6, 1, 1] : Item Int Int)
      (.dyn (Types.indexPair 0 (basic 1) 1 (Types.localIndex 1 (basic 1) 4) 5) [0, 0, 0, 0, 0] []) := by
  unfold Proofs.Item.wf Proofs.compatible TMap.wf; decide +kernel

/-- … so for fully communicated element types the reader gets the written cells, with the written length -/
theorem received_full_stat {α β} (e n : Nat) (cells dcells : List α) (hc : cells.length = n * e)
    (hd : dcells.length = n * e) :
    Proofs.received (β := β) (.stat (full e) n cells) (.stat (full e) n dcells) = .stat (full e) n cells :=
  Proofs.received_full_stat e n cells dcells hc hd

theorem received_full_dyn {α β} (e n m : Nat) (he : 0 < e) (cells dflt dcells : List α) (hc : cells.length = n * e)
    (hdf : dflt.length = e) (hd : dcells.length = m * e) :
    Proofs.received (β := β) (.dyn (full e) n cells) (.dyn (full e) dflt dcells) = .dyn (full e) dflt cells :=
  Proofs.received_full_dyn e n m he cells dflt dcells hc hdf hd

example : (unpackAll idCodec Int.toNat 0
    ⟨(packAll idCodec Int.ofNat id 0 ⟨[], 0⟩
        [.stat (basic 1) 1 [7], .dyn (basic 1) 0 [], .dyn (basic 1) 2 [8, 9], .raw [5, 5, 5]]).buf, 0⟩
    [.stat (basic 1) 1 [0], .dyn (basic 1) [0] [1, 1, 1], .dyn (basic 1) [0] [], .raw []]).1.map
      (fun d => match d with | .stat _ _ c => c | .dyn _ _ c => c | .raw b => b)
    = [[7], [], [8, 9], [5, 5, 5]] := by decide +kernel

/-- Whatever the receive object held (any length `m`), `rrecv` returns the sent elements with the sent length (fully
communicated element types; for the others: the transfer into the resized object, by definition of `Spec.rrecv`). -/
theorem rrecv_roundtrip {α} (e n m : Nat) (he : 0 < e) (src dflt dst : List α) (hs : src.length = n * e)
    (hdf : dflt.length = e) (hd : dst.length = m * e) : Spec.rrecv (full e) dflt src n dst = src :=
  Proofs.transferN_full_all e n src _ hs (Proofs.resizeCells_length e he dflt dst m n hdf hd)

/-- in a ring with any shift, rank `r` ends up with exactly what rank `(r - shift) mod P` sent -/
theorem ring_rrecv_roundtrip {α} (e : Nat) (he : 0 < e) (dflt : List α) (hdf : dflt.length = e) (shift : Nat)
    (srcs : List (List α × Nat)) (dsts : List (List α)) (hP : srcs.length = dsts.length)
    (hs : ∀ s ∈ srcs, s.1.length = s.2 * e) (hd : ∀ d ∈ dsts, ∃ m, d.length = m * e) (r : Nat) (hr : r < dsts.length) :
    (Spec.ringRrecv (full e) dflt shift srcs dsts)[r]? =
      (srcs[(r + dsts.length - shift % dsts.length) % dsts.length]?).map (·.1) := by
  have hlt : (r + dsts.length - shift % dsts.length) % dsts.length < srcs.length := by
    rw [hP]; exact Nat.mod_lt _ (Nat.lt_of_le_of_lt (Nat.zero_le r) hr)
  simp only [Spec.ringRrecv, List.getElem?_mapIdx, List.getElem?_eq_getElem hr, List.getElem?_eq_getElem hlt,
    Option.map_some]
  obtain ⟨m, hm⟩ := hd _ (List.getElem_mem hr)
  rw [rrecv_roundtrip e _ m he _ dflt _ (hs _ (List.getElem_mem hlt)) hdf hm]

example : Spec.ringRrecv (full 1) [0] 1 [([1, 2], 2), ([], 0), ([3], 1)] [[9, 9, 9], [8], []] = [[3], [1, 2], []] := by
  decide +kernel

/-! ## the datatype construction code of the current sources (`Gen.TyProg.*`, symbolic execution by `tr_c07.py`)

For **every** instantiation (`env`: the typemaps of the template arguments, the member offsets, `sizeof`, the counts) the
handle that `getType()` returns denotes the model's typemap constructor — so the theorems above (`*_typemap`, `*_covers`,
`resized_extents`, `pair_array_transfers`, `indexpair_transfers_global_and_attribute`) speak about what the code builds now. -/
section TypeProg
open TyProg

/-- `MPITraits<FieldVector<K,n>>`: struct of one block `contiguous(n, MPITraits<K>)` at the displacement of `fvector[0]` -/
theorem typeprog_fieldvector (env : Env) :
    eval env Gen.TyProg.fieldVector = Types.fieldVector (env.off "[0]") (env.cnt (.tparam 2)) (env.param 1) := rfl

/-- `MPITraits<bigunsignedint<k>>`: `bigunsignedint<k>::n` digits of `std::uint16_t` at the displacement of `digit` -/
theorem typeprog_bigunsigned (env : Env) :
    eval env Gen.TyProg.bigUnsigned =
      Types.bigUnsigned (env.off "digit") (env.cnt (.selfConst "n")) (env.named "std::uint16_t") := rfl

/-- `MPITraits<std::pair<T1,T2>>`: struct {first, second}, one element each, resized to `sizeof(pair)` -/
theorem typeprog_pair (env : Env) :
    eval env Gen.TyProg.pair =
      Types.pair (env.off "first") (env.param 1) (env.off "second") (env.param 2) (env.cnt .sizeofSelf) := rfl

/-- `MPITraits<ParallelLocalIndex<T>>`: struct {attribute_ : one char}, resized to `sizeof` -/
theorem typeprog_localindex (env : Env) :
    eval env Gen.TyProg.localIndex = Types.localIndex (env.off "attribute_") (env.named "char") (env.cnt .sizeofSelf) := rfl

/-- `MPITraits<IndexPair<TG,ParallelLocalIndex<TA>>>`: struct {global_, local_}, resized to `sizeof` -/
theorem typeprog_indexpair (env : Env) :
    eval env Gen.TyProg.indexPair =
      Types.indexPair (env.off "global_") (env.param 1) (env.off "local_") (env.named "ParallelLocalIndex<$2>")
        (env.cnt .sizeofSelf) := rfl

/-- the byte-wise fallback `MPITraits<T>`: `sizeof(T)` bytes -/
theorem typeprog_fallback (env : Env) :
    eval env Gen.TyProg.fallback = contiguous (env.cnt .sizeofSelf) (env.named "MPI_BYTE") := rfl

/-- the cell-level instantiations the driver runs (`tyMap`) are the generated construction code evaluated at the cell
layout of the harness types (`TyProg.cellEnv`) -/
theorem tymap_from_source :
    tyMap "fv3" = some (eval (cellEnv (basic 1) (basic 1) (basic 1) 3 3 [("[0]", 0)]) Gen.TyProg.fieldVector) ∧
    tyMap "fv2" = some (eval (cellEnv (basic 1) (basic 1) (basic 1) 2 2 [("[0]", 0)]) Gen.TyProg.fieldVector) ∧
    tyMap "big96" = some (eval (cellEnv (basic 1) (basic 1) (basic 1) 1 1 [("digit", 0)]) Gen.TyProg.bigUnsigned) ∧
    tyMap "pair" = some (eval (cellEnv (basic 1) (basic 1) (basic 1) 0 2 [("first", 0), ("second", 1)]) Gen.TyProg.pair) ∧
    tyMap "pod" = some (eval (cellEnv (basic 1) (basic 1) (basic 1) 0 3 []) Gen.TyProg.fallback) ∧
    tyMap "pli" = some (eval (cellEnv (basic 1) (basic 1) (basic 1) 0 4 [("attribute_", 1)]) Gen.TyProg.localIndex) ∧
    tyMap "ip" = some (eval (cellEnv (basic 1) (basic 1)
        (eval (cellEnv (basic 1) (basic 1) (basic 1) 0 4 [("attribute_", 1)]) Gen.TyProg.localIndex) 0 5
        [("global_", 0), ("local_", 1)]) Gen.TyProg.indexPair) := by
  decide +kernel

/-- The three struct datatypes of the current sources have extent `sizeof`, whatever the members. -/
theorem source_extents (env : Env) :
    (eval env Gen.TyProg.pair).extent = env.cnt .sizeofSelf ∧ (eval env Gen.TyProg.localIndex).extent = env.cnt .sizeofSelf ∧
      (eval env Gen.TyProg.indexPair).extent = env.cnt .sizeofSelf := by
  rw [typeprog_pair, typeprog_localindex, typeprog_indexpair]; exact ⟨rfl, rfl, rfl⟩

/-- Moving one `ParallelLocalIndex<T>` with the datatype the current `getType()` builds overwrites the cell of
`attribute_` and nothing else (not `localIndex_`, `public_`, `state_`). -/
theorem source_localindex_transfers_attribute_only {α} (env : Env) (hc : env.named "char" = basic 1)
    (src dst : List α) (i : Nat) :
    (transfer (eval env Gen.TyProg.localIndex) src 0 dst 0)[i]? =
      if i = env.off "attribute_" then ovw src[i]? dst[i]? else dst[i]? := by
  rw [typeprog_localindex, hc, typemap_transfers_exactly, localindex_typemap]
  simp only [Nat.zero_le, true_and, Nat.sub_zero, Nat.zero_add, covers, List.any_cons, List.any_nil, Bool.or_false,
    Bool.and_eq_true, decide_eq_true_eq, Proofs.one_cell_iff]

/-- With the datatypes the current sources build — the one of `IndexPair<TG,ParallelLocalIndex<TA>>` (`envP`) using the
one of `ParallelLocalIndex<TA>` (`envL`) for `local_`, `TG` a number of `szG` cells — moving an index pair overwrites
exactly the cells of the global index and the attribute. -/
theorem source_indexpair_transfers_global_and_attribute {α} (envP envL : Env) (szG : Nat)
    (hG : envP.param 1 = basic szG) (hc : envL.named "char" = basic 1)
    (hL : envP.named "ParallelLocalIndex<$2>" = eval envL Gen.TyProg.localIndex) (src dst : List α) (i : Nat) :
    (transfer (eval envP Gen.TyProg.indexPair) src 0 dst 0)[i]? =
      if (envP.off "global_" ≤ i ∧ i < envP.off "global_" + szG) ∨ i = envP.off "local_" + envL.off "attribute_"
      then ovw src[i]? dst[i]? else dst[i]? := by
  rw [typeprog_indexpair, hL, typeprog_localindex, hG, hc]
  exact indexpair_transfers_global_and_attribute _ _ _ _ _ _ src dst i

/-- `count` pairs moved with the datatype the current sources build stride by `sizeof(pair)` and overwrite exactly what
`first` and `second` communicate. -/
theorem source_pair_array_transfers {α} (env : Env)
    (h1 : ∀ b ∈ (env.param 1).blocks, env.off "first" + b.1 + b.2 ≤ env.cnt .sizeofSelf)
    (h2 : ∀ b ∈ (env.param 2).blocks, env.off "second" + b.1 + b.2 ≤ env.cnt .sizeofSelf)
    (hpos : 0 < env.cnt .sizeofSelf) (n : Nat) (src dst : List α) (i : Nat) :
    (transferN (eval env Gen.TyProg.pair) n src 0 dst 0)[i]? =
      if i / env.cnt .sizeofSelf < n ∧
          ((env.off "first" ≤ i % env.cnt .sizeofSelf ∧ (env.param 1).covers (i % env.cnt .sizeofSelf - env.off "first") = true) ∨
           (env.off "second" ≤ i % env.cnt .sizeofSelf ∧ (env.param 2).covers (i % env.cnt .sizeofSelf - env.off "second") = true))
      then ovw src[i]? dst[i]? else dst[i]? := by
  rw [typeprog_pair]; exact pair_array_transfers _ _ _ _ _ h1 h2 hpos n src dst i

/-! `source_fieldvector_covers`, `source_bigunsigned_covers`: all `n` components / digits, nothing else. -/

theorem source_fieldvector_covers (env : Env) (w : Nat) (hK : env.param 1 = basic w) (j : Nat) :
    (eval env Gen.TyProg.fieldVector).covers j = true ↔
      env.off "[0]" ≤ j ∧ j < env.off "[0]" + env.cnt (.tparam 2) * w := by
  rw [typeprog_fieldvector, hK]; exact fieldvector_typemap _ _ _ j

theorem source_bigunsigned_covers (env : Env) (w : Nat) (hD : env.named "std::uint16_t" = basic w) (j : Nat) :
    (eval env Gen.TyProg.bigUnsigned).covers j = true ↔
      env.off "digit" ≤ j ∧ j < env.off "digit" + env.cnt (.selfConst "n") * w := by
  rw [typeprog_bigunsigned, hD]; exact bigunsigned_typemap _ _ _ j

-- non-vacuity: the IndexPair of the harness (global index in cell 0, local_ from cell 1 with the attribute in its second
-- cell, 5 cells) — hypotheses hold, and the transfer moves cells 0 and 2 only
example : let envL := cellEnv (basic 1) (basic 1) (basic 1) 0 4 [("attribute_", 1)]
    let envP := cellEnv (basic 1) (basic 1) (eval envL Gen.TyProg.localIndex) 0 5 [("global_", 0), ("local_", 1)]
    envP.param 1 = basic 1 ∧ envL.named "char" = basic 1 ∧
      envP.named "ParallelLocalIndex<$2>" = eval envL Gen.TyProg.localIndex ∧
      transfer (eval envP Gen.TyProg.indexPair) [10, 11, 12, 13, 14] 0 [0, 1, 2, 3, 4] 0 = [10, 1, 12, 3, 4] := by
  decide +kernel
-- pair<long long, char> of 3 cells (one padding cell): hypotheses of `source_pair_array_transfers` hold; two pairs
example : let env := cellEnv (contiguous 1 (basic 1)) (basic 1) (basic 1) 0 3 [("first", 0), ("second", 1)]
    (∀ b ∈ (env.param 1).blocks, env.off "first" + b.1 + b.2 ≤ env.cnt .sizeofSelf) ∧
    (∀ b ∈ (env.param 2).blocks, env.off "second" + b.1 + b.2 ≤ env.cnt .sizeofSelf) ∧ 0 < env.cnt .sizeofSelf ∧
    transferN (eval env Gen.TyProg.pair) 2 [1, 2, 0, 3, 4, 0] 0 [9, 9, 9, 9, 9, 9] 0 = [1, 2, 9, 3, 4, 9] := by
  decide +kernel
-- what the seeded change C07_w4m3 builds (three chars from `attribute_` on) is *not* the model's datatype: it also
-- overwrites the two cells after the attribute
example : transfer (eval (cellEnv (basic 1) (basic 1) (basic 1) 0 4 [("attribute_", 1)])
    (.resized (.scons "attribute_" 3 (.named "char") .snil) .sizeofSelf)) [10, 11, 12, 13] 0 [0, 1, 2, 3] 0 = [0, 11, 12, 13] := by
  decide +kernel
example : eval (cellEnv (basic 1) (basic 1) (basic 1) 3 3 [("[0]", 0)]) Gen.TyProg.fieldVector = ⟨[(0, 1), (1, 1), (2, 1)], 3⟩ := by
  decide +kernel
end TypeProg

/-! ## the wrapper layer `Communication<MPI_Comm>` of the current sources (`Gen.wrapperTable`, symbolic execution of
every member function body by `tr_c07.py`) -/
section Wrappers
open Wrap

/-- Every member function of `Communication<MPI_Comm>` issues the MPI call the specification side (`Wrap.expected`)
lists — function, buffers, counts, datatypes, root, operation, the delegations of `sum/prod/min/max` and of the in-place
`allreduce`, the probe–count–resize–receive sequence of `rrecv`, the refusal of an empty `irecv` — and every call is
well formed: it is the MPI function the member stands for, the arguments fit the signature the MPI standard gives that
function, every buffer is described by the datatype of its own elements and every reduction uses the `MPI_Op`
instantiated for the element type its datatype describes (the statement the defect repaired in /repo 708cce0
violated). -/
theorem wrapper_table_sound :
    Gen.wrapperTable = Wrap.expected ∧ (∀ r ∈ Gen.wrapperTable, wellFormed r = true) := by
  refine ⟨rfl, ?_⟩
  decide +kernel

theorem CExpr.eval_one (env : CEnv) (a : Atom) : (⟨[a], []⟩ : CExpr).eval env = a.eval env :=
  (Nat.div_one _).trans (Nat.mul_one _)

/-- the send and the receive count of the MPI call, for the six wrappers whose call has both -/
theorem wrapper_counts :
    ∀ t ∈ ([("igather_3", ⟨[.sizeOf 1], []⟩, ⟨[.isRoot, .sizeOf 1], []⟩),
            ("iscatter_3", ⟨[.isRoot, .sizeOf 1], [.procs]⟩, ⟨[.sizeOf 2], []⟩),
            ("iallgather_2", ⟨[.sizeOf 1], []⟩, ⟨[.sizeOf 1], []⟩),
            ("gather_4", ⟨[.par 3], []⟩, ⟨[.par 3], []⟩),
            ("scatter_4", ⟨[.par 3], []⟩, ⟨[.par 3], []⟩),
            ("allgather_3", ⟨[.par 2], []⟩, ⟨[.par 2], []⟩)] : List (String × CExpr × CExpr)),
      countArg Gen.wrapperTable t.1 0 = some t.2.1 ∧ countArg Gen.wrapperTable t.1 1 = some t.2.2 := by
  decide +kernel

/-- `igather`: every rank sends its whole object; the root receives that many elements per rank (the receive count is
significant at the root only). -/
theorem igather_counts (env : CEnv) :
    ∃ s r, countArg Gen.wrapperTable "igather_3" 0 = some s ∧ countArg Gen.wrapperTable "igather_3" 1 = some r ∧
      s.eval env = env.sizeOf 1 ∧ (env.me = env.root → r.eval env = env.sizeOf 1) := by
  have h := wrapper_counts ("igather_3", ⟨[.sizeOf 1], []⟩, ⟨[.isRoot, .sizeOf 1], []⟩)
    (by simp only [List.mem_cons, true_or])
  refine ⟨_, _, h.1, h.2, CExpr.eval_one env _, fun hr => ?_⟩
  simp [CExpr.eval, prodOf, Atom.eval, hr]

/-- `iscatter`: the root hands out `size/procs` elements per rank — all of its object when the size is a multiple of the
process count —, every rank receives its whole receive object. -/
theorem iscatter_counts (env : CEnv) :
    ∃ s r, countArg Gen.wrapperTable "iscatter_3" 0 = some s ∧ countArg Gen.wrapperTable "iscatter_3" 1 = some r ∧
      (env.me = env.root → s.eval env = env.sizeOf 1 / env.procs) ∧
      (env.me = env.root → env.procs ∣ env.sizeOf 1 → s.eval env * env.procs = env.sizeOf 1) ∧
      r.eval env = env.sizeOf 2 := by
  have h := wrapper_counts ("iscatter_3", ⟨[.isRoot, .sizeOf 1], [.procs]⟩, ⟨[.sizeOf 2], []⟩)
    (by simp only [List.mem_cons, true_or, or_true])
  refine ⟨_, _, h.1, h.2, ?_, ?_, CExpr.eval_one env _⟩
  · intro hr; simp [CExpr.eval, prodOf, Atom.eval, hr]
  · intro hr hd; simp [CExpr.eval, prodOf, Atom.eval, hr]; exact Nat.div_mul_cancel hd

/-- `iallgather`: send count = receive count per rank = the size of the contribution. -/
theorem iallgather_counts (env : CEnv) :
    ∃ s r, countArg Gen.wrapperTable "iallgather_2" 0 = some s ∧ countArg Gen.wrapperTable "iallgather_2" 1 = some r ∧
      s.eval env = env.sizeOf 1 ∧ r.eval env = env.sizeOf 1 :=
  have h := wrapper_counts ("iallgather_2", ⟨[.sizeOf 1], []⟩, ⟨[.sizeOf 1], []⟩)
    (by simp only [List.mem_cons, true_or, or_true])
  ⟨_, _, h.1, h.2, CExpr.eval_one env _, CExpr.eval_one env _⟩

/-- `gather / scatter / allgather` (pointer forms): send count = receive count = the `len` parameter, on every rank. -/
theorem pointer_collective_counts (env : CEnv) :
    (∃ s r, countArg Gen.wrapperTable "gather_4" 0 = some s ∧ countArg Gen.wrapperTable "gather_4" 1 = some r ∧
      s.eval env = env.par 3 ∧ r.eval env = env.par 3) ∧
    (∃ s r, countArg Gen.wrapperTable "scatter_4" 0 = some s ∧ countArg Gen.wrapperTable "scatter_4" 1 = some r ∧
      s.eval env = env.par 3 ∧ r.eval env = env.par 3) ∧
    (∃ s r, countArg Gen.wrapperTable "allgather_3" 0 = some s ∧ countArg Gen.wrapperTable "allgather_3" 1 = some r ∧
      s.eval env = env.par 2 ∧ r.eval env = env.par 2) :=
  have hg := wrapper_counts ("gather_4", ⟨[.par 3], []⟩, ⟨[.par 3], []⟩) (by simp only [List.mem_cons, true_or, or_true])
  have hs := wrapper_counts ("scatter_4", ⟨[.par 3], []⟩, ⟨[.par 3], []⟩) (by simp only [List.mem_cons, true_or, or_true])
  have ha := wrapper_counts ("allgather_3", ⟨[.par 2], []⟩, ⟨[.par 2], []⟩) (by simp only [List.mem_cons, true_or, or_true])
  ⟨⟨_, _, hg.1, hg.2, CExpr.eval_one env _, CExpr.eval_one env _⟩,
    ⟨_, _, hs.1, hs.2, CExpr.eval_one env _, CExpr.eval_one env _⟩,
    ⟨_, _, ha.1, ha.2, CExpr.eval_one env _, CExpr.eval_one env _⟩⟩

-- non-vacuity: 3 ranks, root 1, an object of 6 elements at the root: iscatter hands out 2 per rank
example : (⟨[.isRoot, .sizeOf 1], [.procs]⟩ : CExpr).eval ⟨fun _ => 0, fun _ => 6, 1, 1, 3⟩ = 2 ∧
    (⟨[.isRoot, .sizeOf 1], [.procs]⟩ : CExpr).eval ⟨fun _ => 0, fun _ => 6, 0, 1, 3⟩ = 0 := by decide +kernel
-- the seeded change C07_m3 (`igather` root count `out.size()/procs`) is not the expected call
example : (⟨"igather_3", .call "MPI_Igather" [.buf 1, .cnt ⟨[.sizeOf 1], []⟩, .tyOf 1, .buf 2, .cnt ⟨[.sizeOf 2], [.procs]⟩,
    .tyOf 2, .root, .comm, .req], [], [], .none⟩ : Row) ∉ Wrap.expected := by decide +kernel
-- the defect repaired in 708cce0 (op instantiated for the container type `$2` while the datatype is the one of the entries)
-- is not well formed
example : wellFormed ⟨"allreduce_1", .call "MPI_Allreduce" [.inPlace, .buf 1, .cnt ⟨[.sizeOf 1], []⟩, .tyOf 1,
    .op (.named "$2") "$1", .comm], [], [], .none⟩ = false := by decide +kernel
-- a gather whose receive datatype is not the one of the receive buffer's elements is not well formed
example : wellFormed ⟨"allgather_3", .call "MPI_Allgather" [.buf 1, .cnt ⟨[.par 2], []⟩, .tyT "$1", .buf 3, .cnt ⟨[.par 2], []⟩,
    .tyT "$1", .comm], [(1, "$1"), (3, "$2")], [], .none⟩ = false := by decide +kernel
end Wrappers

end DV.C07
