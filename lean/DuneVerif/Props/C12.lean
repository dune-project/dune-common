/-
C12 — ParameterTree returns what the configuration source says, or a precise error.

Property theorems about the model `DuneVerif/Model/C12.lean` (a transcription of readINITree, ParameterTree's
operator[]/hasKey/sub/get, readOptions/readNamedOptions and Parser<T>).  A *document of the documented dialect*
is `renderDoc items` for a list of `Item`s (blank line, comment, `[group]` header, assignment with optional
quoting / multi-line value / trailing comment) satisfying the lexical predicate `Item.wf`; what it says is
`denote [] items`, the sequence of (full dotted key, value) assignments.

The `src_*` theorems at the end tie the model to the source: the values `tools/translators/tr_c12.py` re-reads from
parametertree.{hh,cc} and parametertreeparser.cc on every run (`DuneVerif/Gen/C12.lean`) are the ones the model is written with.
-/
import DuneVerif.Gen.C12
import DuneVerif.Proofs.C12Render
import DuneVerif.Proofs.C12Apply
import DuneVerif.Proofs.C12Lex
import DuneVerif.Proofs.C12Opt
import DuneVerif.Proofs.C12Seq
import DuneVerif.Proofs.C12Named
import DuneVerif.Proofs.C12Float
import DuneVerif.Proofs.C12Src

namespace DV.C12

/-- a small hierarchy: two top-level keys, a group with a multi-line value and a nested group -/
def exTree : Tree :=
  .node [("x".toList, "1".toList), ("y".toList, "2".toList)]
    [("fruit".toList, .node [("apple".toList, "green\n red ".toList)]
        [("pip".toList, .node [("pear".toList, "a = b".toList)] [])])]

/-- one of its spellings: comment lines, blanks, trailing comments, `[ ]` reset, both quote characters,
    a multi-line value, a dotted key inside a group -/
def exItems : List Item :=
  [ .comment [] " fruit colours".toList,
    .assign [] "x".toList " ".toList " ".toList none "1".toList [] (some " one".toList),
    .header [] [] "fruit".toList [] " # group".toList,
    .blank " ".toList,
    .header [] " ".toList [] " ".toList [],
    .assign "  ".toList "y".toList [] [] (some '\'') "2".toList "\t".toList none,
    .header [] [] "fruit".toList [] [],
    .assign [] "apple".toList " ".toList " ".toList (some '"') "green\n red ".toList " ".toList none,
    .assign [] "pip.pear".toList [] " ".toList none "a = b".toList [] none,
    .blank [] ]

example : renderDoc exItems =
    "# fruit colours\nx = 1# one\n[fruit] # group\n \n[  ]\n  y='2'\t\n[fruit]\napple = \"green\n red \" \npip.pear= a = b\n".toList := by
  -- evaluating `String.toList` on a literal is quadratic in the kernel; `toList_ofList` gives its characters directly
  simp only [exItems]
  repeat rw [String.toList_ofList]
  decide +kernel

/-- `exTree` character by character: the examples about it start here, so that its ten string literals are
    decoded once and not by the kernel in each of them (which costs the square of a literal's length) -/
theorem exTree_chars : exTree = .node [(['x'], ['1']), (['y'], ['2'])]
    [(['f', 'r', 'u', 'i', 't'],
      .node [(['a', 'p', 'p', 'l', 'e'], ['g', 'r', 'e', 'e', 'n', '\n', ' ', 'r', 'e', 'd', ' '])]
        [(['p', 'i', 'p'], .node [(['p', 'e', 'a', 'r'], ['a', ' ', '=', ' ', 'b'])] [])])] := by
  simp only [exTree]
  repeat rw [String.toList_ofList]

theorem exTree_wf : WFT exTree := by
  rw [exTree_chars]
  simp [WFT, WFS, names, flat, flatSubs]
theorem exItems_wf : ∀ it ∈ exItems, it.wf = true := by
  simp only [exItems]
  repeat rw [String.toList_ofList]
  decide +kernel
theorem exItems_denote : denote [] exItems = flatten exTree := by
  rw [exTree_chars]
  decide +kernel

/-- the example of the ParameterTreeParser class documentation, item by item -/
def docExample : List Item :=
  let a (k v : String) : Item := .assign [] k.toList " ".toList " ".toList none v.toList [] none
  [ .comment [] " this file configures fruit colors in fruitsalad".toList, .blank [], .blank [],
    .comment [] "these are no fruit but could also appear in fruit salad".toList,
    a "honeydewmelon" "yellow", a "watermelon" "green", .blank [],
    a "fruit.tropicalfruit.orange" "orange", .blank [],
    .header [] [] "fruit".toList [] [], a "strawberry" "red", a "pomegranate" "red", .blank [],
    .header [] [] "fruit.pipfruit".toList [] [], a "apple" "green/red/yellow", a "pear" "green", .blank [],
    .header [] [] "fruit.stonefruit".toList [] [], a "cherry" "red", a "plum" "purple", .blank [] ]

set_option maxRecDepth 8000 in
example : renderDoc docExample =
    ("# this file configures fruit colors in fruitsalad\n\n\n#these are no fruit but could also appear in fruit salad\n" ++
     "honeydewmelon = yellow\nwatermelon = green\n\nfruit.tropicalfruit.orange = orange\n\n[fruit]\nstrawberry = red\n" ++
     "pomegranate = red\n\n[fruit.pipfruit]\napple = green/red/yellow\npear = green\n\n[fruit.stonefruit]\ncherry = red\n" ++
     "plum = purple\n").toList := by
  simp only [docExample]
  rw [String.toList_append, String.toList_append, String.toList_append]
  repeat rw [String.toList_ofList]
  decide +kernel

theorem docExample_wf : ∀ it ∈ docExample, it.wf = true := by
  simp only [docExample]
  repeat rw [String.toList_ofList]
  decide +kernel

example : ∀ it ∈ docExample, it.wf = true := docExample_wf
/-- the documentation's example is read as the hierarchy it describes (note the key order: `tropicalfruit` is the first
    group inside `fruit` because it appears first) -/
example : parseINI (renderDoc docExample) .empty true =
    .ok (.node [("honeydewmelon".toList, "yellow".toList), ("watermelon".toList, "green".toList)]
      [("fruit".toList, .node [("strawberry".toList, "red".toList), ("pomegranate".toList, "red".toList)]
        [("tropicalfruit".toList, .node [("orange".toList, "orange".toList)] []),
         ("pipfruit".toList, .node [("apple".toList, "green/red/yellow".toList), ("pear".toList, "green".toList)] []),
         ("stonefruit".toList, .node [("cherry".toList, "red".toList), ("plum".toList, "purple".toList)] [])])]) := by
  -- (`parse_render` does not apply: the document names `fruit.tropicalfruit.orange` before the values of `[fruit]`,
  -- which is not the order of `flatten`)
  rw [parseINI_renderDoc _ docExample_wf]
  simp only [docExample]
  repeat rw [String.toList_ofList]
  decide +kernel

/-- **parse_render.**  For every hierarchy `t` (distinct names per node, no name both value and group, no empty
    group, no dot inside a name) and *every* document of the dialect that spells its entries — any mix of
    `[group]` headers and dotted keys, blanks, comments, blank lines, either quote, multi-line values —
    reading the document into an empty tree yields exactly `t`: same keys, same values, same key order. -/
theorem parse_render (t : Tree) (ht : WFT t) (items : List Item) (hwf : ∀ it ∈ items, it.wf = true)
    (hd : denote [] items = flatten t) :
    parseINI (renderDoc items) .empty true = .ok t := by
  rw [parseINI_renderDoc items hwf, hd]
  obtain ⟨st', h1, h2⟩ := applyAll_flatten t ht []
  rw [h1, andThen_ok, h2]

example : parseINI (renderDoc exItems) .empty true = .ok exTree :=
  parse_render exTree exTree_wf exItems exItems_wf exItems_denote

/-- the hypotheses of `parse_render` are satisfiable for every hierarchy whose keys and values can be written
    down at all: rendering 1, one dotted assignment per entry -/
theorem parse_render_dotted (t : Tree) (ht : WFT t) (hl : ∀ e ∈ flatten t, keyOK e.1 = true ∧ valOK e.2 = true) :
    parseINI (renderDoc (dottedItems (flatten t))) .empty true = .ok t :=
  parse_render t ht _ (dotted_wf _ hl) (denote_dotted _)

example : renderDoc (dottedItems (flatten exTree)) =
    "x=\"1\"\ny=\"2\"\nfruit.apple=\"green\n red \"\nfruit.pip.pear=\"a = b\"".toList := by
  rw [String.toList_ofList, exTree_chars]
  decide +kernel
example : parseINI (renderDoc (dottedItems (flatten exTree))) .empty true = .ok exTree :=
  parse_render_dotted exTree exTree_wf (by rw [exTree_chars]; decide +kernel)

/-- rendering 2: every entry under its own `[group]` header, the key being the last component -/
theorem parse_render_grouped (t : Tree) (ht : WFT t)
    (hl : ∀ e ∈ flat t, (∀ c ∈ e.1, compOK c = true) ∧ valOK e.2 = true) :
    parseINI (renderDoc (groupedItems (flat t))) .empty true = .ok t :=
  parse_render t ht _
    (grouped_wf _ (fun e he => ⟨flat_paths_ne_nil t e he, (hl e he).1, (hl e he).2⟩))
    (denote_grouped _ (fun e he => ⟨flat_paths_ne_nil t e he, (hl e he).1⟩) [])

example : renderDoc (groupedItems (flat exTree)) =
    "[]\nx=\"1\"\n[]\ny=\"2\"\n[fruit]\napple=\"green\n red \"\n[fruit.pip]\npear=\"a = b\"".toList := by
  rw [String.toList_ofList, exTree_chars]
  decide +kernel
example : parseINI (renderDoc (groupedItems (flat exTree))) .empty true = .ok exTree :=
  parse_render_grouped exTree exTree_wf (by rw [exTree_chars]; decide +kernel)

/-- the general form behind it: reading any document of the dialect, into any tree, with either flag, is
    applying the assignments it denotes in order (duplicate test, overwrite test, `pt[key] = value`) -/
theorem parse_denotation (items : List Item) (hwf : ∀ it ∈ items, it.wf = true) (t : Tree) (ow : Bool) :
    parseINI (renderDoc items) t ow =
      andThen (applyAll ow (denote [] items) ⟨[], [], t⟩) (fun s => .ok s.tree) :=
  parseINI_renderDoc items hwf t ow

/-- **groups_eq_dotted** (documents): two documents that denote the same assignments — however they distribute
    the key between `[group]` headers and dotted keys — are read identically -/
theorem groups_eq_dotted (items₁ items₂ : List Item) (h₁ : ∀ it ∈ items₁, it.wf = true)
    (h₂ : ∀ it ∈ items₂, it.wf = true) (hd : denote [] items₁ = denote [] items₂) (t : Tree) (ow : Bool) :
    parseINI (renderDoc items₁) t ow = parseINI (renderDoc items₂) t ow := by
  rw [parseINI_renderDoc items₁ h₁, parseINI_renderDoc items₂ h₂, hd]

example : parseINI (renderDoc exItems) .empty true = parseINI (renderDoc (dottedItems (flatten exTree))) .empty true :=
  groups_eq_dotted _ _ exItems_wf (dotted_wf _ (by rw [exTree_chars]; decide +kernel))
    (exItems_denote.trans (denote_dotted _).symm) _ _

/-- `[p]` followed by `k = v` says `p.k = v` -/
theorem group_header_is_key_prefix (pfx a b p c j w1 k w2 w3 v w4 : Str) (q : Option Char) (cm : Option Str)
    (hp : p ≠ []) :
    denote pfx [.header a b p c j, .assign w1 k w2 w3 q v w4 cm] = [(p ++ '.' :: k, v)] := by
  simp [denote, newPrefix, hp]

/-- **groups_eq_dotted** (tree): `t.sub(g)[k]` is `t[g.k]`, `t.sub(g).hasKey(k)` is `t.hasKey(g.k)` -/
theorem groups_eq_dotted_tree (t s : Tree) (g k : Str) (f : Bool) (h : t.sub g f = .ok s) :
    t.get? (g ++ '.' :: k) = s.get? k ∧ t.hasKey (g ++ '.' :: k) = s.hasKey k := by
  simp only [Tree.get?, Tree.hasKey, comps_dot]
  exact subPath_getPath (comps_ne_nil k) h

example : exTree.sub "fruit.pip".toList false = .ok (.node [("pear".toList, "a = b".toList)] []) := by
  rw [exTree_chars]
  decide +kernel
example : exTree.get? "fruit.pip.pear".toList = some "a = b".toList := by
  rw [exTree_chars]
  decide +kernel

/-- **groups_eq_dotted** (writing): the non-const `sub(g)` creates the group `g` (and nothing else: no value
    changes), and assigning through a dotted key `g.k…` creates exactly the groups `sub(g)` creates — doing
    `pt.sub(g)` first makes no difference to `pt[g.k] = v` -/
theorem groups_eq_dotted_write (t t1 : Tree) (g : Str) (h : t.mkSub g = .ok t1) :
    t1.hasSub g = .ok true ∧ (∀ q, t1.get? q = t.get? q) ∧
    (∀ k v, t1.set (g ++ '.' :: k) v = t.set (g ++ '.' :: k) v) := by
  refine ⟨mkSubPath_hasSub (comps_ne_nil g) h, fun q => mkSubPath_getPath h _, fun k v => ?_⟩
  simp only [Tree.set, comps_dot]
  exact mkSubPath_then_setPath v (comps_ne_nil k) h

example : exTree.mkSub "fruit.new".toList =
    .ok (.node [("x".toList, "1".toList), ("y".toList, "2".toList)]
      [("fruit".toList, .node [("apple".toList, "green\n red ".toList)]
        [("pip".toList, .node [("pear".toList, "a = b".toList)] []), ("new".toList, .node [] [])])]) := by decide +kernel
example : exTree.mkSub "x.sub".toList = .error .range := by
  rw [exTree_chars]
  decide +kernel

/-- **keys_in_first_appearance_order.**  After reading a document (either value of the overwrite flag), at every
    node `gs` of the tree the value keys are the old ones followed by the new leaf names in order of first
    appearance in the document, and likewise the sub keys with the new group names (`firstApp` scans the
    assignments below `gs` in document order and appends a name when it is first seen).  With `overwrite = false`
    an assignment to an existing key is skipped, which adds no name — the statement is literally the same. -/
theorem keys_in_first_appearance_order (items : List Item) (hwf : ∀ it ∈ items, it.wf = true) (t t' : Tree) (ow : Bool)
    (h : parseINI (renderDoc items) t ow = .ok t') (gs : List Str) :
    names (nodeAt gs t').vals =
        firstApp (names (nodeAt gs t).vals) ((descend gs (pathsOf (denote [] items))).map (fun e => leafOf e.1)) ∧
    names (nodeAt gs t').subs =
        firstApp (names (nodeAt gs t).subs) ((descend gs (pathsOf (denote [] items))).map (fun e => groupOf e.1)) := by
  obtain ⟨st, ha, rfl⟩ := parseINI_renderDoc_ok hwf h
  obtain ⟨ps, hk, _, hp⟩ := applyAll_setAllP_any ha
  rw [← descend_fst leafOf gs hk, ← descend_fst groupOf gs hk]
  exact setAllP_root_names (setAllP_nodeAt gs hp)

/-- e.g. `b.x`, `a`, `b.y`, `c.z`, `a2`: value keys `a, a2`; sub keys `b, c`; inside `b`: `x, y` -/
example : parseINI "b.x = 1\na = 2\nb.y = 3\nc.z = 4\na2 = 5".toList .empty true =
    .ok (.node [("a".toList, "2".toList), ("a2".toList, "5".toList)]
      [("b".toList, .node [("x".toList, "1".toList), ("y".toList, "3".toList)] []),
       ("c".toList, .node [("z".toList, "4".toList)] [])]) := by
  repeat rw [String.toList_ofList]
  decide +kernel
/-- the theorem instantiated: second source without overwrite; `x` exists (skipped), `z` and the group `g` are new -/
example :
    let items : List Item := [.assign [] "x".toList [] [] none "9".toList [] none, .assign [] "g.k".toList [] [] none "1".toList [] none,
      .assign [] "z".toList [] [] none "2".toList [] none]
    let t : Tree := .node [("y".toList, "0".toList), ("x".toList, "1".toList)] []
    parseINI (renderDoc items) t false =
        .ok (.node [("y".toList, "0".toList), ("x".toList, "1".toList), ("z".toList, "2".toList)]
          [("g".toList, .node [("k".toList, "1".toList)] [])]) ∧
    firstApp (names t.vals) ((descend [] (pathsOf (denote [] items))).map (fun e => leafOf e.1)) =
      ["y".toList, "x".toList, "z".toList] := by
  constructor
  · decide +kernel
  · decide +kernel
example : firstApp ["a".toList] [some "b".toList, none, some "a".toList, some "c".toList, some "b".toList] =
    ["a".toList, "b".toList, "c".toList] := by decide +kernel

/-- **duplicate_rejected.**  A document that assigns the same full key twice (through whatever mix of groups and
    dotted keys) is never accepted; if the assignments in front of the second occurrence are accepted, the
    error is the ParameterTreeParserError -/
theorem duplicate_rejected (items : List Item) (hwf : ∀ it ∈ items, it.wf = true) (t : Tree) (ow : Bool)
    (es₁ es₃ : List (Str × Str)) (k v : Str) (hd : denote [] items = es₁ ++ (k, v) :: es₃)
    (hk : k ∈ es₁.map (·.1)) :
    (∀ t', parseINI (renderDoc items) t ow ≠ .ok t') ∧
    (∀ st, applyAll ow es₁ ⟨[], [], t⟩ = .ok st → parseINI (renderDoc items) t ow = .error .parser) := by
  rw [parseINI_renderDoc items hwf, hd, applyAll_dup ow (.inl hk)]
  cases applyAll ow es₁ ⟨[], [], t⟩ with
  | error e => exact ⟨nofun, nofun⟩
  | ok st => exact ⟨nofun, fun _ _ => rfl⟩

example : parseINI "a = 1\n[g]\nk = 1\n[]\ng.k = 2".toList .empty true = .error .parser := by
  rw [String.toList_ofList]
  decide +kernel
example : denote [] [.assign [] "g.k".toList [] [] none "1".toList [] none, .header [] [] "g".toList [] [],
    .assign [] "k".toList [] [] none "2".toList [] none] = [("g.k".toList, "1".toList)] ++ ("g.k".toList, "2".toList) :: [] := by
  decide +kernel

/-- **overwrite_flag_spec.**  Reading a document into a tree `t`: with `overwrite` every key of the document gets
    the document's value and all other entries of `t` are kept; without it the entries of `t` win and only new
    keys are added.  (`NoLeafClash`: no assignment targets as a value a name that is a group at that moment —
    the case the code itself reports later as "occurs as value and as subtree".) -/
theorem overwrite_flag_spec (items : List Item) (hwf : ∀ it ∈ items, it.wf = true) (t t' : Tree) (ow : Bool)
    (h : parseINI (renderDoc items) t ow = .ok t') (hc : NoLeafClash ow (denote [] items) ⟨[], [], t⟩) (q : Str) :
    t'.get? q =
      if ow then (aGet? q (denote [] items)).or (t.get? q) else (t.get? q).or (aGet? q (denote [] items)) := by
  obtain ⟨st, ha, rfl⟩ := parseINI_renderDoc_ok hwf h
  exact applyAll_get ha hc q

/-- `x` is pre-existing: kept without the flag, replaced with it; `y` is new and stored either way -/
example : parseINI "x = new\ny = 2".toList (.node [("x".toList, "old".toList)] []) false =
    .ok (.node [("x".toList, "old".toList), ("y".toList, "2".toList)] []) := by decide +kernel
example : parseINI "x = new\ny = 2".toList (.node [("x".toList, "old".toList)] []) true =
    .ok (.node [("x".toList, "new".toList), ("y".toList, "2".toList)] []) := by decide +kernel
example : NoLeafClash false [("x".toList, "new".toList)] ⟨[], [], .node [("x".toList, "old".toList)] []⟩ := by
  simp [NoLeafClash, leafClash, comps, splitOnC, aHas]

/-- **overwrite_flag_spec, two sources, static hypothesis.**  Read `items₀` into an empty tree, then `items` with
    the flag `ow`.  If no key of the two documents is a proper dotted prefix of another one, then for every key
    `q`: with `overwrite` the second document wins, without it the first one wins, and a key mentioned by only one
    of them has that document's value. -/
theorem overwrite_flag_two_sources (items₀ items : List Item) (h₀ : ∀ it ∈ items₀, it.wf = true)
    (h₁ : ∀ it ∈ items, it.wf = true) (ow : Bool) (t₀ t' : Tree)
    (hc : Compat (keyPaths (denote [] items₀) ++ keyPaths (denote [] items)))
    (hp₀ : parseINI (renderDoc items₀) .empty true = .ok t₀) (hp : parseINI (renderDoc items) t₀ ow = .ok t') (q : Str) :
    t'.get? q =
      if ow then (aGet? q (denote [] items)).or (aGet? q (denote [] items₀))
      else (aGet? q (denote [] items₀)).or (aGet? q (denote [] items)) := by
  have hn₀ : NoLeafClash true (denote [] items₀) ⟨[], [], .empty⟩ :=
    noLeafClash_of_compat true (K := []) (groupsBelow_empty _) hc.left
  have hgb : GroupsBelow (keyPaths (denote [] items₀)) t₀ := by
    obtain ⟨st, ha, rfl⟩ := parseINI_renderDoc_ok h₀ hp₀
    exact groupsBelow_applyAll (K := []) (groupsBelow_empty _) ha
  rw [overwrite_flag_spec items h₁ t₀ t' ow hp (noLeafClash_of_compat ow hgb hc) q,
    overwrite_flag_spec items₀ h₀ .empty t₀ true hp₀ hn₀ q]
  simp [show Tree.empty.get? q = none from getPath_empty _]

example : Compat (keyPaths [("a.b".toList, []), ("a.c".toList, []), ("d".toList, [])]) := by
  intro a ha b hb
  simp [keyPaths, comps, splitOnC] at ha hb
  rcases ha with rfl | rfl | rfl <;> rcases hb with rfl | rfl | rfl <;> (rintro ⟨c, hc, h⟩; simp at h <;> simp_all)

/-- **parse_total.**  The model parser terminates on every byte string: the fuel of the line loop
    (`number of lines + 1`; the quote loop consumes lines) is never exhausted -/
theorem parse_total (doc : Str) (t : Tree) (ow : Bool) : parseINI doc t ow ≠ .error .fuel :=
  parseINI_ne_fuel doc t ow

example : parseINI "k = \"".toList .empty true = .ok (.node [("k".toList, [])] []) := by decide +kernel
example : parseINI "k = 'a\n\n".toList .empty true = .ok (.node [("k".toList, "a\n\n".toList)] []) := by decide +kernel

/-- a source that fails while it is read (stream turns bad after `n` bytes; fixes/C12_badstream.patch) is never
    accepted: the result is the error of the text read so far if there is one, the IOError otherwise.
    (True by unfolding `parseBad`; it records the modelled behaviour, the harness exercises the real loop.) -/
theorem failing_source_is_error (doc : Str) (n : Nat) (t : Tree) (ow : Bool) :
    (∀ t', parseBad doc n t ow ≠ .ok t') ∧ parseBad doc n t ow ≠ .error .fuel ∧
    (∀ t', parseINI (doc.take n) t ow = .ok t' → parseBad doc n t ow = .error .io) := by
  unfold parseBad
  have := parse_total (doc.take n) t ow
  cases h : parseINI (doc.take n) t ow with
  | error e => exact ⟨nofun, fun e' => this (h.trans e'), nofun⟩
  | ok _ => exact ⟨nofun, nofun, fun _ _ => rfl⟩

example : parseBad "a = 1\nb = 2".toList 7 .empty true = .error .io := by decide +kernel
example : parseBad "a = 1\na = 2".toList 11 .empty true = .error .parser := by decide +kernel

/-- **options_spec**, readOptions: `-key value` pairs are stored under `key` in order (later ones overwrite),
    other arguments are ignored, an option in last position is a RangeError -/
theorem options_spec_readOptions (pairs : List (Str × Str)) (hk : ∀ kv ∈ pairs, kv.1 ≠ []) (t : Tree) :
    readOptions (optArgs pairs) t = setAll pairs t ∧
    (∀ a rest, isOpt a = false → readOptions (a :: rest) t = readOptions rest t) ∧
    (∀ a t', isOpt a = true → setAll pairs t = .ok t' → readOptions (optArgs pairs ++ [a]) t = .error .range) :=
  ⟨readOptions_pairs pairs hk t, readOptions_skip t, readOptions_missing_argument pairs hk t⟩

example : readOptions ["-a.b".toList, "1".toList, "pos".toList, "-c".toList, "2".toList] .empty =
    .ok (.node [("c".toList, "2".toList)] [("a".toList, .node [("b".toList, "1".toList)] [])]) := by decide +kernel
example : readOptions ["-a".toList] .empty = .error .range := by decide +kernel

/-- **options_spec**, readNamedOptions with positional arguments: argument `i` is stored under keyword `i`;
    too few for the required keywords → "missing", more than there are keywords → "superfluous" -/
theorem options_spec_positional (kws args : List Str) (required : Nat) (allowMore : Bool) (t : Tree)
    (hpos : ∀ a ∈ args, Positional a) :
    (args.length ≤ kws.length → min required kws.length ≤ args.length →
      readNamedOptions args t kws required allowMore true = setAll (kws.zip args) t) ∧
    (∀ t', args.length < min required kws.length → setAll (kws.zip args) t = .ok t' →
      readNamedOptions args t kws required allowMore true = .error .parser) ∧
    (∀ t', kws.length < args.length → setAll (kws.zip (args.take kws.length)) t = .ok t' →
      readNamedOptions args t kws required allowMore true = .error .parser) := by
  have h := readNamed_positional kws args required allowMore t hpos
  refine ⟨fun h1 h2 => ?_, fun t' h1 h2 => ?_, fun t' h1 h2 => ?_⟩
  · have hn : ¬ (kws.length < args.length ∨ args.length < min required kws.length) := by omega
    simp only [h, hn, if_false]
    cases setAll (kws.zip args) t <;> rfl
  · rw [h, h2, andThen_ok, if_pos (Or.inr h1)]
  · rw [zip_take_length] at h2
    rw [h, h2, andThen_ok, if_pos (Or.inl h1)]

example : readNamedOptions ["1".toList, "2".toList] .empty ["n".toList, "m".toList] 2 false true =
    .ok (.node [("n".toList, "1".toList), ("m".toList, "2".toList)] []) := by decide +kernel
example : readNamedOptions ["1".toList] .empty ["n".toList, "m".toList] 2 false true = .error .parser := by decide +kernel
example : readNamedOptions ["1".toList, "2".toList, "3".toList] .empty ["n".toList, "m".toList] 0 true true =
    .error .parser := by decide +kernel

/-- **options_spec**, named parameters: unknown key (allow_more = false), missing `=value`, help request,
    already specified (overwrite = false), and the regular case -/
theorem options_spec_named (kws rest : List Str) (key value : Str) (required : Nat) (am ow : Bool) (t : Tree)
    (heq : '=' ∉ key) :
    (key ∉ kws → readNamedOptions (('-' :: '-' :: key ++ '=' :: value) :: rest) t kws required false ow = .error .parser) ∧
    ('-' :: '-' :: key ≠ "--help".toList →
      readNamedOptions (('-' :: '-' :: key) :: rest) t kws required am ow = .error .parser) ∧
    (readNamedOptions ("-h".toList :: rest) t kws required am ow = .error .help ∧
     readNamedOptions ("--help".toList :: rest) t kws required am ow = .error .help) ∧
    (∀ s, (key ∈ kws ∨ am = true) → t.get? key = some s → s ≠ [] →
      readNamedOptions (('-' :: '-' :: key ++ '=' :: value) :: rest) t kws required am false = .error .parser) ∧
    (key ∈ kws → (∀ i, i < min required kws.length → findIdx? key kws = some i) →
      readNamedOptions [('-' :: '-' :: key ++ '=' :: value)] t kws required am true = t.set key value) :=
  ⟨named_unknown_reported kws rest key value required ow t heq,
   named_value_missing kws rest key required am ow t heq,
   named_help kws rest required am ow t,
   named_already_specified kws rest key value required am t heq,
   named_named kws key value required am t heq⟩

example : readNamedOptions ["--m=5".toList, "7".toList] .empty ["n".toList, "m".toList] 2 false true =
    .ok (.node [("m".toList, "5".toList), ("n".toList, "7".toList)] []) := by decide +kernel
example : readNamedOptions ["--zz=5".toList] .empty ["n".toList] 0 false true = .error .parser := by decide +kernel
example : readNamedOptions ["--help".toList] .empty ["n".toList] 1 false true = .error .help := by decide +kernel

/-- **options_spec**, every argument vector.  `namedSpec` reads the documentation literally with a *set* of keywords
    that already have a value: `--k=v` is stored under `k` (unknown `k` rejected unless allow_more), a positional
    argument goes to the first keyword of the list not given so far (none left: "superfluous"), `-h`/`--help` is the
    help request, `--k` without `=` an error, and finally each of the first `required` keywords must be given
    ("missing").  The code keeps a `vector<bool> done` and a cursor that only moves forward; for every argument
    vector (any mix and order of named, positional, malformed and help arguments), every tree, all flags and every
    keyword list without repetitions the two agree. -/
theorem options_spec_all_vectors (args : List Str) (t : Tree) (kws : List Str) (required : Nat) (am ow : Bool)
    (hn : kws.Nodup) : readNamedOptions args t kws required am ow = namedSpec args t kws required am ow :=
  readNamedOptions_eq_spec args t kws required am ow hn

/-- two named keywords in front of a positional argument: it goes to the third keyword -/
example : namedSpec ["--grid=g.dgf".toList, "--level=3".toList, "out.vtu".toList] .empty
    ["grid".toList, "level".toList, "output".toList] 3 false true =
    .ok (.node [("grid".toList, "g.dgf".toList), ("level".toList, "3".toList), ("output".toList, "out.vtu".toList)] []) := by
  repeat rw [String.toList_ofList]
  decide +kernel
example : readNamedOptions ["--grid=g.dgf".toList, "--level=3".toList, "out.vtu".toList] .empty
    ["grid".toList, "level".toList, "output".toList] 3 false true =
    .ok (.node [("grid".toList, "g.dgf".toList), ("level".toList, "3".toList), ("output".toList, "out.vtu".toList)] []) := by
  repeat rw [String.toList_ofList]
  decide +kernel
example : namedSpec ["--foo=1".toList, "--bar=2".toList, "hurz".toList] .empty ["foo".toList, "bar".toList] 2 false true =
    .error .parser := by decide +kernel
example : ["grid".toList, "level".toList, "output".toList].Nodup := by decide +kernel
example : classify "--a=b=c".toList = .named "a".toList "b=c".toList ∧ classify "--a".toList = .bad ∧
    classify "-x".toList = .pos "-x".toList ∧ classify "--help".toList = .help := by decide +kernel

theorem getAs_ok_iff {α} {parse : Str → Option α} {t : Tree} {key s : Str} (hs : t.get? key = some s) (v : α) :
    t.getAs parse key = .ok v ↔ parse s = some v := by
  simp only [Tree.getAs, hs]
  cases parse s <;> simp

theorem getAs_of_none {α} {parse : Str → Option α} {t : Tree} {key s : Str} (hs : t.get? key = some s)
    (hp : parse s = none) : t.getAs parse key = .error .range := by
  simp only [Tree.getAs, hs, hp]

theorem eq_none_of_forall {α} {o : Option α} {Q : α → Prop} (h : ∀ v, o = some v → Q v) (hno : ¬ ∃ v, Q v) :
    o = none := by
  cases ho : o with
  | none => rfl
  | some v => exact absurd ⟨v, h v ho⟩ hno

/-- **get_int_roundtrip.**  For every built-in integer type and every value in its range, the canonical decimal
    text (what `operator<<` prints), with optional blanks around it, converts back to exactly that value -/
theorem get_int_roundtrip (ty : IntTy) (i : Int) (hlo : ty.lo ≤ i) (hhi : i ≤ ty.hi)
    (pre post : Str) (hpre : AllSpace pre) (hpost : AllSpace post) (t : Tree) (key : Str)
    (hs : t.get? key = some (pre ++ showInt i ++ post)) :
    t.getAs (parseInt ty) key = .ok i :=
  (getAs_ok_iff hs i).mpr (roundtrip_int ty i hlo hhi pre post hpre hpost)

example : parseInt ⟨true, 32⟩ " -2147483648\t".toList = some (-2147483648) := by decide +kernel
example : showNat 12 = "12".toList := by
  rw [showNat_ge (n := 12) (by decide), showNat_lt (n := 12 / 10) (by decide)]
  decide +kernel
example : (⟨true, 32⟩ : IntTy).lo = -2147483648 ∧ (⟨true, 32⟩ : IntTy).hi = 2147483647 := by decide +kernel

/-- **malformed_is_range_error** (scalars).  `get<T>` for an integer type succeeds *only* on text of the shape
    blanks [sign] digits blanks whose value the type can hold, and then returns that value; everything else —
    empty text, trailing garbage, a second item, a decimal point, overflow — is a RangeError -/
theorem malformed_is_range_error (ty : IntTy) (s : Str) (t : Tree) (key : Str) (hs : t.get? key = some s) :
    (∀ v, t.getAs (parseInt ty) key = .ok v ↔
      ∃ pre sign digs post, s = pre ++ sign ++ digs ++ post ∧ AllSpace pre ∧ AllSpace post ∧ SignOK sign ∧
        digs ≠ [] ∧ AllDig digs ∧ ty.denotes sign digs v) ∧
    ((¬ ∃ v pre sign digs post, s = pre ++ sign ++ digs ++ post ∧ AllSpace pre ∧ AllSpace post ∧ SignOK sign ∧
        digs ≠ [] ∧ AllDig digs ∧ ty.denotes sign digs v) → t.getAs (parseInt ty) key = .error .range) := by
  have hiff := parseInt_iff ty s
  exact ⟨fun v => (getAs_ok_iff hs v).trans (hiff v),
    fun hno => getAs_of_none hs (eq_none_of_forall (fun v => (hiff v).mp) hno)⟩

example : parseInt ⟨true, 32⟩ "12x".toList = none := by decide +kernel
example : parseInt ⟨true, 32⟩ "".toList = none := by decide +kernel
example : parseInt ⟨true, 32⟩ "2147483648".toList = none := by decide +kernel
example : parseInt ⟨false, 16⟩ "65536".toList = none := by decide +kernel
example : parseInt ⟨true, 32⟩ "1 2".toList = none := by decide +kernel
example : parseInt ⟨true, 32⟩ "1.0".toList = none := by decide +kernel

/-- **malformed_is_range_error** (fixed-size ranges, after fixes/C12_parserange.patch).  `get<std::array<T,n>>` /
    `get<FieldVector<T,n>>` succeed only on exactly `n` integer literals followed by nothing but blanks: too few
    items, too many items, or any other trailing text (`"1 2 -"`) is a RangeError -/
theorem malformed_range_is_range_error (ty : IntTy) (n : Nat) (s : Str) :
    (∀ vs, parseRange (extractInt ty) n s = some vs ↔ vs.length = n ∧ IntItems ty s vs) ∧
    ((¬ ∃ vs, vs.length = n ∧ IntItems ty s vs) → parseRange (extractInt ty) n s = none) := by
  exact ⟨parseRange_int_iff ty n s, eq_none_of_forall fun vs => (parseRange_int_iff ty n s vs).mp⟩

example : parseRange (extractInt ⟨true, 32⟩) 2 "1 2".toList = some [1, 2] := by decide +kernel
example : parseRange (extractInt ⟨true, 32⟩) 2 "1".toList = none := by decide +kernel
example : parseRange (extractInt ⟨true, 32⟩) 2 "1 2 3".toList = none := by decide +kernel
example : parseRange (extractInt ⟨true, 32⟩) 2 "1 2 -".toList = none := by decide +kernel

/-- **malformed_is_range_error** (floating targets), the *syntax* direction only.  For every binary format of the model
    (`binary64`, `binary32`), `get<double>`/`get<float>` succeed only on blanks, one floating literal
    `[sign] digits* [. digits*] [e|E [sign] digits+]` (at least one mantissa digit), blanks — hence empty text, a lone sign
    or point, `1e`, `1e+`, two numbers, or any other trailing character is the RangeError; and the same for fixed-size
    ranges item by item.  For scalars `float_accept_iff` below is the equivalence, with the value.  Not proved: the
    equivalence for ranges. -/
theorem malformed_float_is_range_error_partial (b : BinFmt) (s : Str) (t : Tree) (key : Str) (hs : t.get? key = some s) :
    (∀ v, t.getAs (parseScalar (extractBin b)) key = .ok v →
      ∃ pre lit post, s = pre ++ lit ++ post ∧ AllSpace pre ∧ AllSpace post ∧ FloatLit lit) ∧
    ((¬ ∃ pre lit post, s = pre ++ lit ++ post ∧ AllSpace pre ∧ AllSpace post ∧ FloatLit lit) →
      t.getAs (parseScalar (extractBin b)) key = .error .range) ∧
    (∀ n vs, parseRange (extractBin b) n s = some vs →
      ∃ (pieces : List Str) (post : Str), pieces.length = n ∧ AllSpace post ∧ s = pieces.flatten ++ post ∧
        ∀ p ∈ pieces, ∃ pre lit, p = pre ++ lit ∧ AllSpace pre ∧ FloatLit lit) := by
  exact ⟨fun v hv => parseBin_syntax b s v ((getAs_ok_iff hs v).mp hv),
    fun hno => getAs_of_none hs (eq_none_of_forall (parseBin_syntax b s) (fun ⟨_, h⟩ => hno h)),
    fun n vs h => parseRange_bin_syntax b n s vs h⟩

example : parseDouble " -1.5e3 ".toList = some 0xC097700000000000 := by decide +kernel
example : parseDouble "1e".toList = none ∧ parseDouble ".".toList = none ∧ parseDouble "1.5 2".toList = none ∧
    parseDouble "".toList = none ∧ parseDouble "1e400".toList = none := by decide +kernel
example : parseFloat "16777217".toList = some 0x4B800000 ∧ parseFloat "3.4028236e38".toList = none := by decide +kernel
example : FloatLit "-1.5e3".toList :=
  have d : ∀ ch : Char, isDig ch = true → AllDig [ch] := fun ch h c hc => by
    simp only [List.mem_singleton] at hc; subst hc; exact h
  ⟨"-".toList, "1".toList, ".5".toList, "e3".toList, by decide, Or.inr (Or.inr rfl), d '1' (by decide),
   Or.inr ⟨"5".toList, rfl, d '5' (by decide)⟩, Or.inl (by decide),
   Or.inr ⟨'e', [], "3".toList, rfl, Or.inl rfl, Or.inl rfl, by decide, d '3' (by decide)⟩⟩

/-- **float_accept_iff.**  `get<double>` / `get<float>` (any binary format `b` of the model) succeed
    **iff** the stored text is blanks, one floating literal `[sign] digits* [. digits*] [e|E [sign] digits+]` (at least
    one mantissa digit), blanks, and the literal's pieces evaluate to a finite number of the format (`evalB`: the exact
    decimal value rounded to nearest, ties to even; overflow is a failure) — and then that number is returned.  Every
    other text (empty, lone sign or point, `1e`, `1e+`, two numbers, trailing characters, overflow) is the RangeError.
    Not proved: that `roundToBin`, the rounding inside `evalB`, yields the nearest representable number (it is compared
    bit for bit with strtod/strtof and std::from_chars on every run). -/
theorem float_accept_iff (b : BinFmt) (s : Str) (t : Tree) (key : Str) (hs : t.get? key = some s) :
    (∀ v, t.getAs (parseScalar (extractBin b)) key = .ok v ↔
      ∃ pre lit post f, s = pre ++ lit ++ post ∧ AllSpace pre ∧ AllSpace post ∧ LexOf lit f ∧ f.evalB b = some v) ∧
    ((¬ ∃ v pre lit post f, s = pre ++ lit ++ post ∧ AllSpace pre ∧ AllSpace post ∧ LexOf lit f ∧ f.evalB b = some v) →
      t.getAs (parseScalar (extractBin b)) key = .error .range) := by
  have hiff := parseBin_iff b s
  exact ⟨fun v => (getAs_ok_iff hs v).trans (hiff v),
    fun hno => getAs_of_none hs (eq_none_of_forall (fun v => (hiff v).mp) hno)⟩

/-- `-1.5e3` with its pieces -/
example : LexOf "-1.5e3".toList ⟨true, "1".toList, "5".toList, false, "3".toList⟩ :=
  have d : ∀ ch : Char, isDig ch = true → AllDig [ch] := fun ch h c hc => by
    simp only [List.mem_singleton] at hc; subst hc; exact h
  ⟨"-".toList, ".5".toList, "e3".toList, by decide, Or.inr (Or.inr rfl), by decide, d '1' (by decide), d '5' (by decide),
   Or.inr rfl, Or.inl (by decide), Or.inr ⟨'e', [], rfl, Or.inl rfl, Or.inl rfl, by decide, by decide, d '3' (by decide)⟩⟩
example : (⟨true, "1".toList, "5".toList, false, "3".toList⟩ : FloatLex).evalB binary64 = some 0xC097700000000000 := by decide +kernel
example : parseScalar (extractBin binary64) " -1.5e3 ".toList = some 0xC097700000000000 := by decide +kernel

/-- variable-size sequences, bitsets, strings: the text is split into its maximal runs of non-blank characters
    (blank set `" \t\n\r"`; `WordsOf` is the declarative definition, independent of the splitting loop); a vector
    converts iff every piece converts by the element parser, a bitset iff there are exactly `n` pieces and each is a
    boolean; a string is returned with the blanks at both ends removed, i.e. it is the unique trimmed middle part -/
theorem sequences_spec {α} (p : Str → Option α) (n : Nat) (s : Str) :
    (∀ ws, splitWs s = ws ↔ WordsOf isWs s ws) ∧
    (∀ vs, parseVector p s = some vs ↔ Forall₂ (fun tok v => p tok = some v) (splitWs s) vs) ∧
    (∀ bs, parseBitset n s = some bs ↔
      (splitWs s).length = n ∧ Forall₂ (fun tok b => parseBool tok = some b) (splitWs s) bs) ∧
    (∀ m, parseString s = m ↔
      ∃ pre post, s = pre ++ m ++ post ∧ (∀ c ∈ pre, isWs c = true) ∧ (∀ c ∈ post, isWs c = true) ∧ trimmed m = true) :=
  ⟨splitWs_iff s, parseVector_iff p s, parseBitset_iff n s, parseString_iff s⟩

example : parseVector (parseInt tInt) " 1  2\t3 ".toList = some [1, 2, 3] := by decide +kernel
example : parseVector (parseInt tInt) "1 2x 3".toList = none := by decide +kernel
example : parseBitset 3 "1 no TRUE".toList = some [true, false, true] ∧ parseBitset 3 "1 no".toList = none := by decide +kernel
example : parseString "  a b \r\n".toList = "a b".toList := by decide +kernel
example : WordsOf isWs " a  bc".toList ["a".toList, "bc".toList] :=
  (splitWs_iff _ _).mp (by decide)

/-- fixed-size arrays of strings and single characters (`operator>>` into `std::string` / `char`, blank class of
    the classic locale): exactly `n` words; exactly one non-blank character between blanks -/
theorem words_and_chars_spec (n : Nat) (s : Str) :
    (∀ ws, parseRange extractWord n s = some ws ↔ ws.length = n ∧ WordsOf isSpaceC s ws) ∧
    (∀ c, parseScalar extractChar s = some c ↔
      ∃ pre post, s = pre ++ c :: post ∧ AllSpace pre ∧ AllSpace post ∧ isSpaceC c = false) :=
  ⟨parseRange_word_iff n s, parseChar_iff s⟩

example : parseRange extractWord 2 " ab\x0bc ".toList = some ["ab".toList, "c".toList] := by decide +kernel
example : parseRange extractWord 2 "ab".toList = none ∧ parseRange extractWord 1 "a b".toList = none := by decide +kernel
example : parseScalar extractChar " x\n".toList = some 'x' ∧ parseScalar extractChar "xy".toList = none ∧
    parseScalar extractChar "".toList = none := by decide +kernel

/-- **sequences round trip.**  The canonical decimal texts of in-range integers, separated by single blanks, convert
    back to exactly those integers, both as a fixed-size range (`std::array`, `FieldVector`) of that length and as a
    `std::vector` -/
theorem get_sequence_roundtrip (ty : IntTy) (vs : List Int) (h : ∀ v ∈ vs, ty.lo ≤ v ∧ v ≤ ty.hi) :
    parseRange (extractInt ty) vs.length (joinC ' ' (vs.map showInt)) = some vs ∧
    parseVector (parseInt ty) (joinC ' ' (vs.map showInt)) = some vs :=
  ⟨roundtrip_range ty vs h, roundtrip_vector ty vs h⟩

example : joinC ' ' ([3, -4, 0].map showInt) = "3 -4 0".toList := by
  simp [joinC, showInt, showNat_lt]; decide
example : ∀ v ∈ [3, -4, 0], tInt.lo ≤ v ∧ v ≤ tInt.hi := by decide +kernel

/-- **get_default_only_if_absent.**  `get(key, default)` returns the default exactly when the key is absent; a
    present key is converted, and if its text is malformed the result is the RangeError, never the default -/
theorem get_default_only_if_absent {α} (parse : Str → Option α) (t : Tree) (key : Str) (dflt : α) :
    (t.hasKey key = .ok false → t.getD parse key dflt = .ok dflt) ∧
    (∀ s, t.get? key = some s → t.getD parse key dflt = t.getAs parse key ∧
      (parse s = none → t.getD parse key dflt = .error .range) ∧
      (∀ v, parse s = some v → t.getD parse key dflt = .ok v)) := by
  constructor
  · intro h; simp [Tree.getD, h]
  · intro s hs
    have e : t.getD parse key dflt = t.getAs parse key := by
      simp [Tree.getD, show t.hasKey key = .ok true from hasKeyPath_of_getPath hs]
    exact ⟨e, fun hp => e ▸ getAs_of_none hs hp, fun v hp => e ▸ (getAs_ok_iff hs v).mpr hp⟩

example : (Tree.node [("n".toList, "7".toList)] []).getD (parseInt tInt) "n".toList 3 = .ok 7 := by decide +kernel
example : (Tree.node [("n".toList, "7".toList)] []).getD (parseInt tInt) "m".toList 3 = .ok 3 := by decide +kernel
example : (Tree.node [("n".toList, "7x".toList)] []).getD (parseInt tInt) "n".toList 3 = .error .range := by decide +kernel

/-- **bool_words.**  `yes/true/no/false` in any capitalisation, otherwise the integer rule "non-zero" -/
theorem bool_words (s : Str) :
    ((s.map toLowerC = "yes".toList ∨ s.map toLowerC = "true".toList) → parseBool s = some true) ∧
    ((s.map toLowerC = "no".toList ∨ s.map toLowerC = "false".toList) → parseBool s = some false) ∧
    ((s.map toLowerC ≠ "yes".toList ∧ s.map toLowerC ≠ "true".toList ∧ s.map toLowerC ≠ "no".toList ∧
       s.map toLowerC ≠ "false".toList) → parseBool s = (parseInt tInt (s.map toLowerC)).map (· != 0)) ∧
    (∀ i : Int, tInt.lo ≤ i → i ≤ tInt.hi → parseBool (showInt i) = some (i != 0)) :=
  let ⟨hyes, hno, hnum⟩ := bool_words_cases s
  ⟨hyes, hno, hnum, bool_numeral⟩

example : parseBool "YeS".toList = some true ∧ parseBool "FALSE".toList = some false ∧ parseBool "2".toList = some true ∧
    parseBool "0".toList = some false ∧ parseBool " yes".toList = none := by decide +kernel

/-- **bool_array_spec.**  `get<std::array<bool,n>>` reads its items with `operator>>(bool&)` (no
    `boolalpha`), i.e. not with the word rules of `Parser<bool>`: it succeeds iff the text is exactly `n` integer
    literals (of a `long`) each with the value 0 or 1, followed by nothing but blanks, and returns `v = 1` for each;
    `yes`, `true`, `2`, too few or too many items are the RangeError -/
theorem bool_array_spec (n : Nat) (s : Str) :
    (∀ bs, parseRange extractBool01 n s = some bs ↔
      ∃ vs, vs.length = n ∧ IntItems tLong s vs ∧ (∀ v ∈ vs, v = 0 ∨ v = 1) ∧ bs = vs.map (· == 1)) ∧
    ((¬ ∃ vs, vs.length = n ∧ IntItems tLong s vs ∧ ∀ v ∈ vs, v = 0 ∨ v = 1) → parseRange extractBool01 n s = none) := by
  refine ⟨parseRange_bool01_iff n s, fun hno => eq_none_of_forall (fun bs hp => ?_) (fun ⟨_, h⟩ => hno h)⟩
  obtain ⟨vs, hl, hi, hall, _⟩ := (parseRange_bool01_iff n s bs).mp hp
  exact ⟨vs, hl, hi, hall⟩

example : parseRange extractBool01 3 " 1 0\t+1 ".toList = some [true, false, true] := by decide +kernel
example : parseRange extractBool01 2 "1 yes".toList = none ∧ parseRange extractBool01 2 "1 2".toList = none ∧
    parseRange extractBool01 2 "1".toList = none ∧ parseRange extractBool01 1 "1 0".toList = none ∧
    parseRange extractBool01 1 "-0".toList = some [false] := by decide +kernel

/-- **src_blank_sets.**  All six blank-set literals of the code (both `ltrim`/`rtrim` copies and the two searches of
    `split`) denote, as sets, the model's `isWs`; `ltrim` keeps from the first non-blank, `rtrim` up to and including
    the last one -/
theorem src_blank_sets :
    (∀ c, isWs c = inSet Gen.blankParserLtrim c) ∧ (∀ c, isWs c = inSet Gen.blankParserRtrim c) ∧
    (∀ c, isWs c = inSet Gen.blankTreeLtrim c) ∧ (∀ c, isWs c = inSet Gen.blankTreeRtrim c) ∧
    (∀ c, isWs c = inSet Gen.blankSplitSkip c) ∧ (∀ c, isWs c = inSet Gen.blankSplitStop c) ∧
    Gen.blankParserLtrimStart = 0 ∧ Gen.blankTreeLtrimStart = 0 ∧ Gen.blankParserRtrimLen = 1 ∧ Gen.blankTreeRtrimLen = 1 ∧
    (∀ s, ltrim s = s.dropWhile (inSet Gen.blankParserLtrim)) ∧ (∀ s, parseString s = (rtrim s).dropWhile (inSet Gen.blankTreeLtrim)) := by
  -- each of the six literals is, as a term, `wsList`
  have hf : isWs = inSet wsList := funext isWs_eq_inSet
  refine ⟨isWs_eq_inSet, isWs_eq_inSet, isWs_eq_inSet, isWs_eq_inSet, isWs_eq_inSet, isWs_eq_inSet, rfl, rfl, rfl, rfl,
    fun s => ?_, fun s => ?_⟩
  · rw [show Gen.blankParserLtrim = wsList from rfl, ← hf]; rfl
  · rw [show Gen.blankTreeLtrim = wsList from rfl, ← hf]; rfl

example : ltrim " \t\r\n a b ".toList = "a b ".toList ∧ inSet Gen.blankTreeRtrim '\r' = true ∧ inSet Gen.blankSplitStop 'x' = false := by
  decide +kernel

/-- **src_path_separator.**  `hasKey`, `hasSub`, both `sub` and both `operator[]` split the key at the same
    character, the first component ends where it was found and the remainder starts one character later; and that is
    how the model's component list `comps` is built, step by step -/
theorem src_path_separator :
    Gen.pathSplit.map (·.1) = ["hasKey", "hasSub", "subMut", "subConst", "indexMut", "indexConst"] ∧
    (∀ e ∈ Gen.pathSplit, e.2 = ('.', 0, 1)) ∧
    (∀ e ∈ Gen.pathSplit, ∀ key a b, splitFirst e.2.1 key = some (a, b) → comps key = a :: comps b) ∧
    (∀ e ∈ Gen.pathSplit, ∀ key, splitFirst e.2.1 key = none → comps key = [key]) := by
  have hall : ∀ e ∈ Gen.pathSplit, e.2 = ('.', 0, 1) := by decide
  refine ⟨rfl, hall, fun e he key a b h => ?_, fun e he key h => ?_⟩
  · rw [hall e he] at h; exact comps_of_splitFirst key a b h
  · rw [hall e he] at h; exact comps_of_no_dot key h

example : splitFirst '.' "fruit.pip.pear".toList = some ("fruit".toList, "pip.pear".toList) ∧
    comps "fruit.pip.pear".toList = ["fruit".toList, "pip".toList, "pear".toList] := by decide +kernel

/-- **src_ini_syntax.**  The marker characters, sub-string offsets, trims and the shape of the duplicate/overwrite
    statement of `readINITree` as read from the source are those of the model's `lineStep`/`readValue`/`assignStep`:
    a line whose first non-blank is a skip character is ignored; `[` … first `]` sets the prefix to the trimmed
    inside plus `.`; the comment is cut before `=` is searched; key = trimmed text before `=`, value = text after it,
    left-trimmed; either quote opens a quoted value whose lines are joined by a newline -/
theorem src_ini_syntax :
    Gen.iniSkipFirst = ['#'] ∧ Gen.iniHeaderOpen = '[' ∧ Gen.iniHeaderClose = ']' ∧
    Gen.iniHeaderInnerStart = 1 ∧ Gen.iniHeaderInnerLen = -1 ∧ Gen.iniHeaderTrims = ['l', 'r'] ∧ Gen.iniPrefixSuffix = ['.'] ∧
    Gen.iniCommentStart = '#' ∧ Gen.iniAssign = '=' ∧ Gen.iniKeyLen = 0 ∧ Gen.iniKeyTrims = ['l', 'r'] ∧
    Gen.iniValueStart = 1 ∧ Gen.iniValueTrims = ['l'] ∧ (∀ c, isQuote c = inSet Gen.iniQuotes c) ∧
    Gen.iniQuoteOpenDrop = 1 ∧ Gen.iniQuoteCloseLen = -1 ∧ Gen.iniQuoteCloseTrims = ['r'] ∧ Gen.iniQuoteLoopUntilTrimmedEndsWithQuote = true ∧
    Gen.iniContinuationJoin = ['\n'] ∧ Gen.iniDuplicateError = "ParameterTreeParserError" ∧ Gen.iniStoreThenRemember = true ∧
    (∀ ow c text rest st, c ∈ Gen.iniSkipFirst → lineStep ow (c :: text) rest st = .ok (st, rest)) ∧
    (∀ ow inner junk rest st, Gen.iniHeaderClose ∉ inner →
      lineStep ow (Gen.iniHeaderOpen :: inner ++ Gen.iniHeaderClose :: junk) rest st =
        .ok ({ st with pfx := (let p := rtrim (ltrim inner); if p = [] then [] else p ++ Gen.iniPrefixSuffix) }, rest)) := by
  refine ⟨rfl, rfl, rfl, rfl, rfl, rfl, rfl, rfl, rfl, rfl,
    rfl, rfl, rfl, isQuote_eq_inSet, rfl, rfl, rfl, rfl, rfl, rfl, rfl, ?_, ?_⟩
  · intro ow c text rest st hc
    obtain rfl : c = '#' := List.mem_singleton.mp hc
    exact lineStep_comment ow [] text rest st rfl
  · intro ow inner junk rest st hni
    exact lineStep_bracket ow [] inner junk rest st rfl hni

example : lineStep true "[ fruit ] junk".toList [] ⟨[], [], .empty⟩ = .ok (⟨"fruit.".toList, [], .empty⟩, []) := by decide +kernel

/-- **src_options.**  `readOptions`: arguments from index 1, an option is `-` followed by at least one more
    character, the key is the argument without its first character, the value the next argument (then skipped),
    a missing one is the RangeError.  `readNamedOptions`: help words, the `--` prefix and its length, `=` searched
    from a position not behind the prefix (the prefix contains none), key between prefix and `=`, value the rest; "missing" = below `required` and not given -/
theorem src_options :
    Gen.optFirstArg = 1 ∧ Gen.optMarkIndex = 0 ∧ Gen.optMark = '-' ∧ Gen.optNonEmptyIndex = 1 ∧ Gen.optNonEmptyNot = Char.ofNat 0 ∧
    Gen.optKeyDrop = 1 ∧ Gen.optValueAhead = 1 ∧ Gen.optMissingAhead = 1 ∧ Gen.optMissingError = "RangeError" ∧
    (∀ a, isOpt a = (a.head? == some Gen.optMark && decide (a.length > Gen.optNonEmptyIndex))) ∧
    (∀ a v rest t, isOpt a = true → readOptions (a :: v :: rest) t = andThen (t.set (a.drop Gen.optKeyDrop) v) (readOptions rest)) ∧
    Gen.namedHelpWords = ["--help".toList, "-h".toList] ∧ Gen.namedPrefix = "--".toList ∧ Gen.namedPrefixStart = 0 ∧
    Gen.namedPrefixLen = Gen.namedPrefix.length ∧ Gen.namedAssign = '=' ∧ Gen.namedAssignFrom ≤ Gen.namedPrefix.length ∧
    Gen.namedKeyStart = Gen.namedPrefix.length ∧ Gen.namedKeyLen = -(Gen.namedPrefix.length : Int) ∧ Gen.namedValueStart = 1 ∧
    Gen.namedValueToEnd = true ∧ Gen.namedFirstArg = 1 ∧ Gen.namedMissingIsBelowRequiredAndNotDone = true := by
  exact ⟨rfl, rfl, rfl, rfl, rfl, rfl, rfl, rfl, rfl, isOpt_eq, fun a v rest t ha => readOptions_cons_opt ha v rest t,
    rfl, rfl, rfl, rfl, rfl, by decide, rfl, rfl, rfl, rfl, rfl, rfl⟩

example : isOpt "-k".toList = true ∧ isOpt "-".toList = false ∧ isOpt "k".toList = false := by decide +kernel

/-- **src_bool_words.**  `Parser<bool>` as read from the source — the word table (disjoint tests on the text
    lower-cased in the classic locale) and the fallback "integer `int` ≠ 0" — is the model's `parseBool` -/
theorem src_bool_words (s : Str) :
    parseBool s = (match lookupWord Gen.boolWords (s.map toLowerC) with
      | some b => some b
      | none => (parseInt tInt (s.map toLowerC)).map (· != 0)) ∧
    Gen.boolFallbackType = "int" ∧ Gen.boolLowerClassic = true :=
  ⟨parseBool_eq_lookup s, rfl, rfl⟩

example : lookupWord Gen.boolWords "yes".toList = some true ∧ lookupWord Gen.boolWords "no".toList = some false ∧
    lookupWord Gen.boolWords "ja".toList = none := by decide +kernel

/-- **src_parser_checks.**  The trailing-text tests of `Parser<T>::parse` and `parseRange` after `s >> dummy`, as
    Boolean functions of (`s.fail()`, `s.eof()`) read from the source: in the two states the stream can be in there —
    the extraction of one more character failed at the end of the input (only blanks followed: `fail ∧ eof`) or it
    delivered a character (`¬fail ∧ ¬eof`) — they accept the first and throw in the second, which is the model's
    `skipWs rest = []`.  Both functions imbue the classic locale before the first extraction (the locale clause of
    the property), `parseRange` extracts once per element, a bitset needs exactly `n` pieces with bit `i` = piece
    `i`, a vector converts every piece in order, and every `get(key, default)` overload tests `hasKey(key)` and
    converts a present value (never falls back to the default on a malformed one) -/
theorem src_parser_checks :
    Gen.scalarTrailThrows true true = false ∧ Gen.scalarTrailThrows false false = true ∧
    Gen.rangeTrailThrows true true = false ∧ Gen.rangeTrailThrows false false = true ∧
    Gen.scalarTrailClassic = true ∧ Gen.rangeTrailClassic = true ∧ Gen.rangeLoopOverAllElements = true ∧
    Gen.bitsetSizeMustMatch = true ∧ Gen.bitsetBitIIsItemI = true ∧ Gen.vectorAllPiecesInOrder = true ∧
    Gen.getDefaultOnlyWhenAbsent = true ∧ Gen.getStringDefaultOverloads = 2 ∧ Gen.getStringDefaultOnlyWhenAbsent = true := by
  decide

example : parseScalar (extractInt tInt) "7 ".toList = some 7 ∧ parseScalar (extractInt tInt) "7 x".toList = none := by decide +kernel

end DV.C12
