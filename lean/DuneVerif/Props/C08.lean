import DuneVerif.Proofs.C08Ev2
import DuneVerif.Proofs.C08Ev3Top
import DuneVerif.Proofs.C08Lapack
import DuneVerif.Proofs.C08Outputs
import DuneVerif.Proofs.C08Tie
/-!
# C08 — property theorems: the closed-form eigenvalue routines in exact arithmetic, the LAPACK hand-over and the caller's
output containers, the control tables and call sites of the current source, the refinement to the abstract specification

The closed-form statements are about the model `DuneVerif/Model/C08.lean` instantiated at `ℝ` with `Real.sqrt`, built on
the formulas and thresholds that `tools/translators/tr_c08.py` regenerates from `dune/common/fmatrixev.hh`
(`DuneVerif/Gen/C08.lean`).  The control tables and LAPACK call sites it regenerates from `fmatrixev.hh` and
`dynmatrixev.hh` are in `DuneVerif/Gen/C08T.lean`; `DuneVerif/Model/C08T.lean` interprets them.  Vocabulary: `Sym2`,
`charPoly2`, `mulVec2`, `dot2`, `Sym3`, `charPoly3`, … in `Proofs/C08Basic.lean`; `shifted`, `scaled2` in
`Proofs/C08Ev2.lean`; `DiagBranch` in `Proofs/C08Ev3.lean`; `rawR` in `Proofs/C08Ev3Roots.lean`; `EigTriple` (three unit,
mutually orthogonal vectors `vᵢ` with `(A - λᵢ I) vᵢ = 0`) in `Proofs/C08Ev3Vec.lean`; `resid2 A λ v = ‖(A - λ I) v‖²` in
`Proofs/C08Ev3Top.lean`; `SymOn`, `IsRightEig`, `IsLeftEig`, `toMatN` in `Proofs/C08Lapack.lean`; `IsEigenDecomposition3`
below, in front of the theorem that uses it.

Floating-point accuracy (residual sizes, ordering up to round-off) is *not* the subject of these theorems; it is
measured by the harness oracle.  What is proved: exact-arithmetic correctness of the 2x2 closed form including the
eigenvector choice with the code's threshold, its invariance under scaling of the matrix (which needs the threshold
to be relative); for the 3x3 path: the returned values are the whole spectrum (factorisation of the characteristic
polynomial; the clamp of `r` is never active), the complete eigenvector construction `eig0`/`orthoComp`/`eig1`/cross
product/sort returns an orthonormal eigen-decomposition, the diagonal special case returns coordinate vectors whose
residual is bounded by `sqrt(eps)` times the max norm, the two entry points agree, and everything scales exactly with
the matrix; the 1x1 case; the index arithmetic of the LAPACK hand-over and that LAPACK is handed a matrix with the
characteristic polynomial of `A`; the caller's output containers of `DynamicMatrixHelp::eigenValuesNonSym` for any
content on entry and any history of calls; that the definitions driven by the translated control tables coincide with
the hand-written control flow, so the 3x3 theorems hold of them, and that the LAPACK call sites meet the interface; and
that the 3x3 eigenvector routine refines the abstract specification `IsEigenDecomposition3`.
-/
namespace DV.C08

/-! The 2x2 entry points `eigenValues2x2` / `eigenValuesVectors2x2` precondition the matrix by its max norm
(`scaled2 A = A / preScale2 A`, translated flag `Gen.ev2_preconditioned`), apply the closed form
(`eigenValues2d`, `eigenVectorChoice2d`, … on the scaled matrix) and scale the eigenvalues back. -/

/-- For every real symmetric 2x2 matrix the routine succeeds and returns `λ₀ ≤ λ₁`, both roots of the
characteristic polynomial of `A`, with `λ₀ + λ₁ = tr A`. -/
theorem ev2_roots (A : M2 ℝ) (hs : Sym2 A) :
    ∃ l0 l1 : ℝ, eigenValues2x2 Real.sqrt A = .ok (l0, l1) ∧ l0 ≤ l1 ∧ l0 + l1 = A.a00 + A.a11 ∧
      charPoly2 A l0 = 0 ∧ charPoly2 A l1 = 0 := by
  have hm := preScale2_pos A
  have hS := scaled2_sym A hs
  obtain ⟨r0, r1⟩ := closed_roots _ hS
  refine ⟨_, _, eigenValues2x2_eq A hs, ?_, ?_, ?_, ?_⟩
  · exact mul_le_mul_of_nonneg_right (closed_le _) hm.le
  · rw [← add_mul, closed_trace, scaled2_trace]
  · exact charPoly2_unscale A _ _ hm.ne' r0
  · exact charPoly2_unscale A _ _ hm.ne' r1

/-- the closed form itself (which `eigenValues2x2` applies to the scaled matrix) on `[[2,1],[1,2]]` -/
example : Sym2 ⟨2, 1, 1, 2⟩ ∧ eigenValues2d Real.sqrt (⟨2, 1, 1, 2⟩ : M2 ℝ) = .ok (1, 3) := by
  have hs : Sym2 (⟨2, 1, 1, 2⟩ : M2 ℝ) := rfl
  refine ⟨hs, ?_⟩
  rw [eigenValues2d_sym _ hs]
  have : disc2 (⟨2, 1, 1, 2⟩ : M2 ℝ) = 1 := by unfold disc2; norm_num
  unfold closed0 closed1
  rw [this, Real.sqrt_one]
  norm_num

/-- In the non-degenerate branch (the identity special case with the code's threshold is not taken
on the scaled matrix) the returned vectors satisfy `A vᵢ = λᵢ vᵢ` for the returned eigenvalues, have unit length and
are orthogonal.  (`eps ≥ 0` is the machine epsilon parameter of the threshold; `s₀, s₁` are the eigenvalues of the
scaled matrix.) -/
theorem ev2_vectors (eps : ℝ) (he : 0 ≤ eps) (A : M2 ℝ) (hs : Sym2 A) (s0 s1 : ℝ)
    (hval : eigenValues2d Real.sqrt (scaled2 A) = .ok (s0, s1))
    (hgen : eigenVectorChoice2d eps (scaled2 A) s0 s1 ≠ none) :
    ∃ v0 v1 : V2 ℝ,
      eigenValuesVectors2x2 Real.sqrt eps A = .ok ((s0 * preScale2 A, s1 * preScale2 A), (v0, v1)) ∧
      mulVec2 A v0 = smulV2 (s0 * preScale2 A) v0 ∧ mulVec2 A v1 = smulV2 (s1 * preScale2 A) v1 ∧
      norm2 v0 = 1 ∧ norm2 v1 = 1 ∧ dot2 v0 v1 = 0 := by
  have hm := (preScale2_pos A).ne'
  have hS := scaled2_sym A hs
  obtain ⟨rfl, rfl⟩ := closed_unique _ hS hval
  obtain ⟨k0, k1, n0, n1, d⟩ :=
    general_branch_correct eps he (scaled2 A) hS _ _ (vieta_of_closed_form _ hS) hgen
  refine ⟨_, _, eigenValuesVectors2x2_ok eps A hs, ?_, ?_, n0, n1, d⟩
  · exact mulVec2_unscale A _ _ hm _ k0
  · exact mulVec2_unscale A _ _ hm _ k1

/-- the non-degenerate branch is inhabited: `[[2,1],[1,2]]` with `eps = 2⁻⁵²` -/
example : eigenVectorChoice2d ((2 : ℝ) ^ (-52 : ℤ)) (⟨2, 1, 1, 2⟩ : M2 ℝ) 1 3 ≠ none := by
  rw [choice_unfold]
  have h : ¬ infNorm2 (shifted (⟨2, 1, 1, 2⟩ : M2 ℝ) 1) ≤ Gen.ev2_identThreshold ((2 : ℝ) ^ (-52 : ℤ)) (infNorm2 ⟨2, 1, 1, 2⟩) := by
    rw [infNorm2_eq, infNorm2_eq]
    unfold Gen.ev2_identThreshold shifted
    norm_num
  rw [if_neg h]
  simp

/-- In the identity special case (`‖S - s₀ I‖∞ ≤ thr` on the scaled matrix `S`) the unit
vectors are returned: they are exactly orthonormal and the entries of their residuals `(A - λᵢ I) eᵢ` are bounded by
the threshold times the max norm of `A`. -/
theorem ev2_vectors_ident (eps : ℝ) (A : M2 ℝ) (hs : Sym2 A) (s0 s1 : ℝ)
    (hval : eigenValues2d Real.sqrt (scaled2 A) = .ok (s0, s1))
    (hid : eigenVectorChoice2d eps (scaled2 A) s0 s1 = none) :
    ∃ v0 v1 : V2 ℝ,
      eigenValuesVectors2x2 Real.sqrt eps A = .ok ((s0 * preScale2 A, s1 * preScale2 A), (v0, v1)) ∧
      norm2 v0 = 1 ∧ norm2 v1 = 1 ∧ dot2 v0 v1 = 0 ∧
      (let bound : ℝ := preScale2 A * Gen.ev2_identThreshold eps (infNorm2 (scaled2 A))
       let r0 := mulVec2 (shifted A (s0 * preScale2 A)) v0
       let r1 := mulVec2 (shifted A (s1 * preScale2 A)) v1
       |r0.x| ≤ bound ∧ |r0.y| ≤ bound ∧ |r1.x| ≤ bound ∧ |r1.y| ≤ bound) := by
  have hm := preScale2_pos A
  obtain ⟨rfl, rfl⟩ := closed_unique _ (scaled2_sym A hs) hval
  obtain ⟨n0, n1, d, b0, b1, b2, b3⟩ := ident_branch_correct eps (scaled2 A) _ _ (closed_trace _) hid
  refine ⟨_, _, eigenValuesVectors2x2_ok eps A hs, n0, n1, d, ?_⟩
  simp only
  rw [mulVec2_shifted_unscale A _ _ hm.ne', mulVec2_shifted_unscale A _ _ hm.ne']
  simp only [abs_mul, abs_of_pos hm]
  exact ⟨mul_le_mul_of_nonneg_left b0 hm.le, mul_le_mul_of_nonneg_left b1 hm.le,
    mul_le_mul_of_nonneg_left b2 hm.le, mul_le_mul_of_nonneg_left b3 hm.le⟩

/-- the identity special case is inhabited: `2·I` -/
example : eigenVectorChoice2d ((2 : ℝ) ^ (-52 : ℤ)) (⟨2, 0, 0, 2⟩ : M2 ℝ) 2 2 = none := by
  rw [choice_unfold]
  have h : infNorm2 (shifted (⟨2, 0, 0, 2⟩ : M2 ℝ) 2) ≤ Gen.ev2_identThreshold ((2 : ℝ) ^ (-52 : ℤ)) (infNorm2 ⟨2, 0, 0, 2⟩) := by
    rw [infNorm2_eq, infNorm2_eq]
    unfold Gen.ev2_identThreshold shifted
    norm_num
  rw [if_pos h]

/-- For every `s > 0` and every symmetric `A` the whole 2x2 routine — eigenvalues, branch
decision with the code's threshold, column choice and normalisation — commutes with scaling: the eigenvalues of
`s•A` are `s` times those of `A` and the returned eigenvectors are identical.  It holds exactly because the source
preconditions by the max norm (`Gen.ev2_preconditioned = true`): `s•A` and `A` have the same scaled matrix.
(Without the preconditioning, or with an absolute threshold, the statement is false.) -/
theorem ev2_scale_invariant (eps s : ℝ) (hs : 0 < s) (A : M2 ℝ) (hsym : Sym2 A) :
    ∃ l0 l1 : ℝ, ∃ v : V2 ℝ × V2 ℝ,
      eigenValuesVectors2x2 Real.sqrt eps A = .ok ((l0, l1), v) ∧
      eigenValuesVectors2x2 Real.sqrt eps (smul2 s A) = .ok ((s * l0, s * l1), v) := by
  refine ⟨_, _, _, eigenValuesVectors2x2_ok eps A hsym, ?_⟩
  rw [eigenValuesVectors2x2_ok eps (smul2 s A) (smul2_sym s A hsym)]
  by_cases hA : 0 < infNorm2 A
  · obtain ⟨h1, h2⟩ := scaled2_smul s hs A hA
    rw [h1, h2]
    refine congrArg _ (Prod.ext (Prod.ext ?_ ?_) rfl) <;> simp only <;> ring
  · obtain rfl := entries_zero_of_infNorm2 A (le_antisymm (not_lt.mp hA) (infNorm2_nonneg A))
    rw [smul2_zeroM2, scaled2_zeroM2, closed_zeroM2.1, closed_zeroM2.2]
    simp

/-- the hypotheses of `ev2_scale_invariant` at `s = 2⁻⁴⁹⁸`, `A = [[0,1],[1,0]]` -/
example : (0 : ℝ) < 2 ^ (-498 : ℤ) ∧ Sym2 ⟨0, 1, 1, 0⟩ := ⟨zpow_pos (by norm_num) _, rfl⟩

/-- The eigenvalue-only and the eigenvalue+eigenvector entry point of the 2x2 code return
the same eigenvalues (or the same error) for every matrix, every `sqrt` and every threshold parameter. -/
theorem ev2_entry_points_agree (sqrt : ℝ → ℝ) (eps : ℝ) (A : M2 ℝ) :
    (eigenValuesVectors2x2 sqrt eps A).map Prod.fst = eigenValues2x2 sqrt A := by
  unfold eigenValuesVectors2x2 eigenValues2x2 eigenValuesVectors2d
  rcases h : eigenValues2d sqrt (sdiv2 A (preScale2 A)) with e | ⟨l0, l1⟩ <;> simp [Except.map, h]

example : (eigenValuesVectors2x2 Real.sqrt 0 (⟨2, 0, 0, 2⟩ : M2 ℝ)).map Prod.fst = eigenValues2x2 Real.sqrt ⟨2, 0, 0, 2⟩ :=
  ev2_entry_points_agree _ _ _

/-- For a 1x1 matrix `(a)` both entry points return `a`; the vector `(1)` has unit length and
`a · 1 = λ · 1`. -/
theorem ev1_exact (a : ℝ) :
    eigenValues1d a = a ∧ (eigenValuesVectors1d a).1 = a ∧
      (eigenValuesVectors1d a).2 * (eigenValuesVectors1d a).2 = 1 ∧
      a * (eigenValuesVectors1d a).2 = (eigenValuesVectors1d a).1 * (eigenValuesVectors1d a).2 := by
  unfold eigenValues1d eigenValuesVectors1d one
  simp

/-- If `S = A - λI` is singular (λ is an eigenvalue), the cross product of any two of its rows is
annihilated by `S`; in the rank-2 case these cross products span the eigenspace.  (The components of
`S (rᵢ × rⱼ)` are `rₖ · (rᵢ × rⱼ)`: zero for `k ∈ {i,j}` and `± det S` for the third row.)
The cross product is the one translated from `Impl::crossProduct`. -/
theorem cross_in_kernel (A : M3 ℝ) (l : ℝ) (hdet : det3 (shift3 A l) = 0) :
    mulVec3 (shift3 A l) (cross (row0 (shift3 A l)) (row1 (shift3 A l))) = ⟨0, 0, 0⟩ ∧
    mulVec3 (shift3 A l) (cross (row0 (shift3 A l)) (row2 (shift3 A l))) = ⟨0, 0, 0⟩ ∧
    mulVec3 (shift3 A l) (cross (row1 (shift3 A l)) (row2 (shift3 A l))) = ⟨0, 0, 0⟩ :=
  cross_rows_kernel (shift3 A l) hdet

/-- `diag(1,2,3) - 1·I` is singular with rank 2 -/
example : det3 (shift3 (⟨1, 0, 0, 0, 2, 0, 0, 0, 3⟩ : M3 ℝ) 1) = 0 ∧
    0 < norm2_3 (cross (row1 (shift3 (⟨1, 0, 0, 0, 2, 0, 0, 0, 3⟩ : M3 ℝ) 1)) (row2 (shift3 (⟨1, 0, 0, 0, 2, 0, 0, 0, 3⟩ : M3 ℝ) 1))) := by
  constructor
  · unfold det3 shift3; norm_num
  · rw [norm2_3_eq, cross_eq]; unfold row1 row2 shift3; norm_num

/-- `Impl::eig0` (largest cross product of two rows of `A - λI`, divided by its length)
returns a unit vector `v` with `(A - λI) v = 0` whenever `λ` is an eigenvalue and `A - λI` has rank 2. -/
theorem eig0_unit_eigenvector (A : M3 ℝ) (l : ℝ) (hdet : det3 (shift3 A l) = 0)
    (hrank : 0 < norm2_3 (cross (row0 (shift3 A l)) (row1 (shift3 A l)))
      ∨ 0 < norm2_3 (cross (row0 (shift3 A l)) (row2 (shift3 A l)))
      ∨ 0 < norm2_3 (cross (row1 (shift3 A l)) (row2 (shift3 A l)))) :
    mulVec3 (shift3 A l) (eig0 Real.sqrt A l) = ⟨0, 0, 0⟩ ∧ norm2_3 (eig0 Real.sqrt A l) = 1 :=
  eig0_correct A l hdet hrank

/-- The three values returned by the 3x3 routine sum to the trace, in both branches and whatever the
elementary functions return (the middle value is defined through the trace; scaling by the max norm is undone). -/
theorem ev3_trace (sqrt acos cos : ℝ → ℝ) (pi eps : ℝ) (A : M3 ℝ) :
    (eigenValues3d sqrt acos cos pi eps A).1 + (eigenValues3d sqrt acos cos pi eps A).2.1
      + (eigenValues3d sqrt acos cos pi eps A).2.2 = trace3 A := by
  unfold eigenValues3d trace3
  simp only
  rw [← add_mul, ← add_mul, impl_sum]
  unfold sdiv3
  simp only
  rw [← add_div, ← add_div, div_mul_cancel₀ _ (maxAbsElement_pos A).ne']

/-- The 3x3 eigenvalue-only routine returns its values in ascending order (uses that the
translated source sorts the trigonometric values: `Gen.ev3_sortedAfterTrig = true`). -/
theorem ev3_ascending (sqrt acos cos : ℝ → ℝ) (pi eps : ℝ) (A : M3 ℝ) :
    (eigenValues3d sqrt acos cos pi eps A).1 ≤ (eigenValues3d sqrt acos cos pi eps A).2.1 ∧
      (eigenValues3d sqrt acos cos pi eps A).2.1 ≤ (eigenValues3d sqrt acos cos pi eps A).2.2 := by
  have hm := (maxAbsElement_pos A).le
  have h := impl_asc sqrt acos cos pi eps (sdiv3 A (maxAbsElement A))
  unfold eigenValues3d
  simp only
  exact ⟨mul_le_mul_of_nonneg_right h.1 hm, mul_le_mul_of_nonneg_right h.2 hm⟩

/-- The 3x3 path first divides by the max norm, so all its thresholds are relative: for
`s > 0` the eigenvalues of `s•A` are `s` times those of `A` and the returned eigenvectors are unchanged, in both
branches — for arbitrary elementary functions. -/
theorem ev3_scaling_exact (sqrt acos cos : ℝ → ℝ) (pi eps s : ℝ) (hs : 0 < s) (he : 0 ≤ eps) (A : M3 ℝ) :
    eigenValues3d sqrt acos cos pi eps (smul3 s A) =
      (s * (eigenValues3d sqrt acos cos pi eps A).1, s * (eigenValues3d sqrt acos cos pi eps A).2.1,
        s * (eigenValues3d sqrt acos cos pi eps A).2.2) ∧
    eigenValuesVectors3d sqrt acos cos pi eps (smul3 s A) =
      ((s * (eigenValuesVectors3d sqrt acos cos pi eps A).1.1, s * (eigenValuesVectors3d sqrt acos cos pi eps A).1.2.1,
        s * (eigenValuesVectors3d sqrt acos cos pi eps A).1.2.2), (eigenValuesVectors3d sqrt acos cos pi eps A).2) := by
  by_cases hA : 0 < infNorm3 A
  · have hv := eigenValuesVectors3d_smul sqrt acos cos pi eps s hs A hA
    refine ⟨?_, hv⟩
    rw [← entry_points_agree3, ← entry_points_agree3, hv]
  · obtain rfl := entries_zero_of_infNorm3 A (le_antisymm (not_lt.mp hA) (infNorm3_nonneg A))
    rw [smul3_zeroM3, eigenValues3d_zeroM3 sqrt acos cos pi eps he]
    refine ⟨by simp, ?_⟩
    have hv := (entry_points_agree3 sqrt acos cos pi eps zeroM3).trans (eigenValues3d_zeroM3 sqrt acos cos pi eps he)
    refine Prod.ext ?_ rfl
    rw [hv]
    simp

/-- the case `0 < infNorm3 A` in the proof of `ev3_scaling_exact` (the other is the zero matrix) is inhabited -/
example : (0 : ℝ) < infNorm3 ⟨1, 0, 0, 0, 2, 0, 0, 0, 3⟩ := by rw [infNorm3_eq]; norm_num

/-- For a symmetric matrix that is not treated as diagonal, `r = det((A - qI)/p)/2` computed
by the code lies in `[-1, 1]` in exact arithmetic: the clamp only guards against round-off.  (Uses that a real
symmetric matrix has a real spectrum — Mathlib's spectral theorem — and the discriminant of the cubic.) -/
theorem ev3_clamp_inactive (eps : ℝ) (he : 0 ≤ eps) (A : M3 ℝ) (hs : Sym3 A)
    (hb : ¬ DiagBranch eps (sdiv3 A (maxAbsElement A))) :
    -1 ≤ rawR (sdiv3 A (maxAbsElement A)) ∧ rawR (sdiv3 A (maxAbsElement A)) ≤ 1 :=
  rawR_abs_le_one _ (sdiv3_sym A _ hs) (p1Of_pos_of_not_diag eps he _ hb)

/-- For every real symmetric 3x3 matrix that is exactly diagonal, or not treated as diagonal by the
code (`p1 > eps` on the max-norm-scaled matrix), the three values returned by `FMatrixHelp::eigenValues` are the
*whole spectrum with multiplicity*: the characteristic polynomial factors as `(t - λ₀)(t - λ₁)(t - λ₂)`
(Smith 1961: `λ = q + 2p cos(φ + 2πk/3)`, `cos 3φ = r`; no assumption on `r`, see `ev3_clamp_inactive`).
In the remaining case `0 < p1 ≤ eps` (nearly diagonal) the code returns the sorted diagonal *by design* as an
approximation; there the exact statement is false and is replaced by the residual bound of `ev3_vectors_diag`. -/
theorem ev3_spectrum (eps : ℝ) (he : 0 ≤ eps) (A : M3 ℝ) (hs : Sym3 A)
    (hcase : (A.a01 = 0 ∧ A.a02 = 0 ∧ A.a12 = 0) ∨ ¬ DiagBranch eps (sdiv3 A (maxAbsElement A))) :
    ∀ t : ℝ, charPoly3 A t =
      (t - (eigenValues3d Real.sqrt Real.arccos Real.cos Real.pi eps A).1) *
      (t - (eigenValues3d Real.sqrt Real.arccos Real.cos Real.pi eps A).2.1) *
      (t - (eigenValues3d Real.sqrt Real.arccos Real.cos Real.pi eps A).2.2) := by
  have hm := (maxAbsElement_pos A).ne'
  have hS := sdiv3_sym A (maxAbsElement A) hs
  unfold eigenValues3d
  apply charPoly3_unscale_factor A _ _ _ _ hm
  rcases hcase with ⟨h01, h02, h12⟩ | hb
  · obtain ⟨s10, s20, s21⟩ := hs
    apply diag_factor Real.sqrt Real.arccos Real.cos Real.pi eps he
    unfold sdiv3
    simp only [h01, h02, h12, s10, s20, s21, zero_div, and_self]
  · exact trig_factor eps he _ hS hb

/-- the trigonometric case is inhabited: for `[[0,1,0],[1,0,0],[0,0,0]]` (max norm 1) `p1 = 1 > eps` -/
example : ¬ DiagBranch ((2 : ℝ) ^ (-52 : ℤ)) (⟨0, 1, 0, 1, 0, 0, 0, 0, 0⟩ : M3 ℝ) := by
  unfold DiagBranch p1Of Gen.ev3_p1 Gen.ev3_diagThreshold
  norm_num

/-- `FMatrixHelp::eigenValues` and the eigenvalues returned by
`FMatrixHelp::eigenValuesVectors` coincide for every 3x3 matrix (in both branches, for arbitrary elementary
functions): the diagonal special case of the eigenvector routine overwrites the values by the same sorted diagonal, and
the stable sort of the (value, vector) pairs leaves the already sorted values in place. -/
theorem ev3_entry_points_agree (sqrt acos cos : ℝ → ℝ) (pi eps : ℝ) (A : M3 ℝ) :
    (eigenValuesVectors3d sqrt acos cos pi eps A).1 = eigenValues3d sqrt acos cos pi eps A :=
  entry_points_agree3 sqrt acos cos pi eps A

/-- For every real symmetric 3x3 matrix that the code does not treat as diagonal, the vectors returned
by `FMatrixHelp::eigenValuesVectors` (`eig0` for the simple extreme eigenvalue selected by the sign of `r`, `orthoComp`
and `eig1` with all branches for the middle one, the cross product for the third, stable sort of the pairs) are unit
vectors, mutually orthogonal, and satisfy `(A - λᵢ I) vᵢ = 0` for the returned eigenvalues — including repeated
eigenvalues (then `eig1` works on a zero or rank-one reduced matrix). -/
theorem ev3_vectors (eps : ℝ) (he : 0 ≤ eps) (A : M3 ℝ) (hs : Sym3 A)
    (hb : diagBranchVec eps (sdiv3 A (maxAbsElement A)) = false) :
    EigTriple A (eigenValuesVectors3d Real.sqrt Real.arccos Real.cos Real.pi eps A).1.1
      (eigenValuesVectors3d Real.sqrt Real.arccos Real.cos Real.pi eps A).1.2.1
      (eigenValuesVectors3d Real.sqrt Real.arccos Real.cos Real.pi eps A).1.2.2
      (eigenValuesVectors3d Real.sqrt Real.arccos Real.cos Real.pi eps A).2.1
      (eigenValuesVectors3d Real.sqrt Real.arccos Real.cos Real.pi eps A).2.2.1
      (eigenValuesVectors3d Real.sqrt Real.arccos Real.cos Real.pi eps A).2.2.2 := by
  have hS := sdiv3_sym A (maxAbsElement A) hs
  have hnd := not_diagBranch_of_vec hb
  rw [vectors3d_trig _ _ _ _ eps A hb]
  simp only
  have hasc := impl_asc Real.sqrt Real.arccos Real.cos Real.pi eps (sdiv3 A (maxAbsElement A))
  obtain ⟨e0, e1, e2, T⟩ := trigVectors_spec (sdiv3 A (maxAbsElement A)) hS _ _ _ _ hasc.1 hasc.2
    (trig_factor eps he _ hS hnd) (trig_r_sign eps he _ hS hnd)
  rw [e0, e1, e2]
  exact EigTriple_unscale A _ _ _ _ _ _ _ (maxAbsElement_pos A).ne' T

/-- the hypotheses of `ev3_vectors` are satisfiable: `[[0,1,0],[1,0,0],[0,0,0]]` (eigenvalues -1, 0, 1), also with a
repeated eigenvalue: `[[0,1,1],[1,0,1],[1,1,0]]` (eigenvalues -1, -1, 2; max norm 2) -/
example : Sym3 (⟨0, 1, 0, 1, 0, 0, 0, 0, 0⟩ : M3 ℝ) ∧
    diagBranchVec ((2 : ℝ) ^ (-52 : ℤ)) (sdiv3 (⟨0, 1, 0, 1, 0, 0, 0, 0, 0⟩ : M3 ℝ) (maxAbsElement ⟨0, 1, 0, 1, 0, 0, 0, 0, 0⟩)) = false := by
  refine ⟨⟨rfl, rfl, rfl⟩, ?_⟩
  have hm : maxAbsElement (⟨0, 1, 0, 1, 0, 0, 0, 0, 0⟩ : M3 ℝ) = 1 := by
    unfold maxAbsElement
    rw [infNorm3_eq]
    norm_num [zero, one]
  rw [hm]
  unfold diagBranchVec
  rw [decide_eq_false_iff_not, norm2_3_eq]
  unfold sdiv3 Gen.ev3_vecThreshold
  norm_num

example : Sym3 (⟨0, 1, 1, 1, 0, 1, 1, 1, 0⟩ : M3 ℝ) ∧
    diagBranchVec ((2 : ℝ) ^ (-52 : ℤ)) (sdiv3 (⟨0, 1, 1, 1, 0, 1, 1, 1, 0⟩ : M3 ℝ) (maxAbsElement ⟨0, 1, 1, 1, 0, 1, 1, 1, 0⟩)) = false := by
  refine ⟨⟨rfl, rfl, rfl⟩, ?_⟩
  have hm : maxAbsElement (⟨0, 1, 1, 1, 0, 1, 1, 1, 0⟩ : M3 ℝ) = 2 := by
    unfold maxAbsElement
    rw [infNorm3_eq]
    norm_num [zero, one]
  rw [hm]
  unfold diagBranchVec
  rw [decide_eq_false_iff_not, norm2_3_eq]
  unfold sdiv3 Gen.ev3_vecThreshold
  norm_num

/-- In the diagonal special case (`offDiagNorm ≤ eps` on the max-norm-scaled matrix) of a
symmetric matrix the returned vectors are coordinate vectors: exactly of unit length and mutually orthogonal, and the
residuals `(A - λᵢ I) vᵢ` for the returned (sorted diagonal) values have squared length at most `eps · m²`, i.e. length
at most `sqrt(eps)` times the max norm `m` of `A` — the accuracy class the property states for the 3x3 closed form.
The values are ascending by `ev3_entry_points_agree` and `ev3_ascending`. -/
theorem ev3_vectors_diag (sqrt acos cos : ℝ → ℝ) (pi eps : ℝ) (A : M3 ℝ) (hs : Sym3 A)
    (hb : diagBranchVec eps (sdiv3 A (maxAbsElement A)) = true) :
    let R := eigenValuesVectors3d sqrt acos cos pi eps A
    let m := maxAbsElement A
    norm2_3 R.2.1 = 1 ∧ norm2_3 R.2.2.1 = 1 ∧ norm2_3 R.2.2.2 = 1 ∧
      dot3 R.2.1 R.2.2.1 = 0 ∧ dot3 R.2.1 R.2.2.2 = 0 ∧ dot3 R.2.2.1 R.2.2.2 = 0 ∧
      resid2 A R.1.1 R.2.1 ≤ eps * (m * m) ∧ resid2 A R.1.2.1 R.2.2.1 ≤ eps * (m * m) ∧
      resid2 A R.1.2.2 R.2.2.2 ≤ eps * (m * m) := by
  have hm := (maxAbsElement_pos A).ne'
  have hd : p1Of (sdiv3 A (maxAbsElement A)) ≤ eps := (diagBranchVec_iff eps _).mp hb
  simp only
  rw [vectors3d_diag sqrt acos cos pi eps A hb]
  obtain ⟨g0, g1, g2, o01, o02, o12⟩ :=
    (goodTriple_diag (sdiv3 A (maxAbsElement A)) (sdiv3_sym A (maxAbsElement A) hs)).bubble3
  simp only
  -- a residual on the scaled matrix is at most `p1 ≤ eps`; on `A` it is `m²` times as large
  have bound : ∀ p : ℝ × V3 ℝ, GoodPair (sdiv3 A (maxAbsElement A)) p →
      resid2 A (p.1 * maxAbsElement A) p.2 ≤ eps * (maxAbsElement A * maxAbsElement A) := by
    intro p hp
    rw [resid2_unscale A _ _ _ hm, mul_comm]
    exact mul_le_mul_of_nonneg_right (hp.2.trans hd) (mul_self_nonneg _)
  exact ⟨g0.1, g1.1, g2.1, o01, o02, o12, bound _ g0, bound _ g1, bound _ g2⟩

/-- the diagonal special case is inhabited: `diag(1, 0, 0)` -/
example : diagBranchVec ((2 : ℝ) ^ (-52 : ℤ)) (sdiv3 (⟨1, 0, 0, 0, 0, 0, 0, 0, 0⟩ : M3 ℝ) (maxAbsElement ⟨1, 0, 0, 0, 0, 0, 0, 0, 0⟩)) = true := by
  have hm : maxAbsElement (⟨1, 0, 0, 0, 0, 0, 0, 0, 0⟩ : M3 ℝ) = 1 := by
    unfold maxAbsElement
    rw [infNorm3_eq]
    norm_num [zero, one]
  rw [hm]
  unfold diagBranchVec
  rw [decide_eq_true_eq, norm2_3_eq]
  unfold sdiv3 Gen.ev3_vecThreshold
  norm_num

/-- `FMatrixHelp` copies the row-major matrix element by element into the array that ?syev
reads column-major with `uplo='u'`.  For a symmetric `A` LAPACK works on `A` itself, and if the columns of its result
`Z` are eigenvectors (`A Z = Z diag w`), the copy-back returns them as the *rows* of `eigenVectors`:
row `i` is an eigenvector of `A` for `w i`. -/
theorem lapack_handover_sym {R : Type} [CommRing R] (n : Nat) (A : Nat → Nat → R) (hs : SymOn n A) :
    (∀ r c, r < n → c < n → lapackSeesSym n A r c = A r c) ∧
    ∀ (Z : Nat → Nat → R) (w : Nat → R),
      (∀ c, c < n → IsRightEig n (lapackSeesSym n A) (w c) (fun k => Z k c)) →
      ∀ i, i < n → IsRightEig n A (w i) (copyBack n Z i) :=
  ⟨lapackSeesSym_eq n A hs, copyBack_rightEig n A _ (lapackSeesSym_eq n A hs)⟩

example : SymOn 2 (fun i j => ((i + j : Nat) : ℤ)) := fun i j _ _ => by simp [Nat.add_comm]

/-- The row-major copy is read by ?geev as `Aᵀ`; a right eigenvector of what LAPACK sees is
exactly a *left* eigenvector of `A` (`vᵀ A = λ vᵀ`).  Hence requesting `jobvr` on the row-major copy would not give right
eigenvectors of `A`; the eigenvalue-only routine `FMatrixHelp::eigenValuesNonSym`, which copies row-major, is
unaffected. -/
theorem lapack_handover_nonsym {R : Type} [CommRing R] (n : Nat) (A : Nat → Nat → R) (lam : R) (v : Nat → R) :
    (∀ r c, r < n → lapackSeesNonSymF n A r c = A c r) ∧
    (IsRightEig n (lapackSeesNonSymF n A) lam v ↔ IsLeftEig n A lam v) := by
  refine ⟨fun r c hr => fortranView_packRowMajor n A r c hr, ?_⟩
  have key : ∀ r, r < n → sumTo n (fun k => lapackSeesNonSymF n A r k * v k) = sumTo n (fun k => v k * A k r) := by
    intro r hr
    apply sumTo_congr
    intro k _
    show fortranView n (packRowMajor n A) r k * v k = v k * A k r
    rw [fortranView_packRowMajor n A r k hr, mul_comm]
  unfold IsRightEig IsLeftEig
  exact forall₂_congr fun r hr => by rw [key r hr]

/-- `DynamicMatrixHelp::eigenValuesNonSym` copies column-major: ?geev sees `A`, so the vectors it returns through
`jobvr` are right eigenvectors of `A`, and the copy-back `std::copy(vr + N*i, vr + N*(i+1), …)` delivers column `i` as
the `i`-th vector. -/
theorem lapack_handover_nonsym_dynamic {R : Type} [CommRing R] (n : Nat) (A : Nat → Nat → R) :
    (∀ r c, r < n → lapackSeesNonSymD n A r c = A r c) ∧
    ∀ (Z : Nat → Nat → R) (w : Nat → R),
      (∀ c, c < n → IsRightEig n (lapackSeesNonSymD n A) (w c) (fun k => Z k c)) →
      ∀ i, i < n → IsRightEig n A (w i) (copyBack n Z i) :=
  ⟨fortranView_packColMajor n A,
    copyBack_rightEig n A _ fun r c hr _ => fortranView_packColMajor n A r c hr⟩

/-- a left eigenvector that is not a right eigenvector: `A = [[1,2],[0,3]]`, `λ = 3`, `v = (0,1)` (DESIGN.md
section 6, no. 11) -/
example : IsLeftEig 2 (fun i j => if i = 0 ∧ j = 0 then (1 : ℤ) else if i = 0 ∧ j = 1 then 2 else if i = 1 ∧ j = 1 then 3 else 0)
    3 (fun k => if k = 1 then 1 else 0) := by
  unfold IsLeftEig
  decide +kernel

/-- One call of `DynamicMatrixHelp::eigenValuesNonSym` on containers in an
*arbitrary* state `st` (left over from a call with a larger or smaller matrix, pre-sized by the caller, vectors of the
wrong length, empty): no access outside the containers (`some`), afterwards `eigenValues` holds exactly the `n` values
of this call and — if vectors were requested — `eigenVectors` holds exactly `n` vectors with `n` entries each, vector
`i` being column `i` of LAPACK's `vr`; nothing of the previous content survives.  Without a vector request the
caller's list is not touched. -/
theorem nonsym_dynamic_outputs_fresh {C K : Type} (zc : C) (zk : K) (st : NsOut C K) (c : NsCall C K) :
    ∃ out, nsStep zc zk st c = some out ∧
      out.vals = (List.range c.n).map c.w ∧
      (c.wantVec = true → out.vecs.length = c.n ∧
        ∀ i, i < c.n → out.vecs[i]? = some ((List.range c.n).map fun j => c.vr (c.n * i + j))) ∧
      (c.wantVec = false → out.vecs = st.vecs) := by
  refine ⟨_, nsStep_eq zc zk st c, rfl, ?_, ?_⟩
  · intro h
    simp only [h, if_true]
    exact ⟨nsFreshVecs_length c, fun i hi => nsFreshVecs_get c i hi⟩
  · intro h
    simp [h]

/-- a container left over from a 3x3 call, reused for a 2x2 call -/
example : nsStep (0 : Int) (0 : Int) ⟨[7, 8, 9], [[1, 2, 3], [4, 5, 6], [7, 8, 9]]⟩
    ⟨2, true, fun i => 10 + i, fun k => 100 + k⟩ = some ⟨[10, 11], [[100, 101], [102, 103]]⟩ := by decide +kernel

/-- a list of empty vectors, and one vector too few -/
example : nsStep (0 : Int) (0 : Int) ⟨[], [[], []]⟩
    ⟨3, true, fun i => i, fun k => k⟩ = some ⟨[0, 1, 2], [[0, 1, 2], [3, 4, 5], [6, 7, 8]]⟩ := by decide +kernel

/-- why both resizes are needed: without the inner `v.resize(N)` the copy keeps a stale tail (longer vector) or
writes past the end (shorter vector) -/
example : storePrefix 2 (fun k => (100 + k : Int)) [1, 2, 3] = some [100, 101, 3] := by decide +kernel
example : storePrefix 2 (fun k => (100 + k : Int)) [1] = none := by decide +kernel

/-- Every history of calls that reuse the same two containers, started from any content:
no call ever accesses a container out of bounds, and after the last call `c` `eigenValues` — and `eigenVectors` if `c`
requested vectors — hold exactly what a call of `c` alone on fresh containers returns (the last conjunct).  If `c`
requested none, `eigenVectors` is that of the last call that did (`nsRun_eq`, `lastVecs`). -/
theorem nonsym_dynamic_history {C K : Type} (zc : C) (zk : K) (st : NsOut C K) (cs : List (NsCall C K))
    (c : NsCall C K) :
    ∃ out, nsRun zc zk st (cs ++ [c]) = some out ∧ out.vals = nsFreshVals c ∧
      (c.wantVec = true → out.vecs = nsFreshVecs c) ∧
      nsRun zc zk ⟨[], []⟩ [c] = some ⟨nsFreshVals c, if c.wantVec then nsFreshVecs c else []⟩ := by
  refine ⟨_, nsRun_eq zc zk (cs ++ [c]) st, lastVals_append _ cs c, ?_, ?_⟩
  · intro h
    show lastVecs st.vecs (cs ++ [c]) = nsFreshVecs c
    rw [lastVecs_append, h]
    rfl
  · rw [nsRun_eq]
    rfl

example : nsRun (0 : Int) (0 : Int) ⟨[], []⟩
    [⟨3, true, fun i => i, fun k => k⟩, ⟨1, false, fun _ => 5, fun _ => 0⟩, ⟨2, true, fun i => 10 + i, fun k => 100 + k⟩]
    = some ⟨[10, 11], [[100, 101], [102, 103]]⟩ := by decide +kernel

/-- Hand-over and copy-back together, for any previous content of the caller's list:
if the columns of LAPACK's result `Z` are right eigenvectors of what it was given, the list returned for `A` consists
of `n` vectors with `n` entries, and vector `i` is a right eigenvector of `A` for `w i`. -/
theorem nonsym_dynamic_vectors_right {R : Type} [CommRing R] (n : Nat) (A : Nat → Nat → R)
    (Z : Nat → Nat → R) (w : Nat → R)
    (hZ : ∀ c, c < n → IsRightEig n (lapackSeesNonSymD n A) (w c) (fun k => Z k c))
    (st : NsOut R R) :
    ∃ out, nsStep 0 0 st ⟨n, true, w, fortranStore n Z⟩ = some out ∧ out.vals.length = n ∧ out.vecs.length = n ∧
      ∀ i, i < n → ∃ v, out.vecs[i]? = some v ∧ v.length = n ∧ out.vals[i]? = some (w i) ∧
        IsRightEig n A (w i) (fun k => v.getD k 0) := by
  obtain ⟨out, hstep, hvals, hvecs, -⟩ := nonsym_dynamic_outputs_fresh 0 0 st ⟨n, true, w, fortranStore n Z⟩
  obtain ⟨hlen, hget⟩ := hvecs rfl
  refine ⟨out, hstep, ?_, hlen, fun i hi => ⟨_, hget i hi, ?_, ?_, ?_⟩⟩
  · rw [hvals, List.length_map, List.length_range]
  · rw [List.length_map, List.length_range]
  · rw [hvals, List.getElem?_map, List.getElem?_range hi]
    rfl
  · have hrow : ∀ k, k < n →
        ((List.range n).map fun j => fortranStore n Z (n * i + j)).getD k 0 = copyBack n Z i k := by
      intro k hk
      rw [List.getD_eq_getElem?_getD, List.getElem?_map, List.getElem?_range hk]
      show fortranStore n Z (n * i + k) = unpackRowMajor n (fortranStore n Z) i k
      unfold unpackRowMajor
      rw [Nat.mul_comm]
    exact ((lapack_handover_nonsym_dynamic n A).2 Z w hZ i hi).congr (fun _ _ _ _ => rfl) hrow

/-- The table-driven definitions — `eig0` with the translated rows, cross-product pairs,
lengths and selection tree; `orthoComp` with the translated branch condition, normalising
2-vector and components; `eig1` with the translated reduced matrix and the four translated normalisation sequences
and result coefficients; the eigenvector assembly with the translated indices of both
branches of `if (r >= 0)`; the whole 3x3 eigenvector routine built from them — coincide over ℝ, for arbitrary elementary
functions and all arguments, with the hand-written control flow the other theorems speak about.  Translated
expressions are compared up to ring identities (commuted factors, re-associated sums, also inside `sqrt`), translated
index tables by evaluation.  The line-protocol driver runs `eigenValuesVectors3dD`: `eigenValuesVectors3dT` outside the
diagonal special case, the interpreted tables of `ev3_diag_network_translated` in it. -/
theorem ev3_control_translated (sqrt acos cos : ℝ → ℝ) (pi eps : ℝ) :
    (∀ (A : M3 ℝ) (ev : ℝ), eig0T sqrt A ev = eig0 sqrt A ev) ∧
    (∀ e : V3 ℝ, orthoCompT sqrt e = orthoComp sqrt e) ∧
    (∀ (A : M3 ℝ) (e0 : V3 ℝ) (ev1 : ℝ), eig1T sqrt A e0 ev1 = eig1 sqrt A e0 ev1) ∧
    (∀ (S : M3 ℝ) (l : ℝ × ℝ × ℝ) (r : ℝ), trigVectorsT sqrt S l r = trigVectors sqrt S l r) ∧
    (∀ A : M3 ℝ, eigenValuesVectors3dT sqrt acos cos pi eps A = eigenValuesVectors3d sqrt acos cos pi eps A) :=
  ⟨eig0T_eq sqrt, orthoCompT_eq sqrt, eig1T_eq sqrt, trigVectorsT_eq sqrt, eigenValuesVectors3dT_eq sqrt acos cos pi eps⟩

/-- the tables are not degenerate: on the integers (identity as "square root") the table-driven `eig0` of
`diag(2,1,1) - 2 I` picks the third cross product, the only non-zero one -/
example : (eig0T (fun x : Int => x) ⟨2, 0, 0, 0, 1, 0, 0, 0, 1⟩ 2).x = 1 ∧ (eig0T (fun x : Int => x) ⟨2, 0, 0, 0, 1, 0, 0, 0, 1⟩ 2).y = 0 :=
  ⟨rfl, rfl⟩

/-- `ev3_vectors` for the routine assembled from the translated tables: for every real
symmetric 3x3 matrix not treated as diagonal, what the current source's selection and assembly logic returns are unit,
mutually orthogonal vectors with `(A - λᵢ I) vᵢ = 0`. -/
theorem ev3_vectors_translated (eps : ℝ) (he : 0 ≤ eps) (A : M3 ℝ) (hs : Sym3 A)
    (hb : diagBranchVec eps (sdiv3 A (maxAbsElement A)) = false) :
    EigTriple A (eigenValuesVectors3dT Real.sqrt Real.arccos Real.cos Real.pi eps A).1.1
      (eigenValuesVectors3dT Real.sqrt Real.arccos Real.cos Real.pi eps A).1.2.1
      (eigenValuesVectors3dT Real.sqrt Real.arccos Real.cos Real.pi eps A).1.2.2
      (eigenValuesVectors3dT Real.sqrt Real.arccos Real.cos Real.pi eps A).2.1
      (eigenValuesVectors3dT Real.sqrt Real.arccos Real.cos Real.pi eps A).2.2.1
      (eigenValuesVectors3dT Real.sqrt Real.arccos Real.cos Real.pi eps A).2.2.2 := by
  rw [eigenValuesVectors3dT_eq]
  exact ev3_vectors eps he A hs hb

/-- the assembly tables of the current source (the hypotheses of `ev3_vectors_translated` are those of `ev3_vectors`,
inhabited by the two examples there) -/
example : Gen.ev3_asmPos = (2, 2, 2, 1, 1, 0, 1, 2) ∧ Gen.ev3_asmNeg = (0, 0, 0, 1, 1, 2, 0, 1) := ⟨rfl, rfl⟩

/-- The diagonal special case of the source starts from the diagonal entries and the
coordinate vectors and runs the compare-and-swap network (0,1), (1,2), (0,1), each step swapping the compared values
*and* the vectors of the same indices — the network of the hand-written model (`ev3_vectors_diag`). -/
theorem ev3_diag_network_translated :
    Gen.ev3_diagInit = [(0, 0), (1, 1), (2, 2)] ∧ Gen.ev3_diagVecs = [[1, 0, 0], [0, 1, 0], [0, 0, 1]] ∧
    Gen.ev3_diagSwaps = [(0, 1, 0, 1, 0, 1), (1, 2, 1, 2, 1, 2), (0, 1, 0, 1, 0, 1)] := ev3_diag_tables

/-- the interpreted network sorts values and vectors jointly -/
example : (diagVectorsT (⟨3, 0, 0, 0, 1, 0, 0, 0, 2⟩ : M3 Int)).1 = (1, 2, 3) ∧
    (diagVectorsT (⟨3, 0, 0, 0, 1, 0, 0, 0, 2⟩ : M3 Int)).2.1.y = 1 ∧ (diagVectorsT (⟨3, 0, 0, 0, 1, 0, 0, 0, 2⟩ : M3 Int)).2.2.2.x = 1 :=
  ⟨rfl, rfl, rfl⟩

/-- With the orientation of the copy loops and `uplo` translated from the source,
what ?syev / ?geev see and how the result is copied back are the maps of `lapack_handover_sym`,
`lapack_handover_nonsym` and `lapack_handover_nonsym_dynamic`. -/
theorem lapack_handover_translated {K : Type} (n : Nat) (A Z : Nat → Nat → K) :
    lapackSeesSymT n A = lapackSeesSym n A ∧ lapackSeesNonSymFT n A = lapackSeesNonSymF n A ∧
    lapackSeesNonSymDT n A = lapackSeesNonSymD n A ∧ copyBackSymT n Z = copyBack n Z :=
  ⟨lapackSeesSymT_eq n A, lapackSeesNonSymFT_eq n A, lapackSeesNonSymDT_eq n A, copyBackSymT_eq n Z⟩

example : lapackSeesNonSymDT 2 (fun i j => (10 * i + j : Nat)) 0 1 = 1 ∧
    lapackSeesNonSymFT 2 (fun i j => (10 * i + j : Nat)) 0 1 = 10 := by decide +kernel

/-- ?syev's interface asks for `LWORK ≥ max(1, 3N-1)`, a work array of `LWORK` and a matrix array
of `N²` entries: for *every* order the `lwork` of the source meets the bound, the arrays the source declares have these
sizes, the job character is `'v'` exactly for the eigenvector job and `uplo` names a triangle.  (`3 * n - 1` is
truncated subtraction, `0` at `n = 0`: hence `max 1` on both sides of the first conjunct, and the bound proper under
`1 ≤ n` in the second.) -/
theorem lapack_sym_call (n : Nat) :
    max 1 (3 * n - 1) ≤ max 1 (Gen.lapSym_lwork n) ∧ (1 ≤ n → max 1 (3 * n - 1) ≤ Gen.lapSym_lwork n) ∧
    Gen.lapSym_lwork n ≤ Gen.lapSym_workSize n ∧ n * n ≤ Gen.lapSym_matSize n ∧
    Gen.lapSym_jobz = ('n', 'v') ∧ (Gen.lapSym_uplo = 'u' ∨ Gen.lapSym_uplo = 'l') := by
  refine ⟨?_, ?_, ?_, ?_, ?_, ?_⟩
  · simp only [Gen.lapSym_lwork]; omega
  · intro h; simp only [Gen.lapSym_lwork]; omega
  · simp only [Gen.lapSym_lwork, Gen.lapSym_workSize]; omega
  · simp only [Gen.lapSym_matSize]; exact Nat.le_refl _
  · decide
  · decide

example : Gen.lapSym_lwork 4 = 11 ∧ Gen.lapSym_workSize 8 = 23 := by decide +kernel

/-- ?geev's interface asks for `LWORK ≥ max(1, 3N)`, and `≥ 4N` when eigenvectors are wanted,
`WR`/`WI` of `N`, `A` of `N²` and — with `JOBVR = 'V'` — `VR` of `N²` entries: both call sites (fixed size: eigenvalues
only; dynamic: right eigenvectors exactly when the caller passes a list, never left ones), every order `n ≥ 1`. -/
theorem lapack_nonsym_call (n : Nat) (hn : 1 ≤ n) (vec : Bool) :
    (max 1 (3 * n) ≤ Gen.lapNsF_lwork n ∧ Gen.lapNsF_lwork n ≤ Gen.lapNsF_workSize n ∧
      n ≤ (Gen.lapNsF_wSize n).1 ∧ n ≤ (Gen.lapNsF_wSize n).2 ∧ Gen.lapNsF_jobs = ('n', 'n')) ∧
    ((if vec then 4 * n else max 1 (3 * n)) ≤ Gen.lapNsD_lwork n vec ∧ Gen.lapNsD_lwork n vec ≤ Gen.lapNsD_workSize n vec ∧
      n * n ≤ Gen.lapNsD_matSize n vec ∧ n ≤ (Gen.lapNsD_wSize n vec).1 ∧ n ≤ (Gen.lapNsD_wSize n vec).2 ∧
      (vec = true → n * n ≤ Gen.lapNsD_vrSize n vec) ∧
      Gen.lapNsD_jobvl = ('n', 'n') ∧ Gen.lapNsD_jobvr = ('v', 'n')) := by
  refine ⟨⟨?_, ?_, ?_, ?_, ?_⟩, ?_, ?_, ?_, ?_, ?_, ?_, ?_, ?_⟩
  · simp only [Gen.lapNsF_lwork]; omega
  · simp only [Gen.lapNsF_lwork, Gen.lapNsF_workSize]; omega
  · simp only [Gen.lapNsF_wSize]; omega
  · simp only [Gen.lapNsF_wSize]; omega
  · decide
  · simp only [Gen.lapNsD_lwork]
    split_ifs <;> omega
  · cases vec <;> simp only [Gen.lapNsD_lwork, Gen.lapNsD_workSize] <;> simp
  · simp only [Gen.lapNsD_matSize]; exact Nat.le_refl _
  · simp only [Gen.lapNsD_wSize]; omega
  · simp only [Gen.lapNsD_wSize]; omega
  · intro h; subst h; simp only [Gen.lapNsD_vrSize]; simp
  · decide
  · decide

example : Gen.lapNsD_lwork 5 true = 20 ∧ Gen.lapNsD_lwork 5 false = 15 ∧ Gen.lapNsD_vrSize 5 true = 25 := by decide +kernel

/-- `FMatrixHelp::eigenValuesVectors` and `eigenValuesVectorsLapack` instantiate the implementation with the eigenvector
job (so `jobz = 'v'` by `lapack_sym_call`); the flags of `Gen.entryJobs` are those of `eigenValues`, `eigenValuesVectors`,
`eigenValuesLapack`, `eigenValuesVectorsLapack`. -/
theorem entry_points_request_vectors : Gen.entryJobs.2.1 = true ∧ Gen.entryJobs.2.2.2 = true := by decide

example : Gen.entryJobs.1 = false := rfl

/-- the abstract specification the property states for a symmetric 3x3 matrix: ascending values that sum to the trace
and are the whole spectrum with multiplicity, and unit, mutually orthogonal vectors with `(A - λᵢ I) vᵢ = 0` -/
structure IsEigenDecomposition3 (A : M3 ℝ) (l : ℝ × ℝ × ℝ) (v : V3 ℝ × V3 ℝ × V3 ℝ) : Prop where
  ascending : l.1 ≤ l.2.1 ∧ l.2.1 ≤ l.2.2
  trace : l.1 + l.2.1 + l.2.2 = trace3 A
  spectrum : ∀ t : ℝ, charPoly3 A t = (t - l.1) * (t - l.2.1) * (t - l.2.2)
  vectors : EigTriple A l.1 l.2.1 l.2.2 v.1 v.2.1 v.2.2

/-- From the control flow assembled out of the translated tables to the abstract specification: for every real
symmetric 3x3 matrix that the code does not treat as diagonal, `FMatrixHelp::eigenValuesVectors` returns an exact eigen-decomposition (`IsEigenDecomposition3`: ascending, trace,
whole spectrum with multiplicity, orthonormal eigenvectors), and its values are those of `FMatrixHelp::eigenValues`.
(The complementary case is `ev3_vectors_diag`: an approximate decomposition with residual `≤ sqrt(eps)·‖A‖`.) -/
theorem ev3_refines_specification (eps : ℝ) (he : 0 ≤ eps) (A : M3 ℝ) (hs : Sym3 A)
    (hb : diagBranchVec eps (sdiv3 A (maxAbsElement A)) = false) :
    (eigenValuesVectors3dT Real.sqrt Real.arccos Real.cos Real.pi eps A).1 =
        eigenValues3d Real.sqrt Real.arccos Real.cos Real.pi eps A ∧
    IsEigenDecomposition3 A (eigenValuesVectors3dT Real.sqrt Real.arccos Real.cos Real.pi eps A).1
      (eigenValuesVectors3dT Real.sqrt Real.arccos Real.cos Real.pi eps A).2 := by
  have hnd := not_diagBranch_of_vec hb
  have hag := ev3_entry_points_agree Real.sqrt Real.arccos Real.cos Real.pi eps A
  rw [eigenValuesVectors3dT_eq]
  refine ⟨hag, ?_, ?_, ?_, ?_⟩
  · rw [hag]; exact ev3_ascending _ _ _ _ _ A
  · rw [hag]; exact ev3_trace _ _ _ _ _ A
  · rw [hag]; exact ev3_spectrum eps he A hs (Or.inr hnd)
  · exact ev3_vectors eps he A hs hb

/-- the hypotheses of `ev3_refines_specification` are those of `ev3_vectors`, inhabited by the two examples there; an
instance of the spectrum clause: `diag(1,2,3)` with the values `1, 2, 3` at `t = 5` -/
example : charPoly3 (⟨1, 0, 0, 0, 2, 0, 0, 0, 3⟩ : M3 ℝ) 5 = (5 - 1) * (5 - 2) * (5 - 3) := by
  unfold charPoly3 det3 shift3
  norm_num

/-- "Returns the spectrum (all roots of the characteristic polynomial)": for every order
and every square matrix over a commutative ring, what ?geev is handed has the characteristic polynomial of `A` — the
fixed-size routine hands over `Aᵀ` (`Matrix.charpoly_transpose`), the dynamic one `A` itself — and what ?syev works on
is `A` when `A` is symmetric; with the orientation of the copy loops and `uplo` as translated from the current source.
So the roots LAPACK returns (trusted) are the spectrum of `A`, complex pairs included. -/
theorem nonsym_spectrum_handover {R : Type} [CommRing R] (n : Nat) (A : Nat → Nat → R) :
    (toMatN n (lapackSeesNonSymFT n A)).charpoly = (toMatN n A).charpoly ∧
    toMatN n (lapackSeesNonSymDT n A) = toMatN n A ∧
    (SymOn n A → toMatN n (lapackSeesSymT n A) = toMatN n A) := by
  rw [lapackSeesNonSymFT_eq, lapackSeesNonSymDT_eq, lapackSeesSymT_eq]
  exact ⟨charpoly_seesNonSymF n A, toMatN_seesNonSymD n A, toMatN_seesSym n A⟩

/-- a non-symmetric instance: for `A = [[1,2],[0,3]]` LAPACK is handed a different matrix by the fixed-size routine -/
example : lapackSeesNonSymFT 2 (fun i j => if i = 0 ∧ j = 1 then (2 : ℤ) else 0) 1 0 = 2 ∧
    (fun i j => if i = 0 ∧ j = 1 then (2 : ℤ) else 0) 1 0 = 0 := by decide +kernel

end DV.C08
