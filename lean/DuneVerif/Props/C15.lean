/-
C15 — Allocators hand out aligned, disjoint, usable blocks for any request history: the property theorems.

All theorems are about the executable model `DuneVerif/Model/C15.lean` (the definitions the driver runs against the real
allocators) and about the formulas regenerated from the headers in `DuneVerif/Gen/C15.lean` (Pool slot geometry,
request validation of Malloc/AlignedAllocator, page arithmetic of the DebugAllocator).  They hold for every element size
`sz = sizeof(T)`, every alignment `al = alignof(T) > 0` (powers of two are a special case), every pool size `s`, every
request count `n`, every page size and every (valid) allocate/deallocate history; the base addresses the operating
system / `operator new` / `mmap` return are universally quantified.  Sizes are natural numbers: the `int`/`size_t`
range of the C++ constants is an assumption of the reading (`s < 2^31`), except where `wrap` models `size_t` overflow
explicitly.  Lemmas live in `DuneVerif/Proofs/C15*.lean`; the `example`s show that the hypotheses of a theorem are
satisfied by a concrete non-trivial input, or, on a concrete input, that a hypothesis is needed.
-/
import DuneVerif.Proofs.C15Pool
import DuneVerif.Proofs.C15Intr
import DuneVerif.Proofs.C15Raw
import DuneVerif.Proofs.C15Keep

namespace DV.C15
open DV.C15.Gen

/-- every static_assert of `Pool::Pool()` and more, for all sizes, alignments and pool sizes: a chunk holds at least
    one slot, the slots fit into the chunk, a slot can hold a `T` and the free-list pointer, slot size and chunk size
    are multiples of the slot alignment, which is a multiple of `alignof(T)` and of the pointer alignment -/
theorem geometry_sound (sz al s : Nat) (hal : 0 < al) :
    elements sz al s ≥ 1 ∧
    elements sz al s * alignedSize sz al s ≤ chunkSize sz al s ∧
    alignedSize sz al s ≥ sz ∧ alignedSize sz al s ≥ refSize ∧
    alignment sz al s ∣ alignedSize sz al s ∧ alignment sz al s ∣ chunkSize sz al s ∧
    al ∣ alignment sz al s ∧ refAlign ∣ alignment sz al s := by
  refine ⟨?_, ?_, ?_, ?_, roundUp_dvd _ _, roundUp_dvd _ _, Nat.dvd_lcm_left _ _, Nat.dvd_lcm_right _ _⟩
  · rw [elements_eq]; exact Nat.div_pos (alignedSize_le_chunkSize sz s hal) (alignedSize_pos sz s hal)
  · rw [elements_eq]; exact Nat.div_mul_le_self _ _
  · exact Nat.le_trans (Nat.le_max_left _ _) (le_alignedSize sz s hal)
  · exact Nat.le_trans (Nat.le_max_right _ _) (le_alignedSize sz s hal)

-- sizeof 12, alignof 4, pool size 100: slots of 16 bytes aligned to 8, chunk of 104 bytes, 6 slots
example : unionSize 12 4 100 = 12 ∧ size 12 4 100 = 100 ∧ alignment 12 4 100 = 8 ∧ alignedSize 12 4 100 = 16 ∧
    chunkSize 12 4 100 = 104 ∧ elements 12 4 100 = 6 := by decide +kernel
-- a pool too small for one object still holds one: sizeof 24, alignof 16, pool size 1
example : alignedSize 24 16 1 = 32 ∧ chunkSize 24 16 1 = 32 ∧ elements 24 16 1 = 1 := by decide +kernel

/-- the slot size is the least multiple of the alignment that holds the object and the pointer: no space is wasted -/
theorem alignedSize_tight (sz al s : Nat) (hal : 0 < al) :
    alignedSize sz al s < max sz refSize + alignment sz al s := by
  rw [alignedSize_eq, ← unionSize_eq_max sz al s]
  exact roundUp_lt _ (alignment_pos sz s hal)

/-- for power-of-two alignments the slot alignment is the larger of `alignof(T)` and the pointer alignment -/
theorem alignment_pow2_max (sz k s : Nat) : alignment sz (2 ^ k) s = max (2 ^ k) refAlign := by
  unfold alignment
  rw [show refAlign = 2 ^ 3 from rfl]
  rcases Nat.le_total k 3 with h | h
  · rw [Nat.lcm_comm, Nat.lcm_eq_left (Nat.pow_dvd_pow 2 h), Nat.max_eq_right (Nat.pow_le_pow_right (by decide) h)]
  · rw [Nat.lcm_eq_left (Nat.pow_dvd_pow 2 h), Nat.max_eq_left (Nat.pow_le_pow_right (by decide) h)]

example : alignment 3 (2 ^ 0) 7 = 8 ∧ alignment 128 (2 ^ 6) 7 = 64 := by decide +kernel

/-- the geometry of every `Pool<T,s>` satisfies what the state machine needs -/
theorem geoOK_generated (sz al s : Nat) (hal : 0 < al) : GeoOK (geoOf sz al s) :=
  geoOK_of (alignedSize_pos sz s hal) (geometry_sound sz al s hal).1 (geometry_sound sz al s hal).2.1

/-- slots are disjoint, aligned and inside their chunk — for every assignment of base addresses to chunks that
    `operator new` may produce (bases aligned to `A`, chunk byte ranges disjoint) -/
theorem slots_disjoint_aligned (g : Geo) (A : Nat) (base : Nat → Nat)
    (hA : A ∣ g.alignedSize) (hfit : g.elements * g.alignedSize ≤ g.chunkSize)
    (hbase : ∀ c, A ∣ base c)
    (hsep : ∀ c c', c ≠ c' → base c + g.chunkSize ≤ base c' ∨ base c' + g.chunkSize ≤ base c)
    {b b' : Block} (hb : b.2 < g.elements) (hb' : b'.2 < g.elements) (hne : b ≠ b') :
    A ∣ addr g base b ∧ base b.1 ≤ addr g base b ∧ addr g base b + g.alignedSize ≤ base b.1 + g.chunkSize ∧
    (addr g base b + g.alignedSize ≤ addr g base b' ∨ addr g base b' + g.alignedSize ≤ addr g base b) := by
  obtain ⟨h1, h2⟩ := addr_inside hfit base hb
  obtain ⟨h1', h2'⟩ := addr_inside hfit base hb'
  refine ⟨addr_dvd hA (hbase _), h1, h2, ?_⟩
  by_cases hc : b.1 = b'.1
  · -- the same chunk: two of its slots
    unfold addr
    rw [hc]
    exact stride_apart _ _ fun h => hne (Prod.ext hc h)
  · -- different chunks: each slot lies inside its own
    exact (hsep _ _ hc).imp (fun h => Nat.le_trans h2 (Nat.le_trans h h1'))
      (fun h => Nat.le_trans h2' (Nat.le_trans h h1))

/-- the invariant `free list ⊎ live set = all slots of all chunks, each exactly once` holds after every valid history
    (only live blocks are given back), starting from the empty pool -/
theorem pool_invariant {g : Geo} (hg : GeoOK g) (ops : List Op) (hv : Valid g Pool.empty ops) :
    let p := (run g Pool.empty ops).1
    (p.free ++ p.live).Nodup ∧
    (∀ b, b ∈ p.free ++ p.live ↔ (b.1 < p.chunks.length ∧ b.2 < g.elements)) ∧
    p.free.length + p.live.length = p.chunks.length * g.elements := by
  have hi := inv_run hg ops _ (inv_empty _) hv
  exact ⟨hi.nodup, hi.mem, hi.count⟩

/-- in every reachable state `allocate` returns a block that is not live (never a block somebody still owns), that is
    a slot of one of the pool's chunks, and that is live and off the free list afterwards -/
theorem allocate_fresh {g : Geo} (hg : GeoOK g) (ops : List Op) (hv : Valid g Pool.empty ops) :
    let p := (run g Pool.empty ops).1
    let r := allocate g.elements p
    r.1 ∉ p.live ∧ r.1.1 < r.2.chunks.length ∧ r.1.2 < g.elements ∧ r.1 ∈ r.2.live ∧ r.1 ∉ r.2.free :=
  allocate_fresh' hg.el_pos (inv_run hg ops _ (inv_empty _) hv)

/-- reuse only after release: if two allocations of a valid history return the same block, the block was given back
    in between -/
theorem reuse_only_after_free {g : Geo} (hg : GeoOK g) (ops : List Op) (hv : Valid g Pool.empty ops)
    (i j : Nat) (b : Block) (hij : i < j)
    (hi : (run g Pool.empty ops).2[i]? = some (Ev.ret b)) (hj : (run g Pool.empty ops).2[j]? = some (Ev.ret b)) :
    ∃ k, i < k ∧ k < j ∧ (run g Pool.empty ops).2[k]? = some (Ev.freed (.blk b)) :=
  reuse_after_free hg ops _ (inv_empty _) hv i j hij hi hj

/-- in a valid history the only requests that are refused (bad_alloc) are the ones the pool refuses by design:
    `PoolAllocator::allocate(n)` with `n ≠ 1`, allocation while `operator new` fails, `free(nullptr)` and `free` of an
    address outside every chunk.  Every `allocate()`, `allocate(1)` and every release of a live block succeeds. -/
theorem only_bad_requests_refused {g : Geo} (hg : GeoOK g) (ops : List Op) (hv : Valid g Pool.empty ops) (i : Nat)
    (h : (run g Pool.empty ops).2[i]? = some Ev.refused) : ∃ o, ops[i]? = some o ∧ o.isBad = true :=
  refused_only_bad hg ops _ (inv_empty _) hv i h

/-- giving back a live block is never refused -/
theorem valid_free_accepted {g : Geo} (hg : GeoOK g) (ops : List Op) (hv : Valid g Pool.empty ops) (i : Nat) (b : Block)
    (ho : ops[i]? = some (.free (.blk b))) : (run g Pool.empty ops).2[i]? ≠ some Ev.refused := by
  intro h
  obtain ⟨o, h1, h2⟩ := only_bad_requests_refused hg ops hv i h
  obtain rfl := Option.some.inj (ho.symm.trans h1)
  exact Bool.false_ne_true h2

/-- a refused request leaves the pool exactly as it was (in every state, whatever the history) -/
theorem refused_leaves_pool_unchanged (g : Geo) (p : Pool) (o : Op) (h : (step g p o).2 = .refused) :
    (step g p o).1 = p := by
  -- a request either succeeds, with an event other than `refused`, or the step returns the pool it was given
  cases o with
  | alloc => exact nomatch h
  | allocN _ | allocOom | free _ =>
    simp only [step] at h ⊢
    split at h <;> simp_all

/-- memory exhaustion: when `operator new` fails, `allocate` is refused with bad_alloc iff the free list is empty (the
    pool is not touched: `new Chunk` is the first thing `grow()` does); with a free slot it is an ordinary allocation
    that obtains no memory.  When `operator new` succeeds `allocate` never fails. -/
theorem oom_refused_or_served_from_free_list (E : Nat) (p : Pool) :
    (p.free = [] → allocateOS E false p = .error .alloc) ∧
    (p.free ≠ [] → allocateOS E false p = .ok (allocate E p) ∧ (allocate E p).2.chunks = p.chunks) ∧
    allocateOS E true p = .ok (allocate E p) := by
  cases hf : p.free with
  | nil => exact ⟨fun _ => by simp [allocateOS, hf], fun h => absurd rfl h, by simp [allocateOS, hf]⟩
  | cons b rest =>
    exact ⟨(fun h => nomatch h), fun _ => ⟨by simp [allocateOS, hf], by rw [allocate_pop hf]⟩, by simp [allocateOS, hf]⟩

/-- destroying the pool deletes every chunk it ever obtained exactly once, whatever is still live; and a chunk is
    obtained only when no free slot exists -/
theorem destroy_releases_all {g : Geo} (hg : GeoOK g) (ops : List Op) (hv : Valid g Pool.empty ops) :
    (destroy (run g Pool.empty ops).1).Perm (List.range (run g Pool.empty ops).1.chunks.length) ∧
    ∀ p, (allocate g.elements p).2.chunks.length = p.chunks.length + (if p.free = [] then 1 else 0) :=
  ⟨destroy_perm (inv_run hg ops _ (inv_empty _) hv), allocate_chunks _⟩

-- a history over 3-slot chunks that fills a chunk, is refused three times (allocate(2), free(nullptr), out of memory
-- with an empty free list), frees the middle block, reuses it although memory is exhausted, and grows a second chunk
example : Valid ⟨16, 48, 3⟩ Pool.empty
      [.alloc, .allocN 1, .alloc, .allocN 2, .free .null, .allocOom, .free (.blk (0, 1)), .allocOom, .alloc, .free .foreign] ∧
    (run ⟨16, 48, 3⟩ Pool.empty
      [.alloc, .allocN 1, .alloc, .allocN 2, .free .null, .allocOom, .free (.blk (0, 1)), .allocOom, .alloc, .free .foreign]).2 =
      [.ret (0, 0), .ret (0, 1), .ret (0, 2), .refused, .refused, .refused, .freed (.blk (0, 1)), .ret (0, 1), .ret (1, 0),
       .refused] ∧
    destroy (run ⟨16, 48, 3⟩ Pool.empty
      [.alloc, .allocN 1, .alloc, .allocN 2, .free .null, .allocOom, .free (.blk (0, 1)), .allocOom, .alloc, .free .foreign]).1 =
      [1, 0] ∧
    GeoOK ⟨16, 48, 3⟩ := by
  refine ⟨by decide +kernel, by decide +kernel, by decide +kernel, ⟨by decide +kernel, by decide +kernel, by decide +kernel⟩⟩

-- giving back a block twice is NOT a valid history (the second release is of a block that is not live)
example : ¬ Valid ⟨16, 48, 3⟩ Pool.empty [.alloc, .free (.blk (0, 0)), .free (.blk (0, 0))] := by decide +kernel

/-- the pool as the C++ stores it — `head_` plus the `next_` word inside every free slot (`IPool`, a transcription of
    `grow`/`allocate`/`free`) — behaves exactly like the list model in every valid history, whatever the owners write
    into their live blocks in between: it never uses a word it has not written itself (`irun … ≠ none`: no undefined
    behaviour), it refuses the same requests and returns the same blocks, and afterwards `head_` and the `next_` words
    spell the model's free list (`Sim`), with the same chunk list and live set.  Hence every theorem above about `run`
    is a theorem about the intrusive pool, and live blocks are writable over their whole extent without damaging
    the allocator. -/
theorem intrusive_pool_refines {g : Geo} (hg : GeoOK g) (iops : List IOp) (hv : IValid g Pool.empty iops) :
    Valid g Pool.empty (eraseWrites iops) ∧
    ∃ ip, irun g IPool.empty iops = some (ip, (run g Pool.empty (eraseWrites iops)).2) ∧
      Sim ip (run g Pool.empty (eraseWrites iops)).1 :=
  ⟨valid_erase iops _ hv, sim_run hg iops _ _ sim_empty (inv_empty _) hv⟩

-- owners scribble over their blocks (also over the word that was `next_`), one block is released and reused
example : IValid ⟨16, 48, 3⟩ Pool.empty
      [.op .alloc, .write (0, 0) (some (7, 7)), .op .alloc, .op (.free (.blk (0, 0))), .write (0, 1) none, .op .alloc,
       .op .alloc, .op .alloc] ∧
    (irun ⟨16, 48, 3⟩ IPool.empty
      [.op .alloc, .write (0, 0) (some (7, 7)), .op .alloc, .op (.free (.blk (0, 0))), .write (0, 1) none, .op .alloc,
       .op .alloc, .op .alloc]).map (·.2) =
      some [.ret (0, 0), .ret (0, 1), .freed (.blk (0, 0)), .ret (0, 0), .ret (0, 2), .ret (1, 0)] := by
  refine ⟨?_, by decide +kernel⟩
  -- `IValid` has no `Decidable` instance (`Valid` has one): unfold it to the conjunction first
  simp only [IValid, okOp]
  decide +kernel

-- the hypothesis is needed: a write into a block that has been given back (use after free) redirects the free list,
-- and the pool then follows a word it never wrote — undefined behaviour (`none`)
example : irun ⟨16, 48, 3⟩ IPool.empty
    [.op .alloc, .op (.free (.blk (0, 0))), .write (0, 0) (some (9, 9)), .op .alloc, .op .alloc] = none := by decide +kernel

/-- for any geometry the state machine accepts (`pool_live_blocks_disjoint_aligned` below is the case of the generated
    one): after every valid history and for every placement of the chunks, a live block is aligned to every divisor `al`
    of the slot alignment `A`, has room for `sz ≤ alignedSize` bytes inside its chunk, and is disjoint from every other
    live block -/
theorem live_blocks_disjoint_aligned {g : Geo} (hg : GeoOK g) {sz al A : Nat} (hsz : sz ≤ g.alignedSize)
    (hA : A ∣ g.alignedSize) (hal : al ∣ A) (ops : List Op) (hv : Valid g Pool.empty ops) (base : Nat → Nat)
    (hbase : ∀ c, A ∣ base c)
    (hsep : ∀ c c', c ≠ c' → base c + g.chunkSize ≤ base c' ∨ base c' + g.chunkSize ≤ base c) :
    ∀ b ∈ (run g Pool.empty ops).1.live,
      (al ∣ addr g base b ∧ base b.1 ≤ addr g base b ∧ addr g base b + sz ≤ base b.1 + g.chunkSize) ∧
      ∀ b' ∈ (run g Pool.empty ops).1.live, b ≠ b' →
        addr g base b + sz ≤ addr g base b' ∨ addr g base b' + sz ≤ addr g base b := by
  have hi := inv_run hg ops _ (inv_empty _) hv
  intro b hb
  have hslot : ∀ x ∈ (run g Pool.empty ops).1.live, x.2 < g.elements :=
    fun x hx => ((hi.mem x).1 (List.mem_append_right _ hx)).2
  have hin := addr_inside hg.fit base (hslot b hb)
  refine ⟨⟨Nat.dvd_trans hal (addr_dvd hA (hbase _)), hin.1, Nat.le_trans (Nat.add_le_add_left hsz _) hin.2⟩,
    fun b' hb' hne => ?_⟩
  exact (slots_disjoint_aligned g _ base hA hg.fit hbase hsep (hslot b hb) (hslot b' hb') hne).2.2.2.imp
    (Nat.le_trans (Nat.add_le_add_left hsz _)) (Nat.le_trans (Nat.add_le_add_left hsz _))

/-- end to end for the generated geometry of `Pool<T,s>`: after every valid history, for every placement of the chunks
    that `operator new` may choose, every live block is aligned for `T`, lies inside its chunk with room for a `T`,
    and is disjoint from every other live block -/
theorem pool_live_blocks_disjoint_aligned (sz al s : Nat) (hal : 0 < al) (ops : List Op)
    (hv : Valid (geoOf sz al s) Pool.empty ops) (base : Nat → Nat)
    (hbase : ∀ c, alignment sz al s ∣ base c)
    (hsep : ∀ c c', c ≠ c' → base c + (geoOf sz al s).chunkSize ≤ base c' ∨ base c' + (geoOf sz al s).chunkSize ≤ base c) :
    ∀ b ∈ (run (geoOf sz al s) Pool.empty ops).1.live,
      (al ∣ addr (geoOf sz al s) base b ∧ base b.1 ≤ addr (geoOf sz al s) base b ∧
        addr (geoOf sz al s) base b + sz ≤ base b.1 + (geoOf sz al s).chunkSize) ∧
      ∀ b' ∈ (run (geoOf sz al s) Pool.empty ops).1.live, b ≠ b' →
        addr (geoOf sz al s) base b + sz ≤ addr (geoOf sz al s) base b' ∨
        addr (geoOf sz al s) base b' + sz ≤ addr (geoOf sz al s) base b := by
  obtain ⟨_, _, hsz, _, hA, _, hdvd, _⟩ := geometry_sound sz al s hal
  exact live_blocks_disjoint_aligned (geoOK_generated sz al s hal) hsz hA hdvd ops hv base hbase hsep

-- the element type of the first example (sizeof 12, alignof 4, pool size 100): two chunks 104 bytes apart
example : Valid (geoOf 12 4 100) Pool.empty [.alloc, .alloc, .free (.blk (0, 0)), .alloc] ∧
    (run (geoOf 12 4 100) Pool.empty [.alloc, .alloc, .free (.blk (0, 0)), .alloc]).1.live = [(0, 1), (0, 0)] := by
  decide +kernel

-- … and the hypotheses about the placement of the chunks are satisfiable: chunks placed back to back from address 8000
-- (104 = 13·8 bytes each) are aligned to the slot alignment 8 and separated, so the theorem applies to this history
example : ∀ b ∈ (run (geoOf 12 4 100) Pool.empty [.alloc, .alloc, .free (.blk (0, 0)), .alloc]).1.live,
    4 ∣ addr (geoOf 12 4 100) (fun c => 8000 + c * 104) b := by
  intro b hb
  have ha : alignment 12 4 100 = 8 := by decide +kernel
  have hc : (geoOf 12 4 100).chunkSize = 104 := by decide +kernel
  have := pool_live_blocks_disjoint_aligned 12 4 100 (by decide +kernel) [.alloc, .alloc, .free (.blk (0, 0)), .alloc] (by decide +kernel)
    (fun c => 8000 + c * 104) (fun c => by rw [ha]; exact backToBack_dvd (by decide) (by decide) c)
    (fun c c' h => by rw [hc]; exact stride_apart 8000 104 h) b hb
  exact this.1.1

-- `slots_disjoint_aligned` for the same placement: slots 0 and 5 of chunks 0 and 1 (16-byte slots aligned to 8)
example : 8 ∣ addr (geoOf 12 4 100) (fun c => 8000 + c * 104) (0, 5) ∧
    (addr (geoOf 12 4 100) (fun c => 8000 + c * 104) (0, 5) + 16 ≤ addr (geoOf 12 4 100) (fun c => 8000 + c * 104) (1, 0) ∨
     addr (geoOf 12 4 100) (fun c => 8000 + c * 104) (1, 0) + 16 ≤ addr (geoOf 12 4 100) (fun c => 8000 + c * 104) (0, 5)) := by
  have hc : (geoOf 12 4 100).chunkSize = 104 := by decide +kernel
  have hs : (geoOf 12 4 100).alignedSize = 16 := by decide +kernel
  have := slots_disjoint_aligned (geoOf 12 4 100) 8 (fun c => 8000 + c * 104) (by decide +kernel) (by decide +kernel)
    (backToBack_dvd (by decide) (by decide)) (fun c c' h => by rw [hc]; exact stride_apart 8000 104 h)
    (b := (0, 5)) (b' := (1, 0))
    (by decide +kernel) (by decide +kernel) (by decide +kernel)
  rw [hs] at this
  exact ⟨this.1, this.2.2.2⟩

/-- `allocate(n)` with `n ≠ 1` is refused with bad_alloc (a pool block holds one object) and leaves the pool unchanged
    (the model returns no new state); `allocate(1)` is the pool's allocate -/
theorem n_ne_one_refused (E n : Nat) (p : Pool) :
    (n ≠ 1 → paAllocate E n p = .error .alloc) ∧ (n = 1 → paAllocate E n p = .ok (allocate E p)) := by
  constructor
  · intro h; simp [paAllocate, paAccepts, h]
  · intro h; simp [paAllocate, paAccepts, h]

example : paAllocate 3 0 Pool.empty = .error .alloc ∧ paAllocate 3 2 Pool.empty = .error .alloc ∧
    paAllocate 3 (2 ^ 64 - 1) Pool.empty = .error .alloc ∧
    paAllocate 3 1 Pool.empty = .ok ((0, 0), ⟨[0], [(0, 1), (0, 2)], [(0, 0)]⟩) := ⟨rfl, rfl, rfl, rfl⟩

/-- `max_size()` tells the truth: the accepted counts are exactly `1 ≤ n ≤ max_size()` -/
theorem pa_accepts_iff_max_size (n : Nat) : paAccepts n = true ↔ (1 ≤ n ∧ n ≤ paMaxSize) := by
  unfold paAccepts paMaxSize
  rw [decide_eq_true_eq]
  exact ⟨fun h => ⟨Nat.le_of_eq h.symm, Nat.le_of_eq h⟩, fun h => Nat.le_antisymm h.2 h.1⟩

/-- `deallocate(p, 1)` is the pool's `free`, `deallocate(p, 0)` does nothing -/
theorem pa_deallocate (g : Geo) (p : Pool) (q : Ptr) :
    paDeallocate g p q 1 = some (free g p q) ∧ paDeallocate g p q 0 = some (.ok p) := ⟨rfl, rfl⟩

/-- the pool of `PoolAllocator<T,s>` is `Pool<T, s*sizeof(T)>` -/
theorem pa_pool_size (sz s : Nat) : paPoolSize sz s = s * sz := rfl

/-- a request whose byte size does not fit into `size_t` is refused with bad_alloc whatever the C library would do
    (the product `n * sizeof(T)` is never formed) -/
theorem malloc_overflow_refused (sz al n : Nat) (h : sizeMax < n * sz) (os : Nat → Bool) :
    mallocAllocate sz al n os = .error .alloc := by
  rw [mallocAllocate_eq, if_pos (maxSize_lt_of_overflow h)]

/-- the alignment of the blocks `MallocAllocator<T>` obtains is a multiple of `alignof(T)` for every power-of-two
    alignment — also beyond `alignof(max_align_t)` (false for the unrepaired allocator, which always called malloc) -/
theorem malloc_block_aligned (k : Nat) : 2 ^ k ∣ mallocAlignment (2 ^ k) := by
  unfold mallocAlignment mallocOverCond mallocOverAlign maxAlign
  split
  · exact Nat.dvd_refl _
  · rename_i h
    have hk : k ≤ 4 := Nat.le_of_not_gt fun hk =>
      h (decide_eq_true (Nat.lt_of_lt_of_le (by decide : 16 < 2 ^ 5) (Nat.pow_le_pow_right (by decide) hk)))
    exact Nat.pow_dvd_pow 2 hk

/-- a served request got exactly `n * sizeof(T)` bytes (no wrap-around) from a successful call of the C library, made
    with an alignment guarantee `a` (malloc: `alignof(max_align_t)`; over-aligned `T`: `aligned_alloc(alignof(T), …)`)
    that suffices for `T` whenever `alignof(T)` is a power of two -/
theorem malloc_served_exact (sz al n a bytes : Nat) (hsz : 0 < sz) (os : Nat → Bool)
    (h : mallocAllocate sz al n os = .ok (a, bytes)) :
    bytes = n * sz ∧ os bytes = true ∧ n * sz ≤ sizeMax ∧ a = mallocAlignment al ∧
    ∀ k, al = 2 ^ k → ∀ p, a ∣ p → al ∣ p := by
  rw [mallocAllocate_eq] at h
  obtain ⟨rfl, rfl, hos, hle⟩ := served_exact hsz h
  refine ⟨rfl, hos, hle, rfl, ?_⟩
  rintro k rfl p hp
  exact Nat.dvd_trans (malloc_block_aligned k) hp

-- 2^61+1 doubles wrap around to 8 bytes: refused; 3 doubles: 24 bytes from malloc (16-aligned);
-- one 64-byte object aligned to 64: 64 bytes from aligned_alloc(64, 64)
example : sizeMax < (2 ^ 61 + 1) * 8 ∧ mallocAllocate 8 8 (2 ^ 61 + 1) (fun _ => true) = .error .alloc ∧
    mallocAllocate 8 8 3 (fun _ => true) = .ok (16, 24) ∧ mallocAllocate 8 8 3 (fun _ => false) = .error .alloc ∧
    mallocAllocate 64 64 1 (fun _ => true) = .ok (64, 64) ∧ mallocAlignment (2 ^ 5) = 32 ∧ mallocAlignment (2 ^ 2) = 16 :=
  ⟨by decide +kernel, rfl, rfl, rfl, rfl, by decide +kernel, by decide +kernel⟩

/-- `AlignedAllocator<T,A>` refuses such a request in the same way -/
theorem aligned_overflow_refused (sz al A n : Nat) (h : sizeMax < n * sz) (os : Nat → Bool) :
    alignedAllocate sz al A n os = .error .alloc := by
  rw [alignedAllocate_eq, if_pos (maxSize_lt_of_overflow h)]

/-- a served request got exactly `n * sizeof(T)` bytes from `aligned_alloc` called with the promised alignment:
    `alignof(T)` by default (`A = 0` encodes `Alignment = -1`), else `A`; a block aligned to it is aligned for `T`
    whenever `alignof(T)` divides `A` -/
theorem aligned_served_exact (sz al A n a bytes : Nat) (hsz : 0 < sz) (os : Nat → Bool)
    (h : alignedAllocate sz al A n os = .ok (a, bytes)) :
    a = (if A = 0 then al else A) ∧ bytes = n * sz ∧ os bytes = true ∧ n * sz ≤ sizeMax ∧
    ∀ p, a ∣ p → (A = 0 ∨ al ∣ A) → al ∣ p := by
  rw [alignedAllocate_eq] at h
  obtain ⟨rfl, rfl, hos, hle⟩ := served_exact hsz h
  refine ⟨rfl, rfl, hos, hle, fun p hp hA => ?_⟩
  unfold alignedAlignment at hp
  split at hp
  · exact hp
  · exact Nat.dvd_trans (hA.resolve_left ‹_›) hp

example : alignedAllocate 12 4 64 5 (fun _ => true) = .ok (64, 60) ∧
    alignedAllocate 12 4 0 5 (fun _ => true) = .ok (4, 60) ∧
    alignedAllocate 12 4 64 (2 ^ 63) (fun _ => true) = .error .alloc := ⟨rfl, rfl, rfl⟩

/-- requests whose byte size plus the two extra pages is not representable are refused with bad_alloc -/
theorem debug_overflow_refused (sz page n : Nat) (hp2 : 2 * page ≤ sizeMax) (h : sizeMax < n * sz + 2 * page)
    (mmap : Nat → Option Nat) (l : List AInfo) : dbgAllocate sz page n mmap l = .error .alloc := by
  have : dbgMaxCount sz page < n :=
    Nat.div_lt_of_lt_mul (by rw [Nat.mul_comm sz n]; exact (Nat.sub_lt_iff_lt_add hp2).2 h)
  rw [dbgAllocate_eq, if_pos this]

/-- an accepted request: the block has exactly `n*sizeof(T)` bytes, starts inside the first page of its mapping, ends
    exactly where the inaccessible guard page begins, the guard page is the last page of the mapping, and nothing
    wrapped around; the block is recorded at the end of the allocation list -/
theorem debug_block_ends_at_guard (sz page n : Nat) (hsz : 0 < sz) (hp : 0 < page) (hp2 : 2 * page ≤ sizeMax)
    (mmap : Nat → Option Nat) (l l' : List AInfo) (ai : AInfo)
    (h : dbgAllocate sz page n mmap l = .ok (ai, l')) :
    ai.cap = n * sz ∧ ai.pagePtr ≤ ai.ptr ∧ ai.ptr - ai.pagePtr < page ∧
    ai.ptr + ai.cap = ai.pagePtr + dbgGuardOff ai.cap page ∧
    dbgGuardOff ai.cap page + page = dbgMapLen ai.cap page ∧
    mmap (dbgMapLen ai.cap page) = some ai.pagePtr ∧ dbgMapLen ai.cap page = ai.pages * page ∧
    ai.pages * page ≤ sizeMax ∧ l' = l ++ [ai] := by
  obtain ⟨hnw, pp, hmm, rfl, hl⟩ := dbgAllocate_ok hsz hp hp2 h
  exact ⟨rfl, Nat.le_add_right _ _, by rw [Nat.add_sub_cancel_left]; exact dbgPtrOff_lt _ hp,
    by rw [dbgGuardOff_eq _ hp, Nat.add_assoc], by rw [dbgMapLen_eq hnw]; exact dbgGuardOff_add_page _ _, hmm,
    dbgMapLen_eq hnw, hnw, hl⟩

-- 512 doubles = exactly one page (the case the unrepaired code could not deallocate): mapping of 2 pages at 0x10000,
-- block = first page, guard = second page;  100 doubles: block ends at the guard, starts 800 bytes before it
example : dbgAllocate 8 4096 512 (fun len => if len = 8192 then some 0x10000 else none) [] =
      .ok (⟨0x10000, 0x10000, 2, 4096, 512⟩, [⟨0x10000, 0x10000, 2, 4096, 512⟩]) ∧
    dbgGuardOff 4096 4096 = 4096 ∧
    dbgAllocate 8 4096 100 (fun _ => some 0x20000) [] =
      .ok (⟨0x20000, 0x20000 + 4096 - 800, 2, 800, 100⟩, [⟨0x20000, 0x20000 + 4096 - 800, 2, 800, 100⟩]) :=
  ⟨rfl, rfl, rfl⟩

/-- the block is aligned for `T` (when `alignof(T)` divides `sizeof(T)` and the page size, and `mmap` returns
    page-aligned addresses) -/
theorem debug_ptr_aligned (sz page n al : Nat) (hsz : 0 < sz) (hp : 0 < page) (hp2 : 2 * page ≤ sizeMax)
    (mmap : Nat → Option Nat) (l l' : List AInfo) (ai : AInfo)
    (h : dbgAllocate sz page n mmap l = .ok (ai, l')) (h1 : al ∣ sz) (h2 : al ∣ page) (h3 : page ∣ ai.pagePtr) :
    al ∣ ai.ptr := by
  obtain ⟨_, pp, _, rfl, _⟩ := dbgAllocate_ok hsz hp hp2 h
  exact Nat.dvd_add (Nat.dvd_trans h2 h3) (dvd_dbgPtrOff (Nat.dvd_mul_left_of_dvd h1 n) h2)

-- 100 doubles at a page-aligned mapping: 8 ∣ 8, 8 ∣ 4096, 4096 ∣ 0x20000, so the block address is a multiple of 8
example : 8 ∣ 0x20000 + 4096 - 800 :=
  debug_ptr_aligned 8 4096 100 8 (by decide +kernel) (by decide +kernel) (by decide +kernel) (fun _ => some 0x20000) [] _ _ rfl
    (by decide +kernel) (by decide +kernel) (by decide +kernel : 4096 ∣ 0x20000)

/-- `deallocate(ptr, n)` finds the block: in every list satisfying the invariant `DInv` (established for all valid
    histories by `debug_history_never_aborts`), deallocating the pointer of any recorded block with its size — or with
    `n = 0`, which skips the size test — removes exactly that block and reports it for unmapping -/
theorem debug_dealloc_finds_block (page : Nat) (l : List AInfo) (hi : DInv page l) (it : AInfo) (hit : it ∈ l)
    (n : Nat) (hn : n = 0 ∨ n = it.size) :
    dbgDeallocate page l it.ptr n = some (it, l.erase it) := dbgDeallocate_finds hi it hit n hn

/-- for every history in which `mmap` returns page-aligned addresses of mappings not in use and only pointers of live
    blocks are given back (with their size or with 0), the manager never reaches `allocation_error`, `DInv` holds
    afterwards, and the OS calls balance: what was mapped is exactly what was unmapped plus the mappings of the
    blocks still recorded (same start address, same length) -/
theorem debug_history_never_aborts (sz page : Nat) (hsz : 0 < sz) (hp : 0 < page) (hp2 : 2 * page ≤ sizeMax)
    (ops : List DOp) (hv : DValid sz page [] ops) :
    ∃ l evs, dbgRun sz page [] ops = some (l, evs) ∧ DInv page l ∧
      (maps evs).Perm (unmaps evs ++ l.map (AInfo.rng page)) := by
  obtain ⟨st, h1, h2, h3⟩ := dbgRun_ok separates_ne hsz hp hp2 ops [] (dinv_nil _ _) hv
  exact ⟨st.1, st.2, h1, h2, h3⟩

/-- all memory is returned: after any valid history, the unmap calls made so far together with those of the destructor
    `~AllocationManager` are a permutation of the map calls (same addresses, same lengths); in particular, when every
    block has been given back, everything is already unmapped and the destructor finds nothing in use -/
theorem debug_returns_all_memory (sz page : Nat) (hsz : 0 < sz) (hp : 0 < page) (hp2 : 2 * page ≤ sizeMax)
    (ops : List DOp) (hv : DValid sz page [] ops) :
    ∃ l evs, dbgRun sz page [] ops = some (l, evs) ∧
      (maps evs).Perm (unmaps (evs ++ (dbgDestroy page l).1)) ∧
      (l = [] → (maps evs).Perm (unmaps evs) ∧ dbgDestroy page l = ([], true)) := by
  obtain ⟨l, evs, h1, h2, h3⟩ := debug_history_never_aborts sz page hsz hp hp2 ops hv
  refine ⟨l, evs, h1, ?_, ?_⟩
  · rw [unmaps_append, unmaps_dbgDestroy h2.entry]; exact h3
  · intro hl
    subst hl
    exact ⟨by simpa using h3, rfl⟩

/-- live blocks are disjoint and usable: when `mmap` returns address ranges disjoint from the mappings in use, then
    after every valid history any two recorded blocks do not overlap, no block reaches into any guard page (its own or
    another block's), and every block lies inside its own mapping -/
theorem debug_live_blocks_disjoint (sz page : Nat) (hsz : 0 < sz) (hp : 0 < page) (hp2 : 2 * page ≤ sizeMax)
    (ops : List DOp) (hv : DValidD sz page [] ops) :
    ∃ l evs, dbgRun sz page [] ops = some (l, evs) ∧
      l.Pairwise (fun a b =>
        (a.ptr + a.cap ≤ b.ptr ∨ b.ptr + b.cap ≤ a.ptr) ∧
        (a.ptr + a.cap ≤ b.pagePtr + (b.pages - 1) * page ∨ b.pagePtr + b.pages * page ≤ a.ptr) ∧
        (b.ptr + b.cap ≤ a.pagePtr + (a.pages - 1) * page ∨ a.pagePtr + a.pages * page ≤ b.ptr)) ∧
      ∀ it ∈ l, it.pagePtr ≤ it.ptr ∧ it.ptr + it.cap = it.pagePtr + (it.pages - 1) * page ∧ 1 ≤ it.pages := by
  obtain ⟨st, h1, h2, _⟩ := dbgRun_ok (separates_apart hp) hsz hp hp2 ops [] (dinv_nil _ _) hv
  exact ⟨st.1, st.2, h1, pairwise_blocks_apart h2,
    fun it hit => ⟨(h2.entry it hit).ptr_ge, (h2.entry it hit).ends_at_guard, (h2.entry it hit).pages_pos⟩⟩

-- allocate one page, then 100 bytes, give the first (page-multiple) block back with n = 0, then the second with its size:
-- nothing left, two maps and two unmaps of the same ranges
example : dbgRun 1 4096 [] [.alloc 4096 (some 0x10000), .alloc 100 (some 0x30000), .free 0x10000 0,
    .free (0x30000 + 4096 - 100) 100] =
      some ([], [.map 0x10000 8192, .map 0x30000 8192, .unmap 0x10000 8192, .unmap 0x30000 8192]) ∧
    DValidD 1 4096 [] [.alloc 4096 (some 0x10000), .alloc 100 (some 0x30000), .free 0x10000 0,
      .free (0x30000 + 4096 - 100) 100] := by
  refine ⟨by decide +kernel, ?_⟩
  refine dvalid_alloc_ok rfl (by decide +kernel) (by decide +kernel) ?_
  refine dvalid_alloc_ok rfl (by decide +kernel) (by decide +kernel) ?_
  refine dvalid_free rfl (by decide +kernel) rfl (Or.inl rfl) ?_
  exact dvalid_free rfl (by decide +kernel) rfl (Or.inr rfl) trivial

-- the list after the two allocations of this history satisfies `DInv`, and `deallocate` finds its second block
example : DInv 4096 [⟨0x10000, 0x10000, 2, 4096, 4096⟩, ⟨0x30000, 0x30000 + 4096 - 100, 2, 100, 100⟩] ∧
    dbgDeallocate 4096 [⟨0x10000, 0x10000, 2, 4096, 4096⟩, ⟨0x30000, 0x30000 + 4096 - 100, 2, 100, 100⟩]
      (0x30000 + 4096 - 100) 100 = some (⟨0x30000, 0x30000 + 4096 - 100, 2, 100, 100⟩, [⟨0x10000, 0x10000, 2, 4096, 4096⟩]) := by
  refine ⟨⟨fun it hit => ?_, by decide +kernel⟩, by decide +kernel⟩
  simp only [List.mem_cons, List.mem_nil_iff, or_false] at hit
  rcases hit with rfl | rfl <;> exact ⟨by decide +kernel, by decide +kernel, by decide +kernel, by decide +kernel, by decide +kernel⟩

-- deallocating with a wrong size aborts (`none`)
example : dbgRun 1 4096 [] [.alloc 100 (some 0x30000), .free (0x30000 + 4096 - 100) 99] = none := by decide +kernel

/-- for all sizes, alignments and pool sizes: the loop of `Pool::grow` — `for (e = growFirst; e < growEnd; e += growStep)`
    with the three bounds regenerated from the source — visits exactly the byte offsets of the slots `1 … elements-1`
    (slot `i` at `i * alignedSize`), each once and in increasing order: the list `List.range' 1 (elements - 1)` the models
    `igrow`/`growTail` thread onto the free list behind slot 0.  No slot is skipped, none lies beyond the last whole
    slot of the chunk -/
theorem grow_threads_exactly_the_slots (sz al s : Nat) (hal : 0 < al) :
    growLoopOffsets (growFirst sz al s) (growStep sz al s) (growEnd sz al s) =
      (List.range' 1 (elements sz al s - 1)).map (fun i => i * alignedSize sz al s) := by
  unfold growFirst growStep growEnd
  exact growLoop_canonical _ _ (alignedSize_pos sz s hal) (geometry_sound sz al s hal).1

example : growLoopOffsets (growFirst 24 8 100) (growStep 24 8 100) (growEnd 24 8 100) = [24, 48, 72] ∧
    elements 24 8 100 = 4 ∧ growLoopOffsets (growFirst 100 4 1) (growStep 100 4 1) (growEnd 100 4 1) = [] := by decide +kernel

/-- the search of `Pool::free` (without `NDEBUG`) stops at a chunk exactly when the address lies inside the chunk's
    storage `[base, base + chunkSize)` — for all addresses and sizes -/
theorem free_range_test_exact (base b chunkSize : Nat) :
    poolFreeInRange base b chunkSize = true ↔ (base ≤ b ∧ b < base + chunkSize) := by
  unfold poolFreeInRange
  rw [decide_eq_true_eq]   -- `x > b` is `b < x`: what remains is closed by `rfl`

/-- the model's test on block names is this test at the block's address: for a slot `(c, i)` of a chunk placed at
    `base`, the generated condition is `i * alignedSize < chunkSize`, what `inSomeChunk`/`ifree` evaluate; the
    addresses just behind the storage (`fe`) and just in front of it (`fb`) are outside -/
theorem free_range_test_slot (g : Geo) (base i : Nat) :
    poolFreeInRange base (base + i * g.alignedSize) g.chunkSize = decide (i * g.alignedSize < g.chunkSize) ∧
    poolFreeInRange base (base + g.chunkSize) g.chunkSize = false ∧
    (0 < base → poolFreeInRange base (base - 1) g.chunkSize = false) := by
  refine ⟨Bool.eq_iff_iff.2 ?_, Bool.eq_false_iff.2 fun h => ?_, fun hb => Bool.eq_false_iff.2 fun h => ?_⟩
  · rw [free_range_test_exact, decide_eq_true_eq]
    exact ⟨fun h => Nat.lt_of_add_lt_add_left h.2, fun h => ⟨Nat.le_add_right _ _, Nat.add_lt_add_left h _⟩⟩
  · exact Nat.lt_irrefl _ ((free_range_test_exact ..).1 h).2
  · exact Nat.lt_irrefl _ (Nat.lt_of_lt_of_le (Nat.sub_one_lt (Nat.ne_of_gt hb)) ((free_range_test_exact ..).1 h).1)

example : poolFreeInRange 4096 4096 48 = true ∧ poolFreeInRange 4096 4143 48 = true ∧ poolFreeInRange 4096 4144 48 = false ∧
    poolFreeInRange 4096 4095 48 = false := by decide +kernel

/-! DebugAllocator in the compile-time configuration `DEBUG_ALLOCATOR_KEEP`: `deallocate` keeps the entry of a released
block and keeps its mapping (inaccessible); only the destructor gives memory back.  The hypothesis on `mmap` therefore
ranges over **all** recorded entries, released ones included — it is justified exactly because the KEEP branch does not
unmap (`keepUnmaps_eq`, regenerated from the source): a mapping that still exists cannot be handed out again. -/

/-- all valid histories in the KEEP configuration (any number of allocate / release / allocate-again rounds): the
    manager never aborts — every `deallocate` of a block in use finds its own entry although released entries stay in
    the list —, nothing is unmapped before destruction, and the recorded entries are exactly the mappings obtained,
    in order -/
theorem keep_history_never_aborts (sz page : Nat) (hsz : 0 < sz) (hp : 0 < page) (hp2 : 2 * page ≤ sizeMax)
    (ops : List DOp) (hv : KValid sz page [] ops) :
    ∃ l evs, kRun sz page [] ops = some (l, evs) ∧ KInvG page (fun it ai => it.pagePtr ≠ ai.pagePtr) l ∧
      unmaps evs = [] ∧ (infos l).map (AInfo.rng page) = maps evs := by
  obtain ⟨st, h1, h2, h3, h4⟩ := kRun_ok separates_ne hsz hp hp2 ops [] (kinv_nil _ _) hv
  exact ⟨st.1, st.2, h1, h2, h3, h4⟩

/-- destroying the manager returns all memory it obtained, KEEP configuration: the destructor's `munmap` calls are
    exactly the `mmap` calls of the history (same address, same length, same order, each once), whatever was released
    before; and it reports "lost allocations" iff some block is still in use -/
theorem keep_destroy_returns_all_memory (sz page : Nat) (hsz : 0 < sz) (hp : 0 < page) (hp2 : 2 * page ≤ sizeMax)
    (ops : List DOp) (hv : KValid sz page [] ops) :
    ∃ l evs, kRun sz page [] ops = some (l, evs) ∧
      unmaps (evs ++ (kDestroy page l).1) = maps evs ∧
      ((kDestroy page l).2 = true ↔ ∀ it ∈ l, it.notFree = false) := by
  obtain ⟨l, evs, h1, h2, h3, h4⟩ := keep_history_never_aborts sz page hsz hp hp2 ops hv
  refine ⟨l, evs, h1, ?_, ?_⟩
  · rw [unmaps_append, h3, List.nil_append, unmaps_kDestroy h2.entry, h4]
  · simp [kDestroy, List.all_eq_true]

/-- released blocks are not reused while the manager lives, and blocks in use are disjoint (KEEP configuration): when
    `mmap` returns ranges disjoint from the mappings that still exist, any two recorded blocks — released or in use —
    do not overlap and no block reaches into a guard page -/
theorem keep_blocks_never_reused (sz page : Nat) (hsz : 0 < sz) (hp : 0 < page) (hp2 : 2 * page ≤ sizeMax)
    (ops : List DOp) (hv : KValidD sz page [] ops) :
    ∃ l evs, kRun sz page [] ops = some (l, evs) ∧
      (infos l).Pairwise (fun a b =>
        (a.ptr + a.cap ≤ b.ptr ∨ b.ptr + b.cap ≤ a.ptr) ∧
        (a.ptr + a.cap ≤ b.pagePtr + (b.pages - 1) * page ∨ b.pagePtr + b.pages * page ≤ a.ptr) ∧
        (b.ptr + b.cap ≤ a.pagePtr + (a.pages - 1) * page ∨ a.pagePtr + a.pages * page ≤ b.ptr)) := by
  obtain ⟨st, h1, h2, _, _⟩ := kRun_ok (separates_apart hp) hsz hp hp2 ops [] (kinv_nil _ _) hv
  exact ⟨st.1, st.2, h1, pairwise_blocks_apart h2⟩

/-- requests that cannot be served are refused in the KEEP configuration as well (`allocate` is the same code): the
    list is untouched and nothing is mapped -/
theorem keep_overflow_refused (sz page n : Nat) (hp2 : 2 * page ≤ sizeMax) (h : sizeMax < n * sz + 2 * page)
    (mm : Option Nat) (l : List KInfo) :
    kAllocate sz page n (fun _ => mm) l = .error .alloc ∧ kStep sz page l (.alloc n mm) = some (l, []) := by
  have h1 : kAllocate sz page n (fun _ => mm) l = .error .alloc := by
    unfold kAllocate; rw [debug_overflow_refused sz page n hp2 h]
  exact ⟨h1, kStep_alloc_error h1⟩

-- 2^61 + 1 objects of eight bytes: the byte size wraps around to 8
example : kStep 8 4096 [] (.alloc 2305843009213693953 (some 0x10000)) = some ([], []) :=
  (keep_overflow_refused 8 4096 2305843009213693953 (by decide +kernel) (by decide +kernel) (some 0x10000) []).2

/-- why the mapping must be kept together with the entry: if a released entry's range were handed out again (possible
    only once it is unmapped), the stale entry is found first and the legal `deallocate` of the new block aborts -/
theorem keep_stale_entry_aborts (page : Nat) (stale : KInfo) (rest : List KInfo) (ptr n : Nat)
    (hkey : stale.info.pagePtr = dbgLookupKey ptr page) (hfree : stale.notFree = false) :
    kDeallocate page (stale :: rest) ptr n = none := by
  unfold kDeallocate
  rw [if_pos hkey, if_neg]
  intro h
  exact Bool.false_ne_true (hfree ▸ h.2.2 checksNotFree_eq)

-- second use in the KEEP configuration: allocate 7 bytes, release, allocate 7 bytes again (a fresh mapping, since the
-- first still exists), release: no abort, nothing unmapped, the destructor unmaps both mappings and finds nothing in use
example : kRun 1 4096 [] [.alloc 7 (some 0x10000), .free (0x10000 + 4096 - 7) 7, .alloc 7 (some 0x30000),
      .free (0x30000 + 4096 - 7) 0] =
      some ([⟨⟨0x10000, 0x10000 + 4096 - 7, 2, 7, 7⟩, false⟩, ⟨⟨0x30000, 0x30000 + 4096 - 7, 2, 7, 7⟩, false⟩],
        [.map 0x10000 8192, .map 0x30000 8192]) ∧
    kDestroy 4096 [⟨⟨0x10000, 0x10000 + 4096 - 7, 2, 7, 7⟩, false⟩, ⟨⟨0x30000, 0x30000 + 4096 - 7, 2, 7, 7⟩, false⟩] =
      ([.unmap 0x10000 8192, .unmap 0x30000 8192], true) ∧
    KValidD 1 4096 [] [.alloc 7 (some 0x10000), .free (0x10000 + 4096 - 7) 7, .alloc 7 (some 0x30000),
      .free (0x30000 + 4096 - 7) 0] := by
  refine ⟨by decide +kernel, by decide +kernel, ?_⟩
  refine kvalid_alloc_ok rfl (by decide +kernel) (by decide +kernel) ?_
  refine kvalid_free rfl List.mem_cons_self rfl rfl (Or.inr rfl) ?_
  refine kvalid_alloc_ok rfl (by decide +kernel) (by decide +kernel) ?_
  exact kvalid_free rfl (List.mem_cons_of_mem _ List.mem_cons_self) rfl rfl (Or.inl rfl) trivial

-- the same history with `mmap` handing the first range out again (not `KValid`: the first mapping still exists) aborts
-- at the second release: the stale entry is found first
example : kRun 1 4096 [] [.alloc 7 (some 0x10000), .free (0x10000 + 4096 - 7) 7, .alloc 7 (some 0x10000),
      .free (0x10000 + 4096 - 7) 7] = none ∧
    kDeallocate 4096 [⟨⟨0x10000, 0x10000 + 4096 - 7, 2, 7, 7⟩, false⟩, ⟨⟨0x10000, 0x10000 + 4096 - 7, 2, 7, 7⟩, true⟩]
      (0x10000 + 4096 - 7) 7 = none := by
  refine ⟨by decide +kernel, keep_stale_entry_aborts 4096 _ _ _ _ (by decide +kernel) rfl⟩

-- a double free in the KEEP configuration aborts (`none`), a block still in use at destruction is reported
example : kRun 1 4096 [] [.alloc 7 (some 0x10000), .free (0x10000 + 4096 - 7) 7, .free (0x10000 + 4096 - 7) 7] = none ∧
    (kDestroy 4096 [⟨⟨0x10000, 0x10000 + 4096 - 7, 2, 7, 7⟩, true⟩]).2 = false := by decide +kernel

/-- every allocator class has its own member `rebind<U>::other` naming the same template with the same non-type
    parameters (regenerated from the four headers): a container that rebinds `AlignedAllocator<T,A>` gets
    `AlignedAllocator<U,A>` — to which theorem `aligned_served_exact` applies with `sizeof(U)`, the same `A` — and not
    the `MallocAllocator<U>` of the base class; `PoolAllocator<T,s>` rebinds to `PoolAllocator<U,s>`.  The theorems of
    this file hold for every element size, hence for the rebound allocators -/
theorem rebind_stays_in_family :
    mallocRebindInFamily = true ∧ alignedRebindKeepsAlignment = true ∧ debugRebindInFamily = true ∧
    paRebindKeepsPoolSize = true := ⟨rfl, rfl, rfl, rfl⟩

-- the rebound AlignedAllocator<U,64> for a U of 16 bytes asks aligned_alloc for alignment 64 again
example : alignedAllocate 16 8 64 3 osServes = .ok (64, 48) := rfl

/-- `isAligned(p, align)` is divisibility -/
theorem isAligned_iff (p a : Nat) : isAligned p a = true ↔ a ∣ p := by
  unfold isAligned
  rw [beq_iff_eq]
  exact (Nat.dvd_iff_mod_eq_zero ..).symm

example : isAligned 96 32 = true ∧ isAligned 104 32 = false := by decide +kernel

end DV.C15
