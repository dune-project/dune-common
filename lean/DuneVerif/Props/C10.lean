/-
C10 — Dune::bigunsignedint<k> is arithmetic modulo 2^w: the property theorems.

All theorems are about the executable model `DuneVerif/Model/C10*.lean` (the definitions the driver runs against the
real class) and about the constants regenerated from bigunsignedint.hh in `DuneVerif/Gen/C10.lean`.
They hold for every digit count `n` (unbounded) and all well-formed operands `Wf n a` (n uint16 digits,
little-endian); `val a = Σ aᵢ·B^i`, `B = 2^bits`, `W n = B^n = 2^(bits·n)`.
Lemmas live in `DuneVerif/Proofs/C10*.lean`; an `example` under a theorem evaluates the model on a concrete non-trivial
input, as a rule with the theorem's hypotheses for that input among its conjuncts.
-/
import DuneVerif.Proofs.C10Mem
-- No proof below uses a Mathlib tactic (the `Proofs` modules are core Lean).  The import decides how the statements
-- elaborate: with Mathlib in scope `2 ^ n` on `Nat` is `Monoid.npow`, with core alone it is `instPowNat`.  The Mathlib
-- form is the one a goal has that is stated in a module importing Mathlib (as the proofs of C01, C02, C08 and C17 do).
import Mathlib.Tactic.Ring

namespace DV.C10
open DV.C10.Gen

/-- the masks generated from the header are what the digit arithmetic needs: `bitmask` selects exactly one digit,
    `overflowmask` keeps a carry of 0/1 (odd), `compbitmask` keeps the digit above the low `bits` bits, four hex
    characters per digit, and `todouble` keeps digits that fit a 53-bit mantissa with ≥ 32 bits below the leading
    digit -/
theorem constants_ok :
    bitmask = 2 ^ bits - 1 ∧ overflowmask % 2 = 1 ∧ (compbitmask >>> bits) &&& bitmask = bitmask ∧
    hexdigits * 4 = bits ∧ B = 65536 ∧ 0 < representableDigits ∧
    B ^ representableDigits ≤ 2 ^ 53 ∧ 2 ^ 32 ≤ B ^ (representableDigits - 1) :=
  ⟨bitmask_eq, overflowmask_odd, compbitmask_keeps, hexdigits_eq, B_eq, representableDigits_pos,
    representable_fit, representable_margin⟩

/-- the modulus is 2^w with w = bits·n = `numeric_limits::digits` -/
theorem modulus_eq (n : Nat) : W n = 2 ^ (bits * n) := W_eq n

/-- the storage width bits·n is the least multiple of `bits` that holds k bits; n ≥ 1 for k ≥ 1 -/
theorem width_spec (k : Nat) (hk : 0 < k) :
    k ≤ bits * ndigits k ∧ bits * ndigits k < k + bits ∧ 1 ≤ ndigits k :=
  ⟨(ndigits_spec k).1, (ndigits_spec k).2, ndigits_pos hk⟩

example : ndigits 8 = 1 ∧ ndigits 16 = 1 ∧ ndigits 24 = 2 ∧ ndigits 100 = 7 ∧ ndigits 128 = 8 := by decide +kernel

/-- every `singleproduct.digit[i+m]` (i, m < n) written by `operator*=` lies inside the `bigunsignedint<2k>` -/
theorem mul_temp_fits (k : Nat) : 2 * ndigits k - 1 ≤ ndigits (2 * k) := (ndigits_double k).1

theorem val_lt_modulus {n : Nat} {a : List Nat} (ha : Wf n a) : val a < W n := val_lt ha

example : Wf 3 [0xffff, 0xffff, 0xffff] ∧ val [0xffff, 0xffff, 0xffff] = W 3 - 1 := by decide +kernel

theorem val_injective {n : Nat} {a b : List Nat} (ha : Wf n a) (hb : Wf n b) (h : val a = val b) : a = b :=
  val_inj ha hb h

/-- `ofNat n v` (how the driver reads an operand) is the well-formed representation of `v mod W n` -/
theorem ofNat_spec (n v : Nat) : Wf n (ofNat n v) ∧ val (ofNat n v) = v % W n :=
  ofNat_rep n v

example : ofNat 2 0x12345678 = [0x5678, 0x1234] := by decide +kernel

theorem add_wf_val {n : Nat} {a x : List Nat} (ha : Wf n a) (hx : Wf n x) :
    Wf n (add a x) ∧ val (add a x) = (val a + val x) % W n :=
  add_rep ha hx

theorem add_val {n : Nat} {a x : List Nat} (ha : Wf n a) (hx : Wf n x) :
    val (add a x) = (val a + val x) % W n := (add_wf_val ha hx).2

-- a carry running through every digit and out of the top
example : Wf 3 [0xffff, 0xffff, 0xffff] ∧ Wf 3 [1, 0, 0] ∧ add [0xffff, 0xffff, 0xffff] [1, 0, 0] = [0, 0, 0] := by
  decide +kernel

theorem incr_wf_val {n : Nat} {a : List Nat} (ha : Wf n a) :
    Wf n (incr a) ∧ val (incr a) = (val a + 1) % W n :=
  incr_rep ha

theorem incr_val {n : Nat} {a : List Nat} (ha : Wf n a) : val (incr a) = (val a + 1) % W n := (incr_wf_val ha).2

example : Wf 2 [0xffff, 0x7fff] ∧ incr [0xffff, 0x7fff] = [0, 0x8000] := by decide +kernel

theorem sub_wf_val {n : Nat} {a x : List Nat} (ha : Wf n a) (hx : Wf n x) :
    Wf n (sub a x) ∧ val (sub a x) = (val a + W n - val x) % W n :=
  sub_rep ha hx

/-- subtraction modulo W (`val x < W n`, so `val a + W n - val x` is the non-negative representative) -/
theorem sub_val {n : Nat} {a x : List Nat} (ha : Wf n a) (hx : Wf n x) :
    val (sub a x) = (val a + W n - val x) % W n := (sub_wf_val ha hx).2

-- a borrow running through every digit and out of the top: 0 - 1 = W - 1
example : Wf 3 [0, 0, 0] ∧ Wf 3 [1, 0, 0] ∧ sub [0, 0, 0] [1, 0, 0] = [0xffff, 0xffff, 0xffff] := by decide +kernel

/-- `operator*=` for `bigunsignedint<k>`: both operands have `ndigits k` digits; the double-width temporary has
    `ndigits (2k) ≥ ndigits k` digits (`mul_temp_fits`), which is all the truncation needs. -/
theorem mul_wf_val {k : Nat} {a x : List Nat} (ha : Wf (ndigits k) a) (hx : Wf (ndigits k) x) :
    Wf (ndigits k) (mul k a x) ∧ val (mul k a x) = (val a * val x) % W (ndigits k) := mul_rep ha hx

theorem mul_val {k : Nat} {a x : List Nat} (ha : Wf (ndigits k) a) (hx : Wf (ndigits k) x) :
    val (mul k a x) = (val a * val x) % W (ndigits k) := (mul_wf_val ha hx).2

-- (W-1)·(W-1) = 1 mod W, with k = 24 (not a multiple of 16): two digits, three-digit temporary
example : Wf (ndigits 24) [0xffff, 0xffff] ∧ mul 24 [0xffff, 0xffff] [0xffff, 0xffff] = [1, 0] := by decide +kernel

/-- `operator/=` with a non-zero divisor returns the exact quotient; the fuel `val a / val x + 1` of the model's
    repeated-subtraction loop is never exhausted (`divLoop_fuel_irrelevant`). -/
theorem div_val {n : Nat} {a x : List Nat} (ha : Wf n a) (hx : Wf n x) (h : val x ≠ 0) :
    ∃ q, div a x = .ok q ∧ Wf n q ∧ val q = val a / val x :=
  let ⟨q, _, hq, _, hwf, _, hv, _⟩ := divmod_spec ha hx h
  ⟨q, hq, hwf, hv⟩

theorem mod_val {n : Nat} {a x : List Nat} (ha : Wf n a) (hx : Wf n x) (h : val x ≠ 0) :
    ∃ r, mod a x = .ok r ∧ Wf n r ∧ val r = val a % val x :=
  let ⟨_, r, _, hr, _, hwf, _, hv⟩ := divmod_spec ha hx h
  ⟨r, hr, hwf, hv⟩

example : Wf 2 [0x0003, 0x0001] ∧ Wf 2 [0x8000, 0] ∧ val [0x8000, 0] ≠ 0 ∧
    div [0x0003, 0x0001] [0x8000, 0] = .ok [2, 0] ∧ mod [0x0003, 0x0001] [0x8000, 0] = .ok [3, 0] := by decide +kernel

/-- a zero divisor is reported (the model's `mathError` is the code's `DUNE_THROW(MathError)`), never looped on -/
theorem div_zero_reported {n : Nat} {a x : List Nat} (hx : Wf n x) (h : val x = 0) :
    div a x = .mathError := (divmod_zero a hx h).1

theorem mod_zero_reported {n : Nat} {a x : List Nat} (hx : Wf n x) (h : val x = 0) :
    mod a x = .mathError := (divmod_zero a hx h).2

example : Wf 2 [0, 0] ∧ val [0, 0] = 0 ∧ div [5, 0] [0, 0] = .mathError ∧ mod [5, 0] [0, 0] = .mathError := by
  decide +kernel

/-- termination of `while (*this >= x)`: any fuel above the quotient `val a / val x` gives the same result, i.e. the
    loop has left through its exit test after exactly quotient rounds; with remainder `< val x` (from `mod_val`).
    The model's `div`/`mod` pass `val a / val x + 1`. -/
theorem divLoop_fuel_irrelevant {n : Nat} {a x r : List Nat} (ha : Wf n a) (hx : Wf n x) (hr : Wf n r)
    (hpos : 0 < val x) {f1 f2 : Nat} (h1 : val a / val x < f1) (h2 : val a / val x < f2) :
    divLoop f1 a x r = divLoop f2 a x r := by
  -- both runs end in the well-formed pair with the values `divLoop_spec` gives
  obtain ⟨a1, a2, a3, a4⟩ := divLoop_spec hx hpos f1 a r ha hr h1
  obtain ⟨b1, b2, b3, b4⟩ := divLoop_spec hx hpos f2 a r ha hr h2
  exact Prod.ext (val_inj a1 b1 (by rw [a3, b3])) (val_inj a2 b2 (by rw [a4, b4]))

example : Wf 2 [0x0003, 0x0001] ∧ Wf 2 [0x8000, 0] ∧ Wf 2 [0, 0] ∧ 0 < val [0x8000, 0] ∧
    val [0x0003, 0x0001] / val [0x8000, 0] < 3 ∧
    divLoop 3 [0x0003, 0x0001] [0x8000, 0] [0, 0] = ([2, 0], [3, 0]) := by decide +kernel

theorem band_wf_val {n : Nat} {a x : List Nat} (ha : Wf n a) (hx : Wf n x) :
    Wf n (band a x) ∧ val (band a x) = val a &&& val x :=
  band_spec ha hx

theorem bor_wf_val {n : Nat} {a x : List Nat} (ha : Wf n a) (hx : Wf n x) :
    Wf n (bor a x) ∧ val (bor a x) = val a ||| val x :=
  bor_spec ha hx

theorem bxor_wf_val {n : Nat} {a x : List Nat} (ha : Wf n a) (hx : Wf n x) :
    Wf n (bxor a x) ∧ val (bxor a x) = val a ^^^ val x :=
  bxor_spec ha hx

example : Wf 2 [0xff00, 0x0f0f] ∧ Wf 2 [0x0ff0, 0xffff] ∧
    band [0xff00, 0x0f0f] [0x0ff0, 0xffff] = [0x0f00, 0x0f0f] ∧
    bor [0xff00, 0x0f0f] [0x0ff0, 0xffff] = [0xfff0, 0xffff] ∧
    bxor [0xff00, 0x0f0f] [0x0ff0, 0xffff] = [0xf0f0, 0xf0f0] := by decide +kernel

theorem bnot_wf_val {n : Nat} {a : List Nat} (ha : Wf n a) :
    Wf n (bnot a) ∧ val (bnot a) = W n - 1 - val a :=
  bnot_spec ha

example : Wf 2 [0x0001, 0x8000] ∧ bnot [0x0001, 0x8000] = [0xfffe, 0x7fff] := by decide +kernel

theorem shl_wf_val {n : Nat} {a : List Nat} (ha : Wf n a) {s : Nat} (hs : s < bits * n) :
    Wf n (shl a s) ∧ val (shl a s) = (val a * 2 ^ s) % W n := shl_spec ha hs

/-- right shift (the theorem does not even need `s < bits * n`; the code is only specified below the width) -/
theorem shr_wf_val {n : Nat} {a : List Nat} (ha : Wf n a) (s : Nat) :
    Wf n (shr a s) ∧ val (shr a s) = val a / 2 ^ s := shr_spec ha s

-- a shift across a digit boundary with a bit remainder: 17 = 1 digit + 1 bit
example : Wf 3 [0x8001, 0xffff, 0x0001] ∧ 17 < bits * 3 ∧
    shl [0x8001, 0xffff, 0x0001] 17 = [0, 0x0002, 0xffff] ∧
    shr [0x8001, 0xffff, 0x0001] 17 = [0xffff, 0, 0] := by decide +kernel

/- `gt_iff`, `ge_iff`, `eq_iff` are statements about the *generated* definitions `gtDef`, `geDef`, `eqDef` (how the header
   derives `>`, `>=`, `==` from `<=`, `<`, `!=`): `gt a x = evalCmpDef gtDef a x`. -/
theorem lt_iff {n : Nat} {a x : List Nat} (ha : Wf n a) (hx : Wf n x) : lt a x = decide (val a < val x) :=
  lt_val' ha hx
theorem le_iff {n : Nat} {a x : List Nat} (ha : Wf n a) (hx : Wf n x) : le a x = decide (val a ≤ val x) :=
  le_val' ha hx
theorem gt_iff {n : Nat} {a x : List Nat} (ha : Wf n a) (hx : Wf n x) : gt a x = decide (val a > val x) :=
  gt_val' ha hx
theorem ge_iff {n : Nat} {a x : List Nat} (ha : Wf n a) (hx : Wf n x) : ge a x = decide (val a ≥ val x) :=
  ge_val' ha hx
theorem eq_iff {n : Nat} {a x : List Nat} (ha : Wf n a) (hx : Wf n x) : eq a x = decide (val a = val x) :=
  eq_val' ha hx
theorem ne_iff {n : Nat} {a x : List Nat} (ha : Wf n a) (hx : Wf n x) : ne a x = decide (val a ≠ val x) :=
  ne_val' ha hx

-- the low digits order the other way round than the values
example : Wf 2 [0xffff, 0x0001] ∧ Wf 2 [0x0000, 0x0002] ∧
    lt [0xffff, 0x0001] [0x0000, 0x0002] = true ∧ le [0xffff, 0x0001] [0xffff, 0x0001] = true ∧
    gt [0xffff, 0x0001] [0x0000, 0x0002] = false ∧ ge [0x0000, 0x0002] [0xffff, 0x0001] = true ∧
    eq [0xffff, 0x0001] [0xffff, 0x0001] = true ∧ ne [0xffff, 0x0001] [0x0000, 0x0002] = true := by decide +kernel

/-- construction from an unsigned built-in (`uintmax_t`, 64 bits): the value modulo W, for every n
    (n < 4: truncation; n ≥ 4: zero extension) -/
theorem assign_wf_val (n : Nat) {x : Nat} (hx : x < 2 ^ 64) :
    Wf n (assign n x) ∧ val (assign n x) = x % W n :=
  Rep.assign n hx

example : assign 1 0x123456789abcdef0 = [0xdef0] ∧
    assign 5 0x123456789abcdef0 = [0xdef0, 0x9abc, 0x5678, 0x1234, 0] := by decide +kernel

/-- `numeric_limits::min()` and the default constructor are `assign 0`: the value 0 -/
theorem min_val (n : Nat) : Wf n (assign n 0) ∧ val (assign n 0) = 0 := by
  refine ⟨assign_wf' n 0, ?_⟩
  rw [assign_val' n (by omega), Nat.zero_mod]

/-- mixed operations with a built-in integer convert it first (`bigunsignedint<k> temp(y); return x+temp;`), so
    they are the big-integer operation on `y mod W` -/
theorem mixed_add_val {n : Nat} {a : List Nat} (ha : Wf n a) {y : Nat} (hy : y < 2 ^ 64) :
    val (add a (assign n y)) = (val a + y) % W n := ((Rep.of_wf ha).add (Rep.assign n hy)).2

theorem mixed_mul_val {k : Nat} {a : List Nat} (ha : Wf (ndigits k) a) {y : Nat} (hy : y < 2 ^ 64) :
    val (mul k a (assign (ndigits k) y)) = (val a * y) % W (ndigits k) := ((Rep.of_wf ha).mul (Rep.assign _ hy)).2

-- a built-in operand wider than the big integer (k = 8: one digit)
example : Wf (ndigits 8) [0xffff] ∧ add [0xffff] (assign 1 0x10001) = [0] ∧
    mul 8 [0xffff] (assign (ndigits 8) 0x10002) = [0xfffe] := by decide +kernel

/-- construction from a signed built-in: negative values are rejected, non-negative ones are taken modulo W -/
theorem ofSigned_spec (n : Nat) (y : Int) :
    (y < 0 → ofSigned n y = .negative) ∧
    (0 ≤ y → y < 2 ^ 63 → ∃ v, ofSigned n y = .ok v ∧ Wf n v ∧ val v = y.toNat % W n) := by
  refine ⟨fun h => by simp [ofSigned, h], fun h0 h1 => ?_⟩
  have hx : y.toNat < 2 ^ 64 := by omega
  exact ⟨assign n y.toNat, by simp [ofSigned, Int.not_lt.2 h0], Rep.assign n hx⟩

example : ofSigned 2 (-1) = .negative ∧ ofSigned 2 0x12345 = .ok [0x2345, 0x0001] := by decide +kernel

/-- `touint()` is the low 32 bits of the value for every n ≥ 1, including the one-digit case -/
theorem touint_val {n : Nat} {a : List Nat} (ha : Wf n a) (hn : 1 ≤ n) : touint a = val a % 2 ^ 32 :=
  touint_val' ha

example : Wf 1 [0xabcd] ∧ touint [0xabcd] = 0xabcd ∧
    Wf 3 [0x5678, 0x1234, 0xffff] ∧ touint [0x5678, 0x1234, 0xffff] = 0x12345678 := by decide +kernel

/-- `todouble()` (as the exact number `mantissa · 2^exponent` the code computes): never above the value, and the
    relative error is below 2^-32 for every magnitude; exactly 0 for 0. -/
theorem todouble_err {n : Nat} {a : List Nat} (ha : Wf n a) :
    todoubleN a ≤ val a ∧ (val a - todoubleN a) * 2 ^ 32 ≤ val a ∧
    (0 < val a → (val a - todoubleN a) * 2 ^ 32 < val a) := by
  obtain ⟨last, h1, h2⟩ := todoubleN_eq ha.2
  -- the error is the dropped digits, `val a % W last`
  rw [h1, Nat.sub_eq_of_eq_add (Nat.mod_add_div' (val a) (W last)).symm]
  refine ⟨Nat.div_mul_le_self _ _, ?_⟩
  rcases h2 with h | h
  · rw [h, W_zero, Nat.mod_one, Nat.zero_mul]
    exact ⟨Nat.zero_le _, fun h => h⟩
  · have := Nat.lt_of_lt_of_le
      (Nat.mul_lt_mul_of_pos_right (Nat.mod_lt (val a) (W_pos last)) (Nat.two_pow_pos 32)) h
    exact ⟨Nat.le_of_lt this, fun _ => this⟩

/-- the mantissa accumulated by the Horner loop is below 2^53, so every step of the loop and the final `ldexp`
    are exact in IEEE double (for values below 2^1024) -/
theorem todouble_mantissa_exact {n : Nat} {a : List Nat} (ha : Wf n a) :
    (todoubleParts a).1 < 2 ^ 53 ∧ todoubleN a = (todoubleParts a).1 * 2 ^ (todoubleParts a).2 := by
  obtain ⟨h1, h2⟩ := todouble_parts ha.2
  exact ⟨Nat.lt_of_lt_of_le (by rw [h1]; exact h2) representable_fit, rfl⟩

-- a value ≥ 2^64 (the case the unrepaired code got wrong): the three leading digits are kept
example : Wf 6 [0xffff, 0xffff, 0x0001, 0x8000, 0x0001, 0] ∧
    todoubleParts [0xffff, 0xffff, 0x0001, 0x8000, 0x0001, 0] = (0x000180000001, 32) ∧
    todoubleN [0xffff, 0xffff, 0x0001, 0x8000, 0x0001, 0] = 0x0001800000010000_0000 := by decide +kernel

/-- hex printing denotes the value: parsing the printed characters gives `val a` back -/
theorem print_parse {n : Nat} {a : List Nat} (ha : Wf n a) : parseHexChars (print a) = some (val a) := by
  rw [parseHexChars_eq, parseFrom_print a 0 ha.2, Nat.zero_mul, Nat.zero_add]

example : Wf 2 [0x00ab, 0x0c00] ∧ String.ofList (print [0x00ab, 0x0c00]) = "0c0000ab" := by decide +kernel

/-- `numeric_limits::max()` is W - 1 -/
theorem maxVal_wf_val (n : Nat) : Wf n (maxVal n) ∧ val (maxVal n) = W n - 1 :=
  ⟨maxVal_wf n, maxVal_val' n⟩

example : maxVal 2 = [0xffff, 0xffff] := by decide +kernel

/-- hashing is consistent with the represented value: the hash is a function of the digits, and equal values
    (of one width) have equal digits -/
theorem hash_congr {n : Nat} {a b : List Nat} (ha : Wf n a) (hb : Wf n b) (h : val a = val b) :
    hash a = hash b := by
  rw [val_inj ha hb h]

example : Wf 2 (ofNat 2 0x10002) ∧ Wf 2 (add [1, 1] [1, 0]) ∧ val (ofNat 2 0x10002) = val (add [1, 1] [1, 0]) := by
  decide +kernel

/-- `std::numeric_limits<bigunsignedint<k>>` as regenerated from the header: `radix^digits` is the modulus the
    arithmetic theorems are about, `max() = radix^digits - 1`, `min() = 0`, and the type is declared an unsigned,
    exact, bounded, modulo integer -/
theorem limits_spec (k : Nat) :
    limitsRadix ^ limitsDigits k = W (ndigits k) ∧
    val (maxVal (ndigits k)) = limitsRadix ^ limitsDigits k - 1 ∧ val (assign (ndigits k) 0) = 0 ∧
    limitsIsSigned = false ∧ limitsIsInteger = true ∧ limitsIsExact = true ∧ limitsIsBounded = true ∧
    limitsIsModulo = true := by
  have h : limitsRadix ^ limitsDigits k = W (ndigits k) := by
    rw [W_eq]; rfl
  exact ⟨h, by rw [h, maxVal_val'], (min_val _).2, rfl, rfl, rfl, rfl, rfl⟩

example : limitsDigits 24 = 32 ∧ limitsDigits 100 = 112 ∧ limitsDigits 128 = 128 := by decide +kernel

/-- the remaining mixed operators `x - y`, `x / y`, `x % y` with a built-in `y` (converted first, so `y mod W`) -/
theorem mixed_sub_val {n : Nat} {a : List Nat} (ha : Wf n a) {y : Nat} (hy : y < 2 ^ 64) :
    val (sub a (assign n y)) = (val a + W n - y % W n) % W n := by
  rw [sub_val ha (assign_wf' n y), assign_val' n hy]

theorem mixed_div_val {n : Nat} {a : List Nat} (ha : Wf n a) {y : Nat} (hy : y < 2 ^ 64) (h : y % W n ≠ 0) :
    ∃ q, div a (assign n y) = .ok q ∧ Wf n q ∧ val q = val a / (y % W n) := by
  have := div_val ha (assign_wf' n y) (by rw [assign_val' n hy]; exact h)
  rwa [assign_val' n hy] at this

theorem mixed_mod_val {n : Nat} {a : List Nat} (ha : Wf n a) {y : Nat} (hy : y < 2 ^ 64) (h : y % W n ≠ 0) :
    ∃ r, mod a (assign n y) = .ok r ∧ Wf n r ∧ val r = val a % (y % W n) := by
  have := mod_val ha (assign_wf' n y) (by rw [assign_val' n hy]; exact h)
  rwa [assign_val' n hy] at this

/-- a built-in divisor that is a multiple of W is a zero divisor of the `bigunsignedint<k>` operation: reported -/
theorem mixed_div_zero_reported {n : Nat} {a : List Nat} {y : Nat} (hy : y < 2 ^ 64) (h : y % W n = 0) :
    div a (assign n y) = .mathError ∧ mod a (assign n y) = .mathError :=
  divmod_zero a (assign_wf' n y) (by rw [assign_val' n hy]; exact h)

-- k = 16: the built-in 65536 is 0 modulo W and is reported as a zero divisor; 65539 divides as 3
example : Wf 1 [7] ∧ Wf 1 [1] ∧ (65536 : Nat) < 2 ^ 64 ∧ (65536 : Nat) % W 1 = 0 ∧ div [7] (assign 1 65536) = .mathError ∧
    (65539 : Nat) % W 1 ≠ 0 ∧ div [7] (assign 1 65539) = .ok [2] ∧ mod [7] (assign 1 65539) = .ok [1] ∧
    sub [1] (assign 1 65539) = [0xfffe] := by decide +kernel

/-- the mixed operators with the built-in on the left (`y + x`, `y - x`, `y * x`, `y / x`, `y % x`) -/
theorem mixed_rev_val {k : Nat} {x : List Nat} (hx : Wf (ndigits k) x) {y : Nat} (hy : y < 2 ^ 64) :
    val (add (assign (ndigits k) y) x) = (y + val x) % W (ndigits k) ∧
    val (sub (assign (ndigits k) y) x) = (y % W (ndigits k) + W (ndigits k) - val x) % W (ndigits k) ∧
    val (mul k (assign (ndigits k) y) x) = (y * val x) % W (ndigits k) ∧
    (val x ≠ 0 → ∃ q r, div (assign (ndigits k) y) x = .ok q ∧ mod (assign (ndigits k) y) x = .ok r ∧
      val q = y % W (ndigits k) / val x ∧ val r = y % W (ndigits k) % val x) ∧
    (val x = 0 → div (assign (ndigits k) y) x = .mathError ∧ mod (assign (ndigits k) y) x = .mathError) := by
  have hw := assign_wf' (ndigits k) y
  have hv := assign_val' (ndigits k) hy
  refine ⟨?_, ?_, ?_, fun h => ?_, divmod_zero _ hx⟩
  · exact ((Rep.assign _ hy).add (Rep.of_wf hx)).2
  · rw [sub_val hw hx, hv]
  · exact ((Rep.assign _ hy).mul (Rep.of_wf hx)).2
  · obtain ⟨q, r, hq, hr, _, _, hqv, hrv⟩ := divmod_spec hw hx h
    exact ⟨q, r, hq, hr, by rw [hqv, hv], by rw [hrv, hv]⟩

example : Wf (ndigits 24) [3, 1] ∧ sub (assign (ndigits 24) 5) [3, 1] = [2, 0xffff] ∧
    div (assign (ndigits 24) 0x50007) [3, 1] = .ok [4, 0] ∧ mod (assign (ndigits 24) 0x50007) [3, 1] = .ok [0xfffb, 0] := by
  decide +kernel

/-- every constructor overload: a signed built-in type rejects exactly its negative values; every non-negative
    value of every built-in integer type of at most 64 bits (signed or unsigned, `bool`, `char`, …) gives the
    value modulo W -/
theorem construct_spec (n : Nat) (t : IntTy) (y : Int) (hw : t.width ≤ 64) (hy : t.holds y = true) :
    (y < 0 → t.signed = true ∧ construct n t y = .negative) ∧
    (0 ≤ y → ∃ v, construct n t y = .ok v ∧ Wf n v ∧ val v = y.toNat % W n) := by
  obtain ⟨hneg, hpos⟩ := construct_cases n (t := t) (y := y) (by rw [builtinOk, decide_eq_true hw, hy]; rfl)
  exact ⟨hneg, fun h0 => ⟨_, hpos h0⟩⟩

example : IntTy.holds ⟨true, 8⟩ (-128) = true ∧ construct 2 ⟨true, 8⟩ (-128) = .negative ∧
    IntTy.holds ⟨false, 16⟩ 65535 = true ∧ construct 1 ⟨false, 16⟩ 65535 = .ok [0xffff] ∧
    IntTy.holds ⟨true, 32⟩ 0x7fffffff = true ∧ construct 1 ⟨true, 32⟩ 0x7fffffff = .ok [0xffff] ∧
    IntTy.holds ⟨false, 8⟩ (-1) = false := by decide +kernel

/-- the canonical (leading zeros stripped) printed form — what the line protocol compares — still denotes the value,
    and the full form has exactly `hexdigits` characters per digit -/
theorem print_canon_parse {n : Nat} {a : List Nat} (ha : Wf n a) :
    parseHexChars (printCanon a) = some (val a) ∧ (print a).length = hexdigits * n :=
  ⟨by rw [printCanon, parseHexChars_stripZeros, print_parse ha], by rw [print_length, ha.1]⟩

example : Wf 2 [0x00ab, 0] ∧ String.ofList (printCanon [0x00ab, 0]) = "ab" ∧
    String.ofList (printCanon [0, 0]) = "0" := by decide +kernel

/-- `todouble()` is exact (no digit is dropped) for every value below 2^48, whatever the width -/
theorem todouble_exact_small {n : Nat} {a : List Nat} (ha : Wf n a) (h : val a < 2 ^ 48) :
    todoubleN a = val a := by
  obtain ⟨last, h1, h2⟩ := todoubleN_eq ha.2
  rcases Nat.eq_zero_or_pos last with h0 | hpos
  · rw [h1, h0, W_zero, Nat.div_one, Nat.mul_one]
  · -- a digit was dropped: then `val a ≥ B * 2^32 = 2^48`
    have hbig := h2.resolve_left (Nat.ne_of_gt hpos)
    have hB : B ≤ W last := Nat.le_self_pow (Nat.ne_of_gt hpos) B
    exact absurd (Nat.lt_of_le_of_lt (Nat.le_trans (Nat.mul_le_mul_right _ hB) hbig) h) (by decide)

example : Wf 6 [0xffff, 0xffff, 0xffff, 0, 0, 0] ∧ val [0xffff, 0xffff, 0xffff, 0, 0, 0] < 2 ^ 48 ∧
    todoubleN [0xffff, 0xffff, 0xffff, 0, 0, 0] = 2 ^ 48 - 1 := by decide +kernel

/-- the commutative-ring laws, as equalities of the digit lists the operators return (consequences of the value
    theorems and injectivity of `val`) -/
theorem ring_laws {k : Nat} {a b c : List Nat} (ha : Wf (ndigits k) a) (hb : Wf (ndigits k) b)
    (hc : Wf (ndigits k) c) :
    add a b = add b a ∧ add (add a b) c = add a (add b c) ∧
    mul k a b = mul k b a ∧ mul k (mul k a b) c = mul k a (mul k b c) ∧
    mul k a (add b c) = add (mul k a b) (mul k a c) ∧
    sub (add a b) b = a ∧ add (sub a b) b = a ∧
    add a (assign (ndigits k) 0) = a ∧ mul k a (assign (ndigits k) 1) = a := by
  have ra := Rep.of_wf ha
  have rb := Rep.of_wf hb
  have rc := Rep.of_wf hc
  have lb := Nat.le_of_lt (val_lt hb)
  refine ⟨?_, ?_, ?_, ?_, ?_, ?_, ?_, ?_, ?_⟩
  · exact (ra.add rb).ext (rb.add ra) (by rw [Nat.add_comm])
  · exact ((ra.add rb).add rc).ext (ra.add (rb.add rc)) (by rw [Nat.add_assoc])
  · exact (ra.mul rb).ext (rb.mul ra) (by rw [Nat.mul_comm])
  · exact ((ra.mul rb).mul rc).ext (ra.mul (rb.mul rc)) (by rw [Nat.mul_assoc])
  · exact (ra.mul (rb.add rc)).ext ((ra.mul rb).add (ra.mul rc)) (by rw [Nat.mul_add])
  · exact ((ra.add rb).sub rb).ext ra (by rw [← rb.2, Nat.add_assoc, Nat.add_sub_of_le lb, Nat.add_mod_right])
  · exact ((ra.sub rb).add rb).ext ra (by rw [← rb.2, Nat.add_assoc, Nat.sub_add_cancel lb, Nat.add_mod_right])
  · exact (ra.add (Rep.assign _ (by omega))).ext ra (by rw [Nat.add_zero])
  · exact (ra.mul (Rep.assign _ (by omega))).ext ra (by rw [Nat.mul_one])

example : Wf (ndigits 32) [0xffff, 0x8000] ∧ Wf (ndigits 32) [0x0002, 0xffff] ∧ Wf (ndigits 32) [0xfffe, 0x7fff] ∧
    mul 32 [0xffff, 0x8000] (add [0x0002, 0xffff] [0xfffe, 0x7fff]) =
      add (mul 32 [0xffff, 0x8000] [0x0002, 0xffff]) (mul 32 [0xffff, 0x8000] [0xfffe, 0x7fff]) := by decide +kernel

/-- ALL HISTORIES.  For every width `k`, every pair of well-formed start values and every program `p` of compound
    statements on the two variables (`d op= s` with `d`, `s` possibly the same variable; mixed `d = d op y`; `++d`;
    `d = ~d`; shifts; copies), running the digit-loop model gives, statement by statement, exactly the
    observations (new value of the destination, or the reported zero divisor) and the final state of the machine
    that computes with plain natural numbers modulo `2^(bits·n)`; both reject exactly the same (protocol-invalid)
    programs; and the variables stay well-formed. -/
theorem prog_refines {k : Nat} (p : List POp) (r : Regs) (hr : WfRegs (ndigits k) r) :
    (run k r p).map (fun q => (q.1.map Res.abs, q.2.abs)) = specRun (ndigits k) r.abs p ∧
    ∀ os r', run k r p = some (os, r') → WfRegs (ndigits k) r' := by
  induction p generalizing r with
  | nil => exact ⟨rfl, fun _ _ h => by cases h; exact hr⟩
  | cons op ops ih =>
    obtain ⟨h1, h2⟩ := step_refines hr op
    -- the specification step is the image of the model step (`h1`), so both runs branch on `step k r op`
    rw [run, specRun, ← h1]
    cases hs : step k r op with
    | none => exact ⟨rfl, fun _ _ h => nomatch h⟩
    | some q =>
      obtain ⟨i1, i2⟩ := ih q.1 (h2 q.1 q.2 hs)
      simp only [Option.map_some, ← i1]
      cases hq : run k q.1 ops with
      | none => exact ⟨rfl, fun _ _ h => nomatch h⟩
      | some q' => exact ⟨rfl, fun _ _ h => by cases h; exact i2 _ _ hq⟩

-- a += a; a /= a; b -= a; b %= b (b = 0: reported, b unchanged); a = a << 17; b = b + 65535; a /= b with k = 40 (three digits)
example : WfRegs (ndigits 40) ⟨[0xffff, 0x7fff, 0x0001], [0, 0, 0]⟩ ∧
    run 40 ⟨[0xffff, 0x7fff, 0x0001], [0, 0, 0]⟩
      [.bin .add .a .a, .bin .div .a .a, .bin .sub .b .a, .bin .mod .b .b, .bin .bxor .b .b, .bin .mod .b .b,
       .shl .a 17, .binU .add .b 0xffff, .bin .div .a .b] =
    some ([.ok [0xfffe, 0xffff, 0x0002], .ok [1, 0, 0], .ok [0xffff, 0xffff, 0xffff], .ok [0, 0, 0], .ok [0, 0, 0],
           .mathError, .ok [0, 2, 0], .ok [0xffff, 0, 0], .ok [2, 0, 0]],
          ⟨[2, 0, 0], [0xffff, 0, 0]⟩) := by decide +kernel

/-- self-aliasing compound division (the case the unrepaired code never returned from): `a /= a` is 1 and
    `a %= a` is 0 for every non-zero `a`; for `a = 0` the zero divisor is reported -/
theorem div_mod_self {n : Nat} {a : List Nat} (ha : Wf n a) :
    (val a ≠ 0 → ∃ q r, div a a = .ok q ∧ mod a a = .ok r ∧ val q = 1 ∧ val r = 0) ∧
    (val a = 0 → div a a = .mathError ∧ mod a a = .mathError) := by
  refine ⟨fun h => ?_, divmod_zero a ha⟩
  obtain ⟨q, r, hq, hr, _, _, hqv, hrv⟩ := divmod_spec ha ha h
  exact ⟨q, r, hq, hr, by rw [hqv, Nat.div_self (Nat.pos_of_ne_zero h)], by rw [hrv, Nat.mod_self]⟩

example : Wf 2 [7, 0] ∧ val [7, 0] ≠ 0 ∧ div [7, 0] [7, 0] = .ok [1, 0] ∧ mod [7, 0] [7, 0] = .ok [0, 0] := by
  decide +kernel

/-- the twenty free mixed operators (`big OP uintmax_t`, `uintmax_t OP big`, and the same for every signed built-in
    type), as parsed from their bodies (`mixedOk`): for each of `+ - * / %`, each side and each signedness the body applies
    that very operator to the operands in the order of the call (after converting the built-in operand) — for the
    commutative `+` and `*` the mirrored order is admitted too, so that an overload may forward to its mirror image —
    and there is no mixed overload of a bitwise operator -/
theorem mixed_table_spec (s bl : Bool) (o : BinOp) : mixedOk s bl o = true := mixedOk_all s bl o

example : mixedBody true false .sub = some ⟨.sub, false⟩ ∧ mixedBody false true .band = none ∧
    mixedOk true false .sub = true := by decide +kernel

/-- every binary operator of the class (`+ - * / % & ^ |`) is defined by `DUNE_BINOP` as copy-then-compound-operator,
    so the statement forms `d op= s` of the histories cover the binary operators too -/
theorem binop_list_spec (o : BinOp) : o ∈ binopViaCompound := by
  cases o <;> simp [binopViaCompound]

/-- the remaining `numeric_limits` members describe an integer type: specialised, all four exponents 0, no infinity,
    NaN, denormal loss, IEC 559 arithmetic, traps or tinyness detection -/
theorem limits_rest_spec :
    limitsIsSpecialized = true ∧ limitsExponents = [0, 0, 0, 0] ∧ limitsHasInfinity = false ∧
    limitsHasQuietNaN = false ∧ limitsHasSignalingNaN = false ∧ limitsHasDenormLoss = false ∧
    limitsIsIec559 = false ∧ limitsTraps = false ∧ limitsTinynessBefore = false := by decide

/-- a negative built-in operand is rejected wherever it meets a bigunsignedint — in all ten signed mixed operators,
    in the eight compound operators and in the six comparisons — and the variables are left untouched -/
theorem negative_builtin_rejected (k : Nat) (r : Regs) (t : IntTy) (y : Int) (hb : builtinOk t y = true)
    (hneg : y < 0) (o : BinOp) (d : Reg) (bl : Bool) (c : Cmp) :
    t.signed = true ∧
    (isArith o = true → step4 k r (.mixed o d t y bl) = some (r, .negative)) ∧
    step4 k r (.compound o d t y) = some (r, .negative) ∧
    step4 k r (.cmpB c d t y) = some (r, .negative) := by
  obtain ⟨hs, hc⟩ := (construct_cases (ndigits k) hb).1 hneg
  refine ⟨hs, fun ha => ?_, ?_, ?_⟩
  · rcases mixedBody_cases t.signed bl o with ⟨ha', _⟩ | ⟨_, b, hm, _⟩
    · rw [ha] at ha'; cases ha'
    · simp [step4, Stmt.valid, hb, hm, hc]
  · simp [step4, Stmt.valid, hb, hc]
  · simp [step4, Stmt.valid, hb, hc]

example : builtinOk ⟨true, 8⟩ (-128) = true ∧ isArith .mod = true ∧
    step4 24 ⟨[1, 2], [3, 4]⟩ (.mixed .mod .a ⟨true, 8⟩ (-128) false) = some (⟨[1, 2], [3, 4]⟩, .negative) := by decide +kernel

/-- ALL HISTORIES with built-in operands and observations.  For every width `k`, every pair of well-formed start values
    and every program of statements — the statements of `prog_refines`, `d = d OP y` / `d = y OP d` through the
    regenerated table of the mixed operators with a built-in `y` of any integral type of at most 64 bits, `d OP= y`
    through the implicit constructor, the six comparisons between variables (or a variable and itself) and with a
    built-in, `touint()` —
    the digit-loop model produces, statement by statement, exactly the observations (value, zero divisor reported,
    negative operand rejected, boolean, number) and the final state of the machine computing with natural numbers
    modulo `2^(bits·n)`; both reject the same protocol-invalid programs; the variables stay well-formed. -/
theorem hist_refines {k : Nat} (p : List Stmt) (r : Regs) (hr : WfRegs (ndigits k) r) :
    (run4 k r p).map (fun q => (q.1.map Obs.abs, q.2.abs)) = specRun4 (ndigits k) r.abs p ∧
    ∀ os r', run4 k r p = some (os, r') → WfRegs (ndigits k) r' := by
  induction p generalizing r with
  | nil => exact ⟨rfl, fun _ _ h => by cases h; exact hr⟩
  | cons st sts ih =>
    obtain ⟨h1, h2⟩ := step4_refines hr st
    rw [run4, specRun4, ← h1]
    cases hs : step4 k r st with
    | none => exact ⟨rfl, fun _ _ h => nomatch h⟩
    | some q =>
      obtain ⟨i1, i2⟩ := ih q.1 (h2 q.1 q.2 hs)
      simp only [Option.map_some, ← i1]
      cases hq : run4 k q.1 sts with
      | none => exact ⟨rfl, fun _ _ h => nomatch h⟩
      | some q' => exact ⟨rfl, fun _ _ h => by cases h; exact i2 _ _ hq⟩

-- b = 0x3000 - b; a = a + (signed char)(-1) (rejected); a &= 0xff00; a > b; b == 0x2ffbll; a < (short)(-5) (rejected);
-- a.touint(); a /= b   with k = 40 (three digits); it elaborates at the default `maxRecDepth` as well
set_option maxRecDepth 2000 in
example : WfRegs (ndigits 40) ⟨[0xffff, 0x7fff, 1], [5, 0, 0]⟩ ∧
    run4 40 ⟨[0xffff, 0x7fff, 1], [5, 0, 0]⟩
      [.mixed .sub .b ⟨true, 32⟩ 0x3000 false, .mixed .add .a ⟨true, 8⟩ (-1) true, .compound .band .a ⟨false, 16⟩ 0xff00,
       .cmp .gt .a .b, .cmpB .eq .b ⟨true, 64⟩ 0x2ffb, .cmpB .lt .a ⟨true, 16⟩ (-5), .touint .a,
       .old (.bin .div .a .b)] =
    some ([.val [0x2ffb, 0, 0], .negative, .val [0xff00, 0, 0], .bool true, .bool true, .negative, .num 0xff00,
           .val [5, 0, 0]], ⟨[5, 0, 0], [0x2ffb, 0, 0]⟩) := by decide +kernel

/-- the six comparisons inside histories: whatever the history did before, `x CMP y` (also `x CMP x`) decides the
    order of the values -/
theorem cmp_spec {n : Nat} {a x : List Nat} (ha : Wf n a) (hx : Wf n x) (c : Cmp) :
    cmpEval c a x = cmpSpec c (val a) (val x) := cmpEval_spec ha hx c

example : Wf 2 [0xffff, 1] ∧ cmpEval .ge [0xffff, 1] [0xffff, 1] = true ∧ cmpEval .gt [0xffff, 1] [0xffff, 1] = false := by
  decide +kernel

/-- `MPITraits<bigunsignedint<k>>` (dune/common/parallel/mpitraits.hh, regenerated): the MPI datatype is one block, placed
    at the member `digit`, of `n` contiguous elements whose width is the digit width — it transports exactly the
    `numeric_limits::digits` bits of the value, for every k -/
theorem mpi_type_spec (k : Nat) :
    mpiBlocks * mpiCount k * mpiElemBits = limitsDigits k ∧ mpiElemBits = bits ∧ mpiCount k = ndigits k := by
  refine ⟨?_, rfl, rfl⟩
  simp only [mpiBlocks, mpiCount, mpiElemBits, limitsDigits, bits]
  omega

example : mpiCount 100 = 7 ∧ mpiBlocks * mpiCount 100 * mpiElemBits = 112 := by decide +kernel

/-- ALIASING.  The compound operators executed on the indexed store of the destination (`Model/C10Mem.lean`: explicit
    reads `digit[i]`, `x.digit[i]` and writes `digit[i] = …` per round; with `ali = true` the operand `x` is the very
    same store, read at the time of each access, as in `a += a`, `a -= a`, `a &= a`) return exactly what the value-level
    operators return on the two values — for every operator, every width and all operands.  The content is in the loops
    of `+= -= &= |= ^=` (`memLoop_inv`); for `*=` (writes back after its loops) and `/=`, `%=` (copy the divisor first)
    `applyBinMem` is the value-level operator by definition, a modelling statement.
    Together with `applyBin`'s value theorems: `a op= a` is `val a op val a` modulo W. -/
theorem alias_refines (k : Nat) (o : BinOp) (ali : Bool) {n : Nat} {a x : List Nat} (ha : Wf n a) (hx : Wf n x) :
    applyBinMem k o ali a x = applyBin k o a (if ali then a else x) :=
  applyBinMem_eq k o ali (by rw [hx.1, ha.1])

example : Wf 2 [0xffff, 0x8000] ∧ applyBinMem 32 .add true [0xffff, 0x8000] [] = .ok [0xfffe, 1] ∧
    applyBinMem 32 .sub true [0xffff, 0x8000] [] = .ok [0, 0] ∧
    applyBinMem 32 .sub false [0, 0] [1, 0] = .ok [0xffff, 0xffff] := by decide +kernel

/-- whole histories run with `d op= s` on the store (what the driver executes) are the histories of `hist_refines` -/
theorem hist_mem_refines {k : Nat} (p : List Stmt) (r : Regs) (hr : WfRegs (ndigits k) r) :
    runMem k r p = run4 k r p ∧
    (runMem k r p).map (fun q => (q.1.map Obs.abs, q.2.abs)) = specRun4 (ndigits k) r.abs p := by
  have h := runMem_eq (k := k) p r hr
  exact ⟨h, by rw [h]; exact (hist_refines p r hr).1⟩

example : WfRegs (ndigits 32) ⟨[0xffff, 0x8000], [1, 0]⟩ ∧
    runMem 32 ⟨[0xffff, 0x8000], [1, 0]⟩ [.old (.bin .add .a .a), .old (.bin .sub .b .a), .old (.bin .bxor .a .a)] =
    some ([.val [0xfffe, 1], .val [3, 0xfffe], .val [0, 0]], ⟨[0, 0], [3, 0xfffe]⟩) := by decide +kernel

end DV.C10
