import DuneVerif.Proofs.C06Sched
import DuneVerif.Proofs.C06System
import DuneVerif.Proofs.C06Rank
import DuneVerif.Proofs.C06Fix
import DuneVerif.Proofs.C06Life
import DuneVerif.Proofs.C06Quiet
import DuneVerif.Proofs.C06Tie
/-!
# C06 — VariableSizeCommunicator delivers every item intact for any sizes / buffer size, and returns

All statements are about the executable model `DuneVerif/Model/C06.lean` (the code *with*
fixes/C06_zero_sizes_hang.patch, `repaired = true`) and hold for **all** index lists (repeated indices allowed), **all**
data handles `h` (what `gather(i)` writes is `h.data i`, `size(i) = (h.data i).length`, zero allowed), **all** buffer
sizes `B` that can hold the largest single index, fixed-size (`f ≥ 1`) and variable-size (`f = 0`) handles.  One
directed neighbour relation p → q is considered: `sendIdx` is p's list for q, `recvIdx` q's list for p; `forward` uses
(first list of p, second list of q), `backward` (second list of p, first list of q) — the statements do not depend on
which, hence hold for both directions (see `delivery_both_directions`).

`Fits h B f is` (Proofs/C06Send) is the precondition of the property:
  `f = 0 ∧ ∀ i ∈ is, h.size i ≤ B`   (variable size: every index fits into the buffer)   or
  `f ≠ 0 ∧ f ≤ B ∧ ∀ i ∈ is, h.size i = f`   (fixed size f ≥ 1 that fits).
-/
namespace DV.C06
variable {α : Type}

/-- the scatter calls the property demands: for every k the call `scatter(recvIdx[k], count, items)` with exactly the
    items gathered for `sendIdx[k]`, in order; an index without items gets no call (the canonical form of the
    harness also ignores `scatter(…, 0)` calls) -/
def expectedCalls (h : Handle α) (sendIdx recvIdx : List Nat) : List (Call α) :=
  (recvIdx.zip sendIdx).filterMap fun ji => if h.size ji.2 = 0 then none else some ⟨ji.1, h.size ji.2, h.data ji.2⟩

theorem callsOf_eq_expected (h : Handle α) (sendIdx recvIdx : List Nat) :
    callsOf h sendIdx recvIdx = expectedCalls h sendIdx recvIdx :=
  callsOf_eq_filterMap h sendIdx recvIdx

/-- the send tracker `setupInterfaceTrackers` creates, and all messages it produces -/
abbrev senderRun (h : Handle α) (B f q : Nat) (sendIdx : List Nat) : SendRun α :=
  sendAll h (sendIdx.length + 1) true (Tracker.mk' q sendIdx f) (MessageBuffer.new B)

theorem senderRun_spec (h : Handle α) (B f q : Nat) (sendIdx : List Nat) (hf : Fits h B f sendIdx) :
    (senderRun h B f q sendIdx).messages = msgsOf h B f (sendIdx.length + 1) sendIdx ∧
    (senderRun h B f q sendIdx).tracker.finished = true ∧ (senderRun h B f q sendIdx).stuck = false := by
  rw [senderRun, mk'_send]
  exact sendAll_sendT h B f (sendIdx.length + 1) sendIdx 0 q (MessageBuffer.new B) true (Nat.le_refl _) rfl hf (Or.inl rfl)

/-- **pack_rounds_concat.**  The messages of all rounds joined are exactly all items of all send indices in order
    (nothing lost, duplicated, reordered); every message is non-empty and holds at most `B` items; the sender visits
    all indices and never gets stuck. -/
theorem pack_rounds_concat (h : Handle α) (B f q : Nat) (sendIdx : List Nat) (hf : Fits h B f sendIdx) :
    (senderRun h B f q sendIdx).messages.flatten = sendIdx.flatMap h.data ∧
    (∀ m ∈ (senderRun h B f q sendIdx).messages, m ≠ [] ∧ m.length ≤ B) ∧
    (senderRun h B f q sendIdx).tracker.finished = true ∧
    (senderRun h B f q sendIdx).stuck = false := by
  obtain ⟨hm, hfin, hst⟩ := senderRun_spec h B f q sendIdx hf
  rw [hm]
  exact ⟨msgsOf_flatten h B f _ sendIdx (Nat.le_refl _) hf, msgsOf_mem h B f _ sendIdx hf, hfin, hst⟩

example : Fits (⟨false, fun i => List.replicate (i % 3) i⟩ : Handle Nat) 2 0 [0, 1, 2, 5, 3] :=
  Or.inl ⟨rfl, by decide⟩
example : (senderRun (⟨false, fun i => List.replicate (i % 3) i⟩ : Handle Nat) 2 0 7 [0, 1, 2, 5, 3]).messages
    = [[1], [2, 2], [5, 5]] := by decide +kernel

/-- **rounds_whole_indices.**  An index is never split: the index list is cut into consecutive blocks (non-empty if the
    list is), and the messages are the data of whole blocks — only a block without any item produces no message. -/
theorem rounds_whole_indices (h : Handle α) (B f q : Nat) (sendIdx : List Nat) (hf : Fits h B f sendIdx) :
    ∃ blocks : List (List Nat), blocks.flatten = sendIdx ∧ (sendIdx ≠ [] → ∀ a ∈ blocks, a ≠ []) ∧
      (∀ a ∈ blocks, (a.flatMap h.data).length ≤ B) ∧
      (senderRun h B f q sendIdx).messages = (blocks.map fun a => a.flatMap h.data).filter fun m => !m.isEmpty :=
  have hb := blocks_mem h B f (sendIdx.length + 1) sendIdx hf
  ⟨_, blocks_flatten h B f _ sendIdx (Nat.le_refl _) hf, fun hne a ha => (hb a ha).2 hne, fun a ha => (hb a ha).1,
    (senderRun_spec h B f q sendIdx hf).1⟩

/-- **unpack_matches_pack** (variable-size handle).  After the size pre-exchange the receiver partitions the stream of
    messages exactly as the sender packed it: the scatter calls are, in order, `(recvIdx[k], size, items of sendIdx[k])`
    for every k with a non-empty item list, with the right count; zero-size indices are skipped consistently on both
    sides; and the whole exchange returns (all sends and receives complete, all trackers finished). -/
theorem unpack_matches_pack (h : Handle α) (B : Nat) (hB : 0 < B) (sendIdx recvIdx : List Nat)
    (hl : recvIdx.length = sendIdx.length) (hfit : ∀ i ∈ sendIdx, h.size i ≤ B) :
    (communicatePairVar true B h sendIdx recvIdx).calls = expectedCalls h sendIdx recvIdx ∧
    (communicatePairVar true B h sendIdx recvIdx).returns = true := by
  obtain ⟨h1, h2, _, _⟩ := communicatePairVar_spec h B hB sendIdx recvIdx hl hfit
  exact ⟨by rw [h1, callsOf_eq_expected], h2⟩

example : (communicatePairVar true 2 (⟨false, fun i => List.replicate (i % 3) i⟩ : Handle Nat) [0, 1, 2, 5, 3] [9, 8, 7, 7, 6]).calls
    = [⟨8, 1, [1]⟩, ⟨7, 2, [2, 2]⟩, ⟨7, 2, [5, 5]⟩] := by decide +kernel

/-- **unpack_matches_pack_fixed** (fixed-size handle with `f ≥ 1` items per index; `f` reaches the receiver through
    the scalar exchange of `sendFixedSize`). -/
theorem unpack_matches_pack_fixed (h : Handle α) (B f : Nat) (sendIdx recvIdx : List Nat)
    (hl : recvIdx.length = sendIdx.length) (hf0 : f ≠ 0) (hfB : f ≤ B) (hsz : ∀ i ∈ sendIdx, h.size i = f) :
    (communicatePairFixed true B h f sendIdx recvIdx).calls = expectedCalls h sendIdx recvIdx ∧
    (communicatePairFixed true B h f sendIdx recvIdx).returns = true := by
  obtain ⟨h1, h2, _⟩ := communicatePairFixed_spec h B f sendIdx recvIdx hl hf0 hfB hsz
  exact ⟨by rw [h1, callsOf_eq_expected], h2⟩

example : (communicatePairFixed true 5 (⟨true, fun i => [i, i + 100]⟩ : Handle Nat) 2 [3, 3, 4] [0, 1, 0]).calls
    = [⟨0, 2, [3, 103]⟩, ⟨1, 2, [3, 103]⟩, ⟨0, 2, [4, 104]⟩] := by decide +kernel

/-- **size_exchange_roundtrip.**  `communicateSizes` (rounds of `B` sizes per message, for every `B ≥ 1`) leaves in the
    receiver's size array exactly the sender's `size(i)` of every send index, in order, and completes; the number of
    receives posted equals the number of size messages. -/
theorem size_exchange_roundtrip (h : Handle α) (B : Nat) (hB : 0 < B) (sendIdx recvIdx : List Nat)
    (hl : recvIdx.length = sendIdx.length) :
    (exchangeSizes true B h sendIdx recvIdx).2.acc = sendIdx.map h.size ∧
    (exchangeSizes true B h sendIdx recvIdx).2.ok = true ∧
    (exchangeSizes true B h sendIdx recvIdx).1.stuck = false ∧
    (exchangeSizes true B h sendIdx recvIdx).2.posted = (exchangeSizes true B h sendIdx recvIdx).1.messages.length := by
  obtain ⟨h1, h2, h3, _, h5⟩ := exchangeSizes_spec h B hB sendIdx recvIdx hl
  exact ⟨h1, h2, h3, h5⟩

example : (exchangeSizes true 2 (⟨false, fun i => List.replicate i 0⟩ : Handle Nat) [4, 0, 1, 3, 0] [1, 1, 1, 1, 1]).2.acc
    = [4, 0, 1, 3, 0] := by decide +kernel

/-- **size_exchange_roundtrip_fixed** (fixed-size handles).  Whatever value `own` the receiver created its receive tracker
    with (its own handle's size, or the one carried over from the previous neighbour), once the scalar message of
    `sendFixedSize` has been delivered and `receiveSizeAndSetupReceive` has run, the data machine of the link is in
    exactly the state in which both sides work with the **sender's** size `f` — the state from which
    `all_schedules_terminate` and `rank_level_fixed_size` show delivery.  (`fixInitDt`: sender started, receiver's
    tracker still holding `own`; `seenRecv … f`: the tracker's `fixedSize` overwritten by the message, zero indices
    skipped, data receive posted if indices are left.) -/
theorem size_exchange_roundtrip_fixed (B : Nat) (l : FLinkSpec α) (hf : l.f ≠ 0) :
    seenRecv (fixInitDt B l) l.f = (dataInit B l.pair).state ∧
    (seenRecv (fixInitDt B l) l.f).rt.fixedSize = l.f :=
  ⟨seenRecv_init B l hf, by
    -- the receive tracker of `dataInit` is what `SetupRecvRequest` leaves of `recvTracker`: a tracker without size array
    rw [seenRecv_init B l hf]
    show (setupRecv true l.pair.recvTracker (MessageBuffer.new (α := α) B)).1.fixedSize = l.f
    rw [setupRecv_true, recvTracker_skip, rcvT, if_pos (show l.pair.f ≠ 0 from hf)]
    rfl⟩

/-- the receiver's own size (7) plays no role: the tracker ends with the announced 2 -/
example : (seenRecv (fixInitDt 5 (⟨0, 1, ⟨true, fun i => [i, i]⟩, 2, 7, [3, 4], [0, 1]⟩ : FLinkSpec Nat)) 2).rt.fixedSize = 2 ∧
    (fixInitDt 5 (⟨0, 1, ⟨true, fun i => [i, i]⟩, 2, 7, [3, 4], [0, 1]⟩ : FLinkSpec Nat)).rt.fixedSize = 7 := by decide +kernel

/-- **sent_eq_posted.**  The number of data messages p sends to q equals the number of receives q posts for p, in
    both modes (for the size messages see `size_exchange_roundtrip`).  With pre-posted non-blocking operations this is
    what lets every request complete. -/
theorem sent_eq_posted (h : Handle α) (B : Nat) (hB : 0 < B) (sendIdx recvIdx : List Nat)
    (hl : recvIdx.length = sendIdx.length) :
    ((∀ i ∈ sendIdx, h.size i ≤ B) →
      (communicatePairVar true B h sendIdx recvIdx).dataMessages = (communicatePairVar true B h sendIdx recvIdx).receivesPosted) ∧
    (∀ f, f ≠ 0 → f ≤ B → (∀ i ∈ sendIdx, h.size i = f) →
      (communicatePairFixed true B h f sendIdx recvIdx).dataMessages
        = (communicatePairFixed true B h f sendIdx recvIdx).receivesPosted) :=
  ⟨fun hfit => (communicatePairVar_spec h B hB sendIdx recvIdx hl hfit).2.2.1,
   fun f hf0 hfB hsz => (communicatePairFixed_spec h B f sendIdx recvIdx hl hf0 hfB hsz).2.2⟩

/-- the statement is sensitive: for the code *before* the repair (a receive is posted whenever indices are left) the
    all-zero interface of DESIGN.md section 6 #13 has 0 messages but 1 posted receive, and does not return -/
example : (communicatePairVar false 4 (⟨false, fun _ => []⟩ : Handle Nat) [0, 1] [0, 1]).dataMessages = 0 ∧
    (communicatePairVar false 4 (⟨false, fun _ => []⟩ : Handle Nat) [0, 1] [0, 1]).receivesPosted = 1 ∧
    (communicatePairVar false 4 (⟨false, fun _ => []⟩ : Handle Nat) [0, 1] [0, 1]).returns = false := by decide +kernel
example : (communicatePairVar true 4 (⟨false, fun _ => []⟩ : Handle Nat) [0, 1] [0, 1]).receivesPosted = 0 ∧
    (communicatePairVar true 4 (⟨false, fun _ => []⟩ : Handle Nat) [0, 1] [0, 1]).returns = true := by decide +kernel

/-- **progress_measure.**  Every round strictly decreases the sender's `indicesLeft` (so at most one round per index),
    and the number of messages is bounded by the number of indices. -/
theorem progress_measure (h : Handle α) (B f q k : Nat) (sendIdx : List Nat) (b : MessageBuffer α) (hb : b.size = B)
    (hf : Fits h B f sendIdx) (hne : sendIdx ≠ []) :
    (setupSend h (sendT q k sendIdx f) b).tracker.indicesLeft < (sendT q k sendIdx f).indicesLeft ∧
    (senderRun h B f q sendIdx).messages.length ≤ sendIdx.length := by
  obtain ⟨ht, _, _⟩ := setupSend_sendT h B f q k sendIdx b hb hf
  refine ⟨by rw [ht]; simpa using round1_rest_length h B f sendIdx hf hne, ?_⟩
  rw [(senderRun_spec h B f q sendIdx hf).1]
  exact msgsOf_length_le h B f _ sendIdx (Nat.le_refl _) hf

/-- **progress_measure_recv.**  So is the number of data receives the receiver of a variable-size communication posts. -/
theorem progress_measure_recv (h : Handle α) (B : Nat) (hB : 0 < B) (sendIdx recvIdx : List Nat)
    (hl : recvIdx.length = sendIdx.length) (hfit : ∀ i ∈ sendIdx, h.size i ≤ B) :
    (communicatePairVar true B h sendIdx recvIdx).receivesPosted ≤ recvIdx.length := by
  obtain ⟨_, _, h3, h4⟩ := communicatePairVar_spec h B hB sendIdx recvIdx hl hfit
  rw [← h3, h4, hl]
  exact msgsOf_length_le h B 0 _ sendIdx (Nat.le_refl _) (Or.inl ⟨rfl, hfit⟩)

/-- **delivery_both_directions.**  For any number of ranks, any rank `q`, any neighbour entry `e` of `q`'s interface
    map and either direction (`fwd = true`: forward, `false`: backward): if the peer `e.rank` has exactly one entry `pe`
    for `q` (symmetric maps), its send list (first list forward / second list backward) is as long as `q`'s receive
    list, and the peer's handle respects the buffer size (variable size: every index to be sent fits; fixed size: one
    size `1 ≤ f ≤ B` for all indices in the peer's send lists), then what `q` scatters for this neighbour is exactly `expectedCalls`: the k-th
    receive index gets the items the peer gathered for its k-th send index — and the exchange returns.  The trackers
    are the ones `setupInterfaceTrackers` builds (with the `fixedsize` value carried from neighbour to neighbour). -/
theorem delivery_both_directions (B : Nat) (hB : 0 < B) (fwd : Bool) (ranks : List (RankData α)) (q : Nat)
    (e : IfaceEntry) (pd : RankData α) (hpd : ranks[e.rank]? = some pd)
    (pe : IfaceEntry) (hpe : pe ∈ pd.imap) (hrank : pe.rank = q) (huniq : ∀ x ∈ pd.imap, x.rank = q → x = pe)
    (hlen : (e.recv fwd).length = (pe.send fwd).length)
    (hvar : pd.handle.fixed = false → ∀ i ∈ pe.send fwd, pd.handle.size i ≤ B)
    (f : Nat) (hfix : pd.handle.fixed = true → f ≠ 0 ∧ f ≤ B ∧ ∀ x ∈ pd.imap, ∀ i ∈ x.send fwd, pd.handle.size i = f) :
    ∃ r, receiveFrom true B fwd ranks q e = some r ∧
      r.calls = expectedCalls pd.handle (pe.send fwd) (e.recv fwd) ∧ r.returns = true := by
  obtain ⟨ts, hfind, hts⟩ := find_peer_trackers pd.handle fwd q f pe pd.imap
    (if pd.handle.fixed then 1 else 0) (fun hx => (hfix hx).2.2) hpe huniq hrank (fun hx => Or.inl (by simp [hx]))
  simp only [receiveFrom, hpd, setupInterfaceTrackers, hfind]
  by_cases hx : pd.handle.fixed = true
  · obtain ⟨hf0, hfB, hall⟩ := hfix hx
    obtain ⟨hval, hne⟩ := hts hx
    have hfs0 : ts.1.fixedSize ≠ 0 := by
      rcases hval with h1 | h1 <;> rw [h1]
      · exact Nat.one_ne_zero
      · exact hf0
    have hfsB : ts.1.fixedSize ≤ B := by
      rcases hval with h1 | h1 <;> rw [h1]
      · exact hB
      · exact hfB
    have hsz : ∀ i ∈ pe.send fwd, pd.handle.size i = ts.1.fixedSize := by
      intro i hi
      rw [hne (by intro e; rw [e] at hi; simp at hi)]
      exact hall pe hpe i hi
    obtain ⟨h1, h2, _⟩ := communicatePairFixed_spec pd.handle B ts.1.fixedSize (pe.send fwd) (e.recv fwd) hlen hfs0
      hfsB hsz
    exact ⟨_, by simp [hx], by rw [h1, callsOf_eq_expected], h2⟩
  · have hx' : pd.handle.fixed = false := by simpa using hx
    obtain ⟨h1, h2, _, _⟩ := communicatePairVar_spec pd.handle B hB (pe.send fwd) (e.recv fwd) hlen (hvar hx')
    exact ⟨_, by simp [hx'], by rw [h1, callsOf_eq_expected], h2⟩

/-- non-vacuity (backward, two ranks): rank 1 sends its *second* list `[0,1]` (sizes 0 and 1) into rank 0's *first*
    list `[2,0]` -/
example :
    let h0 : Handle Nat := ⟨false, fun i => List.replicate i (100 + i)⟩
    let h1 : Handle Nat := ⟨false, fun i => List.replicate (i % 2) (200 + i)⟩
    let ranks : List (RankData Nat) := [⟨[⟨1, [2, 0], [1]⟩], h0⟩, ⟨[⟨0, [3], [0, 1]⟩], h1⟩]
    (receiveFrom true 2 false ranks 0 ⟨1, [2, 0], [1]⟩).map (fun r => (r.calls, r.returns))
      = some ([⟨0, 1, [201]⟩], true) := by decide +kernel

/-! ## all schedules (Tier B)

The composed system of one phase is the free interleaving of the per-neighbour small-step machines (`Pair.step`:
`deliver` = MPI matches the oldest message of the FIFO channel p → q with the posted receive; `sendDone`/`recvDone` =
`MPI_Testsome` reports the completed request and `checkAndContinue` runs its body for that neighbour), over **all**
directed neighbour relations of **all** ranks (`specs`, any number of them, any process count).  A schedule is any
list of (component, action); actions that are not enabled cannot be scheduled. -/

/-- **all_schedules_terminate** (data phase, fixed- and variable-size neighbour relations mixed freely).
    Every schedule is finite — its length is bounded by `Σ (3·(#send indices + #receive indices) + 4)` — and a schedule
    that cannot be extended (no action of any component enabled: a maximal execution) ends with every component in its
    final state (both counters counted down, nothing in flight, send and receive tracker finished) **and with the same
    scatter calls whatever the schedule was**: component `i` has made exactly `expectedCalls` of `specs[i]`. -/
theorem all_schedules_terminate (B : Nat) (specs : List (PairSpec α))
    (hv : ∀ p ∈ specs, p.recvIdx.length = p.sendIdx.length ∧ Fits p.h B p.f p.sendIdx)
    (sched : List (Nat × Action)) (ss' : List (Comp α (List (Call α))))
    (he : sysExec (specs.map (dataInit B)) sched = some ss') :
    sched.length ≤ (specs.map fun p => 3 * (p.sendIdx.length + p.recvIdx.length) + 4).sum ∧
    ((∀ i a, sysStep ss' i a = none) →
      (∀ x ∈ ss', x.state.final = true) ∧
      ss'.map (fun x => x.state.acc) = specs.map (fun p => expectedCalls p.h p.sendIdx p.recvIdx)) :=
  closed_schedules (goodData_closed B) (dataInit B) _ _
    (fun p x hg hc => by rw [goodData_recvClosed B p x hg hc, callsOf_eq_expected]) specs
    (fun p hp => ⟨dataInit_good B p (hv p hp).1 (hv p hp).2, dataInit_measure_le B p (hv p hp).2⟩) sched ss' he

/-- the same for the size pre-exchange phase of variable-size communications: every schedule terminates, and at the
    end every receiver's size array holds exactly the peer's sizes -/
theorem all_schedules_terminate_sizes (B : Nat) (hB : 0 < B) (specs : List (PairSpec α))
    (hv : ∀ p ∈ specs, p.recvIdx.length = p.sendIdx.length)
    (sched : List (Nat × Action)) (ss' : List (Comp Nat (List Nat)))
    (he : sysExec (specs.map (sizeInit B)) sched = some ss') :
    sched.length ≤ (specs.map fun p => 3 * (p.sendIdx.length + p.recvIdx.length) + 4).sum ∧
    ((∀ i a, sysStep ss' i a = none) →
      (∀ x ∈ ss', x.state.final = true) ∧
      ss'.map (fun x => x.state.acc) = specs.map (fun p => p.sendIdx.map p.h.size)) :=
  closed_schedules (goodSize_closed B) (sizeInit B) _ _ (goodSize_recvClosed B) specs
    (fun p hp => ⟨sizeInit_good B hB p (hv p hp), sizeInit_measure_le B hB p⟩) sched ss' he

/-- non-vacuity: a two-component system (one variable-size relation needing two rounds, one fixed-size relation), a
    complete schedule that interleaves them, and its final state -/
example :
    let specs : List (PairSpec Nat) :=
      [⟨⟨false, fun i => List.replicate i i⟩, 0, [2, 0, 1], [5, 6, 7]⟩, ⟨⟨true, fun i => [i]⟩, 1, [4, 4], [0, 1]⟩]
    ((sysExec (specs.map (dataInit 2))
        [(0, .deliver), (1, .deliver), (1, .recvDone), (0, .sendDone), (0, .recvDone), (1, .sendDone), (0, .deliver),
         (0, .recvDone), (0, .sendDone)]).map fun ss => ss.map fun x => (x.state.final, x.state.acc))
      = some [(true, [⟨5, 2, [2, 2]⟩, ⟨7, 1, [1]⟩]), (true, [⟨0, 1, [4]⟩, ⟨1, 1, [4]⟩])] := by decide +kernel

/-! ## the whole call on all ranks: size loop, data loop, counters, return

`VarSys` (Model/C06, "rank level") is the state of one `forward`/`backward` with a variable-size handle on **all** ranks:
per rank the program position (size loop / data loop / returned) and the two counters of the loop it is in
(`size_to_send`,`size_to_recv` resp. `no_to_send`,`no_to_recv`), per link (directed neighbour relation, any number of
them, self links included) the size-phase and the data-phase machine.  Ranks move at their own pace: a rank enters
its data loop (`advance`) as soon as *its own* size counters are zero, while neighbours may still exchange sizes; a
`sendDone`/`recvDone` is possible only for a rank that is in the corresponding loop with a non-zero counter
(`if(no_to_send) no_to_send -= check…`), and decrements the counter iff the request's tracker is finished.  Size
and data messages of a link share one tag, i.e. one FIFO (`sz.chan ++ dt.chan`).  A schedule is any list of
`GAct`s; actions that are not enabled cannot be scheduled. -/

/-- **rank_level_variable_size.**  For any number `n` of ranks and any links between them (matching list lengths, every
    index fits into the buffer), from the state in which every rank has entered `communicateSizes`:
    1. every schedule is finite (explicit bound);
    2. in every reachable state no size message can be matched with a data receive or vice versa
       (`confusable = false` for every link), although both use the same tag;
    3. in every reachable state the counters of every rank equal the number of its requests that are still open in the
       loop the rank is in — so no counter is ever decremented below zero, and a loop is left exactly when all its
       requests are closed;
    4. a state in which nothing is enabled (a maximal execution) is final: **every rank has returned**, nothing of any
       link is in flight or half done, and every link has made exactly the `expectedCalls` scatter calls — whatever
       the schedule was. -/
theorem rank_level_variable_size (B n : Nat) (hB : 0 < B) (specs : List (LinkSpec α)) (hv : ValidLinks B n specs)
    (sched : List GAct) (g' : VarSys α) (he : varExec B specs (varInit B n specs) sched = some g') :
    sched.length ≤ (specs.map fun l => 2 * (3 * (l.sendIdx.length + l.recvIdx.length) + 4)).sum + 2 * n ∧
    (∀ x ∈ g'.links, x.confusable = false) ∧
    (∀ p, p < n →
      (g'.phase.getD p 3 = 0 → g'.toSend.getD p 0 = countSel (sizeSendOpen p) specs g'.links ∧
                                g'.toRecv.getD p 0 = countSel (sizeRecvOpen p) specs g'.links) ∧
      (g'.phase.getD p 3 = 1 → g'.toSend.getD p 0 = countSel (dataSendOpen p) specs g'.links ∧
                                g'.toRecv.getD p 0 = countSel (dataRecvOpen p) specs g'.links)) ∧
    ((∀ a, varStep B specs g' a = none) →
      g'.final = true ∧
      g'.links.map (fun x => x.dt.acc) = specs.map (fun l => expectedCalls l.h l.sendIdx l.recvIdx)) := by
  obtain ⟨hI, hm⟩ := vexec_inv hB sched _ g' (varInit_inv B n hB specs hv) he
  have hb := varInit_measure B n hB specs
  refine ⟨by omega, ?_, fun p hp => ⟨hI.cnt0 p hp, hI.cnt1 p hp⟩, fun hstuck => ?_⟩
  · intro x hx
    obtain ⟨l, hl⟩ := hI.links.of_mem x hx
    exact linkInv_not_confusable hl
  · obtain ⟨hph, hlk⟩ := vstuck_final hB hI hstuck
    refine ⟨?_, hI.links.map_eq _ _ fun i l x hl hx => by rw [(hlk i l x hl hx).2.2, callsOf_eq_expected]⟩
    rw [VarSys.final, all_eq_of_getD g'.phase 2 (fun p hp => hph p (hI.lenP ▸ hp)),
      hI.links.all_of _ fun i l x hl hx => by rw [(hlk i l x hl hx).1, (hlk i l x hl hx).2.1]; rfl]
    rfl

/-- non-vacuity: two ranks, link 0 → 1 (sizes 2,0,1 with `B = 2`: two data rounds, two size rounds) and link 1 → 0; in this
    complete schedule rank 0 enters its data loop and sends data while rank 1 is still receiving sizes -/
example :
    let specs : List (LinkSpec Nat) :=
      [⟨0, 1, ⟨false, fun i => List.replicate i i⟩, [2, 0, 1], [5, 6, 7]⟩,
       ⟨1, 0, ⟨false, fun i => List.replicate (i % 2) (10 + i)⟩, [3], [4]⟩]
    ((varExec 2 specs (varInit 2 2 specs)
        [.size 1 .deliver, .size 1 .sendDone, .size 1 .recvDone, .size 0 .deliver, .size 0 .sendDone, .size 0 .recvDone,
         .size 0 .deliver, .size 0 .sendDone, .advance 0, .size 0 .recvDone, .advance 1, .data 0 .deliver,
         .data 0 .sendDone, .data 0 .recvDone, .data 0 .deliver, .data 0 .recvDone, .data 0 .sendDone, .data 1 .deliver,
         .data 1 .sendDone, .data 1 .recvDone, .ret 0, .ret 1]).map fun g => (g.final, g.links.map fun x => x.dt.acc))
      = some (true, [[⟨5, 2, [2, 2]⟩, ⟨7, 1, [1]⟩], [⟨4, 1, [13]⟩]]) := by decide +kernel

/-- the guards are real: rank 1 cannot leave its size loop while a size receive is open, and a rank in its size loop
    cannot process data completions -/
example :
    let specs : List (LinkSpec Nat) :=
      [⟨0, 1, ⟨false, fun i => List.replicate i i⟩, [2, 0, 1], [5, 6, 7]⟩]
    (varStep 2 specs (varInit 2 2 specs) (.advance 1)).isNone = true ∧
    (varStep 2 specs (varInit 2 2 specs) (.data 0 .sendDone)).isNone = true ∧
    (varStep 2 specs (varInit 2 2 specs) (.ret 0)).isNone = true := by decide +kernel

/-! ## the whole call on all ranks, fixed-size handles

`FixSys` (Model/C06Fix) is the state of one `forward`/`backward` with a fixed-size handle on all ranks: per rank
"in the loop" / "returned" and the three counters `no_size_to_recv`, `no_to_send`, `no_to_recv` (initialised as the
code does: number of neighbours, of non-empty send lists, of non-empty receive lists); per link the scalar handshake
of `sendFixedSize` (pending / matched / seen), the current `fixedSize` of the receive tracker, and the data machine
whose receiver side starts only when the scalar has been seen.  `ret p` needs all three counters zero **and** every
scalar send of `p` matched (the final `MPI_Waitall`). -/

/-- **rank_level_fixed_size.**  For any number `n` of ranks and any links (matching list lengths, one size `1 ≤ f ≤ B`
    per send list; the sizes of different ranks may differ, and so may the receivers' own values):
    1. every schedule is finite (explicit bound);
    2. in every reachable state the three counters of every rank still in its loop equal the numbers of scalars not yet
       seen, of open send requests and of open receive lists — no counter is decremented below zero and the loop is
       left exactly when everything is closed;
    3. a state in which nothing is enabled is final: every rank has returned (after its `MPI_Waitall`), every scalar has
       been received and processed, nothing is in flight, and every link has made exactly the `expectedCalls` scatter
       calls with the sender's item count. -/
theorem rank_level_fixed_size (B n : Nat) (specs : List (FLinkSpec α)) (hv : ValidFLinks B n specs)
    (sched : List FAct) (g' : FixSys α) (he : fixExec B specs (fixInit B n specs) sched = some g') :
    sched.length ≤ (specs.map fun l => 3 * (l.sendIdx.length + l.recvIdx.length) + 6).sum + 2 * n ∧
    (∀ p, p < n → g'.phase.getD p 3 = 0 →
      g'.noSize.getD p 0 = countSel (fNotSeen p) specs g'.links ∧
      g'.toSend.getD p 0 = countSel (fSendOpen p) specs g'.links ∧
      g'.toRecv.getD p 0 = countSel (fRecvOpen p) specs g'.links) ∧
    ((∀ a, fixStep B specs g' a = none) →
      g'.final = true ∧
      g'.links.map (fun x => x.dt.acc) = specs.map (fun l => expectedCalls l.h l.sendIdx l.recvIdx)) := by
  obtain ⟨hI, hm⟩ := fexec_inv sched _ g' (fixInit_inv B n specs hv) he
  have hb := fixInit_measure B n specs
  refine ⟨by omega, fun p hp => hI.cnt p hp, fun hstuck => ?_⟩
  obtain ⟨hph, hlk⟩ := fstuck_final hI hstuck
  refine ⟨?_, hI.links.map_eq _ _ fun i l x hl hx => by rw [(hlk i l x hl hx).2.2, callsOf_eq_expected]⟩
  rw [FixSys.final, all_eq_of_getD g'.phase 1 (fun p hp => hph p (hI.lenP ▸ hp)),
    hI.links.all_of _ fun i l x hl hx => by rw [(hlk i l x hl hx).1, (hlk i l x hl hx).2.1]; rfl]
  rfl

/-- non-vacuity: rank 0's handle has 2 items per index, rank 1's has 3 (each receive tracker is created with the
    receiver's own size and corrected by the scalar); link 0 → 1 needs two data rounds with `B = 5`; rank 1 also has
    an empty interface with itself.  The initial counters are (neighbours, non-empty send lists, non-empty receive
    lists) per rank. -/
example :
    let specs : List (FLinkSpec Nat) :=
      [⟨0, 1, ⟨true, fun i => [i, i + 100]⟩, 2, 3, [4, 5, 4], [0, 1, 2]⟩, ⟨1, 0, ⟨true, fun i => [i, i, i]⟩, 3, 2, [7], [9]⟩,
       ⟨1, 1, ⟨true, fun i => [i, i, i]⟩, 3, 3, [], []⟩]
    ((fixInit 5 2 specs).noSize, (fixInit 5 2 specs).toSend, (fixInit 5 2 specs).toRecv) = ([1, 2], [1, 1], [1, 1]) ∧
    ((fixExec 5 specs (fixInit 5 2 specs)
        [.scalar 1, .seen 1, .data 1 .deliver, .data 1 .sendDone, .data 1 .recvDone, .scalar 0, .scalar 2, .seen 0, .seen 2,
         .data 0 .deliver, .data 0 .sendDone, .data 0 .recvDone, .data 0 .deliver, .data 0 .recvDone, .data 0 .sendDone,
         .ret 0, .ret 1]).map fun g => (g.final, g.links.map fun x => x.dt.acc))
      = some (true, [[⟨0, 2, [4, 104]⟩, ⟨1, 2, [5, 105]⟩, ⟨2, 2, [4, 104]⟩], [⟨9, 3, [7, 7, 7]⟩], []]) := by decide +kernel

/-- the guards are real: before the scalar of link 0 is matched rank 0 cannot return (`MPI_Waitall`), and rank 1 cannot
    process a scalar that has not arrived -/
example :
    let specs : List (FLinkSpec Nat) := [⟨0, 1, ⟨true, fun i => [i]⟩, 1, 1, [], []⟩]
    (fixStep 5 specs (fixInit 5 2 specs) (.ret 0)).isNone = true ∧
    (fixStep 5 specs (fixInit 5 2 specs) (.seen 0)).isNone = true ∧
    ((fixStep 5 specs (fixInit 5 2 specs) (.scalar 0)).bind fun g => fixStep 5 specs g (.ret 0)).isSome = true := by decide +kernel

/-! ## object histories

The buffer size `B` and the interface map of the theorems above are data members of the object the call is made on
(`maxBufferSize_`, `interface_`), and the messages travel on its private communicator `communicator_`, a duplicate of
the communicator the user chose.  The object may have been built by any of the constructors, copied and assigned to
any number of times (Model/C06Life.lean). -/

/-- **object_histories.**  For every program of constructor calls (with or without a buffer size argument, `dflt` being
    the default: 32768 or the value of DUNE_PARALLEL_MAX_COMMUNICATION_BUFFER_SIZE; on any of the `users` communicators
    the user owns), copy constructions, assignments (self-assignments included), destructions and communications:
    the class accepts exactly the programs the value semantics accepts, and afterwards
    (1) every object's buffer size, map and process group (the user communicator its own communicator descends from)
        are what value semantics says: a copy / an assignment takes over all three from its source, whatever the
        target was configured with before,
    (2) no MPI call ever got a communicator that was freed or never created,
    (3) every object owns a live communicator that is not one of the user's, no two objects share one (the class works
        on a private duplicate whatever was copied from what and destroyed since),
    (4) no communicator is leaked: the live handles are exactly the ones the live objects hold, once each. -/
theorem object_histories (users dflt : Nat) (prog : List LifeOp) :
    match lifeExec dflt (World.init users) prog, specExec users dflt (fun _ => none) prog with
    | some w, some σ =>
        (∀ s, (w.slots s).map w.cfg = σ s) ∧
        w.fault = false ∧
        (∀ s o, w.slots s = some o → o.comm ∈ w.liveComms ∧ users ≤ o.comm) ∧
        (∀ s t o o', w.slots s = some o → w.slots t = some o' → o.comm = o'.comm → s = t) ∧
        (∀ c ∈ w.liveComms, ∃ s o, w.slots s = some o ∧ o.comm = c) ∧ w.liveComms.Nodup
    | none, none => True
    | _, _ => False := by
  have h := lifeExec_inv dflt prog (World.init users) (fun _ => none) (LifeInv.init users)
  have hu : (World.init users).users = users := rfl
  rw [hu] at h
  cases h1 : lifeExec dflt (World.init users) prog <;> cases h2 : specExec users dflt (fun _ => none) prog <;>
    rw [h1, h2] at h
  · trivial
  · exact h
  · exact h
  · obtain ⟨h, hw⟩ := h
    refine ⟨h.cfg, h.nofault, fun s o hs => ⟨h.comm.alive s o hs, ?_⟩, h.comm.priv, h.comm.noleak, h.comm.nodup⟩
    have := (h.comm.fresh _ (h.comm.alive s o hs)).1
    rw [hw] at this
    exact this

/-- non-vacuity: slot 0 is built with a buffer of 2 items over a
    decoy map (1) on the user's second communicator (1), used, then assigned from an object with buffer 16 over the
    case's map (0) on the first communicator (0), whose original is destroyed afterwards: slot 0 then has buffer 16,
    map 0 and the process group of communicator 0, on a handle of its own (4; handles 2 and 3 were freed). -/
example :
    (lifeExec 32768 (World.init 2)
        [.construct 0 (some 2) 1 1, .use 0, .construct 1 (some 16) 0 0, .assign 0 0, .assign 0 1, .destroy 1, .use 0]).map
      (fun w => ((w.slots 0).map fun o => (o, objCfg w.origin o), w.slots 1, w.liveComms, w.fault))
      = some (some (⟨16, 0, 4⟩, (16, 0, 0)), none, [4], false) := by decide +kernel

/-- the model notices what the invariant excludes: an `operator=` without the self-assignment test would free its own
    communicator and duplicate the dead handle (written out with the table operations) -/
example : ((((World.init 1).dup 0).2.free 1).dup 1).2.fault = true := by decide +kernel

/-- the default constructors take the configured default -/
example : ((lifeExec 5 (World.init 1) [.construct 3 none 0 0, .copy 0 3, .destroy 3]).bind (·.slots 0)).map
    (fun o => (o.maxBufferSize, o.interface)) = some (5, 0) := by decide +kernel

/-- **delivery_after_history.**  `delivery_both_directions` for a call made on an object with an arbitrary history: if
    value semantics says slot `s` holds an object with buffer size `Bs`, map `m` and process group `u`, the object the
    class actually has there carries exactly this configuration on a live private communicator, and with its
    `maxBufferSize` as the buffer size what rank `q` scatters for its neighbour entry `e` is `expectedCalls` and the
    exchange returns — provided `Bs` can hold the largest index (all ranks run the same program, so all use the same
    size, map and group). -/
theorem delivery_after_history (users dflt : Nat) (prog : List LifeOp) (w : World) (σ : SpecWorld)
    (hw : lifeExec dflt (World.init users) prog = some w) (hσ : specExec users dflt (fun _ => none) prog = some σ)
    (s Bs m u : Nat) (hs : σ s = some (Bs, m, u)) (hB : 0 < Bs)
    (fwd : Bool) (ranks : List (RankData α)) (q : Nat)
    (e : IfaceEntry) (pd : RankData α) (hpd : ranks[e.rank]? = some pd)
    (pe : IfaceEntry) (hpe : pe ∈ pd.imap) (hrank : pe.rank = q) (huniq : ∀ x ∈ pd.imap, x.rank = q → x = pe)
    (hlen : (e.recv fwd).length = (pe.send fwd).length)
    (hvar : pd.handle.fixed = false → ∀ i ∈ pe.send fwd, pd.handle.size i ≤ Bs)
    (f : Nat) (hfix : pd.handle.fixed = true → f ≠ 0 ∧ f ≤ Bs ∧ ∀ x ∈ pd.imap, ∀ i ∈ x.send fwd, pd.handle.size i = f) :
    ∃ o, w.slots s = some o ∧ o.maxBufferSize = Bs ∧ o.interface = m ∧ w.origin o.comm = u ∧
      w.valid o.comm = true ∧ w.fault = false ∧
      ∃ r, receiveFrom true o.maxBufferSize fwd ranks q e = some r ∧
        r.calls = expectedCalls pd.handle (pe.send fwd) (e.recv fwd) ∧ r.returns = true := by
  have h := object_histories users dflt prog
  rw [hw, hσ] at h
  obtain ⟨hcfg, hfault, halive, _, _, _⟩ := h
  have hc := hcfg s
  rw [hs] at hc
  cases ho : w.slots s with
  | none => rw [ho] at hc; cases hc
  | some o =>
    rw [ho] at hc
    have hc' : objCfg w.origin o = (Bs, m, u) := by simpa using hc
    have hb : o.maxBufferSize = Bs := congrArg Prod.fst hc'
    have hm : o.interface = m := congrArg (fun x => x.2.1) hc'
    have hu : w.origin o.comm = u := congrArg (fun x => x.2.2) hc'
    refine ⟨o, rfl, hb, hm, hu, valid_of_mem w _ (halive s o ho).1, hfault, ?_⟩
    rw [hb]
    exact delivery_both_directions Bs hB fwd ranks q e pd hpd pe hpe hrank huniq hlen hvar f hfix

/-! ## a rank that has returned is quiet

Several calls on one communicator object (and an object may be used, assigned to, and used again) share the
communicator and the tags 933399 / 933881.  What keeps a call apart from the one before it on the same object: -/

/-- **returned_rank_quiescent** (variable size).  In every reachable state of the rank-level system, for every link
    `src → dst`:
    * if `src` has returned, its size and data send requests are null, nothing it sent is in the FIFO of the link, and
      `dst` has **no receive posted** on the link — so a message `src` sends in a later call cannot be matched with a
      receive of this call;
    * if `dst` has returned, it has no receive request on the link and the FIFO is empty — so a receive `dst` posts in a
      later call cannot get a message of this call;
    and a rank that has returned stays returned along every continuation, so both facts hold for the rest of the call
    whatever the other ranks still do. -/
theorem returned_rank_quiescent (B n : Nat) (hB : 0 < B) (specs : List (LinkSpec α)) (hv : ValidLinks B n specs)
    (sched : List GAct) (g' : VarSys α) (he : varExec B specs (varInit B n specs) sched = some g') :
    (∀ (i : Nat) (l : LinkSpec α) (x : LinkSt α), specs[i]? = some l → g'.links[i]? = some x →
      (g'.phase.getD l.src 3 = 2 →
        x.sz.sreq = .null ∧ x.dt.sreq = .null ∧ x.sz.chan = [] ∧ x.dt.chan = [] ∧
        x.sz.rreq.isPosted = false ∧ x.dt.rreq.isPosted = false) ∧
      (g'.phase.getD l.dst 3 = 2 → x.sz.rreq = .null ∧ x.dt.rreq = .null ∧ x.sz.chan = [] ∧ x.dt.chan = [])) ∧
    (∀ sched2 g'', varExec B specs g' sched2 = some g'' → ∀ p, g'.phase.getD p 3 = 2 → g''.phase.getD p 3 = 2) := by
  obtain ⟨hI, _⟩ := vexec_inv hB sched _ g' (varInit_inv B n hB specs hv) he
  refine ⟨fun i l x hl hx => ?_, fun sched2 g'' he2 => varExec_returned B specs sched2 g' g'' he2⟩
  have hL := hI.links.2 i l x hl hx
  exact ⟨linkInv_src_returned hL, linkInv_dst_returned hL⟩

/-- non-vacuity: two ranks, link 0 → 1 with two data rounds (`B = 2`, sizes 2 and 1) and the empty link 1 → 0; rank 0
    returns while rank 1 has not even processed the last message (`recvDone` still to come): the link is quiet
    (send request null, FIFO empty, nothing posted) although rank 1 is still in its data loop. -/
example :
    let h : Handle Nat := ⟨false, fun i => List.replicate (if i = 0 then 2 else 1) (10 + i)⟩
    let specs : List (LinkSpec Nat) := [⟨0, 1, h, [0, 1], [5, 6]⟩, ⟨1, 0, h, [], []⟩]
    ((varExec 2 specs (varInit 2 2 specs)
        [.size 0 .deliver, .size 0 .sendDone, .size 0 .recvDone, .advance 0, .advance 1, .data 0 .deliver,
         .data 0 .sendDone, .data 0 .recvDone, .data 0 .deliver, .data 0 .sendDone, .ret 0]).map fun g =>
      (g.phase, g.links.map fun x => (x.dt.sreq == .null, x.dt.chan.isEmpty, x.dt.rreq.isPosted)))
      = some ([2, 1], [(true, true, false), (true, true, false)]) := by decide +kernel

/-- **returned_rank_quiescent_fixed** (fixed size).  The same for `communicateFixedSize`: if `src` has returned, its
    scalar has been matched (`MPI_Waitall`), its data send request is null, the data FIFO is empty and `dst` has no data
    receive posted; if `dst` has returned, it has processed the scalar, has no data receive request and the FIFO is
    empty; and a returned rank stays returned. -/
theorem returned_rank_quiescent_fixed (B n : Nat) (specs : List (FLinkSpec α)) (hv : ValidFLinks B n specs)
    (sched : List FAct) (g' : FixSys α) (he : fixExec B specs (fixInit B n specs) sched = some g') :
    (∀ (i : Nat) (l : FLinkSpec α) (x : FLinkSt α), specs[i]? = some l → g'.links[i]? = some x →
      (g'.phase.getD l.src 3 = 1 →
        x.sc ≠ .pending ∧ x.dt.sreq = .null ∧ x.dt.chan = [] ∧ x.dt.rreq.isPosted = false) ∧
      (g'.phase.getD l.dst 3 = 1 → x.sc = .seen ∧ x.dt.rreq = .null ∧ x.dt.chan = [])) ∧
    (∀ sched2 g'', fixExec B specs g' sched2 = some g'' → ∀ p, g'.phase.getD p 3 = 1 → g''.phase.getD p 3 = 1) := by
  obtain ⟨hI, _⟩ := fexec_inv sched _ g' (fixInit_inv B n specs hv) he
  refine ⟨fun i l x hl hx => ?_, fun sched2 g'' he2 => fixExec_returned B specs sched2 g' g'' he2⟩
  have hL := hI.links.2 i l x hl hx
  exact ⟨flinkInv_src_returned hL, flinkInv_dst_returned hL⟩

/-- non-vacuity: rank 1 (one index of 3 items for rank 0; from rank 0 only the scalar) returns while rank 0 has not yet
    processed the data message it received (`recvDone` of link 0 still to come): link 1 → 0 is already quiet. -/
example :
    let specs : List (FLinkSpec Nat) :=
      [⟨1, 0, ⟨true, fun i => [i, i, i]⟩, 3, 2, [7], [9]⟩, ⟨0, 1, ⟨true, fun i => [i, i]⟩, 2, 3, [], []⟩]
    ((fixExec 5 specs (fixInit 5 2 specs)
        [.scalar 0, .scalar 1, .seen 0, .seen 1, .data 0 .deliver, .data 0 .sendDone, .ret 1]).map fun g =>
      (g.phase, g.links.map fun x => (x.sc, x.dt.sreq == .null, x.dt.chan.isEmpty, x.dt.rreq.isPosted)))
      = some ([0, 1], [(.seen, true, true, false), (.seen, true, true, false)]) := by decide +kernel

/-! ## the model functions are what the source says

`DuneVerif/Gen/C06.lean` is regenerated from variablesizecommunicator.hh on every run (tools/translators/tr_c06.py):
every function below is the translation of the C++ body (conditions, bounds, statement order, arguments).  The
`src_*` theorems say that, for **all** inputs, the generated definitions are the hand-written model functions all
theorems above are about; rewriting with them transfers every theorem above to the generated definitions. -/

/-- **src_tracker_buffer.**  `MessageBuffer::hasSpaceForItems`, the two `MessageBuffer` constructors (a buffer built or
    *copied* — the buffer vectors are filled by copy construction — for size `B` has `size_ = B`, at least `B` cells and
    the position 0 resp. the original's), `InterfaceTracker::finished / indicesLeft / offset /
    skipZeroIndices / moveToNextIndex / increment` as read from the source are the model's, for every buffer and every
    tracker (any position, with or without a size array, sizes of any length). -/
theorem src_tracker_buffer (b : MessageBuffer α) (n : Nat) (t : Tracker) :
    Gen.hasSpaceForItems b.position b.size n = b.hasSpaceForItems n ∧
    Gen.resetPosition = b.reset.position ∧
    (∀ B p, B ≤ (Gen.ctorBuffer B p).1 ∧ (Gen.ctorBuffer B p).2.1 = B ∧ (Gen.ctorBuffer B p).2.2 = 0) ∧
    (∀ B p, B ≤ (Gen.copyBuffer B p).1 ∧ (Gen.copyBuffer B p).2.1 = B ∧ (Gen.copyBuffer B p).2.2 = p) ∧
    Gen.trackerFinished t.index t.ifaceSize = t.finished ∧
    Gen.indicesLeft t.index t.ifaceSize = t.indicesLeft ∧
    Gen.trackerOffset t.index = t.offset ∧
    Gen.skipZeroIndices t = t.skipZeroIndices ∧
    Gen.moveToNextIndex t = t.moveToNextIndex ∧
    Gen.increment t n = t.increment n :=
  ⟨gen_hasSpace b n, gen_resetPosition, gen_ctorBuffer, gen_copyBuffer, gen_finished t, gen_indicesLeft t, gen_offset t, gen_skipZeroIndices t,
   gen_moveToNextIndex t, gen_increment t n⟩

/-- non-vacuity: the generated `skipZeroIndices` really walks (two zero-size indices skipped, stops at size 4), the
    generated `moveToNextIndex` advances and skips, `hasSpaceForItems` accepts an exact fit and rejects one more. -/
example : ((Gen.skipZeroIndices ⟨0, 3, [7, 8, 9, 6], true, [0, 0, 4, 0], 0⟩).index,
           (Gen.moveToNextIndex ⟨0, 0, [7, 8, 9, 6], true, [2, 0, 0, 1], 0⟩).iface,
           Gen.hasSpaceForItems 2 5 3, Gen.hasSpaceForItems 2 5 4) = (5, [6], true, false) := by decide +kernel

/-- **src_pack_unpack.**  `PackEntries`, `UnpackEntries` and `UnpackSizeEntries` as read from the source (both branches,
    `noIndices`, the loop bounds, the `hasSpaceForItems` test, the statements of the loop bodies in their order, the
    arguments of `gather` / `scatter` / `std::copy`, the returned count) compute exactly `packEntries`,
    `unpackEntries`, `unpackSizeEntries` — for every handle, tracker, buffer, `MPI_Get_count` value and call history. -/
theorem src_pack_unpack (h : Handle α) (t : Tracker) (b : MessageBuffer α) (count : Nat) (cs : List (Call α))
    (bs : MessageBuffer Nat) (dst : List Nat) :
    Gen.packEntries h t b = packEntries h t b ∧
    Gen.unpackEntries t b count cs = unpackEntries t b count cs ∧
    Gen.unpackSizeEntries t bs dst = unpackSizeEntries t bs dst :=
  ⟨gen_packEntries h t b, gen_unpackEntries t b count cs, gen_unpackSizeEntries t bs dst⟩

/-- non-vacuity: the generated `PackEntries` packs the indices 2 and 1 (3 items) into a buffer of 3 and stops before
    index 3; the generated `UnpackEntries` hands the 3 items to the receive indices 5 and 6 with counts 2 and 1;
    fixed size 2 in a buffer of 5: two indices per message. -/
example :
    let h : Handle Nat := ⟨false, fun i => List.replicate i (10 + i)⟩
    let r := Gen.packEntries h (Tracker.mk' 0 [2, 1, 3] 0) (MessageBuffer.new 3)
    (r.1, r.2.1.iface, r.2.2.cells,
     (Gen.unpackEntries ⟨0, 0, [5, 6, 7], true, [2, 1, 3], 0⟩ ((MessageBuffer.new 3).received r.2.2.cells) 3 []).2.2,
     (Gen.packEntries (⟨true, fun i => [i, i]⟩ : Handle Nat) (Tracker.mk' 0 [1, 2, 3] 2) (MessageBuffer.new 5)).1)
      = (3, [3], [12, 12, 11], [⟨5, 2, [12, 12]⟩, ⟨6, 1, [11]⟩], 4) := by decide +kernel

/-- **src_setup_requests.**  `SetupSendRequest` (reset, `PackEntries`, the loop over trailing zero-size indices, the guard
    `if(size)` and the count of `MPI_Issend`) and `SetupRecvRequest` (reset, `skipZeroIndices`, the guard
    `if(indicesLeft())`, count = the whole buffer) as read from the source are `setupSend` and the *repaired*
    `setupRecv`; `SizeDataHandle` as read from the source (fixed size, one item per index: the user handle's `size(i)`)
    is the model's `sizeHandle`, and it writes as many items as it announces. -/
theorem src_setup_requests {β : Type} (h : Handle α) (t : Tracker) (b : MessageBuffer α) (b' : MessageBuffer β) (B : Nat) :
    Gen.setupSend h t b = setupSend h t b ∧
    Gen.setupRecv t b' = setupRecv true t b' ∧
    Gen.recvCount B = B ∧
    sizeHandle h = ⟨Gen.sizeHandleFixed, fun i => Gen.sizeHandleGather h.size i⟩ ∧
    (∀ i, (Gen.sizeHandleGather h.size i).length = Gen.sizeHandleSize i) :=
  ⟨gen_setupSend h t b, gen_setupRecv t b', gen_recvCount B, by simp [sizeHandle, Gen.sizeHandleFixed, Gen.sizeHandleGather],
   fun i => by simp [Gen.sizeHandleGather, Gen.sizeHandleSize]⟩

/-- non-vacuity: a message is produced and the trailing zero-size index is skipped; a receive tracker whose remaining
    sizes are all zero posts no receive (the repaired behaviour), one with a non-zero size does. -/
example :
    let h : Handle Nat := ⟨false, fun i => List.replicate i (10 + i)⟩
    ((Gen.setupSend h (Tracker.mk' 0 [2, 0, 0] 0) (MessageBuffer.new 3)).message,
     (Gen.setupSend h (Tracker.mk' 0 [2, 0, 0] 0) (MessageBuffer.new 3)).tracker.iface,
     (Gen.setupRecv ⟨0, 0, [5, 6], true, [0, 0], 0⟩ (MessageBuffer.new 3 : MessageBuffer Nat)).2.2,
     (Gen.setupRecv ⟨0, 0, [5, 6], true, [0, 1], 0⟩ (MessageBuffer.new 3 : MessageBuffer Nat)).2.2)
      = (some [12, 12], [], false, true) := by decide +kernel

/-- **src_constants.**  Data of the source the rank-level models rely on: the data send and the data receive use one
    tag, the scalar send and receive of `sendFixedSize` use one tag and exactly one item, the two tags differ (a scalar
    can never be matched with a data receive: `FixSys` keeps them on separate channels); the data send buffers of
    `communicateFixedSize` and `communicateVariableSize` hold at least `maxBufferSize_` items (an index that fits the
    configured size is packed) and the data receive buffers at least as much as the send buffers (no truncation); in
    `communicateSizes` both sides use one chunk length ≥ 1 (the receiver copies `min(buffer.size(), indicesLeft)` sizes
    per message, so the lengths must agree) — which vector is the send resp. receive side is read off the
    `setupRequests` / `receiveSizeAndSetupReceive` calls; the constructors without a size argument agree on one positive default; the three wrappers hand `checkAndContinue` the request vectors,
    functors and flags the small-step machine `Pair` is built from (scalar completions set up the data receive and are
    not counted twice; send completions repack; receive completions unpack with `MPI_Get_count` iff the handle is
    not fixed-size, and re-post). -/
theorem src_constants :
    Gen.dataSendTag = Gen.dataRecvTag ∧ Gen.scalarSendTag = Gen.scalarRecvTag ∧ Gen.scalarSendTag ≠ Gen.dataSendTag ∧
    Gen.scalarSendCount = 1 ∧ Gen.scalarRecvCount = 1 ∧
    (∀ m n, ∀ p ∈ Gen.dataBuffers m n, m ≤ p.1 ∧ p.1 ≤ p.2) ∧
    (∀ m n, 1 ≤ m → 1 ≤ (Gen.sizeBuffers m n).1 ∧ (Gen.sizeBuffers m n).1 = (Gen.sizeBuffers m n).2) ∧
    (∀ x ∈ Gen.defaultBufferSizes, x = Gen.defaultBufferSize) ∧ 0 < Gen.defaultBufferSize ∧
    Gen.wrappers =
      [("receiveSizeAndSetupReceive", ["p0", "p1", "p2", "p3", "p4", "p5", "NullPackUnpackFunctor", "SetupRecvRequest", "false"]),
       ("checkSendAndContinueSending", ["p0", "p1", "p2", "p2", "p3", "p4", "NullPackUnpackFunctor", "SetupSendRequest"]),
       ("checkReceiveAndContinueReceiving", ["p0", "p1", "p2", "p2", "p3", "p4", "UnpackEntries", "SetupRecvRequest", "true",
                                             "!Impl::callFixedSize(p0)"])] := by
  refine ⟨by decide, by decide, by decide, by decide, by decide, fun m n p hp => ?_, fun m n hm => ?_, by decide, by decide,
    rfl⟩
  · simp only [Gen.dataBuffers, List.mem_cons, List.not_mem_nil, or_false] at hp
    rcases hp with rfl | rfl <;> constructor <;> first | omega | (simp; done) | (simp; omega)
  · unfold Gen.sizeBuffers
    constructor <;> first | omega | (simp; done) | (simp; omega)

/-- non-vacuity: there is a constructor with a numeric default, and the wrapper table has its three rows. -/
example : Gen.defaultBufferSizes ≠ [] ∧ Gen.wrappers.length = 3 := by decide +kernel

/-- **src_directions_trackers.**  "Both directions": as read from the source, `forward()` instantiates `communicate<true>`,
    `backward()` `communicate<false>`, the direction parameter is handed down unchanged to `communicateFixedSize`,
    `communicateVariableSize`, `communicateSizes`, `setupInterfaceTrackers` and `InterfaceInformationChooser` (checked by
    the translator: anything else is a translation error), and the chooser picks (first, second) for forward and
    (second, first) for backward — the lists `IfaceEntry.send / recv` of the model.  `setupInterfaceTrackers` as read from
    the source (initial value of the carried fixed size, its update per neighbour from the first index of the *send* list,
    the tracker arguments rank / list / fixed size / `allocateSizes = (fixedsize == 0)` for the receive tracker only)
    unfolds the model's `setupInterfaceTrackers`, for every handle, direction and interface map. -/
theorem src_directions_trackers (h : Handle α) (fwd : Bool) (e : IfaceEntry) (es : List IfaceEntry) (fs : Nat) :
    Gen.forwardFlag = true ∧ Gen.backwardFlag = false ∧
    Gen.chooseSend fwd e.first e.second = e.send fwd ∧ Gen.chooseRecv fwd e.first e.second = e.recv fwd ∧
    setupInterfaceTrackers h fwd (e :: es) = setupTrackersLoop h fwd (e :: es) (Gen.trackersInitFixed h.fixed) ∧
    (let fs' := Gen.trackersStepFixed h.fixed fs (e.send fwd).length (e.recv fwd).length (h.size ((e.send fwd).headD 0))
     setupTrackersLoop h fwd (e :: es) fs =
       (Tracker.mk' e.rank (e.send fwd) fs' (Gen.sendAllocSizes fs'),
        Tracker.mk' e.rank (e.recv fwd) fs' (Gen.recvAllocSizes fs')) :: setupTrackersLoop h fwd es fs') :=
  ⟨by decide, by decide, (gen_chooser fwd e).1, (gen_chooser fwd e).2, gen_setupTrackers_init h fwd (e :: es),
   gen_setupTrackers_step h fwd e es fs⟩

/-- non-vacuity: backward swaps the lists; a fixed-size handle's size is taken from the first *send* index and carried
    over a neighbour with an empty send list (the value 3 of the first neighbour reaches the second). -/
example :
    (Gen.chooseSend false [1, 2] [3], Gen.chooseRecv false [1, 2] [3],
     Gen.trackersStepFixed true (Gen.trackersInitFixed true) 2 0 3,
     Gen.trackersStepFixed true 3 0 4 99, Gen.recvAllocSizes 0, Gen.recvAllocSizes 3) =
      ([3], [1, 2], 3, 3, true, false) := by decide +kernel

/-- **src_check_and_continue.**  The body `checkAndContinue` runs for one completed request, as read from the source
    (`buffer_func` with the `MPI_Get_count` value iff `getCount`, read from the status at the *position in the completed
    list*; `skipZeroIndices`; `if(!finished) { comm_func on buffers[*index] / requests2[*index]; skipZeroIndices;
    if(valid) --no_completed; }`; the tracker is `trackers[*index]`, `setReceivingIndex(handle, *index)` comes first —
    all checked by the translator), is what the small-step machine `Pair` does in `recvDone` (buffer functor = the
    configuration's unpack, communication functor = `SetupRecvRequest`) and in `sendDone` (null functor,
    `SetupSendRequest`, the new message appended to the channel), and what the function-level `recvLoop` does per
    message; the completion is *not* counted (`--no_completed`) exactly when a new communication was set up and `valid`
    is set — the rule by which `VarSys`/`FixSys` decrement their counters.  For every configuration, state, message.
    (`recvDoneResult`, `sendDoneResult`, `recvLoopResult` in Proofs/C06Basic.lean only say where the components of the
    body's result go: tracker, buffer, accumulator, request state `posted`/`active`/`null`, the new message onto the
    channel, "still counted" flag cleared when nothing was set up.) -/
theorem src_check_and_continue {σ β γ : Type} (c : PairCfg α σ) (s : Pair α σ) (m : List α)
    (rep gc valid : Bool) (unpack : Tracker → MessageBuffer β → Nat → σ → Tracker × MessageBuffer β × σ)
    (cf : Tracker → MessageBuffer β → Tracker × MessageBuffer β × γ)
    (m' : List β) (ms : List (List β)) (t : Tracker) (b : MessageBuffer β) (posted n : Nat) (acc : σ) :
    (s.rreq = .complete m → Pair.step c s .recvDone =
      some (recvDoneResult s (Gen.checkAndContinueBody c.getCount true c.unpack (setupRecv c.repaired) m.length s.rt
                    (s.rb.received m) s.acc))) ∧
    (s.sreq = .complete → Pair.step c s .sendDone =
      some (sendDoneResult s (Gen.checkAndContinueBody (σ := Unit) false true (fun t b _ a => (t, b, a))
                    (fun t b => ((setupSend c.handle t b).tracker, (setupSend c.handle t b).buffer,
                                 (setupSend c.handle t b).message)) 0 s.st s.sb ()))) ∧
    (recvLoop rep gc unpack (m' :: ms) t b posted acc =
      recvLoopResult rep gc unpack ms posted
        (Gen.checkAndContinueBody gc true unpack (setupRecv rep) m'.length t (b.received m') acc)) ∧
    ((Gen.checkAndContinueBody gc valid unpack cf n t b acc).2.2.2.2 =
      (valid && (Gen.checkAndContinueBody gc valid unpack cf n t b acc).2.2.2.1.isSome)) ∧
    Gen.ccDefaults = (true, false) :=
  ⟨gen_recvDone c s m, gen_sendDone c s, gen_recvLoop rep gc unpack m' ms t b posted acc,
   gen_uncounted gc valid unpack cf n t b acc, gen_ccDefaults⟩

/-- non-vacuity: a receive tracker with sizes [2, 0, 1] gets a message of 2 items: the generated body unpacks index 5,
    skips the zero-size index, re-posts the receive (`some true`) and does not count the completion; with the last
    message the tracker is finished, nothing is posted and the completion counts. -/
example :
    let t : Tracker := ⟨0, 0, [5, 6, 7], true, [2, 0, 1], 0⟩
    let r1 := Gen.checkAndContinueBody true true (unpackEntries (α := Nat)) (setupRecv true) 2 t
                ((MessageBuffer.new 3).received [8, 9]) []
    let r2 := Gen.checkAndContinueBody true true (unpackEntries (α := Nat)) (setupRecv true) 1 r1.1
                (r1.2.1.received [4]) r1.2.2.1
    r1.1.iface = [7] ∧ r1.2.2.1 = [⟨5, 2, [8, 9]⟩] ∧ r1.2.2.2.1 = some true ∧ r1.2.2.2.2 = true ∧
    r2.1.iface = [] ∧ r2.2.2.1 = [⟨5, 2, [8, 9]⟩, ⟨7, 1, [4]⟩] ∧ r2.2.2.2.1 = none ∧ r2.2.2.2.2 = false := by
  intro t r1 r2; decide +kernel

/-- **src_progress_loops.**  Consistency of the three progress loops as read from the source, independent of the names
    of the locals: in `communicateFixedSize`, `communicateSizes`, `communicateVariableSize` every call of the loop is
    guarded by the counter it decrements (the data receives of the fixed path by `validRecvRequests` of the request
    vector the call works on), that counter was initialised over the vectors the call works on (`count_if` over its
    request vector; in the fixed path the neighbours with an empty list of its tracker vector are subtracted), the
    (trackers, buffers, requests) it is given were set up together by one `setupRequests` with the functor of that role
    (fixed-path data receives: by `receiveSizeAndSetupReceive`), the loop condition is the sum of exactly these counters
    and no counter is decremented by two calls — the facts `VarSys`/`FixSys` build in when they initialise and guard
    their counters. -/
theorem src_progress_loops :
    (∀ r ∈ Gen.progressLoops, r.2.2.1 = true ∧ r.2.2.2.1 = true ∧ r.2.2.2.2 = true) ∧
    Gen.progressLoops.map (fun r => (r.1, r.2.1)) =
      [("communicateFixedSize", "size"), ("communicateFixedSize", "send"), ("communicateFixedSize", "recv"),
       ("communicateFixedSize", "loop"), ("communicateSizes", "send"), ("communicateSizes", "recv"),
       ("communicateSizes", "loop"), ("communicateVariableSize", "send"), ("communicateVariableSize", "recv"),
       ("communicateVariableSize", "loop")] :=
  ⟨by decide, rfl⟩

end DV.C06
