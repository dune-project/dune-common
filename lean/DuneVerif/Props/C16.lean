/-
C16 — property theorems.

First the facade derivations: for any derived class whose primitives satisfy the primitive laws (`LawfulCore` /
`LawfulBase`, Proofs/C16Basic.lean) the operators the facades derive obey the iterator laws — for both `is_convertible`
branches and all three legacy facades (section `legacy`), and for the new `IteratorFacade` with its relational operators
derived from the difference or forwarded to the base iterators (section `newfacade`); whole operation histories collapse
to one `advance` by the net displacement.  The position based iterators of the library (GenericIterator, DenseIterator,
ContainerWrapperIterator: `posCore`; ArrayList iterators: `alCore`), std iterators, the IntegralRangeIterator and
DenseIterator-as-base are lawful; the pointer chasing SLList iterators are positions.
Then the hand-written IntegralRangeIterator (`ir_*`, incl. its machine difference; among them
`translator_read_all_bodies`, which says that the translator understood every body it looked for) and IndexedIterator;
the ranges (loops proved for every sufficient fuel); the hybrid helpers, static ranges and integer sequences.

The operator bodies the statements talk about are evaluated from DuneVerif/Gen/C16.lean, which
tools/translators/tr_c16.py regenerates from the headers on every run (Proofs/C16Gen.lean states what each means, by `rfl`).
-/
import DuneVerif.Proofs.C16Ranges
import DuneVerif.Proofs.C16Extra

namespace DV.C16

section legacy
variable {I : Type} {k : Core I} {pos : I → Int} {same : I → I → Prop}

/-- `--(++it) == it`, `++(--it) == it`; the postfix forms return the old value and step the iterator -/
theorem inc_dec_inverse (h : LawfulCore k pos same) (i : I) :
    Legacy.preDec k (Legacy.preInc k i) = i ∧ Legacy.preInc k (Legacy.preDec k i) = i ∧
    (Legacy.postInc k i).1 = i ∧ (Legacy.postInc k i).2 = Legacy.preInc k i ∧
    (Legacy.postDec k i).1 = i ∧ (Legacy.postDec k i).2 = Legacy.preDec k i :=
  ⟨h.inc_dec i, h.dec_inc i, rfl, rfl, rfl, rfl⟩

/-- `it += n`, `it + n`, `it -= n`, `it - n` are `n` (resp. `-n`) single `++`/`--` steps, for either sign of `n` -/
theorem advance_n_eq_n_steps (h : LawfulCore k pos same) (i : I) (n : Int) :
    Legacy.addAssign k i n = steps (Legacy.preInc k) (Legacy.preDec k) i n ∧
    Legacy.plus k i n = steps (Legacy.preInc k) (Legacy.preDec k) i n ∧
    Legacy.subAssign k i n = steps (Legacy.preInc k) (Legacy.preDec k) i (-n) ∧
    Legacy.minus k i n = steps (Legacy.preInc k) (Legacy.preDec k) i (-n) := by
  have key := h.advances.eq_steps i
  exact ⟨key n, key n, key (-n), key (-n)⟩

theorem advance_pos (h : LawfulCore k pos same) (i : I) (n : Int) :
    pos (Legacy.plus k i n) = pos i + n ∧ pos (Legacy.minus k i n) = pos i - n ∧
    pos (steps (Legacy.preInc k) (Legacy.preDec k) i n) = pos i + n :=
  ⟨h.pos_adv i n, h.pos_adv i (-n), (congrArg pos (h.advances.eq_steps i n)).symm.trans (h.pos_adv i n)⟩

/-- For all histories: any sequence of `++ -- ++(int) --(int) += -= (it = it + n) (it = it - n)` applied to an iterator
equals one `advance` by the net displacement; hence the position moves by exactly that displacement and two
histories with the same net displacement end in the same iterator -/
theorem history_eq_advance (h : LawfulCore k pos same) (i : I) (s t : List Step) :
    (Legacy.stepOps k).run i s = k.advance i (deltaSum s) ∧
    pos ((Legacy.stepOps k).run i s) = pos i + deltaSum s ∧
    (deltaSum s = deltaSum t → (Legacy.stepOps k).run i s = (Legacy.stepOps k).run i t) := by
  have A := h.advances
  have hrun : ∀ u : List Step, (Legacy.stepOps k).run i u = k.advance i (deltaSum u) := fun u =>
    A.foldl (Legacy.stepOps k).apply Step.delta (fun j st => by
      cases st
      case inc | postInc => exact A.inc_eq j
      case dec | postDec => exact A.dec_eq j
      all_goals rfl) u i
  exact ⟨hrun s, by rw [hrun s, h.pos_adv], fun e => by rw [hrun s, hrun t, e]⟩

/-- `(a + n) - a == n` and `a - b` is the difference of the positions, in both `is_convertible` branches -/
theorem diff_consistent (h : LawfulCore k pos same) (conv : Bool) (a b : I) (n : Int) :
    Legacy.diff k conv (Legacy.plus k a n) a = n ∧ Legacy.diff k conv a b = pos a - pos b := by
  rw [Legacy.diff_pos h, Legacy.diff_pos h, Legacy.plus_spec, h.pos_adv]
  exact ⟨add_sub_self_left _ _, rfl⟩

/-- the four relational operators are the order of the positions, in both `is_convertible` branches;
equality is equality of positions within one container — for the `==`/`!=` of all three facades -/
theorem rel_ops_are_position_order (h : LawfulCore k pos same) (conv : Bool) (l r : I) :
    Legacy.lt k conv l r = decide (pos l < pos r) ∧
    Legacy.le k conv l r = decide (pos l ≤ pos r) ∧
    Legacy.gt k conv l r = decide (pos l > pos r) ∧
    Legacy.ge k conv l r = decide (pos l ≥ pos r) ∧
    (same l r → Legacy.eq k conv l r = decide (pos l = pos r)) ∧
    (same l r → Legacy.ne k conv l r = decide (pos l ≠ pos r)) ∧
    (same l r → Legacy.eqBi k conv l r = decide (pos l = pos r)) ∧
    (same l r → Legacy.neBi k conv l r = decide (pos l ≠ pos r)) ∧
    (same l r → Legacy.eqFw k conv l r = decide (pos l = pos r)) ∧
    (same l r → Legacy.neFw k conv l r = decide (pos l ≠ pos r)) :=
  ⟨Legacy.lt_pos h conv l r, Legacy.le_pos h conv l r, Legacy.gt_pos h conv l r, Legacy.ge_pos h conv l r,
    Legacy.eq_pos h conv, Legacy.ne_pos h conv, Legacy.eqBi_pos h conv, Legacy.neBi_pos h conv,
    Legacy.eqFw_pos h conv, Legacy.neFw_pos h conv⟩

/-- `<` is a strict total order on the iterators of one container (irreflexive, asymmetric, transitive,
trichotomous), `<=`/`>=` are the negations of `>`/`<`, `>` is the converse of `<` — whatever branches
(`c1 … c4`) the operand types select -/
theorem strict_order (h : LawfulCore k pos same) (c1 c2 c3 c4 : Bool) (a b c : I) :
    Legacy.lt k c1 a a = false ∧
    (Legacy.lt k c1 a b = true → Legacy.lt k c2 b a = false) ∧
    (Legacy.lt k c1 a b = true → Legacy.lt k c2 b c = true → Legacy.lt k c3 a c = true) ∧
    (same a b → (Legacy.lt k c1 a b = true ∨ Legacy.eq k c2 a b = true ∨ Legacy.gt k c3 a b = true)) ∧
    (same a b → ¬ (Legacy.lt k c1 a b = true ∧ Legacy.eq k c2 a b = true)) ∧
    (same a b → ¬ (Legacy.gt k c1 a b = true ∧ Legacy.eq k c2 a b = true)) ∧
    Legacy.le k c1 a b = !Legacy.gt k c2 a b ∧
    Legacy.ge k c1 a b = !Legacy.lt k c2 a b ∧
    Legacy.gt k c1 a b = Legacy.lt k c4 b a := by
  obtain ⟨irrefl, asymm, trans, tri, lt_ne, gt_ne, le_gt, ge_lt⟩ := pos_order_laws (pos a) (pos b) (pos c)
  simp only [Legacy.lt_pos h, Legacy.le_pos h, Legacy.gt_pos h, Legacy.ge_pos h]
  exact ⟨irrefl, asymm, trans, fun hs => Legacy.eq_pos h c2 hs ▸ tri, fun hs => Legacy.eq_pos h c2 hs ▸ lt_ne,
    fun hs => Legacy.eq_pos h c2 hs ▸ gt_ne, le_gt, ge_lt, trivial⟩

/-- a mutable and a const iterator (they differ only in which `is_convertible` branch is compiled and in
the operand order) compare equal exactly when they stand at the same position of the same container;
`==` is symmetric and `!=` is its negation in all three facades -/
theorem const_mutable_equal (h : LawfulCore k pos same) (c1 c2 : Bool) (m c : I) (hs : same m c) :
    (Legacy.eq k c1 m c = true ↔ pos m = pos c) ∧
    Legacy.eq k c1 m c = Legacy.eq k c2 m c ∧
    Legacy.eq k c1 m c = Legacy.eq k c2 c m ∧
    Legacy.ne k c1 m c = !Legacy.eq k c2 m c ∧
    Legacy.eqBi k c1 m c = Legacy.eq k c2 c m ∧
    Legacy.neBi k c1 m c = !Legacy.eq k c2 m c ∧
    Legacy.eqFw k c1 m c = Legacy.eq k c2 c m ∧
    Legacy.neFw k c1 m c = !Legacy.eq k c2 m c := by
  have hs' := h.same_symm m c hs
  have sym : decide (pos c = pos m) = decide (pos m = pos c) := decide_eq_decide.mpr eq_comm
  simp only [Legacy.eq_pos h _ hs, Legacy.eq_pos h _ hs', Legacy.ne_pos h _ hs, Legacy.eqBi_pos h _ hs,
    Legacy.neBi_pos h _ hs, Legacy.eqFw_pos h _ hs, Legacy.neFw_pos h _ hs, sym, decide_not, decide_eq_true_iff, and_self]

end legacy

/-- the position based iterators of the library satisfy the primitive laws (so all of the above applies
to GenericIterator, DenseIterator, ContainerWrapperIterator and to the ArrayList iterators) -/
theorem posCore_is_lawful :
    LawfulCore posCore It.pos (fun a b => a.cont = b.cont) ∧ LawfulCore alCore It.pos (fun a b => a.cont = b.cont) :=
  ⟨posCore_lawful, alCore_lawful⟩

/-- `it[n] == *(it + n)` for the position based iterators (`elementAt(n)` vs. `dereference` after `advance(n)`) -/
theorem index_eq_deref_advance (c : List Int) (i : It) (n : Int) :
    elementAt c i (Legacy.indexArg n) = dereference c (Legacy.plus posCore i n) ∧
    alElementAt c i (Legacy.indexArg n) = alDereference c (Legacy.plus alCore i n) := ⟨rfl, rfl⟩

/-- and both denote the element at position `pos + n` of the container -/
theorem index_is_element (c : List Int) (i : It) (n : Int) (h0 : 0 ≤ i.pos + n) :
    elementAt c i (Legacy.indexArg n) = c[(i.pos + n).toNat]? ∧ alElementAt c i (Legacy.indexArg n) = c[(i.pos + n).toNat]? := by
  rw [elementAt_spec, alElementAt_spec, Legacy.indexArg_spec]
  exact ⟨getAt_nonneg c h0, getAt_nonneg c h0⟩

/-- the additional iterators the dense containers hand out: `beforeEnd()` is one `--` before `end()`,
`beforeBegin()` one `--` before `begin()`, `find(i)` is `min(i,size)` increments behind `begin()` -/
theorem factory_positions (q n i : Nat) :
    (⟨q, beforeEndPos n⟩ : It) = Legacy.preDec posCore ⟨q, n⟩ ∧
    (⟨q, beforeBeginPos⟩ : It) = Legacy.preDec posCore ⟨q, 0⟩ ∧
    (⟨q, findPos n i⟩ : It) = steps (Legacy.preInc posCore) (Legacy.preDec posCore) ⟨q, 0⟩ (min i n : Nat) ∧
    (i < n → findPos n i = i) ∧ (n ≤ i → findPos n i = n) :=
  ⟨rfl, rfl, (congrArg (It.mk q) (Int.zero_add _).symm).trans (posCore_lawful.advances.eq_steps ⟨q, 0⟩ _),
    fun h => congrArg Int.ofNat (Nat.min_eq_left (Nat.le_of_lt h)), fun h => congrArg Int.ofNat (Nat.min_eq_right h)⟩

-- non-vacuity: concrete iterators of a three element container
example : Legacy.lt posCore false ⟨7, 0⟩ ⟨7, 2⟩ = true ∧ Legacy.lt posCore true ⟨7, 2⟩ ⟨7, 2⟩ = false ∧
    Legacy.diff posCore false (Legacy.plus posCore ⟨7, 3⟩ (-4)) ⟨7, 3⟩ = -4 ∧
    elementAt [5, 6, 7] ⟨7, 0⟩ 2 = some 7 ∧ Legacy.eq posCore false ⟨7, 1⟩ ⟨8, 1⟩ = false ∧
    Legacy.neBi alCore false ⟨7, 1⟩ ⟨7, 2⟩ = true ∧
    (Legacy.stepOps posCore).run ⟨7, 1⟩ [.inc, .add 3, .postDec, .minus 2, .sub (-1)] = ⟨7, 3⟩ := by decide +kernel

/-- the SLList iterators chase pointers; on a list whose nodes are distinct they are positions: `p` increments from
`begin()` reach the `p`-th node (`end()` = null for `p = size`), `==`/`!=` of the forward facade decide equality
of positions in both branches, and the ModifyIterator's trailing iterator stays one node behind -/
theorem sll_iterator_is_position (nodes : List Nat) (hnd : nodes.Nodup) (p q : Nat) (hp : p ≤ nodes.length)
    (hq : q ≤ nodes.length) (beforeHead : Nat) :
    SL.at_ nodes p = nodes[p]? ∧ SL.at_ nodes nodes.length = SL.end_ ∧
    SL.equals (SL.at_ nodes p) (SL.at_ nodes q) = decide (p = q) ∧
    SL.equals (SL.at_ nodes q) (SL.at_ nodes p) = decide (p = q) ∧
    stepsNat (SL.mNext beforeHead nodes) p (SL.mBegin beforeHead nodes) = (SL.at_ (beforeHead :: nodes) p, SL.at_ nodes p) ∧
    SL.mEquals (stepsNat (SL.mNext beforeHead nodes) p (SL.mBegin beforeHead nodes))
      (stepsNat (SL.mNext beforeHead nodes) q (SL.mBegin beforeHead nodes)) = decide (p = q) := by
  refine ⟨SL.at_eq nodes hnd p hp, SL.at_end nodes hnd, SL.equals_iff_pos nodes hnd p q hp hq, ?_, SL.mAt _ _ _, ?_⟩
  · rw [SL.equals_iff_pos nodes hnd q p hq hp]; exact decide_eq_decide.mpr ⟨Eq.symm, Eq.symm⟩
  · rw [SL.mAt, SL.mAt]; exact SL.equals_iff_pos nodes hnd p q hp hq

example : SL.at_ [40, 10, 30] 2 = some 30 ∧ SL.at_ [40, 10, 30] 3 = none ∧
    SL.equals (SL.at_ [40, 10, 30] 1) (SL.at_ [40, 10, 30] 1) = true ∧
    stepsNat (SL.mNext 99 [40, 10, 30]) 2 (SL.mBegin 99 [40, 10, 30]) = (some 10, some 30) := by decide +kernel

section newfacade
variable {B : Type} {b : Base B} {pos : B → Int} {same : B → B → Prop}

theorem inc_dec_inverse_new (h : LawfulBase b pos same) (i : B) :
    NewF.preDec b (NewF.preInc b i) = i ∧ NewF.preInc b (NewF.preDec b i) = i ∧
    (NewF.postInc b i).1 = i ∧ (NewF.postInc b i).2 = NewF.preInc b i ∧
    (NewF.postDec b i).1 = i ∧ (NewF.postDec b i).2 = NewF.preDec b i :=
  ⟨h.inc_dec i, h.dec_inc i, rfl, rfl, rfl, rfl⟩

theorem advance_n_eq_n_steps_new (h : LawfulBase b pos same) (i : B) (n : Int) :
    NewF.addAssign b i n = steps (NewF.preInc b) (NewF.preDec b) i n ∧
    NewF.plus b i n = steps (NewF.preInc b) (NewF.preDec b) i n ∧
    NewF.subAssign b i n = steps (NewF.preInc b) (NewF.preDec b) i (-n) ∧
    NewF.minus b i n = steps (NewF.preInc b) (NewF.preDec b) i (-n) := by
  have key := h.advances.eq_steps i
  exact ⟨key n, key n, key (-n), key (-n)⟩

/-- the second branch of `operator++`/`operator--` (`derived() += 1`, `derived() -= 1`, taken by derived classes
without an incrementable base iterator) does the same as the first -/
theorem advance_branch_agrees_new (h : LawfulBase b pos same) (i : B) :
    NewF.preIncAdv b i = NewF.preInc b i ∧ NewF.preDecAdv b i = NewF.preDec b i := by
  rw [NewF.preIncAdv_spec, NewF.preDecAdv_spec]
  exact ⟨(h.advances.inc_eq i).symm, (h.advances.dec_eq i).symm⟩

/-- `it[n]` is defined as `*(it+n)`, hence the dereference after `n` single steps -/
theorem index_eq_deref_advance_new {α : Type} (h : LawfulBase b pos same) (drf : B → α) (i : B) (n : Int) :
    NewF.index b drf i n = drf (NewF.plus b i n) ∧
    NewF.index b drf i n = drf (steps (NewF.preInc b) (NewF.preDec b) i n) :=
  ⟨rfl, congrArg drf (h.advances.eq_steps i n)⟩

/-- For all histories (both branches of `++`/`--`): a history is one `+=` by the net displacement -/
theorem history_eq_advance_new (h : LawfulBase b pos same) (i : B) (s t : List Step) :
    (NewF.stepOps b).run i s = b.addAssign i (deltaSum s) ∧
    (NewF.stepOpsAdv b).run i s = b.addAssign i (deltaSum s) ∧
    pos ((NewF.stepOps b).run i s) = pos i + deltaSum s ∧
    (deltaSum s = deltaSum t → (NewF.stepOps b).run i s = (NewF.stepOps b).run i t) := by
  have A := h.advances
  have hrun : ∀ u : List Step, (NewF.stepOps b).run i u = b.addAssign i (deltaSum u) := fun u =>
    A.foldl (NewF.stepOps b).apply Step.delta (fun j st => by
      cases st
      case inc | postInc => exact A.inc_eq j
      case dec | postDec => exact A.dec_eq j
      all_goals rfl) u i
  have hrun' : (NewF.stepOpsAdv b).run i s = b.addAssign i (deltaSum s) :=
    A.foldl (NewF.stepOpsAdv b).apply Step.delta (fun j st => by cases st <;> rfl) s i
  exact ⟨hrun s, hrun', by rw [hrun s, h.pos_add], fun e => by rw [hrun s, hrun t, e]⟩

theorem diff_consistent_new (h : LawfulBase b pos same) (a c : B) (n : Int) :
    NewF.diff b (NewF.plus b a n) a = n ∧ NewF.diff b a c = pos a - pos c := by
  rw [NewF.diff_pos h, NewF.diff_pos h]
  exact ⟨(congrArg (· - pos a) (h.pos_add a n)).trans (add_sub_self_left _ _), rfl⟩

theorem rel_ops_are_position_order_new (h : LawfulBase b pos same) (l r : B) :
    NewF.lt b l r = decide (pos l < pos r) ∧
    NewF.le b l r = decide (pos l ≤ pos r) ∧
    NewF.gt b l r = decide (pos l > pos r) ∧
    NewF.ge b l r = decide (pos l ≥ pos r) ∧
    (same l r → NewF.eq b l r = decide (pos l = pos r)) ∧
    (same l r → NewF.ne b l r = decide (pos l ≠ pos r)) :=
  ⟨NewF.lt_pos h l r, NewF.le_pos h l r, NewF.gt_pos h l r, NewF.ge_pos h l r, NewF.eq_pos h, NewF.ne_pos h⟩

theorem strict_order_new (h : LawfulBase b pos same) (x y z : B) :
    NewF.lt b x x = false ∧
    (NewF.lt b x y = true → NewF.lt b y x = false) ∧
    (NewF.lt b x y = true → NewF.lt b y z = true → NewF.lt b x z = true) ∧
    (same x y → (NewF.lt b x y = true ∨ NewF.eq b x y = true ∨ NewF.gt b x y = true)) ∧
    (same x y → ¬ (NewF.lt b x y = true ∧ NewF.eq b x y = true)) ∧
    (same x y → ¬ (NewF.gt b x y = true ∧ NewF.eq b x y = true)) ∧
    NewF.le b x y = !NewF.gt b x y ∧
    NewF.ge b x y = !NewF.lt b x y ∧
    NewF.gt b x y = NewF.lt b y x := by
  obtain ⟨irrefl, asymm, trans, tri, lt_ne, gt_ne, le_gt, ge_lt⟩ := pos_order_laws (pos x) (pos y) (pos z)
  simp only [NewF.lt_pos h, NewF.le_pos h, NewF.gt_pos h, NewF.ge_pos h]
  exact ⟨irrefl, asymm, trans, fun hs => NewF.eq_pos h hs ▸ tri, fun hs => NewF.eq_pos h hs ▸ lt_ne,
    fun hs => NewF.eq_pos h hs ▸ gt_ne, le_gt, ge_lt, trivial⟩

/-- the relational operators of a derived class WITH base iterators (TransformedRangeIterator, sparse ranges): they
are forwarded to the base iterators (fix C16_facade_order_by_base), hence the position order, with no reference to
the difference and so for positions ANY distance apart -/
theorem rel_ops_forwarded_are_position_order_new (h : LawfulBase b pos same) (l r : B) :
    NewF.ltB b l r = decide (pos l < pos r) ∧
    NewF.leB b l r = decide (pos l ≤ pos r) ∧
    NewF.gtB b l r = decide (pos l > pos r) ∧
    NewF.geB b l r = decide (pos l ≥ pos r) ∧
    NewF.ltB b l r = NewF.lt b l r ∧ NewF.leB b l r = NewF.le b l r ∧
    NewF.gtB b l r = NewF.gt b l r ∧ NewF.geB b l r = NewF.ge b l r := by
  simp only [NewF.ltB_pos h, NewF.leB_pos h, NewF.gtB_pos h, NewF.geB_pos h, NewF.lt_pos h, NewF.le_pos h, NewF.gt_pos h,
    NewF.ge_pos h, and_self]

theorem strict_order_forwarded_new (h : LawfulBase b pos same) (x y z : B) :
    NewF.ltB b x x = false ∧
    (NewF.ltB b x y = true → NewF.ltB b y x = false) ∧
    (NewF.ltB b x y = true → NewF.ltB b y z = true → NewF.ltB b x z = true) ∧
    (same x y → (NewF.ltB b x y = true ∨ NewF.eq b x y = true ∨ NewF.gtB b x y = true)) ∧
    (same x y → ¬ (NewF.ltB b x y = true ∧ NewF.eq b x y = true)) ∧
    (same x y → ¬ (NewF.gtB b x y = true ∧ NewF.eq b x y = true)) ∧
    NewF.leB b x y = !NewF.gtB b x y ∧
    NewF.geB b x y = !NewF.ltB b x y ∧
    NewF.gtB b x y = NewF.ltB b y x := by
  obtain ⟨irrefl, asymm, trans, tri, lt_ne, gt_ne, le_gt, ge_lt⟩ := pos_order_laws (pos x) (pos y) (pos z)
  simp only [NewF.ltB_pos h, NewF.leB_pos h, NewF.gtB_pos h, NewF.geB_pos h]
  exact ⟨irrefl, asymm, trans, fun hs => NewF.eq_pos h hs ▸ tri, fun hs => NewF.eq_pos h hs ▸ lt_ne,
    fun hs => NewF.eq_pos h hs ▸ gt_ne, le_gt, ge_lt, trivial⟩

end newfacade

/-- std iterators, IntegralRangeIterator and DenseIterator are lawful bases: the `_new` theorems apply to
transformed ranges over std containers, over integral ranges, and to sparse ranges over dense vectors -/
theorem bases_are_lawful :
    LawfulBase stdBase It.pos (fun a b => a.cont = b.cont) ∧
    LawfulBase irBase IR.value (fun _ _ => True) ∧
    LawfulBase denseBase It.pos (fun a b => a.cont = b.cont) :=
  ⟨stdBase_lawful, irBase_lawful, denseBase_lawful⟩

-- non-vacuity: the three bases are lawful, so e.g. a transformed iterator over an integral range obeys the laws
example : NewF.ltB irBase ⟨3⟩ ⟨3⟩ = false ∧ NewF.ltB irBase ⟨3⟩ ⟨5⟩ = true ∧ NewF.geB denseBase ⟨0, 2⟩ ⟨0, 1⟩ = true ∧
    NewF.leB stdBase ⟨0, 4⟩ ⟨0, 4⟩ = true ∧ NewF.gtB stdBase ⟨0, 4⟩ ⟨0, 5⟩ = false := by decide +kernel
example : NewF.lt irBase ⟨3⟩ ⟨3⟩ = false ∧ NewF.lt irBase ⟨3⟩ ⟨5⟩ = true ∧
    NewF.minus stdBase ⟨0, 4⟩ 3 = ⟨0, 1⟩ ∧ NewF.diff denseBase (NewF.plus denseBase ⟨0, 1⟩ 2) ⟨0, 1⟩ = 2 ∧
    NewF.index stdBase (fun i => (getAt [5, 6, 7] i.pos).map (3 * · + 1)) ⟨0, 0⟩ 2 = some 22 ∧
    NewF.preDecAdv stdBase ⟨0, 4⟩ = ⟨0, 3⟩ ∧
    (NewF.stepOpsAdv stdBase).run ⟨0, 2⟩ [.dec, .plus 4, .postInc, .sub 3] = ⟨0, 3⟩ := by decide +kernel

theorem ir_inc_dec_inverse (a : IR) :
    IR.dec (IR.inc a) = a ∧ IR.inc (IR.dec a) = a ∧ (IR.postInc a).1 = a ∧ (IR.postInc a).2 = IR.inc a ∧
    (IR.postDec a).1 = a ∧ (IR.postDec a).2 = IR.dec a :=
  ⟨irBase_lawful.inc_dec a, irBase_lawful.dec_inc a, rfl, rfl, rfl, rfl⟩

theorem ir_advance_n_eq_n_steps (a : IR) (n : Int) :
    IR.addAssign a n = steps IR.inc IR.dec a n ∧ IR.plus a n = steps IR.inc IR.dec a n ∧
    IR.nplus n a = steps IR.inc IR.dec a n ∧
    IR.subAssign a n = steps IR.inc IR.dec a (-n) ∧ IR.minus a n = steps IR.inc IR.dec a (-n) := by
  have key := irBase_lawful.advances.eq_steps a
  exact ⟨key n, key n, key n, key (-n), key (-n)⟩

theorem ir_index_eq_deref_advance (a : IR) (n : Int) : IR.index a n = IR.deref (IR.plus a n) := rfl

/-- For all histories of the hand-written iterator: the value moves by the net displacement -/
theorem ir_history (a : IR) (s : List Step) : IR.stepOps.run a s = ⟨a.value + deltaSum s⟩ :=
  irBase_lawful.advances.foldl IR.stepOps.apply Step.delta (fun j st => by
    cases st
    case inc | postInc => exact irBase_lawful.advances.inc_eq j
    case dec | postDec => exact irBase_lawful.advances.dec_eq j
    all_goals rfl) s a

theorem ir_diff_consistent (a b : IR) (n : Int) :
    IR.diff (IR.plus a n) a = n ∧ IR.diff (IR.nplus n a) a = n ∧ IR.diff a (IR.minus a n) = n ∧
    IR.diff a b = a.value - b.value :=
  ⟨add_sub_self_left a.value n, add_sub_self_left a.value n, Int.sub_sub_self a.value n, rfl⟩

/-- the difference as the machine computes it for a `bits` wide integral type (subtraction of the unsigned
representations, read as signed — the repaired `operator-`) is the true difference whenever that is representable in
the signed difference type, for ALL values of the two iterators: e.g. `IntegralRange<unsigned>` straddling `2^31`,
`IntegralRange<std::size_t>` straddling `2^63`, ranges of narrow signed types -/
theorem ir_diff_machine_exact (bits : Nat) (hb : 0 < bits) (a b : IR)
    (h1 : -(2 ^ (bits - 1)) ≤ a.value - b.value) (h2 : a.value - b.value < 2 ^ (bits - 1)) :
    IR.diffW bits a b = a.value - b.value ∧ IR.diffW bits a b = IR.diff a b := by
  have e : IR.diffW bits a b = a.value - b.value := (toSigned_emod bits hb _).trans
    (Int.bmod_eq_of_le ((half_two_pow bits hb).1 ▸ h1) ((half_two_pow bits hb).2 ▸ h2))
  exact ⟨e, e⟩

/-- the six comparisons of the repaired iterator are the order of the values (= positions `value - from`) -/
theorem ir_rel_ops_are_position_order (from_ : Int) (a b : IR) :
    IR.lt a b = decide (a.value - from_ < b.value - from_) ∧
    IR.le a b = decide (a.value - from_ ≤ b.value - from_) ∧
    IR.gt a b = decide (a.value - from_ > b.value - from_) ∧
    IR.ge a b = decide (a.value - from_ ≥ b.value - from_) ∧
    IR.eq a b = decide (a.value - from_ = b.value - from_) ∧
    IR.ne a b = decide (a.value - from_ ≠ b.value - from_) := by
  simp only [IR.lt_spec, IR.le_spec, IR.gt_spec, IR.ge_spec, IR.eq_spec, IR.ne_spec, decide_not,
    Int.sub_lt_sub_right_iff, Int.sub_le_sub_right_iff, Int.sub_left_inj, and_self]

/-- `<` of the repaired iterator is a strict total order (this is what fails for the unrepaired code:
there `it < it` is `true`) -/
theorem ir_strict_order (a b c : IR) :
    IR.lt a a = false ∧ IR.gt a a = false ∧
    (IR.lt a b = true → IR.lt b a = false) ∧
    (IR.lt a b = true → IR.lt b c = true → IR.lt a c = true) ∧
    (IR.lt a b = true ∨ IR.eq a b = true ∨ IR.gt a b = true) ∧
    ¬ (IR.lt a b = true ∧ IR.eq a b = true) ∧ ¬ (IR.gt a b = true ∧ IR.eq a b = true) ∧
    IR.le a b = !IR.gt a b ∧ IR.ge a b = !IR.lt a b ∧ IR.gt a b = IR.lt b a := by
  obtain ⟨irrefl, asymm, trans, tri, lt_ne, gt_ne, le_gt, ge_lt⟩ := pos_order_laws a.value b.value c.value
  simp only [IR.lt_spec, IR.gt_spec, IR.le_spec, IR.ge_spec, IR.eq_spec]
  exact ⟨irrefl, irrefl, asymm, trans, tri, lt_ne, gt_ne, le_gt, ge_lt, trivial⟩

/-- Every operator body the translator looks for in the headers was found and understood
(nothing fell back to its canonical form unread).  `Gen.unparsed` is regenerated on every run; a body that leaves
the translator's grammar makes this obligation fail, and the check then searches for a failing input. -/
theorem translator_read_all_bodies : Gen.unparsed = [] := rfl

/-- For all integral types and bounds: as the machine evaluates them for a `bits` wide integral type — whatever the
width, and however far apart the two values are (up to the whole extent of the type, where the difference of the two
iterators no longer fits `difference_type`) — the six comparisons of the IntegralRangeIterator are the order of the
positions and coincide with the exact-integer comparisons all the other `ir_*` theorems speak about.  (The bodies
are re-read from rangeutilities.hh; a body that derives the order from `*this - other` or from a value cast to
`difference_type` is translated with the wrapping `E.wsub`, and this theorem then fails to compile.) -/
theorem ir_rel_ops_all_widths (bits : Nat) (from_ : Int) (a b : IR) :
    IR.ltW bits a b = decide (a.value - from_ < b.value - from_) ∧
    IR.leW bits a b = decide (a.value - from_ ≤ b.value - from_) ∧
    IR.gtW bits a b = decide (a.value - from_ > b.value - from_) ∧
    IR.geW bits a b = decide (a.value - from_ ≥ b.value - from_) ∧
    IR.eqW bits a b = decide (a.value - from_ = b.value - from_) ∧
    IR.neW bits a b = decide (a.value - from_ ≠ b.value - from_) ∧
    IR.ltW bits a b = IR.lt a b ∧ IR.leW bits a b = IR.le a b ∧ IR.gtW bits a b = IR.gt a b ∧
    IR.geW bits a b = IR.ge a b ∧ IR.eqW bits a b = IR.eq a b ∧ IR.neW bits a b = IR.ne a b := by
  obtain ⟨lt, le, gt, ge, eq, ne⟩ := ir_rel_ops_are_position_order from_ a b
  exact ⟨lt, le, gt, ge, eq, ne, rfl, rfl, rfl, rfl, rfl, rfl⟩

-- non-vacuity: IntegralRange<unsigned char>(0,200), IntegralRange<int>(-2e9,2e9): begin() < end(), although the
-- machine difference end() - begin() is negative
example : IR.ltW 8 ⟨0⟩ ⟨200⟩ = true ∧ IR.gtW 8 ⟨200⟩ ⟨0⟩ = true ∧ IR.diffW 8 ⟨200⟩ ⟨0⟩ = -56 ∧
    IR.ltW 32 ⟨-2000000000⟩ ⟨2000000000⟩ = true ∧ IR.diffW 32 ⟨2000000000⟩ ⟨-2000000000⟩ = -294967296 ∧
    IR.geW 8 ⟨-128⟩ ⟨127⟩ = false := by decide +kernel

/-- what the machine difference is when `difference_type` cannot hold the true one: the true difference shifted by
a multiple of `2^bits` into the range of the signed type — for ALL values (complements `ir_diff_machine_exact`) -/
theorem ir_diff_machine_wraps (bits : Nat) (hb : 0 < bits) (a b : IR) :
    (∃ k : Int, IR.diffW bits a b = (a.value - b.value) + k * 2 ^ bits) ∧
    -(2 ^ (bits - 1)) ≤ IR.diffW bits a b ∧ IR.diffW bits a b < 2 ^ (bits - 1) := by
  unfold IR.diffW
  rw [IR.diff_spec, toSigned_emod bits hb]
  obtain ⟨k, hk⟩ := Int.dvd_bmod_sub_self (x := a.value - b.value) (m := 2 ^ bits)
  refine ⟨⟨k, ?_⟩, (half_two_pow bits hb).1 ▸ Int.le_bmod (Nat.two_pow_pos bits),
    (half_two_pow bits hb).2 ▸ Int.bmod_lt (Nat.two_pow_pos bits)⟩
  rw [Int.add_comm, Int.mul_comm, ← natCast_two_pow, ← hk, Int.sub_add_cancel]

example : IR.diffW 8 ⟨200⟩ ⟨0⟩ = (200 - 0) + (-1) * 2 ^ 8 := by decide +kernel

/-- For all integral types and bounds, transformed ranges: the iterators of a transformed range over an
`IntegralRange<T>` (new IteratorFacade over `IntegralRangeIterator<T>`, as the machine evaluates it for a `bits` wide
`T`) compare as their positions for EVERY width and ALL values — also where `difference_type` cannot hold the distance
(repaired code, fix C16_facade_order_by_base: before, the facade took the sign of the wrapping machine difference and
e.g. `transformedRangeView(IntegralRange<unsigned char>(0,200), f)` had `begin() < end()` false).  The difference
itself is the true one whenever it is representable (and the true one modulo `2^bits` otherwise: `ir_diff_machine_wraps`). -/
theorem nf_over_integral_range_rel_ops (bits : Nat) (a b : IR) :
    NewF.ltB (irBaseW bits) a b = decide (a.value < b.value) ∧ NewF.leB (irBaseW bits) a b = decide (a.value ≤ b.value) ∧
    NewF.gtB (irBaseW bits) a b = decide (a.value > b.value) ∧ NewF.geB (irBaseW bits) a b = decide (a.value ≥ b.value) ∧
    NewF.eq (irBaseW bits) a b = decide (a.value = b.value) ∧ NewF.ne (irBaseW bits) a b = decide (a.value ≠ b.value) ∧
    (0 < bits → -(2 ^ (bits - 1)) ≤ a.value - b.value → a.value - b.value < 2 ^ (bits - 1) →
      NewF.diff (irBaseW bits) a b = a.value - b.value) := by
  simp only [NewF.ltB_spec, NewF.leB_spec, NewF.gtB_spec, NewF.geB_spec, NewF.ne_spec, NewF.eq, NewF.diff, irBaseW,
    IR.ltW_spec, IR.eqW_spec, not_decide_lt, decide_not, true_and]
  exact fun hb h1 h2 => (ir_diff_machine_exact bits hb a b h1 h2).1

-- non-vacuity: the inputs that were wrong before the repair
example : NewF.ltB (irBaseW 8) ⟨0⟩ ⟨200⟩ = true ∧ NewF.gtB (irBaseW 8) ⟨0⟩ ⟨200⟩ = false ∧
    NewF.geB (irBaseW 32) ⟨2000000000⟩ ⟨-2000000000⟩ = true ∧ NewF.leB (irBaseW 8) ⟨-100⟩ ⟨100⟩ = true := by decide +kernel
-- what a derived class WITHOUT base iterators still gets (sign of the machine difference): wrong beyond max(difference_type)
example : NewF.lt (irBaseW 8) ⟨0⟩ ⟨200⟩ = false := by decide +kernel

section indexed
variable {B : Type} {b : Base B} {pos : B → Int} {same : B → B → Prop}

/-- IndexedIterator: `index()` moves in lock step with the wrapped iterator, `++`/`--` are inverse,
`+=`/`-=` are `n` single steps -/
theorem indexed_tracks_position (h : LawfulBase b pos same) (i : Indexed B) (n : Int) :
    (Indexed.inc b i).index - pos (Indexed.inc b i).base = i.index - pos i.base ∧
    (Indexed.dec b i).index - pos (Indexed.dec b i).base = i.index - pos i.base ∧
    (Indexed.addAssign b i n).index - pos (Indexed.addAssign b i n).base = i.index - pos i.base ∧
    (Indexed.subAssign b i n).index - pos (Indexed.subAssign b i n).base = i.index - pos i.base ∧
    Indexed.dec b (Indexed.inc b i) = i ∧ Indexed.inc b (Indexed.dec b i) = i ∧
    Indexed.addAssign b i n = steps (Indexed.inc b) (Indexed.dec b) i n ∧
    Indexed.subAssign b i n = steps (Indexed.inc b) (Indexed.dec b) i (-n) ∧
    pos (Indexed.plus b i n) = pos i.base + n ∧ pos (Indexed.minus b i n) = pos i.base - n := by
  have A := Indexed.advances h
  have inv : ∀ m, (Indexed.addAssign b i m).index - pos (Indexed.addAssign b i m).base = i.index - pos i.base := by
    intro m
    show i.index + m - pos (b.addAssign i.base m) = _
    rw [h.pos_add, Int.add_sub_add_right]
  exact ⟨A.inc_eq i ▸ inv 1, A.dec_eq i ▸ inv (-1), inv n, inv (-n), A.inc_dec i, A.dec_inc i, A.eq_steps i n,
    A.eq_steps i (-n), h.pos_add i.base n, h.pos_add i.base (-n)⟩

/-- For all histories, from the initial state: an IndexedIterator constructed as `(it, start)` and moved by any
sequence of `++ -- ++(int) --(int) += -=` carries the index `start + (distance moved)`, and its wrapped iterator is
the wrapped iterator moved by the same net displacement -/
theorem indexed_history (h : LawfulBase b pos same) (it0 : B) (start : Int) (s : List Indexed.IStep) :
    Indexed.run b ⟨it0, start⟩ s = ⟨b.addAssign it0 (Indexed.ideltaSum s), start + Indexed.ideltaSum s⟩ ∧
    (Indexed.run b ⟨it0, start⟩ s).index = start + (pos (Indexed.run b ⟨it0, start⟩ s).base - pos it0) := by
  have A := Indexed.advances h
  have run : Indexed.run b ⟨it0, start⟩ s = Indexed.addAssign b ⟨it0, start⟩ (Indexed.ideltaSum s) :=
    A.foldl (Indexed.apply b) Indexed.IStep.delta (fun j st => by
      cases st
      case inc | postInc => exact A.inc_eq j
      case dec | postDec => exact A.dec_eq j
      all_goals rfl) s _
  refine ⟨run, ?_⟩
  rw [run]
  show start + Indexed.ideltaSum s = start + (pos (b.addAssign it0 _) - pos it0)
  rw [h.pos_add, add_sub_self_left]

/-- the comparisons and the difference of IndexedIterators are those of the wrapped iterators (position order);
the index takes no part, and iterators built from one `(begin, start)` by histories agree on the index exactly when
they are equal -/
theorem indexed_rel_ops (h : LawfulBase b pos same) (l r : Indexed B) :
    Indexed.lt b l r = decide (pos l.base < pos r.base) ∧
    Indexed.le b l r = decide (pos l.base ≤ pos r.base) ∧
    Indexed.gt b l r = decide (pos l.base > pos r.base) ∧
    Indexed.ge b l r = decide (pos l.base ≥ pos r.base) ∧
    Indexed.diff b l r = pos l.base - pos r.base ∧
    (same l.base r.base → Indexed.eq b l r = decide (pos l.base = pos r.base)) ∧
    (same l.base r.base → Indexed.ne b l r = decide (pos l.base ≠ pos r.base)) ∧
    (l.index - pos l.base = r.index - pos r.base → (pos l.base = pos r.base ↔ l.index = r.index)) :=
  ⟨NewF.lt_pos h l.base r.base, NewF.le_pos h l.base r.base, NewF.gt_pos h l.base r.base, NewF.ge_pos h l.base r.base,
    NewF.diff_pos h l.base r.base, NewF.eq_pos h, NewF.ne_pos h,
    fun hinv => ⟨fun e => (Int.sub_left_inj _).mp (e ▸ hinv), fun e => (Int.sub_right_inj _).mp (e ▸ hinv)⟩⟩

end indexed

-- non-vacuity (and the witnesses of the repaired defects: `it < it` is false; the difference across 2^31 is 4)
example : IR.lt ⟨0⟩ ⟨0⟩ = false ∧ IR.gt ⟨0⟩ ⟨0⟩ = false ∧ IR.le ⟨0⟩ ⟨0⟩ = true ∧ IR.lt ⟨-1⟩ ⟨2⟩ = true ∧
    IR.diff (IR.nplus (-3) ⟨7⟩) ⟨7⟩ = -3 ∧ IR.index ⟨250⟩ 4 = 254 ∧
    IR.diffW 32 ⟨2147483650⟩ ⟨2147483646⟩ = 4 ∧ IR.diffW 8 ⟨125⟩ ⟨130⟩ = -5 ∧ IR.diffW 8 ⟨-128⟩ ⟨-125⟩ = -3 ∧
    IR.stepOps.run ⟨5⟩ [.inc, .minus 3, .add 4, .postDec] = ⟨6⟩ := by decide +kernel
example : (Indexed.addAssign stdBase ⟨⟨0, 1⟩, 6⟩ 3).index = 9 ∧ (Indexed.subAssign stdBase ⟨⟨0, 4⟩, 9⟩ 3).index = 6 ∧
    (Indexed.plus stdBase ⟨⟨0, 1⟩, 6⟩ 3).pos = 4 ∧
    (Indexed.run stdBase ⟨⟨0, 0⟩, 7⟩ [.inc, .add 3, .postDec, .sub 2]).index = 8 ∧
    Indexed.lt stdBase ⟨⟨0, 1⟩, 50⟩ ⟨⟨0, 2⟩, 3⟩ = true := by decide +kernel

/-! The loop statements of the ranges are for every fuel that is at least the length of the range (`enumerate` etc. use
exactly that length): the range-based `for` stops by itself at `end()`; no statement holds because the fuel ran out. -/

/-- an integral range enumerates exactly `from, from+1, …, to-1`; `size()` is `to-from` whenever that fits
the unsigned type, `contains` is membership, `range[i]` is the `i`-th enumerated value; `IntegralRange(to)` starts at 0 -/
theorem integral_range_enumerates (r : IntegralRange) (h : r.lo ≤ r.hi) :
    (∀ fuel, (r.hi - r.lo).toNat ≤ fuel → r.enumerateFuel fuel = intRange r.lo r.hi) ∧
    r.enumerate = intRange r.lo r.hi ∧
    (∀ x, r.contains x = true ↔ x ∈ r.enumerate) ∧
    (r.empty = true ↔ r.enumerate = []) ∧
    (∀ bits : Nat, r.hi - r.lo < 2 ^ bits → r.size bits = r.enumerate.length) ∧
    (∀ i : Nat, i < r.enumerate.length → r.enumerate[i]? = some (r.get i)) ∧
    (∀ to : Int, 0 ≤ to → (IntegralRange.ofTo to).enumerate = intRange 0 to) := by
  rw [r.enumerate_eq h, length_intRange]
  refine ⟨r.enumerateFuel_eq h, rfl, r.contains_iff_mem, ?_, fun bits hb => ?_, fun i => getElem?_intRange r.lo r.hi,
    fun to hto => (IntegralRange.ofTo to).enumerate_eq hto⟩
  · rw [IntegralRange.empty_spec, decide_eq_true_iff, ← List.length_eq_zero_iff, length_intRange, Int.toNat_eq_zero,
      sub_nonpos_iff]
    exact ⟨fun e => Int.le_of_eq e.symm, Int.le_antisymm h⟩
  · rw [r.size_eq h hb, Int.toNat_sub_of_le h]

/-- a transformed range applies `f` to every element exactly once, in order: the produced values are
`map f` and the sequence of arguments `f` was called with is the container itself; `view[i]` is `f(c[i])` -/
theorem transformed_applies_once_in_order (f : Int → Int) (c : List Int) :
    (∀ fuel, c.length ≤ fuel → transformedEnumerateFuel fuel f c = (c.map f, c)) ∧
    transformedEnumerate f c = (c.map f, c) ∧
    (∀ i, viewAt f c i = c[i]?.map f) ∧ viewSize c = c.length ∧ (viewEmpty c = true ↔ c = []) := by
  have hf : ∀ fuel, c.length ≤ fuel → transformedEnumerateFuel fuel f c = (c.map f, c) := fun fuel hfu => by
    rw [transformedEnumerateFuel, transformLoop_eq_legacyLoop,
      legacyLoop_full posCore _ posCore_increment (fun _ _ _ => NewF.ne_pos stdBase_lawful rfl) c 0 fuel hfu]
  refine ⟨hf, hf _ (Nat.le_refl _), fun i => ?_, rfl, ?_⟩
  · show (getAt c ((0 : Int) + i)).map f = _
    rw [Int.zero_add, getAt_nat]
  · exact (stdBase_lawful.eq_iff ⟨0, 0⟩ ⟨0, c.length⟩ rfl).trans
      ⟨fun h0 => List.eq_nil_of_length_eq_zero (Int.ofNat_inj.mp h0.symm), fun h0 => h0 ▸ rfl⟩

theorem transformed_applies_once_in_order_integral (f : Int → Int) (r : IntegralRange) (h : r.lo ≤ r.hi) :
    (∀ fuel, (r.hi - r.lo).toNat ≤ fuel →
      transformedEnumerateIRFuel fuel f r = ((intRange r.lo r.hi).map f, intRange r.lo r.hi)) ∧
    transformedEnumerateIR f r = ((intRange r.lo r.hi).map f, intRange r.lo r.hi) := by
  have hf : ∀ fuel, (r.hi - r.lo).toNat ≤ fuel →
      transformedEnumerateIRFuel fuel f r = ((intRange r.lo r.hi).map f, intRange r.lo r.hi) := fun fuel hfu => by
    rw [transformedEnumerateIRFuel, transformLoopIR_eq_enumLoop]
    exact r.enumerateFuel_eq h fuel hfu ▸ rfl
  exact ⟨hf, hf _ (Nat.le_refl _)⟩

/-- a sparse range pairs every entry with its index; for a row of a DiagonalMatrix that index is the row index -/
theorem sparse_pairs_with_index (c : List Int) :
    (∀ fuel, c.length ≤ fuel → sparseEnumerateFuel fuel c = withIndexFrom 0 c) ∧
    sparseEnumerate c = withIndexFrom 0 c ∧
    (sparseEnumerate c).map Prod.fst = c ∧
    (sparseEnumerate c).map Prod.snd = (List.range c.length).map (fun (i : Nat) => (i : Int)) ∧
    (∀ row : Nat, row < c.length → sparseDiagRow c row = [(c[row]!, (row : Int))]) := by
  have hf : ∀ fuel, c.length ≤ fuel → sparseEnumerateFuel fuel c = withIndexFrom 0 c := fun fuel hfu =>
    (sparseLoop_eq_legacyLoop c 0 _ fuel 0).trans (congrArg (withIndexFrom 0)
      (legacyLoop_full posCore _ posCore_increment (fun _ _ _ => NewF.ne_pos denseBase_lawful rfl) c 0 fuel hfu))
  have he : sparseEnumerate c = withIndexFrom 0 c := hf _ (Nat.le_refl _)
  refine ⟨hf, he, ?_, ?_, ?_⟩
  · rw [he]; exact withIndexFrom_fst c 0
  · rw [he, withIndexFrom_snd c 0, List.range_eq_range']
  · intro row hr
    rw [sparseDiagRow, List.getElem?_eq_getElem hr, getElem!_pos c row hr]

/-- range-based `for` over a whole container through a legacy facade iterator (position based or ArrayList, with the
`!=` of any of the three facades and either branch), and over an `IteratorRange(begin+a, begin+b)`, visits exactly
the intended elements in order -/
theorem range_for_visits_elements (conv : Bool) (c : List Int) (q a b : Nat) (hab : a ≤ b) (hb : b ≤ c.length) :
    (∀ fuel, c.length ≤ fuel →
      legacyLoop posCore (Legacy.ne posCore conv) c fuel ⟨q, 0⟩ ⟨q, c.length⟩ = c ∧
      legacyLoop posCore (Legacy.neBi posCore conv) c fuel ⟨q, 0⟩ ⟨q, c.length⟩ = c ∧
      legacyLoop posCore (Legacy.neFw posCore conv) c fuel ⟨q, 0⟩ ⟨q, c.length⟩ = c ∧
      legacyLoop alCore (Legacy.ne alCore conv) c fuel ⟨q, 0⟩ ⟨q, c.length⟩ = c) ∧
    (∀ fuel, b - a ≤ fuel → iteratorRangeEnumerateFuel fuel c a b = (c.drop a).take (b - a)) ∧
    iteratorRangeEnumerate c a b = (c.drop a).take (b - a) := by
  have hP : ∀ cv (q : Nat) (p e : Int), Legacy.ne posCore cv ⟨q, p⟩ ⟨q, e⟩ = decide (p ≠ e) :=
    fun cv _ _ _ => Legacy.ne_pos posCore_lawful cv rfl
  have hR : ∀ fuel, b - a ≤ fuel → iteratorRangeEnumerateFuel fuel c a b = (c.drop a).take (b - a) := fun fuel hfu =>
    legacyLoop_eq posCore _ posCore_increment (hP true) c 0 b hb (b - a) fuel a (Nat.add_sub_cancel' hab) hfu
  refine ⟨fun fuel hfu => ⟨?_, ?_, ?_, ?_⟩, hR, hR _ (Nat.le_refl _)⟩
  · exact legacyLoop_full posCore _ posCore_increment (hP conv) c q fuel hfu
  · exact legacyLoop_full posCore _ posCore_increment (fun _ _ _ => Legacy.neBi_pos posCore_lawful conv rfl) c q fuel hfu
  · exact legacyLoop_full posCore _ posCore_increment (fun _ _ _ => Legacy.neFw_pos posCore_lawful conv rfl) c q fuel hfu
  · exact legacyLoop_full alCore _ alCore_increment (fun _ _ _ => Legacy.ne_pos alCore_lawful conv rfl) c q fuel hfu

example : IntegralRange.enumerate ⟨-2, 3⟩ = [-2, -1, 0, 1, 2] ∧ IntegralRange.size 8 ⟨-2, 3⟩ = 5 ∧
    IntegralRange.size 8 ⟨250, 255⟩ = 5 ∧ IntegralRange.enumerate ⟨4, 4⟩ = [] ∧
    IntegralRange.contains ⟨-2, 3⟩ 3 = false ∧ IntegralRange.enumerateFuel 50 ⟨-2, 3⟩ = [-2, -1, 0, 1, 2] ∧
    (IntegralRange.ofTo 3).enumerate = [0, 1, 2] := by decide +kernel
example : transformedEnumerate (fun x => 3 * x + 1) [4, -1, 4] = ([13, -2, 13], [4, -1, 4]) ∧
    transformedEnumerateFuel 9 (fun x => 3 * x + 1) [4, -1, 4] = ([13, -2, 13], [4, -1, 4]) ∧
    transformedEnumerateIR (fun x => 3 * x + 1) ⟨1, 3⟩ = ([4, 7], [1, 2]) ∧
    sparseEnumerate [7, 7, 9] = [(7, 0), (7, 1), (9, 2)] ∧ sparseDiagRow [7, 8, 9] 1 = [(8, 1)] ∧
    iteratorRangeEnumerate [5, 6, 7, 8] 1 3 = [6, 7] ∧ viewAt (fun x => 3 * x + 1) [4, -1, 4] 1 = some (-2) := by decide +kernel

theorem hybrid_elementAt (c : List Int) (i : Nat) : Hybrid.elementAtStatic c i = Hybrid.elementAtDynamic c i := by
  induction c generalizing i with
  | nil => rfl
  | cons x xs ih =>
    cases i with
    | zero => rfl
    | succ j => exact ih j

theorem hybrid_forEach {σ : Type} (c : List Int) (f : σ → Int → σ) (s : σ) :
    Hybrid.forEachStatic c f s = Hybrid.forEachDynamic c f s ∧ Hybrid.forEachDynamic c f s = c.foldl f s := by
  refine ⟨?_, forEachDynamic_eq_foldl c f s⟩
  induction c generalizing s with
  | nil => rfl
  | cons x xs ih => exact (forEachStatic_cons x xs f s).trans (ih (f s x))

/-- a StaticIntegralRange agrees with the IntegralRange of the same bounds in every member (begin/end, element
access by run-time and by compile-time index, empty, size, contains, enumeration, the integer sequence it converts
to), and the static `forEach` over it (index walk through `range[integral_constant]`) visits what the dynamic loop
over the IntegralRange visits -/
theorem static_range_eq_dynamic (r : IntegralRange) (h : r.lo ≤ r.hi) :
    SR.begin_ r = r.begin_ ∧ SR.end_ r = r.end_ ∧
    (∀ i, SR.getStatic r i = r.get i ∧ SR.get r i = r.get i) ∧
    SR.empty r = r.empty ∧ (∀ bits, SR.size bits r = r.size bits) ∧ (∀ x, SR.contains r x = r.contains x) ∧
    SR.enumerate r = r.enumerate ∧ SR.toSequence r = r.enumerate ∧ SR.toDynamic r = r ∧
    (r.hi - r.lo < 2 ^ 64 → ∀ (σ : Type) (f : σ → Int → σ) (s : σ),
      Hybrid.forEachStaticRange r f s = Hybrid.forEachDynamic r.enumerate f s) := by
  have he := r.enumerate_eq h
  refine ⟨rfl, rfl, fun i => ⟨rfl, rfl⟩, rfl, fun _ => rfl, fun _ => rfl, rfl, ?_, rfl, ?_⟩
  · rw [toSequence_eq, he]
  · intro hsz σ f s
    have hs : SR.size 64 r = r.hi - r.lo := r.size_eq h hsz  -- the two `size` bodies evaluate alike
    rw [forEachDynamic_eq_foldl, he]
    unfold Hybrid.forEachStaticRange intRange
    rw [hs, List.foldl_map]
    rfl

theorem hybrid_switchCases_seq {α : Type} (cases : List Int) (v : Int) (br : Int → α) (els : α) :
    Hybrid.switchSeqStatic cases v br els = Hybrid.switchSeqDynamic cases v br els := by
  rw [switchSeqDynamic_eq]
  exact ite_iff_congr (Seq.contains_iff cases v) _ _

theorem hybrid_switchCases_range {α : Type} (r : IntegralRange) (h : r.lo ≤ r.hi) (v : Int) (br : Int → α) (els : α) :
    Hybrid.switchRangeStatic r v br els = Hybrid.switchRangeDynamic r v br els ∧
    Hybrid.switchRangeDynamic3 r v br = (if r.contains v then some (br v) else none) ∧
    Hybrid.switchSeqDynamic3 (SR.toSequence r) v br = Hybrid.switchRangeDynamic3 r v br :=
  ⟨switchSeqDynamic_toSequence r v br els, rfl, switchSeqDynamic_toSequence r v _ none⟩

/-- static and dynamic overloads of the hybrid helpers agree (size, element access, loop order,
accumulation, if/else, switchCases over sequences and ranges, the integral-constant functors) -/
theorem hybrid_static_eq_dynamic (c : List Int) :
    Hybrid.sizeStatic c = Hybrid.sizeDynamic c ∧
    (∀ i, Hybrid.elementAtStatic c i = Hybrid.elementAtDynamic c i) ∧
    (∀ (σ : Type) (f : σ → Int → σ) (s : σ), Hybrid.forEachStatic c f s = Hybrid.forEachDynamic c f s) ∧
    (∀ (visit : List Int), Hybrid.forEachStatic c (fun l e => l ++ [e]) visit = visit ++ c) ∧
    (∀ init f, Hybrid.accumulateStatic c init f = Hybrid.accumulateDynamic c init f ∧
               Hybrid.accumulateDynamic c init f = c.foldl f init) ∧
    (∀ (α : Type) (cond : Bool) (x y : α), Hybrid.ifElseStatic cond x y = Hybrid.ifElseDynamic cond x y) ∧
    (∀ (α : Type) v (br : Int → α) els, Hybrid.switchSeqStatic c v br els = Hybrid.switchSeqDynamic c v br els) ∧
    (∀ (α : Type) v (br : Int → α), Hybrid.switchSeqDynamic3 c v br = if v ∈ c then some (br v) else none) ∧
    (∀ f a b, Hybrid.functorStatic f a b = Hybrid.functorDynamic f a b) := by
  refine ⟨rfl, hybrid_elementAt c, fun σ f s => (hybrid_forEach c f s).1, fun visit => ?_,
    fun init f => hybrid_forEach c f init, fun α cond x y => by cases cond <;> rfl,
    fun α v br els => hybrid_switchCases_seq c v br els, fun α v br => switchSeqDynamic_eq c v _ none,
    fun _ _ _ => rfl⟩
  rw [(hybrid_forEach c _ visit).1, (hybrid_forEach c _ visit).2]
  induction c generalizing visit with
  | nil => exact (List.append_nil visit).symm
  | cons x xs ih => exact (ih _).trans (List.append_assoc visit [x] xs)

/-- the integer_sequence helpers of integersequence.hh: element access with a compile-time and with a run-time
position agree; `back` is the last entry; `contains` is membership; `difference` keeps (in order) the entries of
the first sequence that are not in the second; `equal` is equality; `sorted` is an ascending permutation -/
theorem integer_sequence_helpers (s t : List Int) (v : Int) :
    (∀ pos, Seq.getStatic s pos = Seq.getDynamic s pos) ∧
    Seq.back s = s.getLast? ∧ Seq.front s = s.head? ∧ Seq.head s = Seq.front s ∧
    (Seq.contains s v = true ↔ v ∈ s) ∧
    Seq.difference s t = s.filter (fun x => !Seq.contains t x) ∧
    (∀ x, x ∈ Seq.difference s t ↔ x ∈ s ∧ x ∉ t) ∧
    (Seq.equal s t = true ↔ s = t) ∧
    (Seq.sorted s).Perm s ∧ (Seq.sorted s).Pairwise (· ≤ ·) ∧
    Seq.size (Seq.pushFront v s) = Seq.size s + 1 ∧ Seq.getDynamic (Seq.pushBack v s) (Seq.size s) = some v ∧
    (Seq.empty s = true ↔ s = []) := by
  refine ⟨hybrid_elementAt s, ?_, rfl, rfl, Seq.contains_iff s v, Seq.difference_eq_filter s t, ?_, Seq.equal_iff s t,
    Seq.sorted_perm s, Seq.sorted_pairwise s, rfl, List.getElem?_concat_length,
    beq_iff_eq.trans List.length_eq_zero_iff⟩
  · unfold Seq.back Seq.getStatic
    split
    · rw [List.eq_nil_of_length_eq_zero (l := s) ‹_›]; rfl
    · rw [hybrid_elementAt, List.getLast?_eq_getElem?]; rfl
  · intro x
    rw [Seq.difference_eq_filter, List.mem_filter, Seq.contains_eq, ← decide_not, decide_eq_true_iff]

example : Hybrid.forEachStatic [3, 1, 4] (fun (l : List Int) e => l ++ [e]) [] = [3, 1, 4] ∧
    Hybrid.accumulateStatic [3, 1, 4] 2 (fun a e => 3 * a + e) = 88 ∧
    Hybrid.accumulateDynamic [3, 1, 4] 2 (fun a e => 3 * a + e) = 88 ∧
    Hybrid.switchSeqStatic [3, 1, 4, 1, 5] 4 (fun i => 100 + i) (-1) = 104 ∧
    Hybrid.switchSeqDynamic [3, 1, 4, 1, 5] 9 (fun i => 100 + i) (-1) = -1 ∧
    Hybrid.switchRangeStatic ⟨2, 5⟩ 4 (fun i => 100 + i) (-1) = 104 ∧
    Hybrid.switchRangeDynamic ⟨2, 5⟩ 5 (fun i => 100 + i) (-1) = -1 ∧
    Hybrid.switchRangeDynamic3 ⟨2, 5⟩ 3 (fun i => 100 + i) = some 103 ∧
    Hybrid.forEachStaticRange ⟨2, 5⟩ (fun (l : List Int) e => l ++ [e]) [] = [2, 3, 4] ∧
    Hybrid.elementAtStatic [3, 1, 4] 2 = some 4 := by decide +kernel
example : Seq.sorted [3, 1, 4, 1, 5] = [1, 1, 3, 4, 5] ∧ Seq.difference [0, 1, 2, 3, 4] [3, 1] = [0, 2, 4] ∧
    Seq.back [3, 1, 4] = some 4 ∧ Seq.equal [1, 2] [1, 2] = true ∧ Seq.equal [1, 2] [1] = false ∧
    Seq.contains [3, 1, 4] 4 = true ∧ SR.toSequence ⟨-3, 2⟩ = [-3, -2, -1, 0, 1] := by decide +kernel

end DV.C16
