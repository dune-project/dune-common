/-
C14 — property theorems: md layouts address distinct in-range elements; md views and arrays honour them.

All statements are for an arbitrary rank `n` and arbitrary extents `E 0 … E (n-1)` (0 and 1 included), index tuples
`I`, strides `S` — arrays are functions `Nat → Nat` of which only the entries below `n` matter.  The functions
`offsetLeft/offsetRight/offsetStride`, `strideLeft/strideRight`, `product`, `requiredSpanStride` are the loops of
Model/C14.lean running the loop pieces regenerated from the C++ sources (Gen/C14.lean).  A left or right mapping is
written `⟨.left, n, E, fun _ => 0⟩`: the field `str` is read only for `.stride`.  Vocabulary (`Valid`, `sumTo`,
`prodFrom`, `bump`, `DescChain`, `SortedUnique`, `countDyn`, `InjOn`, `lastWrite`) is defined in Proofs/C14.lean,
`SpanOpG.wf` and `extOk` in the last section below.  Arithmetic is over `Nat`: wrap-around of `index_type` is not
modelled; the theorems `…_intermediate_le`, `…_term_le` and `…_no_overflow` bound the intermediate values of the loops by
their results instead.
-/
import DuneVerif.Proofs.C14

namespace DV.C14

/-! ## layout_left and layout_right -/

/-- closed form of `stride(i)`: the product of the extents to the left -/
theorem stride_left_formula (n : Nat) (E : Arr) (i : Nat) : strideLeft n E i = prodFrom E 0 i :=
  strideLeft_eq n E i

/-- closed form of `stride(i)`: the product of the extents to the right -/
theorem stride_right_formula (n : Nat) (E : Arr) (i : Nat) : strideRight n E i = prodFrom E (i+1) (n - (i+1)) :=
  strideRight_eq n E i

/-- `required_span_size()` of left/right is the product of all extents -/
theorem span_size_left_right (n : Nat) (E : Arr) : product n E = prodFrom E 0 n := product_eq n E

/-- column-major formula: `offset = Σ_k i_k · Π_{m<k} E_m = Σ_k i_k · stride(k)` -/
theorem left_formula (n : Nat) (E I : Arr) : offsetLeft n E I = sumTo n (fun k => I k * strideLeft n E k) :=
  Mapping.offset_eq_dot ⟨.left, n, E, fun _ => 0⟩ I

/-- row-major formula: `offset = Σ_k i_k · Π_{m>k} E_m = Σ_k i_k · stride(k)` -/
theorem right_formula (n : Nat) (E I : Arr) : offsetRight n E I = sumTo n (fun k => I k * strideRight n E k) :=
  Mapping.offset_eq_dot ⟨.right, n, E, fun _ => 0⟩ I

/-- every valid index tuple maps into `[0, required_span_size)` -/
theorem offset_in_range_left (n : Nat) (E I : Arr) (h : Valid n E I) : offsetLeft n E I < product n E :=
  Mapping.offset_lt_requiredSpan ⟨.left, n, E, fun _ => 0⟩ h

theorem offset_in_range_right (n : Nat) (E I : Arr) (h : Valid n E I) : offsetRight n E I < product n E :=
  Mapping.offset_lt_requiredSpan ⟨.right, n, E, fun _ => 0⟩ h

/-- distinct valid index tuples map to distinct offsets -/
theorem offset_injective_left (n : Nat) (E I J : Arr) (hI : Valid n E I) (hJ : Valid n E J)
    (h : offsetLeft n E I = offsetLeft n E J) : ∀ k, k < n → I k = J k := by
  rw [offsetLeft_eq, offsetLeft_eq] at h
  exact fun k hk => horner_inj (fun a ha => hI a (List.mem_range.mp ha)) (fun a ha => hJ a (List.mem_range.mp ha)) h k
    (List.mem_range.mpr hk)

theorem offset_injective_right (n : Nat) (E I J : Arr) (hI : Valid n E I) (hJ : Valid n E J)
    (h : offsetRight n E I = offsetRight n E J) : ∀ k, k < n → I k = J k := by
  rw [offsetRight_eq, offsetRight_eq] at h
  exact fun k hk => horner_inj (fun a ha => hI a (mem_down.mp ha)) (fun a ha => hJ a (mem_down.mp ha)) h k
    (mem_down.mpr hk)

/-- a unit step in dimension `r` changes the offset by `stride(r)` -/
theorem offset_step_left (n : Nat) (E I : Arr) (r : Nat) (hr : r < n) :
    offsetLeft n E (bump I r) = offsetLeft n E I + strideLeft n E r := by
  rw [left_formula, left_formula]
  exact sumTo_bump hr _ _

theorem offset_step_right (n : Nat) (E I : Arr) (r : Nat) (hr : r < n) :
    offsetRight n E (bump I r) = offsetRight n E I + strideRight n E r := by
  rw [right_formula, right_formula]
  exact sumTo_bump hr _ _

/-- no gaps: every offset below `required_span_size` is the image of a valid index tuple
    (together with `offset_in_range_*` and `offset_injective_*`: a bijection onto the range) -/
theorem left_bijective_onto_range (n : Nat) (E : Arr) (o : Nat) (ho : o < product n E) :
    ∃ I, Valid n E I ∧ offsetLeft n E I = o := by
  rw [product_eq, ← prodList_toList] at ho
  obtain ⟨I, hv, hp⟩ := horner_surj E List.nodup_range o ho
  exact ⟨I, fun k hk => hv k (List.mem_range.mpr hk), by rw [offsetLeft_eq]; exact hp⟩

theorem right_bijective_onto_range (n : Nat) (E : Arr) (o : Nat) (ho : o < product n E) :
    ∃ I, Valid n E I ∧ offsetRight n E I = o := by
  rw [product_eq, ← prodList_map_down] at ho
  obtain ⟨I, hv, hp⟩ := horner_surj E (nodup_down n) o ho
  exact ⟨I, fun k hk => hv k (mem_down.mpr hk), by rw [offsetRight_eq]; exact hp⟩

/-- no intermediate overflow (all index types): for a valid index tuple every intermediate value of the accumulator in
    the Horner loop of `layout_left::mapping::operator()` (the state after `t` iterations of the loop assembled from the
    regenerated pieces) is bounded by the final offset, hence by `required_span_size() - 1`; so whenever
    `required_span_size()` is representable in `index_type`, so is every value the loop computes -/
theorem offset_left_intermediate_le (n : Nat) (E I : Arr) (h : Valid n E I) (t : Nat) (ht : t + 1 ≤ n) :
    loopFrom (Gen.left_step n I E) t (Gen.left_lo n I E) (Gen.left_init n I E) ≤ offsetLeft n E I ∧
    offsetLeft n E I < product n E := by
  refine ⟨?_, offset_in_range_left n E I h⟩
  have hn : 0 < n := Nat.lt_of_lt_of_le (Nat.succ_pos t) ht
  rw [offsetLeft, if_neg (Nat.ne_of_gt hn)]
  -- an iteration replaces `acc` by `I j + E j * acc` (`j = n - r - 1`), which is not smaller since `1 ≤ E j`
  exact loopFrom_prefix_le (Nat.le_sub_one_of_lt ht) (fun r acc _ => Nat.le_trans
    (Nat.le_mul_of_pos_left acc (valid_pos h _ (Nat.sub_sub n r 1 ▸ Nat.sub_lt hn (Nat.succ_pos r)))) (Nat.le_add_left _ _))

theorem offset_right_intermediate_le (n : Nat) (E I : Arr) (h : Valid n E I) (t : Nat) (ht : t + 1 ≤ n) :
    loopFrom (Gen.right_step n I E) t (Gen.right_lo n I E) (Gen.right_init n I E) ≤ offsetRight n E I ∧
    offsetRight n E I < product n E := by
  refine ⟨?_, offset_in_range_right n E I h⟩
  have hn : 0 < n := Nat.lt_of_lt_of_le (Nat.succ_pos t) ht
  rw [offsetRight, if_neg (Nat.ne_of_gt hn)]
  exact loopFrom_prefix_le (Nat.le_sub_one_of_lt ht) (fun r acc hr => Nat.le_trans
    (Nat.le_mul_of_pos_left acc (valid_pos h _ (Nat.add_lt_of_lt_sub (Nat.lt_of_lt_of_eq hr (Nat.zero_add (n - 1))))))
    (Nat.le_add_left _ _))

-- the intermediate values of the loops for the index (1,2,3) in 2 x 3 x 4: left 3, 11, 23; right 1, 5, 23
example : (List.range 3).map (fun t => loopFrom (Gen.left_step 3 (arr [1,2,3]) (arr [2,3,4])) t 1 3) = [3, 11, 23] ∧
    (List.range 3).map (fun t => loopFrom (Gen.right_step 3 (arr [1,2,3]) (arr [2,3,4])) t 0 1) = [1, 5, 23] := by decide +kernel

-- non-vacuity: a 2 x 3 x 4 index space, the index (1,2,3), a step in dimension 1, the last offset
example : Valid 3 (arr [2,3,4]) (arr [1,2,3]) ∧ offsetLeft 3 (arr [2,3,4]) (arr [1,2,3]) = 23 ∧
    offsetRight 3 (arr [2,3,4]) (arr [1,2,3]) = 23 ∧ product 3 (arr [2,3,4]) = 24 ∧
    offsetLeft 3 (arr [2,3,4]) (arr [1,0,2]) = 13 ∧ offsetLeft 3 (arr [2,3,4]) (bump (arr [1,0,2]) 1) = 13 + 2 ∧
    offsetRight 3 (arr [2,3,4]) (arr [1,0,2]) = 14 ∧ strideRight 3 (arr [2,3,4]) 1 = 4 := by
  unfold Valid
  decide +kernel
-- extents 0 and 1: an empty index space has span 0 and no valid index; extent 1 contributes nothing
example : product 3 (arr [2,0,4]) = 0 ∧ ¬ Valid 3 (arr [2,0,4]) (arr [0,0,0]) ∧
    offsetLeft 3 (arr [2,1,4]) (arr [1,0,3]) = 7 ∧ product 0 (arr []) = 1 ∧ offsetRight 0 (arr []) (arr []) = 0 := by
  unfold Valid
  decide +kernel

/-! ## layout_stride -/

/-- the strided offset is the dot product of indices and strides -/
theorem stride_formula (n : Nat) (S I : Arr) : offsetStride n S I = sumTo n (fun k => I k * S k) :=
  offsetStride_eq n S I

/-- `required_span_size = 1 + Σ (E_r - 1)·S_r` when no extent is 0 (rank 0: the empty sum, 1) … -/
theorem span_size_stride (n : Nat) (E S : Arr) (h : ∀ k, k < n → 0 < E k) :
    requiredSpanStride n E S = 1 + sumTo n (fun k => (E k - 1) * S k) :=
  requiredSpanStride_pos_ext S h

/-- … and 0 if an extent is 0 -/
theorem span_size_stride_empty (n : Nat) (E S : Arr) (h : ∃ k, k < n ∧ E k = 0) : requiredSpanStride n E S = 0 :=
  requiredSpanStride_zero_ext S h

/-- every valid index tuple maps into `[0, required_span_size)`, for arbitrary strides -/
theorem offset_in_range_stride (n : Nat) (E S I : Arr) (h : Valid n E I) :
    offsetStride n S I < requiredSpanStride n E S :=
  Mapping.offset_lt_requiredSpan ⟨.stride, n, E, S⟩ h

/-- the bound is tight: the last index tuple `E - 1` maps to `required_span_size - 1` -/
theorem span_size_stride_tight (n : Nat) (E S : Arr) (h : ∀ k, k < n → 0 < E k) :
    requiredSpanStride n E S = offsetStride n S (fun k => E k - 1) + 1 :=
  Mapping.requiredSpan_tight ⟨.stride, n, E, S⟩ h

theorem offset_step_stride (n : Nat) (S I : Arr) (r : Nat) (hr : r < n) :
    offsetStride n S (bump I r) = offsetStride n S I + S r := by
  rw [offsetStride_eq, offsetStride_eq]
  exact sumTo_bump hr _ _

/-- uniqueness criterion: if the dimensions can be listed (`p`, a permutation of `0..n-1`) from the largest stride
    downwards such that each stride covers the whole span of the following dimension (`S b · E b ≤ S a`) and the
    smallest stride is at least 1, then distinct valid index tuples map to distinct offsets.
    (The criterion is sufficient, not necessary: see the example below, so no `iff` is claimed.) -/
theorem stride_unique_of_sorted (n : Nat) (E S I J : Arr) (p : List Nat) (hp : p.Perm (List.range n))
    (hc : DescChain E S p) (hI : Valid n E I) (hJ : Valid n E J)
    (h : offsetStride n S I = offsetStride n S J) : ∀ k, k < n → I k = J k := by
  rw [offsetStride_eq_dotList S I hp, offsetStride_eq_dotList S J hp] at h
  have mem : ∀ b, b ∈ p → b < n := fun b hb => List.mem_range.mp ((hp.mem_iff).mp hb)
  intro k hk
  exact dotList_inj hc (fun b hb => hI b (mem b hb)) (fun b hb => hJ b (mem b hb)) h k
    ((hp.mem_iff).mpr (List.mem_range.mpr hk))

-- non-vacuity: extents (2,3,2) with strides (3,8,1): the order 1,0,2 is a descending chain (8 ≥ 3·2, 3 ≥ 1·2, 1 ≥ 1);
-- the mapping is padded (span 21 > 12 elements)
example : [1,0,2].Perm (List.range 3) ∧ DescChain (arr [2,3,2]) (arr [3,8,1]) [1,0,2] ∧
    requiredSpanStride 3 (arr [2,3,2]) (arr [3,8,1]) = 21 ∧ offsetStride 3 (arr [3,8,1]) (arr [1,2,1]) = 20 := by
  decide +kernel
-- the criterion is not necessary: extents (2,2), strides (2,3) give the distinct offsets 0,3,2,5 although 3 < 2·2
example : ¬ DescChain (arr [2,2]) (arr [2,3]) [1,0] ∧
    (allTuples [2,2]).map (fun t => offsetStride 2 (arr [2,3]) (arr t)) = [0,3,2,5] := by
  decide +kernel
/-- the same criterion where dimensions of extent 1 are ignored (their index is always 0, so their stride is
    irrelevant — e.g. stride 0 is fine there): `p` lists exactly the dimensions whose extent is not 1 -/
theorem stride_unique_of_sorted_ext1 (n : Nat) (E S I J : Arr) (hs : SortedUnique n E S)
    (hI : Valid n E I) (hJ : Valid n E J) (h : offsetStride n S I = offsetStride n S J) : ∀ k, k < n → I k = J k := by
  obtain ⟨p, hp, hc⟩ := hs
  rw [offsetStride_eq_dotList_big E S I hI hp, offsetStride_eq_dotList_big E S J hJ hp] at h
  have mem : ∀ b, b ∈ p → b < n := fun b hb => (mem_bigDims.mp ((hp.mem_iff).mp hb)).1
  intro k hk
  by_cases h1 : E k = 1
  · exact (Nat.lt_one_iff.mp (h1 ▸ hI k hk)).trans (Nat.lt_one_iff.mp (h1 ▸ hJ k hk)).symm
  · exact dotList_inj hc (fun b hb => hI b (mem b hb)) (fun b hb => hJ b (mem b hb)) h k
      ((hp.mem_iff).mpr (mem_bigDims.mpr ⟨hk, h1⟩))

/-- the criterion of `stride_unique_of_sorted` is the special case without dimensions of extent 1 … -/
theorem sortedUnique_of_chain (n : Nat) (E S : Arr) (p : List Nat) (hp : p.Perm (List.range n))
    (hc : DescChain E S p) (h1 : ∀ k, k < n → E k ≠ 1) : SortedUnique n E S := by
  refine ⟨p, ?_, hc⟩
  have : bigDims n E = List.range n := by
    unfold bigDims
    rw [List.filter_eq_self]
    intro a ha
    simpa using h1 a (List.mem_range.mp ha)
  rw [this]; exact hp

-- … and the wider criterion accepts e.g. extents (3,1,2) with strides (2,0,1): dimension 1 has stride 0
example : SortedUnique 3 (arr [3,1,2]) (arr [2,0,1]) ∧ offsetStride 3 (arr [2,0,1]) (arr [2,0,1]) = 5 ∧
    requiredSpanStride 3 (arr [3,1,2]) (arr [2,0,1]) = 6 :=
  ⟨⟨[0,2], by decide +kernel⟩, by decide +kernel⟩

/-- no intermediate overflow: every summand of the fold expression of `layout_stride::mapping::operator()` is bounded by
    the offset, which is below `required_span_size()` -/
theorem offset_stride_term_le (n : Nat) (E S I : Arr) (h : Valid n E I) (r : Nat) (hr : r < n) :
    I r * S r ≤ offsetStride n S I ∧ offsetStride n S I < requiredSpanStride n E S := by
  refine ⟨?_, offset_in_range_stride n E S I h⟩
  rw [offsetStride_eq]
  exact sumTo_term_le hr (fun k => I k * S k)

-- an extent 0 gives span 0, rank 0 gives span 1
example : requiredSpanStride 2 (arr [3,0]) (arr [1,3]) = 0 ∧ requiredSpanStride 0 (arr []) (arr []) = 1 := by decide +kernel

/-! ## all three layouts at once (`Mapping`) -/

theorem offset_in_range (m : Mapping) (I : Arr) (h : Valid m.rank m.ext I) : m.offset I < m.requiredSpan :=
  m.offset_lt_requiredSpan h

theorem offset_step (m : Mapping) (I : Arr) (r : Nat) (hr : r < m.rank) :
    m.offset (bump I r) = m.offset I + m.stride r := by
  rw [Mapping.offset_eq_dot, Mapping.offset_eq_dot]
  exact sumTo_bump hr _ _

/-- injectivity: unconditional for left/right, under the sorted-stride criterion for stride -/
theorem offset_injective (m : Mapping) (I J : Arr)
    (hu : m.lay = .stride → ∃ p : List Nat, p.Perm (List.range m.rank) ∧ DescChain m.ext m.str p)
    (hI : Valid m.rank m.ext I) (hJ : Valid m.rank m.ext J) (h : m.offset I = m.offset J) :
    ∀ k, k < m.rank → I k = J k := by
  cases m with | mk lay rank ext str =>
  cases lay
  · exact offset_injective_left rank ext I J hI hJ h
  · exact offset_injective_right rank ext I J hI hJ h
  · obtain ⟨p, hp, hc⟩ := hu rfl
    exact stride_unique_of_sorted rank ext str I J p hp hc hI hJ h

/-- uniqueness of the mappings the property speaks about, as one predicate: left/right always, strided under the
    sorted-stride criterion that ignores dimensions of extent 1.  The theorems about views and arrays below assume only
    `InjOn`, i.e. they hold for EVERY stride vector that makes the mapping unique, not only for those recognised by the
    criterion. -/
theorem mapping_unique (m : Mapping) (hu : m.lay = .stride → SortedUnique m.rank m.ext m.str) : InjOn m := by
  intro I J hI hJ h
  cases m with | mk lay rank ext str =>
  cases lay
  · exact offset_injective_left rank ext I J hI hJ h
  · exact offset_injective_right rank ext I J hI hJ h
  · exact stride_unique_of_sorted_ext1 rank ext str I J (hu rfl) hI hJ h

/-! ## conversions between layouts and extents types -/

/-- rank ≤ 1 (the only ranks with a left ↔ right converting constructor): both layouts address identically -/
theorem convert_left_right (n : Nat) (hn : n ≤ 1) (E I : Arr) :
    offsetLeft n E I = offsetRight n E I ∧ ∀ i, i < n → strideLeft n E i = strideRight n E i := by
  rcases Nat.le_one_iff_eq_zero_or_eq_one.mp hn with rfl | rfl
  · exact ⟨rfl, fun i hi => absurd hi (Nat.not_lt_zero i)⟩
  · refine ⟨rfl, fun i hi => ?_⟩
    obtain rfl := Nat.lt_one_iff.mp hi
    rw [strideLeft_eq, strideRight_eq]
    rfl

/-- ALL converting constructors between the three mapping types at once (`Mapping.convertTo` = the constructor that
    exists for the pair of layouts, `none` if it does not exist or one of its assertions fails): the converted mapping
    has the requested layout, the same rank and extents, computes the same offset for EVERY index tuple and requires
    the same span -/
theorem convertTo_preserves (m m' : Mapping) (t : Layout) (h : m.convertTo t = some m') :
    m'.lay = t ∧ m'.rank = m.rank ∧ m'.ext = m.ext ∧ (∀ I, m'.offset I = m.offset I) ∧
    m'.requiredSpan = m.requiredSpan := by
  -- every converting constructor keeps rank, extents and each `stride(r)` below the rank
  have ⟨hl, hr, he, hs⟩ : m'.lay = t ∧ m'.rank = m.rank ∧ m'.ext = m.ext ∧ ∀ k, k < m.rank → m'.stride k = m.stride k := by
    obtain ⟨lay, rank, ext, str⟩ := m
    match lay, t, h with
    | .left, .left, h | .right, .right, h | .stride, .stride, h | .left, .stride, h | .right, .stride, h =>
      cases h
      exact ⟨rfl, rfl, rfl, fun _ _ => rfl⟩
    | .left, .right, h =>
      obtain ⟨hr, ⟨⟩⟩ := Option.ite_none_right_eq_some.mp h
      exact ⟨rfl, rfl, rfl, fun k hk => ((convert_left_right rank hr ext (fun _ => 0)).2 k hk).symm⟩
    | .right, .left, h =>
      obtain ⟨hr, ⟨⟩⟩ := Option.ite_none_right_eq_some.mp h
      exact ⟨rfl, rfl, rfl, (convert_left_right rank hr ext (fun _ => 0)).2⟩
    | .stride, .left, h =>
      obtain ⟨hc, ⟨⟩⟩ := Option.ite_none_right_eq_some.mp h
      exact ⟨rfl, rfl, rfl, fun k hk => ((checkFromStrideLeft_iff rank ext str).mp hc k hk).symm⟩
    | .stride, .right, h =>
      obtain ⟨hc, ⟨⟩⟩ := Option.ite_none_right_eq_some.mp h
      exact ⟨rfl, rfl, rfl, fun k hk => ((checkFromStrideRight_iff rank ext str).mp hc k hk).symm⟩
  exact ⟨hl, hr, he, Mapping.same_addressing hr (fun k _ => congrFun he k) hs⟩

/-- left → stride → left (and right → stride → right): the strided mapping built from `stride(r)` of a left/right
    mapping computes the same offset for EVERY index tuple, has the same required span, and passes the assertions of the
    from-stride constructor, which then yields the original mapping -/
theorem convert_preserves_left (n : Nat) (E : Arr) :
    let m : Mapping := ⟨.left, n, E, fun _ => 0⟩
    (∀ I, m.toStride.offset I = m.offset I) ∧ m.toStride.requiredSpan = m.requiredSpan ∧
    (∃ m', m.toStride.convertTo .left = some m' ∧ ∀ I, m'.offset I = m.offset I) := by
  have hc : checkFromStrideLeft n E (fun r => strideLeft n E r) = true :=
    (checkFromStrideLeft_iff n E _).mpr (fun _ _ => rfl)
  have h := convertTo_preserves ⟨.left, n, E, fun _ => 0⟩ _ .stride rfl
  exact ⟨h.2.2.2.1, h.2.2.2.2, ⟨.left, n, E, fun r => strideLeft n E r⟩, if_pos hc, fun _ => rfl⟩

theorem convert_preserves_right (n : Nat) (E : Arr) :
    let m : Mapping := ⟨.right, n, E, fun _ => 0⟩
    (∀ I, m.toStride.offset I = m.offset I) ∧ m.toStride.requiredSpan = m.requiredSpan ∧
    (∃ m', m.toStride.convertTo .right = some m' ∧ ∀ I, m'.offset I = m.offset I) := by
  have hc : checkFromStrideRight n E (fun r => strideRight n E r) = true :=
    (checkFromStrideRight_iff n E _).mpr (fun _ _ => rfl)
  have h := convertTo_preserves ⟨.right, n, E, fun _ => 0⟩ _ .stride rfl
  exact ⟨h.2.2.2.1, h.2.2.2.2, ⟨.right, n, E, fun r => strideRight n E r⟩, if_pos hc, fun _ => rfl⟩

/-- ANY strided mapping accepted by the from-stride constructors (their assertions hold) converts to a left/right
    mapping with identical addressing -/
theorem convert_from_stride_preserves (n : Nat) (E S : Arr) :
    (checkFromStrideLeft n E S = true → ∀ I, offsetLeft n E I = offsetStride n S I) ∧
    (checkFromStrideRight n E S = true → ∀ I, offsetRight n E I = offsetStride n S I) :=
  ⟨fun h => (convertTo_preserves ⟨.stride, n, E, S⟩ ⟨.left, n, E, S⟩ .left (if_pos h)).2.2.2.1,
    fun h => (convertTo_preserves ⟨.stride, n, E, S⟩ ⟨.right, n, E, S⟩ .right (if_pos h)).2.2.2.1⟩

example : ((Mapping.toStride ⟨.left, 3, arr [2,3,4], fun _ => 0⟩).convertTo .left).map (·.offset (arr [1,2,3])) = some 23 ∧
    (Mapping.toStride ⟨.left, 3, arr [2,3,4], fun _ => 0⟩).str 2 = 6 ∧
    (Mapping.toStride ⟨.left, 3, arr [2,3,4], fun _ => 0⟩).offset (arr [1,2,3]) = 23 := by decide +kernel
example : checkFromStrideLeft 2 (arr [2,3]) (arr [1,3]) = false ∧ checkFromStrideRight 2 (arr [2,3]) (arr [3,1]) = true := by decide +kernel

/-! ## extents: static/dynamic pattern and the dynamic index table -/

/-- `dynamic_index_[r]` is the number of dynamic extents before position `r` -/
theorem dynamic_index_table_correct (p : Pattern) (r : Nat) (hr : r ≤ p.length) :
    (makeDynamicIndex p).getD r 0 = countDyn p r :=
  makeDynamicIndex_getD p r hr

/-- constructing from all `rank` values (compatible with the static extents) yields exactly these extents … -/
theorem extents_from_full (p : Pattern) (c : List Nat) (hc : compatible p c = true) (e : Extents)
    (he : initDynamic p c = some e) : ∀ r, r < p.length → e.extent r = c.getD r 0 :=
  extent_of_initDynamic p c hc e (Or.inl he)

/-- … and constructing from the dynamic extents only places the j-th value at the j-th dynamic position and keeps
    the static extents -/
theorem extents_from_dynamic (p : Pattern) (c : List Nat) (hc : compatible p c = true) (e : Extents)
    (he : initDynamic p (dynPart p c) = some e) : ∀ r, r < p.length → e.extent r = c.getD r 0 :=
  extent_of_initDynamic p c hc e (Or.inr he)

/-- converting an extents object to another extents type of the same rank whose static extents agree with its values
    (`extents(const extents<I,e...>&)`) preserves every extent — for ARBITRARY static/dynamic patterns on both sides:
    `o.pat` (source) and `q` (target) are unrelated lists, so a dimension may be static in the source and dynamic in the
    target, dynamic in the source and static in the target, and the dynamic extents may sit at different positions of
    the two `dynamic_extents_` arrays (the conversion is position-aware: it goes through `as_array(other)`, all `rank`
    values, and `init_dynamic_extents` picks the target's dynamic positions) -/
theorem convert_extents_preserves (q : Pattern) (o e : Extents) (hq : compatible q o.toList = true)
    (he : Extents.convert q o = some e) : ∀ r, r < o.rank → e.extent r = o.extent r := by
  obtain ⟨hlen, he⟩ := Option.ite_none_right_eq_some.mp he
  intro r hr
  rw [extent_of_initDynamic q o.toList hq e (Or.inl he) r (hlen ▸ hr)]
  exact arr_toList o.rank o.extent r hr

/-- … hence the mapping over the converted extents (`mapping(const mapping<OtherExtents>&)` of all three layouts:
    `extents_(m.extents())`, strides copied) has the same rank, computes the same offset for EVERY index tuple and requires
    the same span -/
theorem convert_extents_preserves_addressing (q : Pattern) (o e : Extents) (hq : compatible q o.toList = true)
    (he : Extents.convert q o = some e) (lay : Layout) (S : Arr) :
    e.rank = o.rank ∧
    (∀ I, (Mapping.mk lay e.rank e.extent S).offset I = (Mapping.mk lay o.rank o.extent S).offset I) ∧
    (Mapping.mk lay e.rank e.extent S).requiredSpan = (Mapping.mk lay o.rank o.extent S).requiredSpan := by
  have hext := convert_extents_preserves q o e hq he
  obtain ⟨hlen, he⟩ := Option.ite_none_right_eq_some.mp he
  have hrank : e.rank = o.rank := (congrArg List.length (initDynamic_pat he)).trans hlen
  rw [hrank]
  exact ⟨rfl, Mapping.same_addressing (m := ⟨lay, o.rank, o.extent, S⟩) rfl hext (Mapping.stride_congr_ext lay S hext)⟩

/-- value-initialised extents (`E{}`; used by the default constructors of mappings, views and arrays): static extents
    as declared, every dynamic extent 0 — so a default-constructed view/array with a dynamic extent is empty -/
theorem extents_default (p : Pattern) (r : Nat) (hr : r < p.length) :
    (∀ s, p[r]? = some (some s) → (Extents.dflt p).extent r = s) ∧
    (p[r]? = some none → (Extents.dflt p).extent r = 0 ∧ mdSize p.length (Extents.dflt p).extent = 0) := by
  refine ⟨fun s h => extent_static (Extents.dflt p) r s h, fun h => ?_⟩
  have h0 := extent_default_dynamic p r hr h
  refine ⟨h0, ?_⟩
  rw [mdSize_eq, ← product_eq]
  exact product_eq_zero ⟨r, hr, h0⟩

example : (Extents.dflt [some 2, none, some 3]).toList = [2,0,3] := by decide +kernel

-- non-vacuity of the conversion theorems with dynamic extents at DIFFERENT positions: extents<int,dyn,3>{5} →
-- extents<long,5,dyn> is 5 x 3 (copying the stored dynamic values by their position in the array would give 5 x 5);
-- extents<int,dyn,dyn,4>{2,3} → extents<long,2,dyn,dyn> is 2 x 3 x 4; and a left mapping over either addresses alike
example : compatible [some 5, none] (Extents.toList ⟨[none, some 3], [5]⟩) = true ∧
    (Extents.convert [some 5, none] ⟨[none, some 3], [5]⟩).map (fun e => (e.dyn, e.toList)) = some ([3], [5,3]) ∧
    (Extents.convert [some 2, none, none] ⟨[none, none, some 4], [2,3]⟩).map (fun e => (e.dyn, e.toList)) = some ([3,4], [2,3,4]) ∧
    ((Extents.convert [some 5, none] ⟨[none, some 3], [5]⟩).map fun e => offsetLeft 2 e.extent (arr [4,2])) = some 14 ∧
    offsetLeft 2 (Extents.extent ⟨[none, some 3], [5]⟩) (arr [4,2]) = 14 := by decide +kernel

-- non-vacuity: extents<I, 2, dyn, 3, dyn> from (2,5,3,7) and from the dynamic values (5,7)
example : makeDynamicIndex [some 2, none, some 3, none] = [0,0,1,1,2] ∧
    (initDynamic [some 2, none, some 3, none] [2,5,3,7]).map (·.toList) = some [2,5,3,7] ∧
    (initDynamic [some 2, none, some 3, none] [5,7]).map (·.toList) = some [2,5,3,7] ∧
    compatible [some 2, none, some 3, none] [2,5,3,7] = true ∧ dynPart [some 2, none, some 3, none] [2,5,3,7] = [5,7] := by
  decide +kernel

/-! ## mdspan / mdarray -/

/-- an owning array built by `mdarray(mapping)` (container of `required_span_size()` elements) can be accessed at
    every valid index, for all three layouts: nothing outside the storage is touched -/
theorem mdarray_access_in_bounds (m : Mapping) (v : Int) (I : Arr) (h : Valid m.rank m.ext I) :
    (Md.new m v).get? I = some v ∧ m.offset I < (Md.new m v).data.length := by
  have hr := offset_in_range m I h
  constructor
  · show (List.replicate m.requiredSpan v)[m.offset I]? = some v
    rw [List.getElem?_replicate, if_pos hr]
  · show m.offset I < (List.replicate m.requiredSpan v).length
    rw [List.length_replicate]
    exact hr

/-- a view over storage of at least `required_span_size()` elements reads inside the storage -/
theorem mdspan_access_in_bounds (m : Mapping) (data : List Int) (hd : m.requiredSpan ≤ data.length) (I : Arr)
    (h : Valid m.rank m.ext I) : ∃ v, (Md.mk m data).get? I = some v :=
  ⟨_, List.getElem?_eq_getElem (Nat.lt_of_lt_of_le (offset_in_range m I h) hd)⟩

/-- exactly the designated element: writing at `I` is read back at `I` and leaves the element of every other valid
    index `J` untouched — for EVERY unique mapping (any layout, any stride vector making the mapping unique) over
    storage of at least `required_span_size()` elements (views over foreign storage, arrays built from a container) -/
theorem md_write_read_unique (a : Md) (I J : Arr) (v : Int) (hu : InjOn a.map)
    (hd : a.map.requiredSpan ≤ a.data.length) (hI : Valid a.map.rank a.map.ext I) (hJ : Valid a.map.rank a.map.ext J) :
    (a.set I v).get? I = some v ∧ ((∃ k, k < a.map.rank ∧ I k ≠ J k) → (a.set I v).get? J = a.get? J) ∧
    (a.set I v).data.length = a.data.length :=
  ⟨a.get?_set_eq v rfl (Nat.lt_of_lt_of_le (offset_in_range a.map I hI) hd),
    fun ⟨k, hk, hne⟩ => a.get?_set_ne v (fun heq => hne (hu I J hI hJ heq k hk)), List.length_set⟩

/-- the same with the uniqueness supplied by the criterion of `offset_injective` -/
theorem md_write_read (a : Md) (I J : Arr) (v : Int)
    (hu : a.map.lay = .stride → ∃ p : List Nat, p.Perm (List.range a.map.rank) ∧ DescChain a.map.ext a.map.str p)
    (hd : a.map.requiredSpan ≤ a.data.length) (hI : Valid a.map.rank a.map.ext I) (hJ : Valid a.map.rank a.map.ext J) :
    (a.set I v).get? I = some v ∧ ((∃ k, k < a.map.rank ∧ I k ≠ J k) → (a.set I v).get? J = a.get? J) := by
  have h := md_write_read_unique a I J v (fun I J hI hJ h => offset_injective a.map I J hu hI hJ h) hd hI hJ
  exact ⟨h.1, h.2.1⟩

/-- whole histories on one object (induction over the history): after ANY sequence of assignments at valid indices
    through a view / array with a unique mapping over storage of at least `required_span_size()` elements, the mapping
    and the storage size are unchanged and every valid index `J` reads the value of the LAST assignment made to `J`, or
    its original element if `J` was never assigned — no assignment ever disturbs another index -/
theorem md_history (a : Md) (hu : InjOn a.map) (hd : a.map.requiredSpan ≤ a.data.length)
    (ws : List (List Nat × Int)) (hws : ∀ w, w ∈ ws → Valid a.map.rank a.map.ext (arr w.1))
    (J : Arr) (hJ : Valid a.map.rank a.map.ext J) :
    (a.writes ws).map = a.map ∧ (a.writes ws).data.length = a.data.length ∧
    (a.writes ws).get? J = (match lastWrite a.map.rank J ws with | some v => some v | none => a.get? J) := by
  refine ⟨Md.writes_map a ws, Md.writes_length a ws, ?_⟩
  induction ws generalizing a with
  | nil => rfl
  | cons w ws ih =>
    have hw := hws w (List.mem_cons_self ..)
    rw [Md.writes, ih (a.set (arr w.1) w.2) hu (Nat.le_trans hd (Nat.le_of_eq List.length_set.symm))
      (fun w' hw' => hws w' (List.mem_cons_of_mem _ hw')) hJ]
    show (match lastWrite a.map.rank J ws with | some v => some v | none => (a.set (arr w.1) w.2).get? J) = _
    rw [lastWrite]
    cases lastWrite a.map.rank J ws with
    | some v => rfl
    | none =>
      by_cases hag : ∀ k, k < a.map.rank → arr w.1 k = J k
      · rw [if_pos (all_beq_iff.mpr hag)]
        exact a.get?_set_eq w.2 (a.map.offset_congr hag) (Nat.lt_of_lt_of_le (offset_in_range a.map _ hw) hd)
      · rw [if_neg (fun h => hag (all_beq_iff.mp h))]
        exact a.get?_set_ne w.2 (fun heq => hag (hu _ J hw hJ heq))

-- a history on the padded 2 x 3 array (strides (4,1)): (0,1) is assigned twice, (1,2) once, (1,0) never
example : ((Md.new ⟨.stride, 2, arr [2,3], arr [4,1]⟩ 7).writes [([0,1], 1), ([1,2], 2), ([0,1], 3)]).data = [7,3,7,7,7,7,2] ∧
    lastWrite 2 (arr [0,1]) [([0,1], 1), ([1,2], 2), ([0,1], 3)] = some 3 ∧
    lastWrite 2 (arr [1,0]) [([0,1], 1), ([1,2], 2), ([0,1], 3)] = none := by decide +kernel

/-- sizes are consistent: `size()` of a view/array is the product of the extents, which for left/right is the
    container size chosen by the constructors -/
theorem md_size_consistent (n : Nat) (E : Arr) :
    mdSize n E = prodFrom E 0 n ∧ mdSize n E = product n E ∧
    (Md.new ⟨.left, n, E, fun _ => 0⟩).data.length = mdSize n E ∧ (Md.new ⟨.right, n, E, fun _ => 0⟩).data.length = mdSize n E := by
  have h : product n E = mdSize n E := by rw [mdSize_eq, product_eq]
  exact ⟨mdSize_eq n E, h.symm, List.length_replicate.trans h, List.length_replicate.trans h⟩

example : (Md.new ⟨.left, 2, arr [2,3], fun _ => 0⟩ 7).get? (arr [1,2]) = some 7 ∧
    ((Md.new ⟨.left, 2, arr [2,3], fun _ => 0⟩ 7).set (arr [1,2]) 9).data = [7,7,7,7,7,9] ∧
    ((Md.new ⟨.right, 2, arr [2,3], fun _ => 0⟩ 7).set (arr [1,0]) 9).data = [7,7,7,9,7,7] := by decide +kernel

/-- the number of elements the two `mdarray(const mdspan&[, const Alloc&])` constructors create their container with
    (the member initialisers as regenerated from mdarray.hh) is the required span of the mapping the array adopts, and
    both constructors build the same array -/
theorem mdarray_from_view_alloc (m : Mapping) (other : View) :
    Gen.mdarray_from_mdspan_csize m.requiredSpan other.map.requiredSpan (mdSize other.map.rank other.map.ext) = m.requiredSpan ∧
    Gen.mdarray_from_mdspan_alloc_csize m.requiredSpan other.map.requiredSpan (mdSize other.map.rank other.map.ext) = m.requiredSpan ∧
    Md.fromViewAlloc m other = Md.fromView m other := ⟨rfl, rfl, rfl⟩

/-- copies refer to equal elements, for ALL layout, accessor and stride choices: an array built from a view
    (`mdarray(const mdspan&)`: container of `mapping_type(other.mapping()).required_span_size()` elements,
    `mapping_(other.mapping())`, then the nested loops `container_[mapping_(ii...)] = other[ii...]`) holds at every valid
    index the element the view yields there, i.e. `accessor.access(data_handle, other.mapping()(ii...))` — for an array
    with EVERY unique mapping `m` (left, right, or strided with any stride vector making it unique: padded, permuted,
    non-exhaustive — a user-supplied layout policy) and a view of any layout and ANY accessor policy (`other.acc` is an
    arbitrary function of the offset) that stays inside its storage.  (With a container of `other.size()` elements the
    statement is false for non-exhaustive mappings.) -/
theorem mdarray_from_view_elements (m : Mapping) (hu : InjOn m) (other : View)
    (hrank : other.map.rank = m.rank)
    (hother : ∀ J, Valid m.rank m.ext J → ∃ v, other.get? J = some v)
    (I : Arr) (hI : Valid m.rank m.ext I) : (Md.fromView m other).get? I = other.get? I := by
  have hcongr : ∀ t, (∀ k, k < m.rank → arr t k = I k) → other.get? (arr t) = other.get? I :=
    fun t h => congrArg other.acc (other.map.offset_congr (fun k hk => h k (hrank ▸ hk)))
  -- the copy is a history of assignments: by `md_history`, `I` holds what the last assignment to it wrote, and every
  -- assignment to it wrote the element of the view
  unfold Md.fromView
  rw [initFromView_eq_writes, (md_history ⟨m, _⟩ hu (Nat.le_of_eq List.length_replicate.symm) _
    (fun w hw => (mem_allTuples_toList.mp (mem_copyWrites.mp hw).1).2) I hI).2.2]
  rcases lastWrite_cases m.rank I (copyWrites other (allTuples (toList m.rank m.ext))) with ⟨w, hw, hag, he⟩ | ⟨_, hno⟩
  · rw [he, ← hcongr w.1 hag, (mem_copyWrites.mp hw).2]
  · -- and the loops do visit `I`
    obtain ⟨v, hv⟩ := hother I hI
    have hmem : toList m.rank I ∈ allTuples (toList m.rank m.ext) :=
      mem_allTuples_toList.mpr ⟨toList_length _ _, fun k hk => by rw [arr_toList _ _ _ hk]; exact hI k hk⟩
    exact absurd (arr_toList m.rank I)
      (hno (toList m.rank I, v) (mem_copyWrites.mpr ⟨hmem, (hcongr _ (arr_toList m.rank I)).trans hv⟩))

/-- the special case of a view with `default_accessor` over flat storage -/
theorem mdarray_from_mdspan_elements (m : Mapping) (hu : InjOn m) (other : Md)
    (hrank : other.map.rank = m.rank)
    (hother : ∀ J, Valid m.rank m.ext J → ∃ v, other.get? J = some v)
    (I : Arr) (hI : Valid m.rank m.ext I) : (Md.fromMdspan m other).get? I = other.get? I :=
  mdarray_from_view_elements m hu other.toView hrank hother I hI

example : (Md.fromMdspan ⟨.left, 2, arr [2,3], fun _ => 0⟩ ⟨⟨.right, 2, arr [2,3], fun _ => 0⟩, [10,11,12,13,14,15]⟩).data
    = [10,13,11,14,12,15] := by decide +kernel

-- an accessor that views every second entry of interleaved storage, starting at 1 (`access(p,i) = p[2*i+1]`): the array
-- holds the viewed entries 1,3,5,7,9,11 (in its own layout), not the raw entries `p[i]`
example : (Md.fromView ⟨.left, 2, arr [2,3], fun _ => 0⟩
    (AccView.toView ⟨⟨.right, 2, arr [2,3], fun _ => 0⟩, fun i => 2 * i + 1, [0,1,2,3,4,5,6,7,8,9,10,11,12]⟩)).data
    = [1,7,3,9,5,11] := by decide +kernel

-- a padded array (rows of 3 elements padded to 4: extents (2,3), strides (4,1), unique by the criterion, NOT exhaustive:
-- size() = 6 < required span 7) built from a view with the same mapping: 7 elements, the padding entry stays 0, the last
-- element sits at offset 6 — with a container of other.size() = 6 elements it would lie outside
example : SortedUnique 2 (arr [2,3]) (arr [4,1]) ∧
    (Md.fromMdspan ⟨.stride, 2, arr [2,3], arr [4,1]⟩ ⟨⟨.stride, 2, arr [2,3], arr [4,1]⟩, [10,11,12,13,14,15,16]⟩).data
      = [10,11,12,0,14,15,16] ∧
    mdSize 2 (arr [2,3]) = 6 ∧ Mapping.offset ⟨.stride, 2, arr [2,3], arr [4,1]⟩ (arr [1,2]) = 6 :=
  ⟨⟨[0,1], by decide +kernel⟩, by decide +kernel⟩

/-- the container of an array built from a view (any accessor policy, any layout of the array) has exactly the elements
    the adopted mapping requires: every later access at a valid index is inside the container; for an exhaustive
    (left/right) array over the view's extents that number is `other.size()` -/
theorem mdarray_from_view_container (m : Mapping) (other : View) :
    (Md.fromView m other).data.length = m.requiredSpan ∧ (Md.fromView m other).map = m ∧
    (∀ I, Valid m.rank m.ext I → m.offset I < (Md.fromView m other).data.length) ∧
    (m.lay ≠ .stride → other.map.rank = m.rank → (∀ k, k < m.rank → other.map.ext k = m.ext k) →
      (Md.fromView m other).data.length = mdSize other.map.rank other.map.ext) := by
  have hlen : (Md.fromView m other).data.length = m.requiredSpan := by
    unfold Md.fromView
    rw [initFromView_eq_writes, Md.writes_length]
    exact List.length_replicate
  refine ⟨hlen, ?_, fun I hI => by rw [hlen]; exact offset_in_range m I hI, fun hm hrank hext => ?_⟩
  · unfold Md.fromView
    rw [initFromView_eq_writes, Md.writes_map]
  · rw [hlen, mdSize_eq, hrank, prodFrom_congr hext (Nat.le_of_eq (Nat.zero_add m.rank))]
    exact Mapping.requiredSpan_of_ne_stride hm

theorem mdarray_from_mdspan_container (m : Mapping) (other : Md) :
    (Md.fromMdspan m other).data.length = m.requiredSpan ∧ (Md.fromMdspan m other).map = m ∧
    (∀ I, Valid m.rank m.ext I → m.offset I < (Md.fromMdspan m other).data.length) ∧
    (m.lay ≠ .stride → other.map.rank = m.rank → (∀ k, k < m.rank → other.map.ext k = m.ext k) →
      (Md.fromMdspan m other).data.length = mdSize other.map.rank other.map.ext) :=
  mdarray_from_view_container m other.toView

/-- an array built from a view and then written to, for EVERY unique mapping (padded / permuted strides included): the
    write at a valid index `I` is read back at `I`, every other valid index `J` still holds the element the view yielded
    there, and the container keeps exactly the required span -/
theorem mdarray_from_view_then_write (m : Mapping) (hu : InjOn m) (other : View)
    (hrank : other.map.rank = m.rank)
    (hother : ∀ J, Valid m.rank m.ext J → ∃ v, other.get? J = some v)
    (I J : Arr) (v : Int) (hI : Valid m.rank m.ext I) (hJ : Valid m.rank m.ext J) :
    ((Md.fromView m other).set I v).get? I = some v ∧
    ((∃ k, k < m.rank ∧ I k ≠ J k) → ((Md.fromView m other).set I v).get? J = other.get? J) ∧
    ((Md.fromView m other).set I v).data.length = m.requiredSpan := by
  obtain ⟨hlen, hmap, _, _⟩ := mdarray_from_view_container m other
  have hel := mdarray_from_view_elements m hu other hrank hother J hJ
  -- all that is used of the array: its mapping, its size and what it holds at `J`
  generalize Md.fromView m other = a at hlen hmap hel ⊢
  subst hmap
  have h := md_write_read_unique a I J v hu (Nat.le_of_eq hlen.symm) hI hJ
  exact ⟨h.1, fun hne => (h.2.1 hne).trans hel, h.2.2.trans hlen⟩

-- the padded array of the example above, then `a(0,1) = 99`: the neighbours and the padding entry are untouched
example : ((Md.fromMdspan ⟨.stride, 2, arr [2,3], arr [4,1]⟩ ⟨⟨.stride, 2, arr [2,3], arr [4,1]⟩, [10,11,12,13,14,15,16]⟩).set
    (arr [0,1]) 99).data = [10,99,12,0,14,15,16] := by decide +kernel

/-- conversions of views refer to equal elements: a view whose mapping was converted by any of the mapping
    constructors (`mdspan(const mdspan<…>&)`: same data handle, `mapping_type(other.mapping())`) reads, at every index
    tuple, the element the original view reads -/
theorem mdspan_convert_elements (a : Md) (t : Layout) (m' : Mapping) (h : a.map.convertTo t = some m') (I : Arr) :
    (Md.mk m' a.data).get? I = a.get? I := by
  simp only [Md.get?]
  rw [(convertTo_preserves a.map m' t h).2.2.2.1 I]

/-- sizes agree between the two classes: `mdarray::size()` = `mdspan::size()` = product of the extents (both loops are
    regenerated from their sources) -/
theorem mdarray_size_consistent (n : Nat) (E : Arr) : mdarraySize n E = mdSize n E ∧ mdarraySize n E = prodFrom E 0 n := by
  rw [mdarraySize_eq, mdSize_eq]; exact ⟨rfl, rfl⟩

/-! ## containers that are larger than the index space, accessor policies, index types -/

/-- `size()` of an owning array counts the index tuples, WHATEVER container it owns: an array built by
    `mdarray(extents|mapping, container)` from an arbitrary container `c` (e.g. a re-used, larger buffer, or a
    `std::array<T,N>` with `N` above the product of the extents) reports the number of index tuples = the product of the
    extents = `to_mdspan().size()`, while `container_size()` is `c.size()`; for left/right mappings that is the required
    span, and a copy of the array made through its view owns exactly `size()` elements -/
theorem mdarray_size_any_container (m : Mapping) (c : List Int) :
    (Md.fromContainer m c).size = (allTuples (toList m.rank m.ext)).length ∧
    (Md.fromContainer m c).size = prodFrom m.ext 0 m.rank ∧
    (Md.fromContainer m c).size = mdSize m.rank m.ext ∧
    (Md.fromContainer m c).containerSize = c.length ∧
    (m.lay ≠ .stride → (Md.fromContainer m c).size = m.requiredSpan ∧
      (Md.fromMdspan m (Md.fromContainer m c)).containerSize = (Md.fromContainer m c).size) := by
  have hs : (Md.fromContainer m c).size = prodFrom m.ext 0 m.rank := mdarraySize_eq m.rank m.ext
  refine ⟨by rw [hs, allTuples_toList_length], hs, by rw [hs, mdSize_eq], rfl, fun hm => ?_⟩
  -- the copy owns the required span, which for left/right is the number of index tuples
  have hr := hs.trans (Mapping.requiredSpan_of_ne_stride hm).symm
  exact ⟨hr, (mdarray_from_mdspan_container m (Md.fromContainer m c)).1.trans hr.symm⟩

-- a 2 x 3 array over a buffer of 10 elements: size 6, container size 10; a 0 x 3 array over 4 elements is empty
example : (Md.fromContainer ⟨.right, 2, arr [2,3], fun _ => 0⟩ [1,2,3,4,5,6,7,8,9,10]).size = 6 ∧
    (Md.fromContainer ⟨.right, 2, arr [2,3], fun _ => 0⟩ [1,2,3,4,5,6,7,8,9,10]).containerSize = 10 ∧
    (Md.fromContainer ⟨.left, 2, arr [0,3], fun _ => 0⟩ [1,2,3,4]).size = 0 := by decide +kernel

/-- an array over a container that is larger than the required span (any mapping, unique or not): all valid accesses are
    inside, writes at valid indices are read back and never touch an element at or beyond `required_span_size()` (the
    surplus of the container stays as it was) -/
theorem mdarray_oversized_container (a : Md) (I : Arr) (v : Int)
    (hd : a.map.requiredSpan ≤ a.data.length) (hI : Valid a.map.rank a.map.ext I) :
    a.map.offset I < a.data.length ∧ (a.set I v).get? I = some v ∧ (a.set I v).size = a.size ∧
    (a.set I v).containerSize = a.containerSize ∧
    ∀ j, a.map.requiredSpan ≤ j → (a.set I v).data[j]? = a.data[j]? := by
  have hr := offset_in_range a.map I hI
  exact ⟨Nat.lt_of_lt_of_le hr hd, a.get?_set_eq v rfl (Nat.lt_of_lt_of_le hr hd), rfl, List.length_set,
    fun j hj => List.getElem?_set_ne (Nat.ne_of_lt (Nat.lt_of_lt_of_le hr hj))⟩

example : ((Md.fromContainer ⟨.left, 2, arr [2,2], fun _ => 0⟩ [1,2,3,4,5,6]).set (arr [1,1]) 9).data = [1,2,3,9,5,6] := by decide +kernel

/-- `std::array<T,N>` as container (`ContainerConstructionTraits<std::array<T,N>>::construct` asserts `size <= N`):
    the array owns all `N` elements, each valid index reads the initial value, and `size()` is still the product of
    the extents -/
theorem mdarray_std_array_container (m : Mapping) (N : Nat) (v : Int) (a : Md) (h : Md.newArray m N v = some a) :
    m.requiredSpan ≤ N ∧ a.containerSize = N ∧ a.size = prodFrom m.ext 0 m.rank ∧
    ∀ I, Valid m.rank m.ext I → a.get? I = some v := by
  obtain ⟨hN, ⟨⟩⟩ := Option.ite_none_right_eq_some.mp h
  refine ⟨hN, List.length_replicate, mdarraySize_eq m.rank m.ext, fun I hI => ?_⟩
  show (List.replicate N v)[m.offset I]? = some v
  rw [List.getElem?_replicate, if_pos (Nat.lt_of_lt_of_le (offset_in_range m I hI) hN)]

example : (Md.newArray ⟨.right, 2, arr [2,3], fun _ => 0⟩ 8 7).map (fun a => (a.size, a.containerSize)) = some (6, 8) ∧
    (Md.newArray ⟨.right, 2, arr [2,3], fun _ => 0⟩ 5 7).isNone = true := by decide +kernel

/-- views with an accessor policy `access(p, i) = p[pos i]` (any `pos` that is injective on `[0, required_span_size)`
    and stays inside the storage there — `default_accessor` is `pos = id`): a write at `I` is read back at `I`, leaves the
    element of every other valid index untouched and keeps the storage size — for EVERY unique mapping -/
theorem accview_write_read_unique (a : AccView) (I J : Arr) (v : Int) (hu : InjOn a.map)
    (hpos : ∀ i j, i < a.map.requiredSpan → j < a.map.requiredSpan → a.pos i = a.pos j → i = j)
    (hd : ∀ i, i < a.map.requiredSpan → a.pos i < a.data.length)
    (hI : Valid a.map.rank a.map.ext I) (hJ : Valid a.map.rank a.map.ext J) :
    (a.set I v).get? I = some v ∧ ((∃ k, k < a.map.rank ∧ I k ≠ J k) → (a.set I v).get? J = a.get? J) ∧
    (a.set I v).data.length = a.data.length ∧ (a.set I v).toView.get? I = some v := by
  have hrI := offset_in_range a.map I hI
  have hrJ := offset_in_range a.map J hJ
  have h1 : (a.set I v).get? I = some v := List.getElem?_set_self (hd _ hrI)
  exact ⟨h1, fun ⟨k, hk, hne⟩ => List.getElem?_set_ne (fun heq => hne (hu I J hI hJ (hpos _ _ hrI hrJ heq) k hk)),
    List.length_set, h1⟩

-- the interleaved accessor `pos i = 2 i + 1` over 13 entries, 2 x 3 row-major: writing (1,0) changes entry 7 only
example : ((AccView.mk ⟨.right, 2, arr [2,3], fun _ => 0⟩ (fun i => 2 * i + 1) [0,1,2,3,4,5,6,7,8,9,10,11,12]).set (arr [1,0]) 99).data
    = [0,1,2,3,4,5,6,99,8,9,10,11,12] := by decide +kernel

/-- all index types: for a non-empty index space `stride(i)·extent(i)` of a left mapping is at most
    `required_span_size()`, and every intermediate value of the accumulator of the `stride(i)` loop (assembled from the
    regenerated pieces) is at most `stride(i)` — so whenever `required_span_size()` is representable in `index_type`, so
    is every value the stride loop computes -/
theorem stride_left_no_overflow (n : Nat) (E : Arr) (i : Nat) (hi : i < n) (hpos : ∀ k, k < n → 0 < E k)
    (t : Nat) (ht : t ≤ i) :
    loopFrom (Gen.left_stride_step n E i) t (Gen.left_stride_lo n E i) (Gen.left_stride_init n E i) ≤ strideLeft n E i ∧
    strideLeft n E i * E i ≤ product n E := by
  constructor
  · exact loopFrom_prefix_le ht (fun r acc hr => Nat.le_mul_of_pos_right acc (hpos r (Nat.lt_trans (Nat.zero_add i ▸ hr) hi)))
  · rw [strideLeft_eq, product_eq, prodFrom_split E n i hi]
    exact Nat.le_mul_of_pos_right _ (prodFrom_pos hpos (Nat.le_of_eq (Nat.add_sub_of_le hi)))

theorem stride_right_no_overflow (n : Nat) (E : Arr) (i : Nat) (hi : i < n) (hpos : ∀ k, k < n → 0 < E k)
    (t : Nat) (ht : t ≤ n - (i + 1)) :
    loopFrom (Gen.right_stride_step n E i) t (Gen.right_stride_lo n E i) (Gen.right_stride_init n E i) ≤ strideRight n E i ∧
    strideRight n E i * E i ≤ product n E := by
  constructor
  · exact loopFrom_prefix_le ht (fun r acc hr => Nat.le_mul_of_pos_right acc (hpos r (Nat.add_sub_of_le hi ▸ hr)))
  · rw [strideRight_eq, product_eq, prodFrom_split E n i hi, Nat.mul_comm (prodFrom E 0 i * E i)]
    exact Nat.mul_le_mul_left _ (Nat.le_mul_of_pos_left _ (prodFrom_pos hpos (Nat.le_of_lt ((Nat.zero_add i).symm ▸ hi))))

/-- likewise the loops of `extents::product()` (= `required_span_size()` of left/right), `mdspan::size()` and
    `mdarray::size()`: every partial product is at most the final value when no extent is 0 -/
theorem size_loops_no_overflow (n : Nat) (E : Arr) (hpos : ∀ k, k < n → 0 < E k) (t : Nat) (ht : t ≤ n) :
    loopFrom (Gen.product_step n E) t (Gen.product_lo n E) (Gen.product_init n E) ≤ product n E ∧
    loopFrom (Gen.mdspan_size_step n E) t (Gen.mdspan_size_lo n E) (Gen.mdspan_size_init n E) ≤ mdSize n E ∧
    loopFrom (Gen.mdarray_size_step n E) t (Gen.mdarray_size_lo n E) (Gen.mdarray_size_init n E) ≤ mdarraySize n E := by
  have step : ∀ r acc, r < 0 + n → acc ≤ acc * E r :=
    fun r acc hr => Nat.le_mul_of_pos_right acc (hpos r (Nat.zero_add n ▸ hr))
  exact ⟨loopFrom_prefix_le ht step, loopFrom_prefix_le ht step, loopFrom_prefix_le ht step⟩

/-- … and the summation loop of `layout_stride::mapping::required_span_size()`: every partial sum is at most the result -/
theorem span_stride_no_overflow (n : Nat) (E S : Arr) (hpos : ∀ k, k < n → 0 < E k) (t : Nat) (ht : t ≤ n) :
    loopFrom (Gen.stride_size_step n E S) t (Gen.stride_size_lo n E S) (Gen.stride_size_init n E S) ≤
      requiredSpanStride n E S := by
  rw [requiredSpanStride_pos_ext S hpos]
  show loopFrom (fun r acc => acc + (E r - 1) * S r) t 0 1 ≤ _
  rw [loop_sum]
  exact Nat.add_le_add_left (sumTo_prefix_le ht _) 1

-- 2 x 1 x 3000000000 (the span 6000000000 needs a 64-bit index type): stride(0) = stride(1) = 3000000000 ≥ 2^31
example : strideRight 3 (arr [2,1,3000000000]) 0 = 3000000000 ∧ strideRight 3 (arr [2,1,3000000000]) 1 = 3000000000 ∧
    product 3 (arr [2,1,3000000000]) = 6000000000 ∧
    offsetRight 3 (arr [2,1,3000000000]) (arr [1,0,2999999999]) = 5999999999 ∧
    (Mapping.toStride ⟨.right, 3, arr [2,1,3000000000], fun _ => 0⟩).offset (arr [1,0,2999999999]) = 5999999999 := by decide +kernel

/-! ## `is_exhaustive()` of strided mappings -/

/-- for a unique strided mapping (any rank, any extents, any strides): the required span is at least the number of index
    tuples, and it EQUALS that number (the test `is_exhaustive()` performs) iff every offset below the span is hit by a
    valid index tuple — by a pigeonhole argument against the column-major numbering of the index space -/
theorem stride_exhaustive_iff_no_gaps (n : Nat) (E S : Arr)
    (hu : ∀ I J, Valid n E I → Valid n E J → offsetStride n S I = offsetStride n S J → ∀ k, k < n → I k = J k) :
    product n E ≤ requiredSpanStride n E S ∧
    (requiredSpanStride n E S = product n E ↔
      ∀ o, o < requiredSpanStride n E S → ∃ I, Valid n E I ∧ offsetStride n S I = o) := by
  -- number the index space column-major: `T q` is the index tuple with `offsetLeft (T q) = q`
  obtain ⟨T, hT⟩ := choose_below (left_bijective_onto_range n E)
  have key := inj_onto_iff (f := fun q => offsetStride n S (T q))
    (fun q hq => offset_in_range_stride n E S (T q) (hT q hq).1)
    (fun q q' hq hq' h => by
      have hag := hu (T q) (T q') (hT q hq).1 (hT q' hq').1 h
      rw [← (hT q hq).2, ← (hT q' hq').2]
      exact Mapping.offset_congr ⟨.left, n, E, S⟩ hag)
  refine ⟨key.1, key.2.trans ⟨fun h o ho => ?_, fun h o ho => ?_⟩⟩
  · obtain ⟨q, hq, e⟩ := h o ho
    exact ⟨T q, (hT q hq).1, e⟩
  · obtain ⟨I, hI, e⟩ := h o ho
    have hq := offset_in_range_left n E I hI
    have hag := offset_injective_left n E _ I (hT _ hq).1 hI (hT _ hq).2
    exact ⟨offsetLeft n E I, hq, (Mapping.offset_congr ⟨.stride, n, E, S⟩ hag).trans e⟩

/-- `is_exhaustive()` of a strided mapping decides exactly whether the mapping fills its range without gaps: for a
    unique strided mapping over a non-empty index space, `is_exhaustive()` is true iff every offset below
    `required_span_size()` is the image of a valid index tuple (as for layout_left / layout_right, which are always
    exhaustive); and the required span is never below the number of index tuples -/
theorem is_exhaustive_iff_no_gaps (m : Mapping) (hlay : m.lay = .stride) (hpos : ∀ k, k < m.rank → 0 < m.ext k)
    (hu : InjOn m) :
    (m.isExhaustive = true ↔ ∀ o, o < m.requiredSpan → ∃ I, Valid m.rank m.ext I ∧ m.offset I = o) ∧
    mdSize m.rank m.ext ≤ m.requiredSpan := by
  obtain ⟨lay, n, E, S⟩ := m
  simp only at hlay hpos
  subst hlay
  obtain ⟨hle, hiff⟩ := stride_exhaustive_iff_no_gaps n E S hu
  -- with no extent 0 the span is positive, and for rank 0 both numbers are 1: the test is `span == product`
  have hex : (Mapping.isExhaustive ⟨.stride, n, E, S⟩ = true) ↔ requiredSpanStride n E S = product n E := by
    show ((n == 0 || (decide (0 < requiredSpanStride n E S) && requiredSpanStride n E S == product n E)) = true) ↔ _
    simp only [Bool.or_eq_true, Bool.and_eq_true, beq_iff_eq, decide_eq_true_eq]
    constructor
    · rintro (rfl | ⟨_, h⟩)
      · rfl
      · exact h
    · exact fun h => Or.inr ⟨Nat.zero_lt_of_lt (offset_in_range_stride n E S (fun _ => 0) hpos), h⟩
  refine ⟨hex.trans hiff, ?_⟩
  show mdSize n E ≤ requiredSpanStride n E S
  rw [(md_size_consistent n E).2.1]
  exact hle

-- strides (4,1) over extents (2,3): span 7 > 6 index tuples, not exhaustive, offset 3 is a gap;
-- strides (1,2) (column-major): exhaustive
example : Mapping.isExhaustive ⟨.stride, 2, arr [2,3], arr [4,1]⟩ = false ∧
    Mapping.requiredSpan ⟨.stride, 2, arr [2,3], arr [4,1]⟩ = 7 ∧
    ((allTuples [2,3]).map fun t => Mapping.offset ⟨.stride, 2, arr [2,3], arr [4,1]⟩ (arr t)) = [0,1,2,4,5,6] ∧
    Mapping.isExhaustive ⟨.stride, 2, arr [2,3], arr [1,2]⟩ = true ∧
    ((allTuples [2,3]).map fun t => Mapping.offset ⟨.stride, 2, arr [2,3], arr [1,2]⟩ (arr t)) = [0,2,4,1,3,5] := by decide +kernel

/-! ## span sub-views -/

/-- `subspan(offset, count)` (run-time and template form; `count = none` is `dynamic_extent`) under its asserted
    precondition: the result lies inside the parent, and its i-th element is the (offset+i)-th element of the parent -/
theorem subspan_elements {α : Type} (mem : List α) (s t : Span) (o : Nat) (c : Option Nat)
    (h : s.subspan o c = some t) :
    s.off ≤ t.off ∧ t.off + t.size ≤ s.off + s.size ∧ t.off = s.off + o ∧
    (match c with | some c => t.size = c | none => t.size = s.size - o) ∧
    ∀ i, i < t.size → (t.elems mem)[i]? = (s.elems mem)[o + i]? := by
  cases c with
  | none =>
    obtain ⟨hc, ⟨⟩⟩ := Option.ite_none_right_eq_some.mp h
    have hs : o + (s.size - o) ≤ s.size := Nat.le_of_eq (Nat.add_sub_cancel' hc)
    exact ⟨Nat.le_add_right _ _, by rw [Nat.add_assoc]; exact Nat.add_le_add_left hs _, rfl, rfl, elems_sub mem rfl hs⟩
  | some c =>
    obtain ⟨⟨hc, hs⟩, ⟨⟩⟩ := Option.ite_none_right_eq_some.mp h
    have hs : o + c ≤ s.size := Nat.add_le_of_le_sub' hc hs
    exact ⟨Nat.le_add_right _ _, by rw [Nat.add_assoc]; exact Nat.add_le_add_left hs _, rfl, rfl, elems_sub mem rfl hs⟩

/-- `first(count)` and `last(count)` likewise -/
theorem first_last_elements {α : Type} (mem : List α) (s t : Span) (c : Nat) :
    (s.first c = some t → t.off = s.off ∧ t.size = c ∧ c ≤ s.size ∧
        ∀ i, i < c → (t.elems mem)[i]? = (s.elems mem)[i]?) ∧
    (s.last c = some t → t.off = s.off + (s.size - c) ∧ t.size = c ∧ c ≤ s.size ∧
        ∀ i, i < c → (t.elems mem)[i]? = (s.elems mem)[s.size - c + i]?) := by
  constructor
  · intro h
    obtain ⟨hc, ⟨⟩⟩ := Option.ite_none_right_eq_some.mp h
    refine ⟨rfl, rfl, hc, fun i hi => ?_⟩
    have := elems_sub mem (s := s) (t := ⟨s.off, c⟩) (o := 0) rfl (by rw [Nat.zero_add]; exact hc) i hi
    rwa [Nat.zero_add] at this
  · intro h
    obtain ⟨hc, ⟨⟩⟩ := Option.ite_none_right_eq_some.mp h
    exact ⟨rfl, rfl, hc, elems_sub mem (s := s) (t := ⟨_, c⟩) rfl (Nat.le_of_eq (Nat.sub_add_cancel hc))⟩

/-- a span inside its storage has exactly `size()` elements, and `at(i)` is the i-th of them -/
theorem span_elems_size {α : Type} (mem : List α) (s : Span) (h : s.off + s.size ≤ mem.length) :
    (s.elems mem).length = s.size ∧ ∀ i, s.at? mem i = if i < s.size then (s.elems mem)[i]? else none := by
  refine ⟨elems_length s mem h, fun i => ?_⟩
  unfold Span.at?
  by_cases hi : i < s.size
  · rw [if_pos hi, if_pos hi, elems_getElem? _ _ _ hi]
  · rw [if_neg hi, if_neg hi]

/-- every single sub-view operation stays inside its parent -/
theorem span_apply_inside (s t : Span) (op : SpanOp) (h : s.apply op = some t) :
    s.off ≤ t.off ∧ t.off + t.size ≤ s.off + s.size := by
  cases op with
  | first c =>
    obtain ⟨h1, h2, h3, _⟩ := (first_last_elements ([] : List Nat) s t c).1 h
    rw [h1, h2]
    exact ⟨Nat.le_refl _, Nat.add_le_add_left h3 _⟩
  | last c =>
    obtain ⟨h1, h2, h3, _⟩ := (first_last_elements ([] : List Nat) s t c).2 h
    rw [h1, h2, Nat.add_assoc, Nat.sub_add_cancel h3]
    exact ⟨Nat.le_add_right _ _, Nat.le_refl _⟩
  | sub o c =>
    obtain ⟨h1, h2, _⟩ := subspan_elements ([] : List Nat) s t o c h
    exact ⟨h1, h2⟩

theorem span_run_inside (ops : List SpanOp) (s t : Span) (h : s.run ops = some t) :
    s.off ≤ t.off ∧ t.off + t.size ≤ s.off + s.size := by
  fun_induction Span.run s ops with
  | case1 s => cases h; exact ⟨Nat.le_refl _, Nat.le_refl _⟩
  | case2 s op ops u hu ih =>
    have ⟨a1, a2⟩ := span_apply_inside s u op hu
    have ⟨b1, b2⟩ := ih h
    exact ⟨Nat.le_trans a1 b1, Nat.le_trans b2 a2⟩
  | case3 s op ops hu => cases h

/-- for ALL histories of `first`/`last`/`subspan` operations (each applied to the result of the previous one, every
    asserted precondition holding): the final span lies inside the initial one, and its i-th element is the element
    of the initial span at the accumulated offset -/
theorem span_history {α : Type} (mem : List α) (ops : List SpanOp) (s t : Span) (h : s.run ops = some t) :
    s.off ≤ t.off ∧ t.off + t.size ≤ s.off + s.size ∧
    ∀ i, i < t.size → (t.elems mem)[i]? = (s.elems mem)[(t.off - s.off) + i]? := by
  obtain ⟨h1, h2⟩ := span_run_inside ops s t h
  refine ⟨h1, h2, elems_sub mem (Nat.add_sub_cancel' h1).symm ?_⟩
  rw [← Nat.sub_add_comm h1]
  exact Nat.sub_le_iff_le_add.mpr (Nat.add_comm s.off s.size ▸ h2)

example : (Span.mk 0 9).run [.sub 1 (some 6), .last 4, .first 2, .sub 1 none] = some ⟨4, 1⟩ ∧
    (Span.mk 0 9).run [.sub 1 (some 6), .last 7] = none := by decide +kernel

example : (Span.mk 0 6).subspan 1 (some 4) = some ⟨1, 4⟩ ∧ (Span.mk 1 4).subspan 2 none = some ⟨3, 2⟩ ∧
    (Span.mk 3 2).elems [10,11,12,13,14,15] = [13,14] ∧ (Span.mk 0 6).subspan 3 (some 4) = none ∧
    (Span.mk 1 4).last 1 = some ⟨4, 1⟩ := by decide +kernel

/-! ## the sub-view functions of span.hh as they read in the source -/

section SpanGen
open DV.C14.Gen

/-- arguments the C++ functions can be called with: an explicit count is not `dynamic_extent` -/
def SpanOpG.wf : SpanOpG → Prop
  | .sub _ (some c) => c < dynExt
  | .tsub _ (some c) => c < dynExt
  | _ => True

/-- the static extent of a span is dynamic or equals its size -/
def extOk (ext : Option Nat) (s : Span) : Prop := ext = none ∨ ext = some s.size

/-- the shape shared by the six member functions: `assert(pre); return {data() + off, size}`, declared extent `e` -/
theorem mkSub_refines {s : Span} {pre : Bool} {off size : Nat} {e : Option Nat} {r : Option Span} (p : Prop) [Decidable p]
    (hpre : pre = true ↔ p) (hr : r = if p then some ⟨s.off + off, size⟩ else none) (he : p → e = none ∨ e = some size) :
    ((mkSub s pre off size).map fun t => (e, t)).map (·.2) = r ∧
    ∀ e' t, (mkSub s pre off size).map (fun t => (e, t)) = some (e', t) → extOk e' t := by
  subst hr
  by_cases h : p
  · simp only [mkSub, hpre.mpr h, if_true, if_pos h, Option.map_some, true_and]
    intro e' t ht
    cases ht
    exact he h
  · have hf : pre = false := Bool.eq_false_iff.mpr (fun hp => h (hpre.mp hp))
    simp only [mkSub, hf, if_neg h, Option.map_none, Bool.false_eq_true, if_false, true_and]
    intro e' t ht
    cases ht

/-- REFINEMENT: each of the six sub-view member functions of span.hh — precondition, pointer offset and size of the
    returned span exactly as regenerated from the source, for a span with a static or a dynamic extent — implements the
    abstract operation `Span.apply` (about which `span_apply_inside`, `subspan_elements`, `first_last_elements` are
    proved), and the static extent it declares for the result (`Count`, `subspan_extent(Offset,Count)`, or dynamic)
    is again consistent with the size of the result -/
theorem span_gen_refines (ext : Option Nat) (s : Span) (op : SpanOpG) (hs : s.size < dynExt) (he : extOk ext s)
    (hw : op.wf) :
    (s.applyG ext op).map (·.2) = s.apply op.erase ∧
    ∀ e t, s.applyG ext op = some (e, t) → extOk e t := by
  cases op with
  | first c => exact mkSub_refines (c ≤ s.size) decide_eq_true_iff rfl (fun _ => Or.inl rfl)
  | last c => exact mkSub_refines (c ≤ s.size) decide_eq_true_iff rfl (fun _ => Or.inl rfl)
  | tfirst c => exact mkSub_refines (c ≤ s.size) decide_eq_true_iff rfl (fun _ => Or.inr rfl)
  | tlast c => exact mkSub_refines (c ≤ s.size) decide_eq_true_iff rfl (fun _ => Or.inr rfl)
  | sub o c =>
    cases c with
    | none =>
      refine mkSub_refines (o ≤ s.size) ?_ rfl (fun _ => Or.inl rfl)
      -- the count is `dynamic_extent`: the second conjunct of the precondition evaluates to `true`
      show (decide (o ≤ s.size) && true) = true ↔ _
      rw [Bool.and_true, decide_eq_true_iff]
    | some c =>
      have hc : c ≠ dynExt := Nat.ne_of_lt hw
      dsimp only [Span.applyG, optNat, Option.getD, span_sub_pre, span_sub_off, span_sub_size]
      refine mkSub_refines (o ≤ s.size ∧ c ≤ s.size - o) ?_ ?_ (fun _ => Or.inl rfl)
      · rw [decide_eq_false hc, Bool.false_or, Bool.and_eq_true, decide_eq_true_iff, decide_eq_true_iff]
      · rw [decide_eq_false hc, if_neg Bool.false_ne_true]
        rfl
  | tsub o c =>
    cases c with
    | none =>
      refine mkSub_refines (o ≤ s.size) ?_ rfl ?_
      · show (decide (o ≤ s.size) && true) = true ↔ _
        rw [Bool.and_true, decide_eq_true_iff]
      · intro _
        rcases he with rfl | rfl
        · exact Or.inl rfl
        · have h3 : s.size - o ≠ dynExt := Nat.ne_of_lt (Nat.lt_of_le_of_lt (Nat.sub_le _ _) hs)
          refine Or.inr ?_
          show natOpt (if decide (s.size ≠ dynExt) = true then s.size - o else dynExt) = some (s.size - o)
          rw [decide_eq_true (Nat.ne_of_lt hs), if_pos rfl]
          exact if_neg h3
    | some c =>
      have hc : c ≠ dynExt := Nat.ne_of_lt hw
      dsimp only [Span.applyG, optNat, Option.getD, span_tsub_pre, span_tsub_off, span_tsub_size, span_subspan_extent]
      rw [decide_eq_true hc, if_pos rfl]
      refine mkSub_refines (o ≤ s.size ∧ c ≤ s.size - o) ?_ rfl (fun _ => Or.inr (if_neg hc))
      rw [decide_eq_false hc, Bool.false_or, Bool.and_eq_true, decide_eq_true_iff, decide_eq_true_iff]

/-- the same for whole histories (induction): a sequence of calls of the member functions as they read in span.hh
    computes the span `Span.run` computes for the abstract operations (to which `span_history` applies: inside the initial
    span, element `i` = element `accumulated offset + i`), and the declared static extent stays consistent -/
theorem span_run_gen_refines (ops : List SpanOpG) (ext : Option Nat) (s : Span) (hs : s.size < dynExt) (he : extOk ext s)
    (hw : ∀ op, op ∈ ops → op.wf) :
    (s.runG ext ops).map (·.2) = s.run (ops.map SpanOpG.erase) ∧
    ∀ e t, s.runG ext ops = some (e, t) → extOk e t := by
  induction ops generalizing ext s with
  | nil => exact ⟨rfl, fun e t ht => by cases ht; exact he⟩
  | cons op ops ih =>
    obtain ⟨h1, h2⟩ := span_gen_refines ext s op hs he (hw op (List.mem_cons_self ..))
    rw [Span.runG, List.map_cons, Span.run, ← h1]
    cases hg : s.applyG ext op with
    | none => exact ⟨rfl, fun e t ht => nomatch ht⟩
    | some et =>
      have hin := span_apply_inside s et.2 op.erase (by rw [← h1, hg]; rfl)
      exact ih et.1 et.2
        (Nat.lt_of_le_of_lt (Nat.le_of_add_le_add_left (Nat.le_trans hin.2 (Nat.add_le_add_right hin.1 _))) hs)
        (h2 et.1 et.2 hg) (fun op' hop' => hw op' (List.mem_cons_of_mem _ hop'))

-- the six functions on a span of 9 elements with static extent 9: `subspan<1>()` declares extent 8, `last<4>()` extent 4,
-- `first(2)` a dynamic extent; the abstract history gives the same span
example : (Span.mk 0 9).runG (some 9) [.tsub 1 none, .tlast 4, .first 2, .sub 1 none] = some (none, ⟨6, 1⟩) ∧
    (Span.mk 0 9).run [.sub 1 none, .last 4, .first 2, .sub 1 none] = some ⟨6, 1⟩ ∧
    (Span.mk 0 9).applyG (some 9) (.tsub 1 none) = some (some 8, ⟨1, 8⟩) ∧
    (Span.mk 0 9).applyG (some 9) (.tsub 1 (some 3)) = some (some 3, ⟨1, 3⟩) ∧
    (Span.mk 0 9).applyG none (.tsub 1 none) = some (none, ⟨1, 8⟩) ∧
    (Span.mk 0 9).applyG (some 9) (.tlast 10) = none := by decide +kernel

end SpanGen

end DV.C14
