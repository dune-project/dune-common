/-
C18 — property theorems (path.cc, path.hh, stringutility.hh); the lemmas they rest on live in Proofs/C18/.

All theorems are about the character-level functions the driver runs (`processPathC`, `prettyPath`,
`pathIndicatesDirectory`, `concatPaths`, `relativePath`, `hasPrefix`, `hasSuffix`, `formatString`) and hold
for ALL strings (`Str = List Char`), of any length.  `pathIndicatesDirectory`, `concatPaths`, both bodies of
`prettyPath` (`prettyPathWith`, `prettyPathAutoWith`), `bufferSize`, `fmtFitsStack`, `fmtDynamicSize`, `hasPrefix`,
`hasSuffix` and the `docTable*` lists are regenerated from the source tree on every run (Gen/C18.lean).
-/
import DuneVerif.Proofs.C18.Resolve
import DuneVerif.Proofs.C18.Tables
import DuneVerif.Proofs.C18.Relative

namespace DV.C18

/-- refinement: the pass-by-pass transcription of `processPath` computes the component-level specification
    (split at '/', drop empty and "." components, resolve ".." with a stack clamped at the root, render). -/
theorem processC_eq_S (p : Str) : processPathC p = processPathS p := by
  unfold processPathC
  rw [processPathC?_eq_some]

/-- termination: the `while(true)` loop that removes "<component>/../" leaves through its `break` within
    |text|+1 iterations for every input (the model's fuel is never exhausted), so `processPathC` is the value the
    loop computes and never the out-of-fuel marker -/
theorem processPath_terminates (p : Str) :
    (∃ r, processPathC? p = some r ∧ processPathC p = r) ∧ processPathC p ≠ fuelExhausted := by
  have h := processPathC?_eq_some p
  refine ⟨⟨processPathS p, h, processC_eq_S p⟩, ?_⟩
  -- a result is empty or ends in '/', the marker is "?"
  rw [processC_eq_S, processPathS]
  intro e
  rcases render_nil_or_slash (denote p) with h0 | ⟨y, hy⟩
  · rw [h0] at e; cases e
  · rw [← hy] at e
    have := congrArg List.getLast? e
    simp [fuelExhausted] at this

example : processPathC? ['a', '/', 'b', '/', '.', '.', '/', '.', '.', '/', '.', '.'] = some ['.', '.', '/'] := by decide +kernel

example : processPathC ['a', '/', '.', '.', '/', '.', '.', '/', '/', 'b', '/', '.', '/', 'c'] = ['.', '.', '/', 'b', '/', 'c', '/'] := by decide +kernel
example : processPathS ['a', '/', '.', '.', '/', '.', '.', '/', '/', 'b', '/', '.', '/', 'c'] = ['.', '.', '/', 'b', '/', 'c', '/'] := by decide +kernel

/-- the result is in the documented normal form: optional root, ".." components only leading and only in a
    relative path, then proper names (non-empty, no '/', not "." or ".."), each component followed by one '/'. -/
theorem normal_form (p : Str) : NormalForm (processPathC p) := by
  rw [processC_eq_S]; exact normalForm_processPathS p

example : NormalForm ['.', '.', '/', 'b', '/'] :=
  ⟨⟨false, 1, [['b']]⟩, ⟨by simp, by intro n hn; simp at hn; subst hn; unfold IsName dot dotdot; decide⟩, by decide⟩

/-- the result denotes the same location as the input -/
theorem denote_preserved (p : Str) : denote (processPathC p) = denote p := by
  rw [processC_eq_S]; exact denote_processPathS p

example : denote ['/', 'a', '/', '.', '.', '/', '.', '.', '/', 'b'] = ⟨true, 0, [['b']]⟩ := by decide +kernel

/-- sanitising twice is sanitising once -/
theorem idempotent (p : Str) : processPathC (processPathC p) = processPathC p := by
  rw [processC_eq_S (processPathC p), processC_eq_S p]
  exact processPathS_of_normalForm (normalForm_processPathS p)

/-- the normal forms are exactly the fixed points -/
theorem normalForm_iff_fixed (s : Str) : NormalForm s ↔ processPathC s = s := by
  constructor
  · intro h; rw [processC_eq_S]; exact processPathS_of_normalForm h
  · intro h; rw [← h]; exact normal_form s

/-- `NormalForm` is not too permissive: each kind of defect the documentation excludes is rejected
    (missing trailing '/', empty component, "." component, ".." after a name, ".." in an absolute path) -/
example : ¬ NormalForm ['a'] := by rw [normalForm_iff_fixed]; decide +kernel
example : ¬ NormalForm ['a', '/', '/'] := by rw [normalForm_iff_fixed]; decide +kernel
example : ¬ NormalForm ['.', '/'] := by rw [normalForm_iff_fixed]; decide +kernel
example : ¬ NormalForm ['a', '/', '.', '/'] := by rw [normalForm_iff_fixed]; decide +kernel
example : ¬ NormalForm ['a', '/', '.', '.', '/'] := by rw [normalForm_iff_fixed]; decide +kernel
example : ¬ NormalForm ['/', '.', '.', '/'] := by rw [normalForm_iff_fixed]; decide +kernel
example : ¬ NormalForm ['/', '/'] := by rw [normalForm_iff_fixed]; decide +kernel

/-- an absolute path stays absolute and its result has no ".." component: it never escapes the root -/
theorem abs_never_escapes_root (p : Str) (h : p.head? = some '/') :
    (processPathC p).head? = some '/' ∧ dotdot ∉ splitSlash (processPathC p) ∧ (denote p).ups = 0 := by
  have hv := denote_valid p
  have habs : (denote p).abs = true := by rw [denote_abs]; simp [isAbs, h]
  rw [processC_eq_S, processPathS]
  refine ⟨?_, fun hm => ?_, hv.1 habs⟩
  · simpa [isAbs, habs] using isAbs_render hv
  · -- a ".." piece would be one of the components of the rendered location, and those are names
    have hc : dotdot ∈ comps (render (denote p)) := List.mem_filter.2 ⟨hm, by decide⟩
    rw [comps_render hv, hv.1 habs] at hc
    exact (hv.2 _ (by simpa using hc)).2.2.2 rfl

example : processPathC ['/', '.', '.', '/', '.', '.', '/', 'a'] = ['/', 'a', '/'] := by decide +kernel

/-- every row of the example table in the documentation of processPath (re-read from path.hh on every run) -/
theorem doc_table_processPath : ∀ row ∈ docTableProcessPath, processPathC row.1 = row.2 := by decide +kernel

example : docTableProcessPath.length ≥ 16 := by decide +kernel

/-- prettyPath follows the documented table (`prettySpec`, read off the denoted location) for every input -/
theorem pretty_table (p : Str) (isDirectory : Bool) : prettyPath p isDirectory = prettySpec (denote p) isDirectory :=
  prettyWith_render (denote p) (denote_valid p) isDirectory processPathC p (processC_eq_S p)

/-- the one-argument form decides `isDirectory` with pathIndicatesDirectory -/
theorem pretty_auto (p : Str) : prettyPathAuto p = prettySpec (denote p) (pathIndicatesDirectory p) :=
  (prettyPathAuto_eq p).trans (pretty_table p _)

/-- pretty-printing never changes the location a path denotes -/
theorem pretty_denote_preserved (p : Str) (isDirectory : Bool) : denote (prettyPath p isDirectory) = denote p := by
  rw [pretty_table]; exact denote_prettySpec (denote_valid p) isDirectory

example : prettyPath ['a', '/', '/', '/', 'b'] false = ['a', '/', 'b'] := by decide +kernel
example : prettyPath ['a', '/', '.', '.'] true = ['.'] := by decide +kernel
example : prettyPath ['.', '.', '/', 'a', '/', '.', '.'] true = ['.', '.'] := by decide +kernel
example : prettyPathAuto ['/', '.', '.', '/', 'a', '/'] = ['/', 'a', '/'] := by decide +kernel

/-- TIE: the body of `prettyPath(p, isDirectory)` that the translator regenerates from path.cc on every
    run — and that the driver executes — is the canonical transcription the other theorems reason about.  A change of a
    test, a literal, the `resize` amount or the statement order in the source that changes the meaning breaks this
    obligation (and the run then searches for a failing input); reordering independent tests or respelling them
    (`empty()`, `pop_back()`, `"/"` for `'/'`) does not. -/
theorem prettyPath_regenerated (proc : Str → Str) (p : Str) (isDirectory : Bool) :
    prettyPathWith proc p isDirectory = prettyCanonWith proc p isDirectory ∧
    prettyPathAutoWith (prettyPathWith proc) p = prettyCanonWith proc p (pathIndicatesDirectory p) := by
  refine ⟨prettyPathWith_eq_canon proc p isDirectory, ?_⟩
  rw [prettyPathAutoWith_eq, prettyPathWith_eq_canon]

example : prettyPathWith processPathC ['a', '/', '.', '.', '/', 'b'] true = ['b', '/'] := by decide +kernel
example : prettyCanonWith processPathC ['.', '.', '/', 'b', '/', '.', '.'] true = ['.', '.'] := by decide +kernel

theorem pretty_idempotent (p : Str) (isDirectory : Bool) :
    prettyPath (prettyPath p isDirectory) isDirectory = prettyPath p isDirectory := by
  rw [pretty_table (prettyPath p isDirectory), pretty_denote_preserved, pretty_table]

example : prettyPath (prettyPath ['a', '/', '/', 'b', '/', '.'] false) false = ['a', '/', 'b'] := by decide +kernel

/-- a pretty-printed path carries its directory flag: the one-argument overload applied to the output of the
    two-argument one changes nothing (so `prettyPath(prettyPath(p, d))` = `prettyPath(p, d)`, and in particular the
    one-argument overload is idempotent) -/
theorem pretty_auto_stable (p : Str) (isDirectory : Bool) :
    prettyPathAuto (prettyPath p isDirectory) = prettyPath p isDirectory := by
  rw [pretty_auto, pretty_denote_preserved, pretty_table]
  exact prettySpec_indicates (denote_valid p) isDirectory

theorem pretty_auto_idempotent (p : Str) : prettyPathAuto (prettyPathAuto p) = prettyPathAuto p := by
  rw [prettyPathAuto_eq p]; exact pretty_auto_stable p _

example : prettyPathAuto (prettyPath ['a', '/', '/', 'b'] true) = ['a', '/', 'b', '/'] := by decide +kernel
example : prettyPathAuto (prettyPath ['a', '/', '/', 'b'] false) = ['a', '/', 'b'] := by decide +kernel
example : prettyPathAuto (prettyPathAuto ['a', '/', '.', '/', 'b', '/', '.']) = ['a', '/', 'b', '/'] := by decide +kernel

/-- sanitising a pretty-printed path gives the sanitised original -/
theorem process_pretty (p : Str) (isDirectory : Bool) :
    processPathC (prettyPath p isDirectory) = processPathC p := by
  rw [processC_eq_S, processC_eq_S]
  exact congrArg render (pretty_denote_preserved p isDirectory)

example : processPathC (prettyPath ['/', 'a', '/', '/', 'b'] false) = ['/', 'a', '/', 'b', '/'] := by decide +kernel

/-- every row of the example table in the documentation of prettyPath (re-read from path.hh on every run),
    for the model and for the specification `prettySpec` the theorem `pretty_table` is stated with -/
theorem doc_table_prettyPath : ∀ row ∈ docTablePrettyPath,
    prettyPath row.1 row.2.1 = row.2.2 ∧ prettySpec (denote row.1) row.2.1 = row.2.2 := by
  decide +kernel

example : docTablePrettyPath.length ≥ 32 := by decide +kernel

/-- a path indicates a directory iff its last piece (after the last '/') is empty, "." or ".." -/
theorem indicatesDirectory_spec (p : Str) : pathIndicatesDirectory p = true ↔
    ∃ c, (splitSlash p).getLast? = some c ∧ (c = [] ∨ c = dot ∨ c = dotdot) :=
  indicatesDirectory_lastPiece p

example : pathIndicatesDirectory ['a', '/', '.', '.'] = true := by decide +kernel
example : pathIndicatesDirectory ['a', '/', '.', '.', '.'] = false := by decide +kernel

/-- concatPaths (the decision list regenerated from path.cc) follows its table: an absolute `p` wins; an empty
    operand yields the other one; otherwise the two are joined with exactly one '/' between them unless `base`
    already ends in one -/
theorem concat_spec (base p : Str) :
    concatPaths base p =
      if p = [] then base
      else if p.head? = some '/' then p
      else if base = [] then p
      else if base.getLast? = some '/' then base ++ p
      else base ++ '/' :: p :=
  concatPaths_eq_spec base p

/-- what the table means: an absolute `p` is returned as is, a relative `p` is walked from where `base` leads -/
theorem concat_denote (base p : Str) :
    denote (concatPaths base p) = if isAbs p then denote p else (comps p).foldl Loc.walk (denote base) := by
  cases h : isAbs p with
  | true => simp [concatPaths_abs base p h]
  | false => simpa using denote_concat_rel base p h

/-- the remark in path.hh: if both operands are sanitised and `p` has no leading "../", the result is sanitised -/
theorem concat_sanitized (base p : Str) (hb : NormalForm base) (hp : NormalForm p)
    (hup : hasPrefix p ['.', '.', '/'] = false) : NormalForm (concatPaths base p) := by
  obtain ⟨db, hdb, rfl⟩ := hb
  obtain ⟨⟨pabs, pups, pn⟩, hdp, rfl⟩ := hp
  cases pabs with
  | true =>
    rw [concatPaths_abs _ _ (by rw [isAbs_render hdp])]
    exact ⟨_, hdp, rfl⟩
  | false =>
    cases pups with
    | zero =>
      exact ⟨⟨db.abs, db.ups, db.names ++ pn⟩, ⟨hdb.1, fun m hm => (List.mem_append.1 hm).elim (hdb.2 m) (hdp.2 m)⟩,
        concat_render db hdp.2⟩
    | succ u =>
      -- a relative location with levels up is rendered with a leading "../"
      rw [render_rel_nil, List.replicate_succ, List.cons_append,
        (hasPrefix_up_joinSlash_iff (by decide) _).2 rfl] at hup
      cases hup

/-- the hypotheses are satisfiable (and the conclusion is not trivial): "../a/" ++ "b/c/" -/
example : NormalForm (concatPaths ['.', '.', '/', 'a', '/'] ['b', '/', 'c', '/']) :=
  concat_sanitized _ _ ((normalForm_iff_fixed _).2 (by decide +kernel)) ((normalForm_iff_fixed _).2 (by decide +kernel))
    (by decide +kernel)
/-- the side condition is needed: "a/" ++ "../" is not sanitised -/
example : ¬ NormalForm (concatPaths ['a', '/'] ['.', '.', '/']) := by rw [normalForm_iff_fixed]; decide +kernel

example : concatPaths ['a'] ['b', '/'] = ['a', '/', 'b', '/'] := by decide +kernel
example : concatPaths ['a', '/'] ['b'] = ['a', '/', 'b'] := by decide +kernel
example : concatPaths ['a'] ['/', 'b'] = ['/', 'b'] := by decide +kernel

/-- concatenation is associative on the strings themselves: joining three paths gives the same text whichever pair is
    joined first -/
theorem concat_assoc (a b c : Str) : concatPaths (concatPaths a b) c = concatPaths a (concatPaths b c) := by
  simp only [concatPaths_eq_spec]
  exact concatSpec_assoc a b c

example : concatPaths (concatPaths ['a'] ['b', '/']) ['c'] = ['a', '/', 'b', '/', 'c'] := by decide +kernel
example : concatPaths ['a'] (concatPaths ['/', 'b'] ['c']) = ['/', 'b', '/', 'c'] := by decide +kernel

/-- every row of the example table in the documentation of concatPaths (re-read from path.hh on every run) -/
theorem doc_table_concatPaths : ∀ row ∈ docTableConcatPaths, concatPaths row.1 row.2.1 = row.2.2 := by decide +kernel

example : docTableConcatPaths.length ≥ 12 := by decide +kernel

/-- relativePath is exactly the documented function of the two denoted locations: an error iff one path is
    absolute and the other relative or the sanitised base has more leading ".." than the sanitised target;
    otherwise the longest common list of leading components is removed, and the result goes up once per remaining
    base component and then down the remaining target components -/
theorem relative_exact (newbase p : Str) : relativePath newbase p = relativeSpec (denote newbase) (denote p) :=
  relativeWith_spec processPathC newbase p (denote_valid newbase) (denote_valid p) (processC_eq_S newbase)
    (processC_eq_S p) (denote_abs newbase).symm (denote_abs p).symm

/-- the reported relative path is itself relative and sanitised ("has the form of something sanitized by
    processPath()") -/
theorem relative_result_sanitized (newbase p r : Str) (h : relativePath newbase p = .ok r) :
    NormalForm r ∧ isAbs r = false := by
  rw [relative_exact] at h
  exact relativeSpec_normalForm (denote_valid p) h

theorem relative_result_relative (newbase p r : Str) (h : relativePath newbase p = .ok r) : isAbs r = false :=
  (relative_result_sanitized newbase p r h).2

/-- whenever a relative path is reported to exist, concatenating it back onto the base denotes the target -/
theorem relative_roundtrip (newbase p r : Str) (h : relativePath newbase p = .ok r) :
    denote (concatPaths newbase r) = denote p := by
  rw [denote_concat_rel newbase r (relative_result_relative newbase p r h)]
  rw [relative_exact] at h
  exact relativeSpec_walk (denote_valid newbase) (denote_valid p) h

/-- a relative path is reported exactly under the documented conditions: both paths absolute or both relative,
    and the sanitised base has no more leading ".." components than the sanitised target -/
theorem relative_defined_iff (newbase p : Str) :
    (∃ r, relativePath newbase p = .ok r) ↔ (isAbs newbase = isAbs p ∧ (denote newbase).ups ≤ (denote p).ups) := by
  rw [relative_exact, relativeSpec_defined, denote_abs, denote_abs]

/-- the relative path from a location to itself is the empty path, whatever the spelling -/
theorem relative_self (b p : Str) (h : denote b = denote p) : relativePath b p = .ok [] := by
  rw [relative_exact, h]
  exact relativeSpec_eq_ok.2 ⟨⟨rfl, Nat.le_refl _⟩, by rw [splitCommon_self]; rfl⟩

example : relativePath ['a', '/', '.', '/', 'b'] ['a', '/', 'c', '/', '.', '.', '/', 'b', '/'] = .ok [] := by decide +kernel

/-- string-level round trip: when a relative path is reported, concatenating it onto the base and sanitising gives
    exactly the sanitised target -/
theorem relative_roundtrip_sanitized (newbase p r : Str) (h : relativePath newbase p = .ok r) :
    processPathC (concatPaths newbase r) = processPathC p := by
  rw [processC_eq_S, processC_eq_S]
  exact congrArg render (relative_roundtrip newbase p r h)

example : processPathC (concatPaths ['a', '/', 'b'] ['.', '.', '/', 'c', '/', 'd', '/']) = processPathC ['a', '/', 'c', '/', 'd'] := by
  decide +kernel

example : relativePath ['a', '/', 'b'] ['a', '/', 'c', '/', 'd'] = .ok ['.', '.', '/', 'c', '/', 'd', '/'] := by decide +kernel
example : relativePath ['/', 'a'] ['/'] = .ok ['.', '.', '/'] := by decide +kernel
example : relativePath ['.', '.'] ['a'] = .notImplemented := by decide +kernel
example : relativePath ['/', 'a'] ['a'] = .notImplemented := by decide +kernel
-- a component that is a proper prefix of the other one is not "common": lib vs lib64
example : relativePath ['u', '/', 'l', 'i', 'b', '6'] ['u', '/', 'l', 'i', 'b', '/', 'd'] =
    .ok ['.', '.', '/', 'l', 'i', 'b', '/', 'd', '/'] := by decide +kernel
example : relativeSpec (denote ['u', '/', 'l', 'i', 'b', '6']) (denote ['u', '/', 'l', 'i', 'b', '/', 'd']) =
    .ok ['.', '.', '/', 'l', 'i', 'b', '/', 'd', '/'] := by decide +kernel

/-- TIE: the bodies of `hasPrefix` and `hasSuffix` that the translator regenerates from stringutility.hh on
    every run (strlen, the size test in whatever spelling, `std::advance`, `std::equal`) — and that the driver and the
    model of path.cc execute — are the canonical transcriptions -/
theorem hasPrefixSuffix_regenerated (c pat : Str) :
    hasPrefix c pat = hasPrefixCanon c pat ∧ hasSuffix c pat = hasSuffixCanon c pat :=
  ⟨hasPrefix_eq_canon c pat, hasSuffix_eq_canon c pat⟩

example : hasPrefixCanon ['a', 'b'] ['a'] = true ∧ hasSuffixCanon ['a', 'b'] ['a'] = false := by decide +kernel

/-- hasPrefix agrees with its plain definition for operands of any length -/
theorem hasPrefix_iff (c pre : Str) : hasPrefix c pre = true ↔ ∃ t, c = pre ++ t :=
  (hasPrefix_iff_isPrefix c pre).trans (exists_congr fun _ => eq_comm)

/-- hasSuffix agrees with its plain definition for operands of any length -/
theorem hasSuffix_iff (c suf : Str) : hasSuffix c suf = true ↔ ∃ t, c = t ++ suf :=
  (hasSuffix_iff_isSuffix c suf).trans (exists_congr fun _ => eq_comm)

example : hasPrefix ['a', 'b', 'c'] ['a', 'b'] = true ∧ hasPrefix ['a', 'b'] ['a', 'b', 'c'] = false := by decide +kernel
example : hasSuffix ['a', 'b', 'c'] ['b', 'c'] = true ∧ hasSuffix ['c'] ['b', 'c'] = false := by decide +kernel

/-- what a `const char*` pattern sees of a `std::string` (the driver hands `cstr y` to hasPrefix/hasSuffix): the
    longest NUL-free prefix — all of it if it contains no NUL, otherwise the part before the first NUL -/
theorem cstr_spec (s : Str) :
    Char.ofNat 0 ∉ cstr s ∧ (cstr s = s ∨ ∃ t, s = cstr s ++ Char.ofNat 0 :: t) :=
  ⟨cstr_no_nul s, cstr_decomp s⟩

example : cstr ['a', Char.ofNat 0, 'b'] = ['a'] := by decide +kernel
example : hasSuffix ['x', 'a'] (cstr ['a', Char.ofNat 0, 'b']) = true := by decide +kernel

/-- TIE: the two pieces of formatString's control flow that the translator regenerates from
    stringutility.hh on every run are sound for every return value and every capacity: the test "the stack buffer was
    large enough" implies that the text and its NUL fit (`r < cap`), and the heap buffer has room for the text and its
    NUL.  (`r <= bufferSize`, `make_unique<char[]>(r)` break this obligation; `r+1 <= bufferSize` or `r+2` do not.) -/
theorem formatString_skeleton_sound (r cap : Nat) :
    (fmtFitsStack r cap = true → r < cap) ∧ r < fmtDynamicSize r :=
  ⟨fmtFitsStack_sound r cap, fmtDynamicSize_sound r⟩

/-- the hypothesis is satisfiable (stated so that it survives harmless changes of the comparison or of the slack) -/
example : (∃ r cap, fmtFitsStack r cap = true) ∧ fmtFitsStack 1000 1000 = false ∧ fmtDynamicSize 1000 > 1000 :=
  ⟨⟨0, 1000, by decide⟩, by decide, by decide⟩

/-- the printf subset of the model: a conversion padded to the field width `w` has exactly `max w (digits + sign)`
    characters, whatever the flags — the link between the width in a format and the result length the `f` cases sweep -/
theorem padTo_length (w : Nat) (left zero : Bool) (body sign : Str) :
    (padTo w left zero body sign).length = max w (body.length + sign.length) := by
  unfold padTo
  generalize hn : body.length + sign.length = n
  by_cases h : n ≥ w
  · rw [Nat.max_eq_right h, if_pos h, List.length_append, Nat.add_comm, hn]
  · -- the three layouts put the sign, the body and `w - n` padding characters in different orders
    have h' : n + (w - n) = w := Nat.add_sub_cancel' (Nat.le_of_not_ge h)
    rw [Nat.max_eq_left (Nat.le_of_not_ge h), if_neg h]
    generalize w - n = k at h' ⊢
    subst h' hn
    cases left <;> cases zero <;>
      simp only [↓reduceIte, Bool.false_eq_true, List.length_append, List.length_replicate, Nat.add_comm,
        Nat.add_left_comm]

example : padTo 6 false true ['4', '2'] ['-'] = ['-', '0', '0', '0', '4', '2'] := by decide +kernel

/-- formatString returns the complete formatted text whatever its length — below the stack buffer, exactly at it
    (bufferSize-1, bufferSize, bufferSize+1) or far beyond — as long as the length is representable in the `int`
    that snprintf returns; longer texts make snprintf fail and formatString throw.  Stated for the buffer size of
    the source (`bufferSize`, regenerated). -/
theorem formatString_spec (t : Str) :
    formatString (some t) = if t.length ≤ intMax then .ok t else .exception :=
  formatStringWith_text bufferSize t

/-- the same for ANY size of the stack buffer (so the claim survives a change of the constant) -/
theorem formatString_any_buffer (cap : Nat) (t : Str) :
    formatStringWith cap (some t) = if t.length ≤ intMax then .ok t else .exception :=
  formatStringWith_text cap t

/-- every text of representable length comes back unchanged -/
theorem formatString_any_length (t : Str) (h : t.length ≤ intMax) : formatString (some t) = .ok t := by
  rw [formatString_spec, if_pos h]

/-- a conversion error of snprintf (negative return value) makes formatString throw -/
theorem formatString_conversion_error : formatString none = .exception :=
  formatStringWith_convError bufferSize

/-- the outcome class the driver prints for results too long to build (`F` ops) is that of formatString -/
theorem formatString_outcome (t : Str) : (∃ s, formatString (some t) = .ok s) ↔ formatReturns t.length = true := by
  rw [formatString_spec]
  unfold formatReturns
  by_cases h : t.length ≤ intMax <;> simp [h]

/-- the first `snprintf` really truncates at the buffer size, so the heap branch is needed (non-vacuity) -/
example (cap : Nat) (t : Str) (hc : 0 < cap) (h : cap ≤ t.length) (h2 : t.length ≤ intMax) :
    ∃ b, snprintfM cap (some t) = some (b, t.length) ∧ b.length = cap - 1 ∧ b ≠ t := by
  have hlen : (t.take (cap - 1)).length = cap - 1 := List.length_take_of_le (Nat.le_trans (Nat.sub_le _ _) h)
  refine ⟨t.take (cap - 1), ?_, hlen, fun e => ?_⟩
  · rw [snprintfM_some h2, if_neg (Nat.ne_of_gt hc)]
  · rw [e] at hlen
    exact Nat.not_le.2 (Nat.sub_one_lt (Nat.ne_of_gt hc)) (hlen ▸ h)
example : formatString (some (List.replicate 1000 'a')) = .ok (List.replicate 1000 'a') :=
  formatString_any_length _ (by rw [List.length_replicate]; unfold intMax; omega)
example : formatString (some (List.replicate 2147483648 'a')) = .exception := by
  rw [formatString_spec, List.length_replicate]; rfl

end DV.C18
