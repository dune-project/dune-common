import DuneVerif.Model.C11
import DuneVerif.Proofs.C11.ArrayList
import DuneVerif.Proofs.C11.SLList
import DuneVerif.Proofs.C11.ReservedVector
import DuneVerif.Proofs.C11.BitSetVector
import DuneVerif.Proofs.C11.Lru
import DuneVerif.Proofs.C11.GenTie
/-!
# C11 — containers behave as their abstract sequence / map under every operation history

Property theorems only (helper lemmas live in `Proofs/C11/*.lean`, the executable models in `Model/C11/*.lean`).
All statements hold for every chunk size / capacity / block size, every element type and every history; the
`example`s at the end of each section exhibit concrete non-trivial inputs that satisfy the hypotheses.
Core Lean only — no Mathlib import.
-/
namespace DV.C11

/-! ## ArrayList<T,N>  (`Model/C11/ArrayList.lean`)

`AL.Inv N s` : `capacity_ = N·|chunks_|`, `start_+size_ ≤ capacity_`, every chunk from `start_/N` on is allocated
with `N` slots, every chunk in front of it has been `reset()`.
`AL.abs N s` : what `begin() … end()` shows. -/
section ArrayList
variable {α : Type} {N : Nat}

theorem al_push_back_refines (hN : 0 < N) (d : α) {s : AL.State α} (h : AL.Inv N s) (x : α) :
    AL.abs N (AL.push N d s x) = AL.abs N s ++ [x] ∧ AL.Inv N (AL.push N d s x) :=
  ⟨AL.abs_push hN d h x, AL.inv_push hN d h x⟩

/-- `eraseToHere` on an iterator at absolute position `p` inside the window drops the first `p+1-start_` elements -/
theorem al_erase_refines (hN : 0 < N) {s : AL.State α} (h : AL.Inv N s) {p : Nat} (hp : s.start ≤ p)
    (hp2 : p < s.start + s.size) :
    AL.abs N (AL.eraseToHere N s p) = (AL.abs N s).drop (p + 1 - s.start) ∧ AL.Inv N (AL.eraseToHere N s p) :=
  ⟨AL.abs_erase hN h hp, AL.inv_erase h hp hp2⟩

/-- `purge` (as repaired by fixes/C11_arraylist_purge.patch) changes nothing observable and keeps the invariant -/
theorem al_purge_refines (hN : 0 < N) {s : AL.State α} (h : AL.Inv N s) :
    AL.abs N (AL.purge N s) = AL.abs N s ∧ AL.Inv N (AL.purge N s) ∧ (AL.purge N s).start < N :=
  ⟨AL.abs_purge hN s, AL.inv_purge hN h, by rw [AL.purge_start]; exact Nat.mod_lt _ hN⟩

theorem al_clear_refines (s : AL.State α) : AL.abs N (AL.clear s) = [] ∧ AL.Inv N (AL.clear s) :=
  ⟨AL.abs_clear N s, AL.inv_clear N s⟩

/-- writing through `operator[]` -/
theorem al_set_refines (hN : 0 < N) {s : AL.State α} (h : AL.Inv N s) {k : Nat} (hk : k < s.size) (x : α) :
    AL.abs N (AL.set N s k x) = (AL.abs N s).set k x ∧ AL.Inv N (AL.set N s k x) :=
  ⟨AL.abs_set hN h hk x, AL.inv_set h k x⟩

/-- random access and `size()` agree with the abstract sequence (so no element of the window is ever missing) -/
theorem al_get_refines (hN : 0 < N) {s : AL.State α} (h : AL.Inv N s) :
    (AL.abs N s).length = s.size ∧ ∀ i, i < s.size → AL.get N s i = (AL.abs N s)[i]? ∧ (AL.get N s i).isSome :=
  ⟨AL.abs_length hN h, fun _ hi =>
    ⟨AL.get_eq_abs hN h hi, h.elementAt_isSome hN (Nat.le_add_right ..) (Nat.lt_of_lt_of_le (Nat.add_lt_add_left hi _) h.le)⟩⟩

/-- the iterator-validity promise: an iterator is an absolute position; after `push_back` every position of the
    old window still denotes the same element, and the old `end()` denotes the new element -/
theorem al_iter_stable_under_push (hN : 0 < N) (d : α) {s : AL.State α} (h : AL.Inv N s) (x : α) :
    (∀ p, s.start ≤ p → p < AL.endPos s → AL.elementAt N (AL.push N d s x) p = AL.elementAt N s p ∧
        (AL.elementAt N s p).isSome) ∧
      AL.elementAt N (AL.push N d s x) (AL.endPos s) = some x ∧
      AL.beginPos (AL.push N d s x) = AL.beginPos s ∧ AL.endPos (AL.push N d s x) = AL.endPos s + 1 :=
  ⟨fun _ h1 h2 => ⟨AL.elementAt_push_lt d h x h2, h.elementAt_isSome hN h1 (Nat.lt_of_lt_of_le h2 h.le)⟩,
    AL.elementAt_push_end hN d h x,
    AL.push_start N d s x,
    AL.endPos_push N d s x⟩

/-- iterators positioned behind the one `eraseToHere` was called on stay valid -/
theorem al_iter_stable_under_erase {s : AL.State α} {p j : Nat} (hp : s.start ≤ p) (hj : p < j) :
    AL.elementAt N (AL.eraseToHere N s p) j = AL.elementAt N s j :=
  AL.elementAt_erase s hp hj

/-- `eraseToHere`'s chunk-count formula frees exactly the chunks between the old and the new start chunk -/
theorem al_freed_count_formula {start pos : Nat} (h : start ≤ pos) :
    (pos - start + start % N) / N = pos / N - start / N :=
  AL.freed_count h

/-- **all histories**: after any sequence of push_back / eraseToHere / purge / clear / operator[]= (operations
    outside their precondition skipped), the list shows exactly what the same history gives on a plain sequence -/
theorem al_runs_refine (hN : 0 < N) (d : α) (ops : List (AL.Op α)) :
    AL.Inv N (AL.run N d AL.empty ops) ∧ AL.abs N (AL.run N d AL.empty ops) = AL.specRun [] ops :=
  AL.run_refines hN d ops (AL.inv_empty N)

/-- the iterator-validity promise over any number of appends: every position of the window keeps denoting the same
    (present) element after `push_back` of an arbitrary list of values, `begin()` does not move and `end()` advances
    by the number of appended values -/
theorem al_iter_stable_under_pushes (hN : 0 < N) (d : α) {s : AL.State α} (h : AL.Inv N s) (xs : List α) :
    (∀ p, s.start ≤ p → p < AL.endPos s →
        AL.elementAt N (AL.pushAll N d s xs) p = AL.elementAt N s p ∧ (AL.elementAt N s p).isSome) ∧
      AL.beginPos (AL.pushAll N d s xs) = AL.beginPos s ∧
      AL.endPos (AL.pushAll N d s xs) = AL.endPos s + xs.length ∧
      AL.abs N (AL.pushAll N d s xs) = AL.abs N s ++ xs := by
  obtain ⟨h2, h3, h4⟩ := AL.pushAll_stable hN d xs h
  exact ⟨fun p h1 hp => ⟨h4 p hp, h.elementAt_isSome hN h1 (Nat.lt_of_lt_of_le hp h.le)⟩,
    h2, h3, AL.abs_pushAll hN d h xs⟩

/-- copy construction / assignment (fixes/C11_arraylist_copy.patch) yields a list in a valid state showing the same
    sequence; self-assignment changes nothing.  (Independence of copy and original holds in the model by
    construction — value semantics — and is decided for the real class by the harness.) -/
theorem al_copy_assign_refines {s o : AL.State α} (ho : AL.Inv N o) :
    (AL.Inv N (AL.copy o) ∧ AL.abs N (AL.copy o) = AL.abs N o) ∧
      (AL.Inv N (AL.assign s (some o)) ∧ AL.abs N (AL.assign s (some o)) = AL.abs N o) ∧
      AL.assign s none = s :=
  ⟨AL.copy_refines ho, AL.copy_refines ho, rfl⟩

/-- **all histories over two lists**: any interleaving of operations on two lists, copy construction / assignment in
    either direction and self-assignment keeps both invariants, and each list shows what the same history gives on
    two plain sequences (so operating on one list never changes the other) -/
theorem al_runs2_refine (hN : 0 < N) (d : α) (ops : List (AL.Op2 α)) :
    AL.Inv N (AL.run2 N d ⟨AL.empty, AL.empty⟩ ops).a ∧ AL.Inv N (AL.run2 N d ⟨AL.empty, AL.empty⟩ ops).b ∧
      (AL.abs N (AL.run2 N d ⟨AL.empty, AL.empty⟩ ops).a, AL.abs N (AL.run2 N d ⟨AL.empty, AL.empty⟩ ops).b) =
        AL.specRun2 ([], []) ops :=
  and_assoc.mp (AL.run2_refines hN d ops (w := ⟨AL.empty, AL.empty⟩) ⟨AL.inv_empty N, AL.inv_empty N⟩)

/-- non-vacuity: the history of DESIGN.md section 6 #4 (erase across a chunk boundary, purge, append) -/
example : AL.abs 2 (AL.run 2 (0 : Int) AL.empty [.push 0, .push 1, .push 2, .push 3, .push 4, .push 5, .erase 1, .purge, .push 99])
    = [2, 3, 4, 5, 99] := by decide +kernel
/-- a state on which `purge` takes its copying branch (`0 < start_ / N`) and the window ends in a partly filled chunk
    (`start_ % N + size_` odd for `N = 2`): the case in which a chunk count rounded down loses elements -/
example : ∃ s : AL.State Int, AL.Inv 2 s ∧ 0 < s.start / 2 ∧ s.size = 3 ∧ s.start % 2 + s.size = 3 :=
  ⟨AL.run 2 0 AL.empty [.push 0, .push 1, .push 2, .push 3, .push 4, .erase 1],
    (AL.run_refines (by decide +kernel) 0 _ (AL.inv_empty 2)).1, by decide +kernel, by decide +kernel, by decide +kernel⟩
example : (7 - 3 + 3 % 2) / 2 = 7 / 2 - 3 / 2 := al_freed_count_formula (N := 2) (by decide)
/-- two lists: copy in the middle of a chunk, then diverging appends/writes/erases on both sides -/
example : (fun w : AL.World Int => (AL.abs 2 w.a, AL.abs 2 w.b)) (AL.run2 2 (0 : Int) ⟨AL.empty, AL.empty⟩
      [.on .a (.push 1), .on .a (.push 2), .on .a (.push 3), .on .a (.erase 0), .copyFrom .b, .on .b (.set 0 9),
       .on .a (.push 4), .on .b (.push 77), .selfAssign .a, .on .b (.purge), .on .b (.push 5)])
    = ([2, 3, 4], [9, 3, 77, 5]) := by decide +kernel
example : AL.abs 3 (AL.pushAll 3 (0 : Int) (AL.run 3 0 AL.empty [.push 1, .push 2, .erase 0]) [5, 6, 7, 8]) = [2, 5, 6, 7, 8] := by
  decide +kernel

end ArrayList

/-! ## lru<Key,Tp>  (`Model/C11/Lru.lean`)

`LRU.Inv s` : node ids distinct, keys distinct (`NoDupKeys`), the index maps exactly the stored keys to their
nodes, allocator counter above all ids.  `LRU.abs s` : the recency-ordered `(key, value)` list. -/
section Lru
variable {κ ν : Type} [DecidableEq κ]

/-- **all histories**: no key is ever stored twice, and the container shows what the same history gives on a
    recency-ordered association list (`insert` of a present key = replace and move to front) -/
theorem lru_runs_refine (ops : List (LRU.Op κ ν)) :
    LRU.Inv (LRU.run LRU.empty ops) ∧ LRU.NoDupKeys (LRU.run LRU.empty ops) ∧
      LRU.abs (LRU.run LRU.empty ops) = LRU.specRun [] ops := by
  have := LRU.run_refines ops (LRU.inv_empty (κ := κ) (ν := ν))
  exact ⟨this.1, this.1.keys, this.2⟩

theorem lru_insert_refines {s : LRU.State κ ν} (h : LRU.Inv s) (k : κ) (v : ν) :
    LRU.Inv (LRU.insert s k v) ∧ LRU.abs (LRU.insert s k v) = (k, v) :: (LRU.abs s).filter (fun e => !(e.1 == k)) :=
  LRU.insert_refines h k v

/-- inserting an absent key adds a most-recent entry -/
theorem lru_insert_new {s : LRU.State κ ν} (h : LRU.Inv s) (k : κ) (v : ν) (hk : ∀ e ∈ LRU.abs s, e.1 ≠ k) :
    LRU.abs (LRU.insert s k v) = (k, v) :: LRU.abs s ∧ LRU.size (LRU.insert s k v) = LRU.size s + 1 := by
  have h1 := (lru_insert_refines h k v).2
  rw [LRU.filter_ne_key hk] at h1
  exact ⟨h1, by rw [LRU.size_eq, LRU.size_eq, h1]; rfl⟩

/-- the documented behaviour (fixes/C11_lru_insert_existing.patch): inserting a present key keeps the size,
    replaces the value, makes the entry the most recent one, and `find` yields the new value -/
theorem lru_insert_existing_replaces {s : LRU.State κ ν} (h : LRU.Inv s) (k : κ) (v : ν) {v₀ : ν}
    (hk : (k, v₀) ∈ LRU.abs s) :
    LRU.size (LRU.insert s k v) = LRU.size s ∧ (LRU.abs (LRU.insert s k v)).head? = some (k, v) ∧
      LRU.find (LRU.insert s k v) k = some (k, v) ∧ LRU.front (LRU.insert s k v) = some v ∧
      LRU.NoDupKeys (LRU.insert s k v) := by
  obtain ⟨hi, ha⟩ := lru_insert_refines h k v
  have hkeys : ((LRU.abs s).map (·.1)).Nodup := by rw [LRU.abs, List.map_map]; exact h.keys
  refine ⟨?_, by rw [ha]; rfl, ?_, ?_, hi.keys⟩
  · rw [LRU.size_eq, LRU.size_eq, ha]
    exact (perm_cons_filter_ne hkeys hk).length_eq
  · rw [LRU.find_refines hi, ha]
    exact List.find?_cons_of_pos (beq_self_eq_true k)
  · rw [LRU.front_eq, ha]; rfl

/-- `touch` of a present key moves its entry to the front, returns its value, changes nothing else -/
theorem lru_touch_moves_front {s : LRU.State κ ν} (h : LRU.Inv s) (k : κ) {e : κ × ν}
    (hk : (LRU.abs s).find? (fun e => e.1 == k) = some e) :
    ∃ s', LRU.touch s k = some (s', some e.2) ∧ LRU.Inv s' ∧
      LRU.abs s' = e :: (LRU.abs s).filter (fun e => !(e.1 == k)) :=
  LRU.touch_of_present h hk

/-- `touch` of an absent key is reported (`Dune::RangeError`) -/
theorem lru_touch_absent_error {s : LRU.State κ ν} (h : LRU.Inv s) (k : κ) (hk : ∀ e ∈ LRU.abs s, e.1 ≠ k) :
    LRU.touch s k = none :=
  LRU.touch_of_absent h (List.find?_eq_none.mpr fun x hx => by simpa using hk x hx)

/-- `size()`, `front()`, `back()` read the recency list -/
theorem lru_observers (s : LRU.State κ ν) :
    LRU.size s = (LRU.abs s).length ∧ LRU.front s = (LRU.abs s).head?.map (·.2) ∧
      LRU.back s = (LRU.abs s).getLast?.map (·.2) :=
  ⟨LRU.size_eq s, LRU.front_eq s, LRU.back_eq s⟩

/-- `find` yields the entry of the key, `end()` iff the key is absent -/
theorem lru_find_spec {s : LRU.State κ ν} (h : LRU.Inv s) (k : κ) :
    LRU.find s k = (LRU.abs s).find? (fun e => e.1 == k) := LRU.find_refines h k

theorem lru_pop_refines {s : LRU.State κ ν} (h : LRU.Inv s) :
    (LRU.Inv (LRU.popFront s) ∧ LRU.abs (LRU.popFront s) = (LRU.abs s).tail) ∧
      (LRU.Inv (LRU.popBack s) ∧ LRU.abs (LRU.popBack s) = (LRU.abs s).dropLast) :=
  ⟨LRU.popFront_refines h, LRU.popBack_refines h⟩

theorem lru_resize_clear_refines {s : LRU.State κ ν} (h : LRU.Inv s) (n : Nat) :
    (LRU.Inv (LRU.resize s n) ∧ LRU.abs (LRU.resize s n) = (LRU.abs s).take n) ∧
      (LRU.Inv (LRU.clear s) ∧ LRU.abs (LRU.clear s) = []) :=
  ⟨LRU.resize_refines h n, LRU.clear_refines s h⟩

/-- copy construction / assignment (fixes/C11_lru_copy.patch): the copy is in a valid state — its rebuilt index maps
    exactly its own keys to its own nodes — and shows the same recency list; self-assignment changes nothing -/
theorem lru_copy_assign_refines {s o : LRU.State κ ν} (ho : LRU.Inv o) :
    (LRU.Inv (LRU.copy o) ∧ LRU.abs (LRU.copy o) = LRU.abs o) ∧
      (LRU.Inv (LRU.assign s (some o)) ∧ LRU.abs (LRU.assign s (some o)) = LRU.abs o) ∧
      LRU.assign s none = s ∧
      (∀ k, LRU.find (LRU.copy o) k = LRU.find o k) := by
  have hc := LRU.copy_refines ho
  refine ⟨hc, hc, rfl, fun k => ?_⟩
  rw [LRU.find_refines hc.1, LRU.find_refines ho, hc.2]

/-- **all histories over two caches**: operations on either cache interleaved with copies in either direction and
    self-assignment keep both invariants (no duplicate keys, index exact) and each cache shows what the same history
    gives on two independent recency-ordered association lists -/
theorem lru_runs2_refine (ops : List (LRU.Op2 κ ν)) :
    LRU.Inv (LRU.run2 ⟨LRU.empty, LRU.empty⟩ ops).a ∧ LRU.Inv (LRU.run2 ⟨LRU.empty, LRU.empty⟩ ops).b ∧
      (LRU.abs (LRU.run2 ⟨LRU.empty, LRU.empty⟩ ops).a, LRU.abs (LRU.run2 ⟨LRU.empty, LRU.empty⟩ ops).b) =
        LRU.specRun2 ([], []) ops :=
  and_assoc.mp (LRU.run2_refines ops (w := ⟨LRU.empty, LRU.empty⟩) ⟨LRU.inv_empty, LRU.inv_empty⟩)

/-- non-vacuity: the history of DESIGN.md section 6 #6 on the repaired model … -/
example : LRU.abs (LRU.run (LRU.empty : LRU.State Int Int) [.insert 1 1, .insert 2 2, .insert 1 3]) = [(1, 3), (2, 2)] := by decide +kernel
example : ∃ s : LRU.State Int Int, LRU.Inv s ∧ ((1 : Int), (1 : Int)) ∈ LRU.abs s ∧ LRU.size s = 2 :=
  ⟨LRU.run LRU.empty [.insert 1 1, .insert 2 2], (LRU.run_refines _ LRU.inv_empty).1, by decide +kernel, by decide +kernel⟩
example : ∃ s : LRU.State Int Int, LRU.Inv s ∧ (LRU.abs s).find? (fun e => e.1 == 1) = some (1, 1) ∧ ∀ e ∈ LRU.abs s, e.1 ≠ 7 :=
  ⟨LRU.run LRU.empty [.insert 1 1, .insert 2 2], (LRU.run_refines _ LRU.inv_empty).1, by decide +kernel, by decide +kernel⟩
/-- … and the defect of the unrepaired `insert`: the same history stores key 1 twice and `find` yields the old value -/
example :
    let s := LRU.insertOld (LRU.insertOld (LRU.insertOld (LRU.empty : LRU.State Int Int) 1 1) 2 2) 1 3
    LRU.abs s = [(1, 3), (2, 2), (1, 1)] ∧ LRU.find s 1 = some (1, 1) := by decide +kernel

/-- two caches: copy, then touch / re-insert through the copy (the history that corrupted both caches before the fix) -/
example : (fun w : LRU.World Int Int => (LRU.abs w.a, LRU.abs w.b)) (LRU.run2 ⟨LRU.empty, LRU.empty⟩
      [.on .a (.insert 1 1), .on .a (.insert 2 2), .copyFrom .b, .on .b (.touch 1), .on .b (.insert 1 9), .on .a .popBack])
    = ([(2, 2)], [(1, 9), (2, 2)]) := by decide +kernel

end Lru

/-! ## ReservedVector<T,n>  (`Model/C11/ReservedVector.lean`)

`RV.Inv n s` : the array has `n` slots and `size_ ≤ n`.  `RV.abs s` : the first `size_` slots. -/
section ReservedVector
variable {α : Type} {n : Nat}

theorem rv_push_back_refines {s : RV.State α} (h : RV.Inv n s) (hs : s.size < n) (x : α) :
    RV.Inv n (RV.pushBack s x) ∧ RV.abs (RV.pushBack s x) = RV.abs s ++ [x] := RV.pushBack_refines h hs x

/-- `pop_back` drops the last element; on an empty vector it does nothing (as coded) -/
theorem rv_pop_back_refines {s : RV.State α} (h : RV.Inv n s) :
    RV.Inv n (RV.popBack s) ∧ RV.abs (RV.popBack s) = (RV.abs s).dropLast := RV.popBack_refines h

theorem rv_clear_refines {s : RV.State α} (h : RV.Inv n s) : RV.Inv n (RV.clear s) ∧ RV.abs (RV.clear s) = [] :=
  RV.clear_refines h

/-- `resize(k)` gives length `k` and keeps the common prefix (slots uncovered by growing are not initialised) -/
theorem rv_resize_refines {s : RV.State α} (h : RV.Inv n s) {k : Nat} (hk : k ≤ n) :
    RV.Inv n (RV.resize s k) ∧ (RV.abs (RV.resize s k)).length = k ∧
      (RV.abs (RV.resize s k)).take s.size = (RV.abs s).take k := RV.resize_refines h hk

theorem rv_set_fill_refines {s : RV.State α} (h : RV.Inv n s) (i : Nat) (x : α) :
    (RV.Inv n (RV.set s i x) ∧ RV.abs (RV.set s i x) = (RV.abs s).set i x) ∧
      (RV.Inv n (RV.fill s x) ∧ RV.abs (RV.fill s x) = List.replicate s.size x) :=
  ⟨RV.set_refines h i x, RV.fill_refines h x⟩

/-- `size()`, `at(i)` (with its range check), `operator[]`, `front()`, `back()` read the abstract vector -/
theorem rv_access_refines {s : RV.State α} (h : RV.Inv n s) :
    (RV.abs s).length = s.size ∧ s.size ≤ n ∧ (∀ i, RV.at? s i = (RV.abs s)[i]?) ∧
      (∀ i, i < s.size → RV.get s i = (RV.abs s)[i]?) ∧
      (0 < s.size → RV.front s = (RV.abs s).head? ∧ RV.back s = (RV.abs s).getLast?) :=
  ⟨RV.abs_length h, h.le, RV.at?_eq s, fun _ hi => RV.get_eq hi, fun hs => ⟨RV.front_eq hs, RV.back_eq h hs⟩⟩

theorem rv_ctor_refines (d : α) :
    (RV.Inv n (RV.empty n d) ∧ RV.abs (RV.empty n d) = []) ∧
      (∀ count v, count ≤ n → RV.Inv n (RV.ofCountValue n d count v) ∧ RV.abs (RV.ofCountValue n d count v) = List.replicate count v) ∧
      (∀ l : List α, l.length ≤ n → RV.Inv n (RV.ofList n d l) ∧ RV.abs (RV.ofList n d l) = l) :=
  ⟨⟨RV.inv_empty n d, RV.abs_empty n d⟩, fun _ v hc => RV.ofCountValue_refines d hc v, fun _ hl => RV.ofList_refines d hl⟩

/-- `operator==` is equality of the abstract vectors -/
theorem rv_eq_iff [BEq α] [LawfulBEq α] {a b : RV.State α} (ha : RV.Inv n a) (hb : RV.Inv n b) :
    (RV.eq a b = true ↔ RV.abs a = RV.abs b) ∧ RV.ne a b = !(RV.eq a b) := ⟨RV.eq_iff ha hb, rfl⟩

/-- `operator<` is the lexicographic order of the abstract vectors (for an irreflexive, trichotomous `<`);
    `>`, `<=`, `>=` are defined from it as in the code -/
theorem rv_lt_iff [LT α] [DecidableRel (α := α) (· < ·)]
    (irrefl : ∀ x : α, ¬ x < x) (tri : ∀ x y : α, ¬ x < y → ¬ y < x → x = y)
    {a b : RV.State α} (ha : RV.Inv n a) (hb : RV.Inv n b) :
    (RV.lt a b = true ↔ RV.abs a < RV.abs b) ∧ RV.gt a b = RV.lt b a ∧
      RV.le a b = !(RV.lt b a) ∧ RV.ge a b = !(RV.lt a b) :=
  ⟨RV.lt_iff irrefl tri ha hb, rfl, rfl, rfl⟩

/-- **all histories**: the capacity limit is respected (and the storage never changes its size) -/
theorem rv_runs_capacity (d : α) (ops : List (RV.Op α)) :
    RV.Inv n (RV.run n (RV.empty n d) ops) ∧ (RV.abs (RV.run n (RV.empty n d) ops)).length ≤ n := by
  have h := RV.run_inv ops (RV.inv_empty n d)
  exact ⟨h, by rw [RV.abs_length h]; exact h.le⟩

/-- **all histories**: every history (operations outside their precondition skipped, assignments from any valid
    vector included) is a run of the specification "vector with capacity limit `n`" (`RV.SpecStep`: plain list
    operations; only the elements uncovered by a growing `resize` are unspecified), and such runs never exceed `n` -/
theorem rv_runs_refine (d : α) (ops : List (RV.Op α)) :
    RV.SpecRuns n [] ops (RV.abs (RV.run n (RV.empty n d) ops)) ∧
      (∀ (l l' : List α) (o : RV.Op α), RV.SpecStep n l o l' → l.length ≤ n → l'.length ≤ n) := by
  have := (RV.run_refines ops (RV.inv_empty n d)).2
  rw [RV.abs_empty] at this
  exact ⟨this, fun _ _ _ h hl => h.length_le hl⟩

/-- the specification is deterministic except for a growing `resize`: every other step has exactly one outcome
    (so `rv_runs_refine` determines the contents completely on histories without a growing `resize`) -/
theorem rv_spec_deterministic {l l₁ l₂ : List α} {o : RV.Op α} (hl : l.length ≤ n)
    (h₁ : RV.SpecStep n l o l₁) (h₂ : RV.SpecStep n l o l₂)
    (hng : ∀ k, o = .resize k → k ≤ l.length ∨ ¬ k ≤ n) : l₁ = l₂ := by
  cases h₁ with
  | push h => cases h₂ with
    | push _ => rfl
    | pushFull h' => exact absurd h h'
  | pushFull h => cases h₂ with
    | push h' => exact absurd h' h
    | pushFull _ => rfl
  | pop => cases h₂; rfl
  | clear => cases h₂; rfl
  | shrink h => cases h₂ with
    | shrink _ => rfl
    | grow h' _ _ => exact absurd h (Nat.not_le_of_lt h')
    | resizeBeyond h' => exact absurd (Nat.le_trans h hl) h'
  | grow h a b => exact (hng _ rfl).elim (fun h' => absurd h' (Nat.not_le_of_lt h)) (fun h' => absurd a h')
  | resizeBeyond h => cases h₂ with
    | shrink h' => exact absurd (Nat.le_trans h' hl) h
    | grow _ h' _ => exact absurd h' h
    | resizeBeyond _ => rfl
  | set => cases h₂; rfl
  | fill => cases h₂; rfl
  | assignFrom h => cases h₂ with
    | assignFrom _ => rfl
    | assignInvalid h' => exact absurd h h'
  | assignInvalid h => cases h₂ with
    | assignFrom h' => exact absurd h' h
    | assignInvalid _ => rfl

example : RV.SpecRuns 4 ([] : List Int) [.push 5, .resize 3, .set 1 7, .assignFrom ⟨[1, 2, 3, 4], 2⟩, .push 9, .resize 9] [1, 2, 9] :=
  .cons (.push (by decide +kernel)) (.cons (.grow (g := [0, 0]) (by decide +kernel) (by decide +kernel) rfl) (.cons .set
    (.cons (.assignFrom ⟨rfl, by decide +kernel⟩) (.cons (.push (by decide +kernel)) (.cons (.resizeBeyond (by decide +kernel)) .nil)))))

example : RV.abs (RV.run 4 (RV.empty 4 (0 : Int)) [.push 5, .push 6, .pop, .pop, .pop, .push 7, .push 8, .set 0 1, .push 9, .push 10, .push 11])
    = [1, 8, 9, 10] := by decide +kernel
example : ∃ s : RV.State Int, RV.Inv 4 s ∧ s.size = 2 ∧ s.size < 4 :=
  ⟨RV.run 4 (RV.empty 4 0) [.push 5, .push 6], RV.run_inv _ (RV.inv_empty 4 0), by decide +kernel, by decide +kernel⟩
example : (∀ x : Int, ¬ x < x) ∧ (∀ x y : Int, ¬ x < y → ¬ y < x → x = y) :=
  ⟨fun x => Int.lt_irrefl x, fun _ _ h1 h2 => Int.le_antisymm (Int.not_lt.mp h2) (Int.not_lt.mp h1)⟩

end ReservedVector

/-! ## BitSetVector<B>  (`Model/C11/BitSetVector.lean`)

`BV.Inv B v` : the underlying `vector<bool>` holds whole blocks.  `BV.abs B v` : the list of blocks, each a
`std::bitset<B>` (list of `B` booleans, index = bit position). -/
section BitSetVector
variable {B : Nat}

/-- **all histories**: resize / clear / setAll / unsetAll and every proxy operation (`set`, `reset`, `flip`, single-bit
    `set/reset/flip`, `= bool`, `= bitset`, `= otherBlock`, `&= |= ^= <<= >>=`) act as the corresponding `std::bitset`
    operation on the addressed block and leave every other block unchanged (`List.modify`) -/
theorem bv_runs_refine (hB : 0 < B) (ops : List BV.Op) :
    BV.Inv B (BV.run B [] ops) ∧ BV.abs B (BV.run B [] ops) = BV.specRun B [] ops := by
  have h0 : BV.Inv B [] ∧ BV.abs B [] = [] := BV.clear_refines B []  -- `BV.clear v` is `[]` by definition
  have := BV.run_refines hB ops h0.1
  rwa [h0.2] at this

/-- `block_op_spec` and `frame` of DESIGN.md section 5, for the assignment all compound operators go through -/
theorem bv_block_op_spec {v : BV.Bits} (h : BV.Inv B v) {i : Nat} (hi : i < BV.size B v) {x : BV.Bits} (hx : x.length = B) :
    BV.getRepr B (BV.assignBits B v i x) i = x ∧
      (∀ i', i ≠ i' → BV.getRepr B (BV.assignBits B v i x) i' = BV.getRepr B v i') ∧
      BV.size B (BV.assignBits B v i x) = BV.size B v :=
  BV.assignBits_spec hi hx

/-- the proxy queries `count/any/none/all` and `==` are the `std::bitset` queries on the block -/
theorem bv_query_spec (v : BV.Bits) (i : Nat) {bs : BV.Bits} (hb : bs.length = B) :
    BV.countBlock B v i = (BV.getRepr B v i).countP (fun b => b) ∧
      BV.anyBlock B v i = (BV.countBlock B v i != 0) ∧ BV.noneBlock B v i = !(BV.anyBlock B v i) ∧
      BV.allBlock B v i = (BV.getRepr B v i).all (fun b => b) ∧
      (BV.equalsBits B v i bs = true ↔ BV.getRepr B v i = bs) :=
  ⟨BV.countBlock_eq B v i, rfl, rfl, BV.allBlock_eq B v i, BV.equalsBits_iff v i hb⟩

/-- block `i` is the slice `[i·B, (i+1)·B)` of the base vector, `B` bits wide -/
theorem bv_block_is_slice {v : BV.Bits} {i : Nat} (hi : i < BV.size B v) :
    BV.getRepr B v i = (v.drop (i * B)).take B ∧ (BV.getRepr B v i).length = B :=
  ⟨BV.getRepr_eq_slice hi, BV.length_getRepr B v i⟩

/-- the constructor from a `std::vector<bool>`: `Dune::RangeError` exactly when the length is not a multiple of the
    block size; otherwise the blocks are the consecutive slices and every later history refines as in `bv_runs_refine` -/
theorem bv_ofVector_spec (hB : 0 < B) (bits : BV.Bits) :
    (BV.ofVector B bits = none ↔ bits.length % B ≠ 0) ∧
      (∀ v, BV.ofVector B bits = some v → v = bits ∧ BV.Inv B v ∧ BV.size B v * B = bits.length ∧
        ∀ ops, BV.Inv B (BV.run B v ops) ∧ BV.abs B (BV.run B v ops) = BV.specRun B (BV.abs B v) ops) := by
  rw [BV.ofVector_eq]
  split
  next h => exact ⟨⟨nofun, fun hn => absurd h hn⟩, fun v hv => Option.some.inj hv ▸
    ⟨rfl, h, BV.size_mul h, fun ops => BV.run_refines hB ops h⟩⟩
  next h => exact ⟨⟨fun _ => h, fun _ => rfl⟩, nofun⟩

theorem bv_count_spec {v : BV.Bits} (h : BV.Inv B v) :
    BV.count v = ((BV.abs B v).map (List.countP (fun b => b))).sum ∧
      (∀ j, j < B → BV.countmasked B v j = (BV.abs B v).countP (fun blk => blk.getD j false)) ∧
      (BV.abs B v).flatten = v :=
  ⟨BV.count_eq h, fun _ hj => BV.countmasked_eq v hj, BV.abs_flatten h⟩

/-- "`std::bitset` semantics": the block operations the model uses (`bShl`, `bShr`, `bNot`, `bAnd`, `bOr`, `bXor`) are
    the machine operations on the number the block stands for (`BV.toNat`, bit `j` has weight `2^j`): shifts are
    multiplication modulo `2^B` / division by `2^n`, `~` is the `B`-bit complement, `& | ^` are bitwise; the number
    determines the block -/
theorem bv_bitset_semantics {a b : BV.Bits} (hl : a.length = b.length) (n : Nat) :
    BV.toNat a < 2 ^ a.length ∧
      BV.toNat (BV.bShl a n) = (BV.toNat a * 2 ^ n) % 2 ^ a.length ∧
      BV.toNat (BV.bShr a n) = BV.toNat a / 2 ^ n ∧
      BV.toNat (BV.bNot a) = 2 ^ a.length - 1 - BV.toNat a ∧
      BV.toNat (BV.bAnd a b) = BV.toNat a &&& BV.toNat b ∧
      BV.toNat (BV.bOr a b) = BV.toNat a ||| BV.toNat b ∧
      BV.toNat (BV.bXor a b) = BV.toNat a ^^^ BV.toNat b ∧
      (BV.toNat a = BV.toNat b → a = b) :=
  ⟨BV.toNat_lt a, BV.toNat_bShl a n, BV.toNat_bShr a n, BV.toNat_bNot a, BV.toNat_zipWith rfl Nat.testBit_and hl,
    BV.toNat_zipWith rfl Nat.testBit_or hl, BV.toNat_zipWith rfl Nat.testBit_xor hl, BV.toNat_inj hl⟩

/-- the conversion of a block to `std::bitset<B>` (`getRepr`, behind `operator bitset()`, `~ << >>` of a block
    and all compound assignments) is exact for **every** block size: the block rebuilt from the number it stands for is
    the block itself, and only the low `B` bits of a number reach a block.  A conversion passing through a `W`-bit
    machine word (`BV.viaWord`: `to_ullong()` / `bitset(unsigned long long)`, `W = 64`) keeps exactly the bits below
    `W`; it is exact for all blocks of width `B` iff `B ≤ W` — block sizes up to the word size cannot tell the two
    apart, every larger one can (hence the block sizes 32|33, 64|65, 128|129 of the differential run). -/
theorem bv_conversion_exact (v : BV.Bits) (i W n : Nat) :
    BV.ofNat B (BV.toNat (BV.getRepr B v i)) = BV.getRepr B v i ∧
      BV.toNat (BV.ofNat B n) = n % 2 ^ B ∧
      (∀ (a : BV.Bits) (j : Nat), (BV.viaWord W a).getD j false = (decide (j < W) && a.getD j false)) ∧
      ((∀ a : BV.Bits, a.length = B → BV.viaWord W a = a) ↔ B ≤ W) := by
  refine ⟨?_, BV.toNat_ofNat B n, BV.getD_viaWord W, BV.viaWord_exact_iff W B⟩
  have := BV.ofNat_toNat (BV.getRepr B v i)
  rw [BV.length_getRepr] at this
  exact this

/-- `getBit_addr_inj` of DESIGN.md section 5: distinct (block, bit) pairs are distinct bits -/
theorem bv_getBit_addr_inj {i j i' j' : Nat} (hj : j < B) (hj' : j' < B) (h : i * B + j = i' * B + j') : i = i' ∧ j = j' :=
  BV.addr_inj hj hj' h

example : BV.abs 3 (BV.run 3 [] [.resize 2 false, .setOne 0 1 true, .assignBits 1 [true, true, false], .shl 1 1, .xorBits 0 [true, true, true], .assignRef 1 0])
    = [[true, false, true], [true, false, true]] := by decide +kernel
example : ∃ v : BV.Bits, BV.Inv 3 v ∧ 1 < BV.size 3 v := ⟨BV.mk 3 2, by unfold BV.Inv; decide +kernel, by decide +kernel⟩
example : BV.toNat [true, false, true] = 5 ∧ BV.toNat (BV.bShl [true, false, true] 1) = 2 ∧ BV.toNat (BV.bShr [true, false, true] 2) = 1 := by
  decide +kernel
example : BV.viaWord 2 [true, false, true] = [true, false, false] ∧ BV.viaWord 3 [true, false, true] = [true, false, true] ∧
    BV.ofNat 3 13 = [true, false, true] := by decide +kernel
example : BV.ofVector 3 [true, false, true, true] = none ∧
    (BV.ofVector 3 [true, false, true, true, true, false]).map (BV.abs 3) = some [[true, false, true], [true, true, false]] := by
  decide +kernel

end BitSetVector

/-! ## SLList<T>  (`Model/C11/SLList.lean`)

`SL.Inv s` : element identities distinct, `tail_` names the last element (the sentinel iff empty), `size_` is the
chain length.  `SL.items s` : what `begin() … end()` shows.  Pointer structure abstracted to ids (of the allocator
only the counter of fresh ids is modelled). -/
section SLList
variable {α : Type}

theorem sl_push_refines {s : SL.State α} (h : SL.Inv s) (x : α) :
    (SL.Inv (SL.pushBack s x) ∧ SL.items (SL.pushBack s x) = SL.items s ++ [x]) ∧
      (SL.Inv (SL.pushFront s x) ∧ SL.items (SL.pushFront s x) = x :: SL.items s) :=
  ⟨SL.pushBack_refines h x, SL.pushFront_refines h x⟩

theorem sl_pop_front_refines {s : SL.State α} (h : SL.Inv s) (hne : SL.items s ≠ []) :
    SL.Inv (SL.popFront s) ∧ SL.items (SL.popFront s) = (SL.items s).tail :=
  SL.popFront_refines h hne

/-- `(begin()+k).insertAfter(x)` and `(begin()+k).deleteNext()` through plain iterators -/
theorem sl_iterator_insert_delete_refines {s : SL.State α} (h : SL.Inv s) (k : Nat) (x : α) :
    (k < (SL.items s).length →
        SL.Inv (SL.insertAfter s (SL.ptrAt s k) x) ∧
        SL.items (SL.insertAfter s (SL.ptrAt s k) x) = (SL.items s).take (k + 1) ++ x :: (SL.items s).drop (k + 1)) ∧
      (k + 1 < (SL.items s).length →
        SL.Inv (SL.deleteNext true s (SL.ptrAt s k)) ∧
        SL.items (SL.deleteNext true s (SL.ptrAt s k)) = (SL.items s).take (k + 1) ++ (SL.items s).drop (k + 2)) := by
  have hl := SL.length_items s
  rw [SL.ptrAt_eq h.ids]
  constructor
  · exact fun hk => SL.insertAfter_refines h (j := k + 1) (hl ▸ hk) x
  · exact fun hk => SL.deleteNext_refines h (j := k + 1) (hl ▸ hk)

theorem sl_clear_copy_assign_refines {s : SL.State α} (h : SL.Inv s) (o : SL.State α) :
    (SL.Inv (SL.clear s) ∧ SL.items (SL.clear s) = []) ∧
      (SL.Inv (SL.copy o) ∧ SL.items (SL.copy o) = SL.items o) ∧
      (SL.Inv (SL.assign s (some o)) ∧ SL.items (SL.assign s (some o)) = SL.items o) :=
  ⟨SL.clear_refines h, SL.copy_refines o, SL.assign_refines h o⟩

/-- the converting copy constructor `SLList<T>(const SLList<T1>&)` (fixes/C11_sllist_converting_ctor.patch) yields a
    valid list holding the converted elements in order -/
theorem sl_converting_copy_refines {β : Type} (f : β → α) (o : SL.State β) :
    SL.Inv (SL.copyConv f o) ∧ SL.items (SL.copyConv f o) = (SL.items o).map f := SL.copyConv_refines f o

/-- self-assignment is the identity (fixes/C11_sllist_selfassign.patch); the unrepaired code emptied the list -/
theorem sl_assign_self (s : SL.State α) : SL.assign s none = s := rfl

theorem sl_assignUnguarded_self_empties {s : SL.State α} (h : SL.Inv s) : SL.items (SL.assignUnguarded s none) = [] :=
  SL.assignUnguarded_self h

/-- `size()`, `empty()`, `operator==`, `operator!=` read the abstract sequence -/
theorem sl_observers {a b : SL.State α} [BEq α] [LawfulBEq α] (ha : SL.Inv a) (hb : SL.Inv b) :
    a.size = ((SL.items a).length : Int) ∧ (SL.isEmpty a = true ↔ SL.items a = []) ∧
      (SL.eq a b = true ↔ SL.items a = SL.items b) ∧ SL.ne a b = !(SL.eq a b) :=
  ⟨by rw [ha.size, SL.length_items], SL.isEmpty_iff ha, SL.eq_iff ha hb, SL.ne_eq_not_eq a b⟩

/-- modify iterators: `beginModify/endModify` stand at positions `0`/`length`; `insert` puts the value in front of
    the position and stays behind it, `remove` deletes the element at the position, `*` reads it -/
theorem sl_modify_iterator_refines {s : SL.State α} (h : SL.Inv s) {m : SL.MIt} {j : Nat} (hm : SL.ModInv s m j) (x : α) :
    SL.ModInv s (SL.beginModify s) 0 ∧ SL.ModInv s (SL.endModify s) (SL.items s).length ∧
      SL.mDeref s m = (SL.items s)[j]? ∧
      (SL.Inv (SL.mInsert s m x).1 ∧ SL.items (SL.mInsert s m x).1 = (SL.items s).take j ++ x :: (SL.items s).drop j ∧
        SL.ModInv (SL.mInsert s m x).1 (SL.mInsert s m x).2 (j + 1)) ∧
      (j < (SL.items s).length →
        SL.ModInv s (SL.mIncrement s m) (j + 1) ∧
        SL.Inv (SL.mRemove s m).1 ∧ SL.items (SL.mRemove s m).1 = (SL.items s).take j ++ (SL.items s).drop (j + 1) ∧
        SL.ModInv (SL.mRemove s m).1 (SL.mRemove s m).2 j) :=
  ⟨SL.beginModify_inv h, SL.endModify_inv h, SL.mDeref_eq h hm, SL.mInsert_refines h hm x,
    fun hj => ⟨SL.mIncrement_inv h hm hj, SL.mRemove_refines h hm hj⟩⟩

/-- **all histories** (push_back/push_front/pop_front/clear, insertAfter/deleteNext through iterators, self- and
    cross-assignment, and a modify iterator being created, advanced, inserted and removed through): the invariant
    (in particular the tail pointer) holds and the list shows the abstract sequence with the abstract cursor -/
theorem sl_runs_refine (ops : List (SL.Op α)) :
    SL.Rel (SL.run ⟨SL.empty, none⟩ ops) (SL.specRun ⟨[], none⟩ ops) :=
  SL.run_refines ops SL.rel_empty

/-- the same, spelled out in observable terms: after every history the iteration shows the abstract sequence,
    `size()` is its length, `empty()` holds iff it is empty, and a live modify iterator reads the element at the
    abstract cursor (`none` = `end()`) -/
theorem sl_runs_observable (ops : List (SL.Op α)) :
    let w := SL.run ⟨SL.empty, none⟩ ops
    let sp := SL.specRun ⟨[], none⟩ ops
    SL.Inv w.s ∧ SL.items w.s = sp.l ∧ w.s.size = (sp.l.length : Int) ∧ (SL.isEmpty w.s = true ↔ sp.l = []) ∧
      (w.m.isSome ↔ sp.pos.isSome) ∧ (∀ m j, w.m = some m → sp.pos = some j → SL.mDeref w.s m = sp.l[j]?) := by
  intro w sp
  have h : SL.Rel w sp := sl_runs_refine ops
  refine ⟨h.inv, h.items, by rw [h.inv.size, h.len], by rw [SL.isEmpty_iff h.inv, h.items], h.it.isSome_iff,
    fun m j hm hp => ?_⟩
  have := h.it
  rw [hm, hp] at this
  rw [SL.mDeref_eq h.inv this, h.items]

example : SL.items (SL.run (⟨SL.empty, none⟩ : SL.World Int)
    [.pushBack 1, .pushBack 2, .pushFront 0, .mBegin, .mInc, .mIns 7, .mRem, .mIns 8, .assignSelf, .mEnd, .mIns 9, .delNext 0, .pushBack 5]).s
    = [0, 8, 2, 9, 5] := by decide +kernel
example : ∃ (s : SL.State Int) (m : SL.MIt), SL.Inv s ∧ SL.ModInv s m 1 ∧ 1 < (SL.items s).length :=
  have h := (SL.run_refines (α := Int) [.pushBack 1, .pushBack 2] SL.rel_empty).inv
  ⟨_, _, h, SL.mIncrement_inv h (SL.beginModify_inv h) (by decide +kernel), by decide +kernel⟩

example : SL.items (SL.copyConv (fun x : Int => x * 2) (SL.run ⟨SL.empty, none⟩ [.pushBack 1, .pushFront 0, .pushBack 5]).s) = [0, 2, 10] := by
  decide +kernel

end SLList

/-! ## The same facts for the formulas of `Gen/C11.lean`

`DV.C11.Gen.*` is regenerated from dune/common/arraylist.hh, bitsetvector.hh, reservedvector.hh and iteratorfacades.hh on every run
(tools/translators/tr_c11.py: the index formulas, conditions, loop bounds and member updates of the straight-line
member functions, obtained by symbolic execution of their statements in source order).  The theorems below say that
each model operation *is* the state transformer the current source spells out, and re-derive the central refinement
facts for the generated formulas - so they are re-checked against what the code says at every run. -/
section Generated
variable {α : Type} {N : Nat}

/-- the model's `chunkSize_`, absolute-index, begin/end and size formulas are the ones in the source (both constnesses) -/
theorem gen_al_access_tied (n : Int) (s : AL.State α) (i : Nat) :
    Gen.chunkSize n = AL.chunkSize n ∧
      AL.get N s i = GenTie.readVia s.chunks
        (Gen.alElemChunk N (Gen.alIndexArg N s.start s.size s.capacity i))
        (Gen.alElemOffset N (Gen.alIndexArg N s.start s.size s.capacity i)) ∧
      AL.get N s i = GenTie.readVia s.chunks
        (Gen.alElemChunkC N (Gen.alIndexArgC N s.start s.size s.capacity i))
        (Gen.alElemOffsetC N (Gen.alIndexArgC N s.start s.size s.capacity i)) ∧
      AL.beginPos s = Gen.alBegin N s.start s.size s.capacity ∧ AL.beginPos s = Gen.alBeginC N s.start s.size s.capacity ∧
      AL.endPos s = Gen.alEnd N s.start s.size s.capacity ∧ AL.endPos s = Gen.alEndC N s.start s.size s.capacity ∧
      s.size = Gen.alSize N s.start s.size s.capacity := by
  simp only [GenTie.chunkSize, GenTie.alElemChunk, GenTie.alElemOffset, GenTie.alElemChunkC, GenTie.alElemOffsetC,
    GenTie.alIndexArg, GenTie.alIndexArgC, GenTie.alBegin, GenTie.alBeginC, GenTie.alEnd, GenTie.alEndC, GenTie.alSize]
  exact ⟨trivial, rfl, rfl, rfl, rfl, rfl, rfl, trivial⟩

/-- random access as the source spells it (`chunks_[(start_+i)/chunkSize_]->operator[]((start_+i)%chunkSize_)`, read
    through the generated formulas, mutable and const overload) returns the `i`-th element of the abstract sequence,
    and `size()` is its length -/
theorem gen_al_get_refines (hN : 0 < N) {s : AL.State α} (h : AL.Inv N s) :
    Gen.alSize N s.start s.size s.capacity = (AL.abs N s).length ∧
    ∀ i, i < s.size →
      GenTie.readVia s.chunks (Gen.alElemChunk N (Gen.alIndexArg N s.start s.size s.capacity i))
        (Gen.alElemOffset N (Gen.alIndexArg N s.start s.size s.capacity i)) = (AL.abs N s)[i]? ∧
      GenTie.readVia s.chunks (Gen.alElemChunkC N (Gen.alIndexArgC N s.start s.size s.capacity i))
        (Gen.alElemOffsetC N (Gen.alIndexArgC N s.start s.size s.capacity i)) = (AL.abs N s)[i]? ∧
      ((AL.abs N s)[i]?).isSome := by
  have hg := al_get_refines hN h
  refine ⟨by rw [GenTie.alSize]; exact hg.1.symm, fun i hi => ?_⟩
  -- the first argument (`0`) feeds the `chunkSize` conjunct only
  have h1 := (gen_al_access_tied (N := N) 0 s i).2.1
  have h2 := (gen_al_access_tied (N := N) 0 s i).2.2.1
  have h3 := hg.2 i hi
  exact ⟨by rw [← h1]; exact h3.1, by rw [← h2]; exact h3.1, by rw [← h3.1]; exact h3.2⟩

/-- iterators: `it[i]` of the iterator `begin()+k` and `*it` of `begin()+(k+i)` (both iterator classes, as generated)
    read element `k+i` of the abstract sequence; `end() - begin()` through the generated `distanceTo` is its length -/
theorem gen_al_iterator_refines (hN : 0 < N) {s : AL.State α} (h : AL.Inv N s) (k i : Nat) (hki : k + i < s.size) :
    AL.elementAt N s (Gen.itElemArg N (Gen.alBegin N s.start s.size s.capacity + k) i) = (AL.abs N s)[k + i]? ∧
      AL.elementAt N s (Gen.itElemArgC N (Gen.alBeginC N s.start s.size s.capacity + k) i) = (AL.abs N s)[k + i]? ∧
      AL.elementAt N s (Gen.itDerefArg N (Gen.alBegin N s.start s.size s.capacity + (k + i))) = (AL.abs N s)[k + i]? ∧
      AL.elementAt N s (Gen.itDerefArgC N (Gen.alBeginC N s.start s.size s.capacity + (k + i))) = (AL.abs N s)[k + i]? ∧
      Gen.itDistanceTo (Gen.alBegin N s.start s.size s.capacity) (Gen.alEnd N s.start s.size s.capacity) = (AL.abs N s).length ∧
      Gen.itDistanceToC (Gen.alBeginC N s.start s.size s.capacity) (Gen.alEndC N s.start s.size s.capacity) = (AL.abs N s).length := by
  have hg := (al_get_refines hN h).2 (k + i) hki
  have hl := (al_get_refines hN h).1
  simp only [GenTie.itElemArg, GenTie.itElemArgC, GenTie.itDerefArg, GenTie.itDerefArgC, GenTie.alBegin, GenTie.alBeginC,
    GenTie.alEnd, GenTie.alEndC, GenTie.itDistanceTo, GenTie.itDistanceToC, hl]
  have e' : AL.elementAt N s (s.start + (k + i)) = (AL.abs N s)[k + i]? := hg.1
  have e : AL.elementAt N s (s.start + k + i) = (AL.abs N s)[k + i]? := Nat.add_assoc .. ▸ e'
  refine ⟨e, e, e', e', ?_, ?_⟩ <;> rw [Int.natCast_add, Int.add_comm, Int.add_sub_cancel]

/-- the generated `advance` / `increment` / `decrement` / `distanceTo` / `equals` of both ArrayList iterator classes
    (all overloads) are position arithmetic -/
theorem gen_al_iterator_moves (p o n : Int) (a b : Nat) :
    Gen.itAdvance p n = p + n ∧ Gen.itAdvanceC p n = p + n ∧ Gen.itIncrement p = p + 1 ∧ Gen.itIncrementC p = p + 1 ∧
      Gen.itDecrement p = p - 1 ∧ Gen.itDecrementC p = p - 1 ∧
      Gen.itDistanceTo p o = o - p ∧ Gen.itDistanceToC p o = o - p ∧
      (Gen.itEquals a b = true ↔ a = b) ∧ (Gen.itEqualsM a b = true ↔ a = b) ∧ (Gen.itEqualsC a b = true ↔ a = b) :=
  ⟨GenTie.itAdvance p n, GenTie.itAdvanceC p n, GenTie.itIncrement p, GenTie.itIncrementC p, GenTie.itDecrement p,
    GenTie.itDecrementC p, GenTie.itDistanceTo p o, GenTie.itDistanceToC p o, GenTie.itEquals a b, GenTie.itEqualsM a b,
    GenTie.itEqualsC a b⟩

/-- `push_back` of the model is the statement sequence of the source: grow iff the generated condition holds (by the
    generated capacity increment), write at the generated index, generated new `size_`; hence (with
    `al_push_back_refines`) the source's formulas append to the abstract sequence -/
theorem gen_al_push_tied (d : α) (s : AL.State α) (x : α) :
    AL.push N d s x =
      (let s1 : AL.State α :=
        if Gen.pushGrow N s.start s.size s.capacity = true then
          { s with chunks := s.chunks ++ [some (List.replicate N d)],
                   capacity := Gen.pushGrownCapacity N s.start s.size s.capacity }
        else s
       { chunks := AL.writeAt N s1.chunks (Gen.pushWriteIndex N s.start s.size s1.capacity) x,
         capacity := s1.capacity,
         size := Gen.pushSize N s.start s.size s1.capacity,
         start := Gen.pushStart N s.start s.size s1.capacity }) := by
  simp only [GenTie.pushGrow, GenTie.pushGrownCapacity, GenTie.pushWriteIndex, GenTie.pushSize, GenTie.pushStart]
  by_cases hc : s.start + s.size = s.capacity
  · rw [AL.push_of_full d x hc, if_pos hc]
  · rw [AL.push_of_room d x hc, if_neg hc]

/-- `purge` of the model is the source's statement sequence (generated condition, copy range, resize count and member
    updates); the copied range has exactly the length that is kept -/
theorem gen_al_purge_tied (s : AL.State α) :
    AL.purge N s =
      (if Gen.purgeCond N s.start s.size s.capacity = true then
        { chunks := (s.chunks.drop (Gen.purgeCopyFrom N s.start s.size s.capacity)).take (Gen.purgeResize N s.start s.size s.capacity),
          capacity := Gen.purgeCapacity N s.start s.size s.capacity,
          size := Gen.purgeSize N s.start s.size s.capacity,
          start := Gen.purgeStart N s.start s.size s.capacity }
      else s) ∧
    Gen.purgeCopyTo N s.start s.size s.capacity =
      Gen.purgeCopyFrom N s.start s.size s.capacity + Gen.purgeResize N s.start s.size s.capacity := by
  simp only [GenTie.purgeCond, GenTie.purgeCopyFrom, GenTie.purgeResize, GenTie.purgeCapacity, GenTie.purgeSize,
    GenTie.purgeStart, GenTie.purgeCopyTo]
  exact ⟨rfl, trivial⟩

/-- `eraseToHere` of the model is the source's statement sequence; for an iterator inside the window the generated
    loop count frees exactly the chunks between the old and the new first chunk, and the generated new size is the
    number of elements behind the iterator -/
theorem gen_al_erase_tied (s : AL.State α) (p : Nat) :
    AL.eraseToHere N s p =
      { chunks := AL.freeLoop s.chunks (Gen.eraseLoopFirst N s.start s.size s.capacity p) (Gen.eraseLoopCount N s.start s.size s.capacity p),
        capacity := Gen.eraseCapacity N s.start s.size s.capacity p,
        size := Gen.eraseSize N s.start s.size s.capacity p,
        start := Gen.eraseStart N s.start s.size s.capacity p } ∧
    Gen.erasePos N s.start s.size s.capacity p = p + 1 ∧
    (s.start ≤ p → p < s.start + s.size →
      Gen.eraseLoopCount N s.start s.size s.capacity p = Gen.eraseLoopFirst N s.start s.size s.capacity p - s.start / N ∧
      Gen.eraseSize N s.start s.size s.capacity p + (p + 1 - s.start) = s.size ∧
      Gen.eraseStart N s.start s.size s.capacity p + Gen.eraseSize N s.start s.size s.capacity p = s.start + s.size) := by
  simp only [GenTie.eraseLoopFirst, GenTie.eraseLoopCount, GenTie.eraseCapacity, GenTie.eraseSize, GenTie.eraseStart,
    GenTie.erasePos]
  refine ⟨rfl, trivial, fun h1 h2 => ⟨AL.freed_count (Nat.le_succ_of_le h1),
    Nat.sub_add_cancel (Nat.sub_le_of_le_add (Nat.add_comm s.start s.size ▸ h2)), AL.erase_end h1 h2⟩⟩

theorem gen_al_clear_tied (s : AL.State α) :
    AL.clear s = ⟨[], Gen.clearCapacity N s.start s.size s.capacity, Gen.clearSize N s.start s.size s.capacity,
      Gen.clearStart N s.start s.size s.capacity⟩ := by
  simp only [GenTie.clearCapacity, GenTie.clearSize, GenTie.clearStart]
  rfl

/-- BitSetVector: bit `(i,j)` lives at the generated address (both `getBit` overloads), distinct (block, bit) pairs
    have distinct generated addresses, the constructors / `resize` allocate the generated number of bits, `size()` and
    the `vector<bool>` constructor's rejection test are the generated ones -/
theorem gen_bv_tied {B : Nat} (v : BV.Bits) (i j n : Nat) (b : Bool) :
    BV.getBit B v i j = v.getD (Gen.bvAddr B i j) false ∧ BV.getBit B v i j = v.getD (Gen.bvAddrC B i j) false ∧
      BV.setBit B v i j b = v.set (Gen.bvAddr B i j) b ∧
      (∀ i' j', j < B → j' < B → Gen.bvAddr B i j = Gen.bvAddr B i' j' → i = i' ∧ j = j') ∧
      (∀ i' j', j < B → j' < B → Gen.bvAddrC B i j = Gen.bvAddrC B i' j' → i = i' ∧ j = j') ∧
      BV.mk B n = List.replicate (Gen.bvCtorLen B n) false ∧ BV.mk B n b = List.replicate (Gen.bvCtorLenV B n) b ∧
      (BV.resize B v n b).length = Gen.bvResizeLen B n ∧
      BV.size B v = Gen.bvSize B v.length ∧
      BV.ofVector B v = (if Gen.bvCtorReject B v.length = true then none else some v) := by
  simp only [GenTie.bvAddr, GenTie.bvAddrC, GenTie.bvCtorLen, GenTie.bvCtorLenV, GenTie.bvResizeLen, GenTie.bvSize,
    GenTie.bvCtorReject]
  refine ⟨rfl, rfl, rfl, fun i' j' h1 h2 h3 => bv_getBit_addr_inj h1 h2 h3, fun i' j' h1 h2 h3 => bv_getBit_addr_inj h1 h2 h3,
    rfl, rfl, ?_, rfl, ?_⟩
  · exact BV.length_resize B v n b
  · rw [BV.ofVector_eq, ite_not]

/-- non-vacuity: the generated formulas on a state with a freed chunk and the start inside a chunk -/
example : let s := AL.run 2 (0 : Int) AL.empty [.push 0, .push 1, .push 2, .push 3, .push 4, .push 5, .erase 2]
    GenTie.readVia s.chunks (Gen.alElemChunk 2 (Gen.alIndexArg 2 s.start s.size s.capacity 1))
      (Gen.alElemOffset 2 (Gen.alIndexArg 2 s.start s.size s.capacity 1)) = some 4 ∧
    Gen.purgeCond 2 s.start s.size s.capacity = true ∧ Gen.purgeResize 2 s.start s.size s.capacity = 2 ∧
    Gen.eraseLoopCount 2 0 6 6 2 = 1 ∧ Gen.eraseLoopFirst 2 0 6 6 2 = 1 ∧ Gen.pushGrow 2 s.start s.size s.capacity = true := by decide +kernel
example : Gen.bvAddr 3 2 1 = 7 ∧ Gen.bvCtorReject 3 4 = true ∧ Gen.bvCtorReject 3 6 = false ∧ Gen.bvSize 3 7 = 2 ∧
    Gen.itDistanceTo 3 7 = 4 ∧ Gen.itEqualsM 3 3 = true ∧ Gen.itEqualsM 3 4 = false ∧ Gen.chunkSize 0 = 1 ∧ Gen.chunkSize 7 = 7 := by decide +kernel

/-- ReservedVector: every accessor reads the generated slot, every mutator writes the generated slot and sets the
    generated size, all iterator ranges (`begin/end`, `cbegin/cend`, reversed) and the hashed range cover exactly the
    slots `[0, size_)` of the abstract vector, and each `CHECKSIZE` asserts exactly the documented precondition -/
theorem gen_rv_tied {n : Nat} (s : RV.State α) (i : Nat) (x : α) :
    (RV.get s i = s.storage[Gen.rvIndex n s.size i]? ∧ RV.get s i = s.storage[Gen.rvIndexC n s.size i]? ∧
      RV.front s = s.storage[Gen.rvFront n s.size]? ∧ RV.front s = s.storage[Gen.rvFrontC n s.size]? ∧
      RV.back s = s.storage[Gen.rvBack n s.size]? ∧ RV.back s = s.storage[Gen.rvBackC n s.size]? ∧
      RV.at? s i = (if Gen.rvAtThrow n s.size i = true then none else s.storage[Gen.rvAtIndex n s.size i]?) ∧
      RV.at? s i = (if Gen.rvAtThrowC n s.size i = true then none else s.storage[Gen.rvAtIndexC n s.size i]?)) ∧
    (RV.pushBack s x = ⟨s.storage.set (Gen.rvPushIndex n s.size) x, Gen.rvPushSize n s.size⟩ ∧
      RV.pushBack s x = ⟨s.storage.set (Gen.rvPushRIndex n s.size) x, Gen.rvPushRSize n s.size⟩ ∧
      RV.pushBack s x = ⟨s.storage.set (Gen.rvEmplaceIndex n s.size) x, Gen.rvEmplaceSize n s.size⟩ ∧
      RV.popBack s = (if Gen.rvPopCond n s.size = true then ⟨s.storage, Gen.rvPopSize n s.size⟩ else s) ∧
      RV.clear s = ⟨s.storage, Gen.rvClearSize n s.size⟩ ∧
      RV.resize s i = ⟨s.storage, Gen.rvResizeSize n s.size i⟩ ∧
      RV.set s i x = ⟨s.storage.set (Gen.rvIndex n s.size i) x, s.size⟩ ∧
      RV.fill s x = ⟨RV.fillLoop s.storage x (Gen.rvFillBound n s.size), s.size⟩ ∧ Gen.rvFillIndex n s.size i = i) ∧
    (RV.abs s = (s.storage.drop (Gen.rvBeginOff n s.size)).take (Gen.rvEndOff n s.size - Gen.rvBeginOff n s.size) ∧
      RV.abs s = (s.storage.drop (Gen.rvBeginOffC n s.size)).take (Gen.rvEndOffC n s.size - Gen.rvBeginOffC n s.size) ∧
      RV.abs s = (s.storage.drop (Gen.rvCbeginOff n s.size)).take (Gen.rvCendOff n s.size - Gen.rvCbeginOff n s.size) ∧
      RV.abs s = (s.storage.drop (Gen.rvRendOff n s.size)).take (Gen.rvRbeginOff n s.size - Gen.rvRendOff n s.size) ∧
      RV.abs s = (s.storage.drop (Gen.rvRendOffC n s.size)).take (Gen.rvRbeginOffC n s.size - Gen.rvRendOffC n s.size) ∧
      RV.abs s = (s.storage.drop (Gen.rvCrendOff n s.size)).take (Gen.rvCrbeginOff n s.size - Gen.rvCrendOff n s.size) ∧
      RV.abs s = s.storage.take (Gen.rvHashEnd n s.size) ∧
      Gen.rvSize n s.size = s.size ∧ (Gen.rvEmpty n s.size = true ↔ s.size = 0) ∧
      Gen.rvCapacity n s.size = n ∧ Gen.rvMaxSize n s.size = n) ∧
    ((Gen.rvIndexCheck n s.size i = true ↔ i < s.size) ∧ (Gen.rvIndexCheckC n s.size i = true ↔ i < s.size) ∧
      (Gen.rvFrontCheck n s.size = true ↔ 0 < s.size) ∧ (Gen.rvFrontCheckC n s.size = true ↔ 0 < s.size) ∧
      (Gen.rvBackCheck n s.size = true ↔ 0 < s.size) ∧ (Gen.rvBackCheckC n s.size = true ↔ 0 < s.size) ∧
      (Gen.rvPushCheck n s.size = true ↔ s.size < n) ∧ (Gen.rvPushRCheck n s.size = true ↔ s.size < n) ∧
      (Gen.rvEmplaceCheck n s.size = true ↔ s.size < n) ∧ (Gen.rvResizeCheck n s.size i = true ↔ i ≤ n)) := by
  refine ⟨?_, ?_, ?_, ?_⟩
  · simp only [GenTie.rvIndex, GenTie.rvIndexC, GenTie.rvFront, GenTie.rvFrontC, GenTie.rvBack, GenTie.rvBackC,
      GenTie.rvAtThrow, GenTie.rvAtThrowC, GenTie.rvAtIndex, GenTie.rvAtIndexC]
    refine ⟨rfl, rfl, rfl, rfl, rfl, rfl, ?_, ?_⟩ <;> (rw [ite_not]; rfl)
  · simp only [GenTie.rvPushIndex, GenTie.rvPushSize, GenTie.rvPushRIndex, GenTie.rvPushRSize, GenTie.rvEmplaceIndex,
      GenTie.rvEmplaceSize, GenTie.rvPopCond, GenTie.rvPopSize, GenTie.rvClearSize, GenTie.rvResizeSize, GenTie.rvIndex,
      GenTie.rvFillBound, GenTie.rvFillIndex]
    refine ⟨rfl, rfl, rfl, ?_, rfl, rfl, rfl, rfl, trivial⟩
    rw [ite_not]
    rfl
  · simp only [GenTie.rvBeginOff, GenTie.rvBeginOffC, GenTie.rvCbeginOff, GenTie.rvEndOff, GenTie.rvEndOffC, GenTie.rvCendOff,
      GenTie.rvRbeginOff, GenTie.rvRbeginOffC, GenTie.rvCrbeginOff, GenTie.rvRendOff, GenTie.rvRendOffC, GenTie.rvCrendOff,
      GenTie.rvHashEnd, GenTie.rvSize, GenTie.rvEmpty, GenTie.rvCapacity, GenTie.rvMaxSize, List.drop_zero, Nat.sub_zero]
    exact ⟨rfl, rfl, rfl, rfl, rfl, rfl, rfl, trivial, trivial, trivial, trivial⟩
  · exact ⟨GenTie.rvIndexCheck n s.size i, GenTie.rvIndexCheckC n s.size i, GenTie.rvFrontCheck n s.size,
      GenTie.rvFrontCheckC n s.size, GenTie.rvBackCheck n s.size, GenTie.rvBackCheckC n s.size, GenTie.rvPushCheck n s.size,
      GenTie.rvPushRCheck n s.size, GenTie.rvEmplaceCheck n s.size, GenTie.rvResizeCheck n s.size i⟩

/-- with `rv_runs_capacity`: along every history the generated end offset never exceeds the generated capacity -/
theorem gen_rv_runs_capacity {n : Nat} (d : α) (ops : List (RV.Op α)) :
    Gen.rvEndOff n (RV.run n (RV.empty n d) ops).size ≤ Gen.rvCapacity n (RV.run n (RV.empty n d) ops).size := by
  rw [GenTie.rvEndOff, GenTie.rvCapacity]
  exact (rv_runs_capacity (n := n) d ops).1.le

example : Gen.rvBack 4 3 = 2 ∧ Gen.rvAtThrow 4 3 3 = true ∧ Gen.rvAtThrow 4 3 2 = false ∧ Gen.rvPushIndex 4 3 = 3 ∧
    Gen.rvPushSize 4 3 = 4 ∧ Gen.rvPopCond 4 0 = false ∧ Gen.rvPopCond 4 1 = true ∧ Gen.rvEndOff 4 3 = 3 ∧ Gen.rvPushCheck 4 4 = false := by
  decide +kernel

/-- the operators of `RandomAccessIteratorFacade` (as generated from iteratorfacades.hh, both branches of every free
    operator) composed with the generated primitives of both ArrayList iterator classes are position arithmetic:
    `< <= > >=` and `-` compare / subtract positions, `== !=` decide equality of positions, `+= -= + -` move by `±n`,
    `it[n]` hands `n` on, `++it`/`--it` forward to `increment`/`decrement`, and `it++`/`it--` (also of
    `ForwardIteratorFacade`, the base of the SLList iterators) return the copy taken *before* the step -/
theorem gen_facade_refines (a b n : Int) (p q : Nat) :
    (∀ dist, (dist = Gen.itDistanceTo ∨ dist = Gen.itDistanceToC) →
      (Gen.facLt1 dist a b = true ↔ a < b) ∧ (Gen.facLt2 dist a b = true ↔ a < b) ∧
      (Gen.facLe1 dist a b = true ↔ a ≤ b) ∧ (Gen.facLe2 dist a b = true ↔ a ≤ b) ∧
      (Gen.facGt1 dist a b = true ↔ a > b) ∧ (Gen.facGt2 dist a b = true ↔ a > b) ∧
      (Gen.facGe1 dist a b = true ↔ a ≥ b) ∧ (Gen.facGe2 dist a b = true ↔ a ≥ b) ∧
      Gen.facDiff1 dist a b = a - b ∧ Gen.facDiff2 dist a b = a - b) ∧
    (∀ eq, (eq = Gen.itEquals ∨ eq = Gen.itEqualsM ∨ eq = Gen.itEqualsC) →
      (Gen.facEq1 eq p q = true ↔ p = q) ∧ (Gen.facEq2 eq p q = true ↔ p = q) ∧
      (Gen.facNe1 eq p q = true ↔ p ≠ q) ∧ (Gen.facNe2 eq p q = true ↔ p ≠ q)) ∧
    (Gen.itAdvance a (Gen.facPlusEqArg n) = a + n ∧ Gen.itAdvance a (Gen.facMinusEqArg n) = a - n ∧
      Gen.itAdvance a (Gen.facPlusArg n) = a + n ∧ Gen.itAdvance a (Gen.facMinusArg n) = a - n ∧
      Gen.itAdvanceC a (Gen.facPlusEqArg n) = a + n ∧ Gen.itAdvanceC a (Gen.facMinusEqArg n) = a - n ∧
      Gen.itAdvanceC a (Gen.facPlusArg n) = a + n ∧ Gen.itAdvanceC a (Gen.facMinusArg n) = a - n ∧
      Gen.facIndexArg n = n) ∧
    (Gen.facPreInc = .increment ∧ Gen.facPreDec = .decrement ∧ Gen.fwdPreInc = .increment ∧
      Gen.facPostIncReturnsOld = true ∧ Gen.facPostDecReturnsOld = true ∧ Gen.fwdPostIncReturnsOld = true) := by
  refine ⟨?_, ?_, ?_, ?_⟩
  · intro dist h
    have hd : ∀ x y, dist x y = y - x := by
      intro x y
      rcases h with rfl | rfl
      · exact GenTie.itDistanceTo x y
      · exact GenTie.itDistanceToC x y
    -- the facade definitions are unfolded as the source spells them, so which conjuncts `simp only` closes varies with the
    -- spelling: the tails below take either outcome
    simp only [Gen.facLt1, Gen.facLt2, Gen.facLe1, Gen.facLe2, Gen.facGt1, Gen.facGt2, Gen.facGe1, Gen.facGe2, Gen.facDiff1,
      Gen.facDiff2, hd, decide_eq_true_eq]
    refine ⟨?_, ?_, ?_, ?_, ?_, ?_, ?_, ?_, ?_, ?_⟩ <;> first | trivial | omega
  · intro eq h
    have he : ∀ x y, eq x y = true ↔ x = y := by
      intro x y
      rcases h with rfl | rfl | rfl
      · exact GenTie.itEquals x y
      · exact GenTie.itEqualsM x y
      · exact GenTie.itEqualsC x y
    simp only [Gen.facEq1, Gen.facEq2, Gen.facNe1, Gen.facNe2, Bool.not_eq_true', ← Bool.not_eq_true, he]
    refine ⟨?_, ?_, ?_, ?_⟩ <;> first | trivial | exact Iff.rfl | (constructor <;> intro h <;> omega)
  · simp only [GenTie.itAdvance, GenTie.itAdvanceC, Gen.facPlusEqArg, Gen.facMinusEqArg, Gen.facPlusArg, Gen.facMinusArg,
      Gen.facIndexArg]
    refine ⟨?_, ?_, ?_, ?_, ?_, ?_, ?_, ?_, ?_⟩ <;> first | trivial | omega
  · decide

example : Gen.facLt1 Gen.itDistanceTo 2 5 = true ∧ Gen.facGe2 Gen.itDistanceToC 2 5 = false ∧ Gen.facDiff1 Gen.itDistanceTo 7 3 = 4 ∧
    Gen.itAdvance 5 (Gen.facMinusEqArg 2) = 3 ∧ Gen.facNe2 Gen.itEqualsM 3 3 = false := by decide +kernel

end Generated

end DV.C11
