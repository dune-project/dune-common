/-
C19 — property theorems (guard agreement, futures deliver exactly once) about the model in Model/C19.lean.  The
predicates they are stated with and the lemmas behind them: Proofs/C19Guard.lean (`OneSum`, `specObs`, `EndsMatched`),
Proofs/C19Future.lean (`dataOf`, `MisuseReported`, `AlwaysReady`, `succGets`, `eraseMpi`, `erasePseudo`),
Proofs/C19Move.lean, Proofs/C19Gen.lean (`genFut`, `genFutRef`, `genVoid`, `genErased`, `genStep2`, `genRun2`).
Core Lean only.

Assumed, not proved (MANIFEST note): MPI itself — a collective on a communicator completes once every member has
entered it and delivers the same sum to all; a request completes iff the operation completed; MPI_Wait returns then.

Reading of the property (clause → theorem):
  guard  "fails on any subset … every process that reaches the checkpoint observes the guard error"   agreement
         "when it fails nowhere no process does"                                                       no_failure_no_error
         "never deadlocks"                      sections_agree, guard_deadlock_iff (exact), one_collective_per_section,
                                                collectives_match_no_deadlock, destructor_never_throws
         "can be re-armed for the next section"  rearm, and the induction over sections in sections_agree
         the failing rank itself                 failing_rank_passes
         quantifier: all member lists (= all process counts, every communicator is a member list), every script
         (= every failure subset × failure mode × way of arming in each of any number of sections).
  future "valid until its result is taken"               future_valid_until_get
         "becomes ready once the operation completed"    ready_after_complete, ready_stays_true, ready_false_while_pending
         "yields exactly the data … once"                get_once (payload), get_succeeds_once (all classes, incl. void)
         "reports misuse … with the documented error"    get_after_get_error, invalid_future_misuse, wait_invalid_error,
                                                         null_future_reports_misuse
         all classes                                     void_future_same_protocol, erased_future_transparent
         quantifier: every call history (List FOp) with the completion of the operation at any point.
  moves (the future reaches the variable the calls are made on by move construction / move assignment, also
  into a variable that served an earlier operation; the two-buffer future owns a send object):
         "yields exactly the data of the completed operation … instead of … stale data", for a re-used variable
                                                         move_assign_transfers, move_construct_transfers,
                                                         reused_future_no_stale
         two-buffer future MPIFuture<R,S>                two_buffer_same_protocol (all theorems above transfer; the send
                                                         object is kept), send_data_once, send_data_twice_undefined
  tie to the source (`Gen/C19.lean` is regenerated from the source on every run; the theorems are about the generated text):
         guard bodies and constructors                   gen_guard_is_model, gen_guard_ctor_arms, unarmed_finalize_never_throws
         members of the four future classes, buffers     gen_future_is_model, gen_pseudo_is_model, gen_erased_is_model
         every call history of the generated members     gen_histories_are_model
         move assignment / move construction             gen_moves_are_model
         "a future returned by a non-blocking operation is valid …": which future each non-blocking member returns
                                                         gen_operations_start, gen_seq_operations_start
-/
import DuneVerif.Proofs.C19Guard
import DuneVerif.Proofs.C19Future
import DuneVerif.Proofs.C19Move
import DuneVerif.Proofs.C19Gen

namespace DV.C19

/-- Every path of every rank through a guarded section — whatever guard object the rank starts with (none, an
inactive one, one still armed by `reactivate()`), whichever way it arms (`n`,`m`,`a`) and whichever of
finalize(true) / finalize() / finalize(false) / reactivate() / exception / scope exit it takes — issues exactly one
`sum` and then returns. -/
theorem one_collective_per_section (st : Option Guard) (s : Arm × Act) : OneSum (sectionProg st s) := by
  rw [sectionProg_eq]
  exact fun _ => ⟨_, rfl⟩

example : OneSum (sectionProg (some { active := false }) (.freshInactive, .throwUser)) :=
  one_collective_per_section _ _

/-- Collectives match ⇒ no deadlock at this level: ranks (any number ≥ 1) whose programs all issue exactly one
collective run to completion, every rank returns. -/
theorem collectives_match_no_deadlock {α : Type} (ps : List (Prog α)) (hne : ps ≠ []) (h : ∀ p ∈ ps, OneSum p) :
    ∃ vs, runJoint 2 ps = .done vs ∧ vs.length = ps.length := by
  obtain ⟨cks, hcks, hret⟩ := allSum_of_oneSum ps h
  obtain ⟨vs, hvs, hlen⟩ := hret (cks.map (·.1)).sum
  exact ⟨vs, by rw [runJoint_of_allSum 1 hne hcks, runJoint_of_allRet 0 hvs], hlen⟩

example : runJoint 2 [sectionProg none (.fresh, .finTrue), sectionProg none (.rearm, .throwUser),
    sectionProg (some { active := true }) (.fresh, .react)] =
    .done [(some { active := false }, .guardError), (none, .userExc), (some { active := false }, .guardError)] := by
  decide +kernel

/-- the hypotheses of `collectives_match_no_deadlock` are met by the sections of three ranks -/
example : ∃ vs, runJoint 2 [sectionProg none (.fresh, .finTrue), sectionProg none (.rearm, .throwUser),
    sectionProg (some { active := true }) (.fresh, .react)] = .done vs ∧ vs.length = 3 :=
  collectives_match_no_deadlock _ (by simp) (by
    intro p hp
    simp only [List.mem_cons, List.not_mem_nil, or_false] at hp
    rcases hp with rfl | rfl | rfl <;> exact one_collective_per_section _ _)

/-- The model's negative case is real: a rank that leaves without its collective deadlocks the others. -/
example : runJoint 5 [sectionProg none (.fresh, .finTrue), Prog.ret (none, Obs.none)] = .deadlock := rfl

/-- Re-arming: whatever happened before (error observed or not, guard destroyed or kept), each of the three ways of
arming yields an armed guard without any collective and without an exception. -/
theorem rearm (st : Option Guard) (m : Arm) : ∃ g, armProg st m = .ret (some g) ∧ g.active = true :=
  ⟨_, armProg_eq st m, rfl⟩

example : armProg (some { active := false }) .rearm = .ret (some { active := true }) := rfl

/-- The destructor never lets an exception escape (it clears `active_` before calling finalize(false)). -/
theorem destructor_never_throws (g : Guard) :
    destroy g = .ret false ∨ ∃ c, destroy g = .sum c (fun _ => .ret false) := by
  rcases g with ⟨_ | _⟩
  · exact .inl rfl
  · exact .inr ⟨1, destroy_armed⟩

/-- The executable test `endsMatchedB` by which the driver (and, independently re-implemented, the harness) selects the
well-formed cases is exactly the hypothesis `EndsMatched` of the theorems. -/
theorem ends_matched_executable (members : List Nat) (script : Nat → Nat → Arm × Act) (n : Nat) :
    endsMatchedB members script n = true ↔ EndsMatched members script n := by
  unfold endsMatchedB EndsMatched
  simp [List.all_eq_true]

/-- Sequences of sections (induction on the number of sections): for every set of ranks sharing the communicator,
every number `n` of consecutive sections and every script (who arms how and does what in which section) whose end is
matched (`EndsMatched`: no member, or every member, still owes a section because it ended with a successful
`reactivate()` checkpoint), the joint execution terminates without deadlock and every rank observes in every
section exactly what the property demands (`specObs`).  `guard_deadlock_iff` shows that `EndsMatched` cannot be
weakened. -/
theorem sections_agree (members : List Nat) (n fuel : Nat) (script : Nat → Nat → Arm × Act) (hf : n + 1 < fuel)
    (hend : EndsMatched members script n) :
    runJoint fuel (members.map fun i => rankProg (script i) n) =
      .done (members.map fun i => (List.range n).map (specObs members script i)) := by
  rw [runJoint_rankProgs members n fuel script hf, if_pos ((ends_matched_executable members script n).mpr hend)]

/-- "Never deadlocks", exactly: the joint execution of `n` guarded sections deadlocks iff the end is unmatched, i.e.
some member's last call was a successful `reactivate()` (its guard is armed again and its destructor will enter one
more collective) while another member is done.  It never runs out of fuel. -/
theorem guard_deadlock_iff (members : List Nat) (n fuel : Nat) (script : Nat → Nat → Arm × Act) (hf : n + 1 < fuel) :
    (runJoint fuel (members.map fun i => rankProg (script i) n) = .deadlock ↔ ¬ EndsMatched members script n) ∧
    runJoint fuel (members.map fun i => rankProg (script i) n) ≠ .outOfFuel := by
  rw [runJoint_rankProgs members n fuel script hf, ← ends_matched_executable]
  cases endsMatchedB members script n <;> simp

/-- Sufficient for a matched end: no member ends with `reactivate()`, or the last section failed somewhere, or every
member ends with `reactivate()`. -/
theorem ends_matched_sufficient (members : List Nat) (n' : Nat) (script : Nat → Nat → Arm × Act) :
    ((∀ i ∈ members, (script i n').2 ≠ .react) → EndsMatched members script (n' + 1)) ∧
    ((∃ j ∈ members, fails (script j n').2 = true) → EndsMatched members script (n' + 1)) ∧
    ((∀ i ∈ members, (script i n').2 = .react) → EndsMatched members script (n' + 1)) ∧
    EndsMatched members script 0 := by
  refine ⟨fun h => Or.inl fun i hi => by simp [endsArmed, h i hi], ?_, ?_, Or.inl fun i _ => rfl⟩
  · intro ⟨j, hj, hf⟩
    refine Or.inl fun i _ => ?_
    have : (members.any fun j => fails (script j n').2) = true := List.any_eq_true.mpr ⟨j, hj, hf⟩
    simp [endsArmed, this]
  · intro h
    by_cases hany : (members.any fun j => fails (script j n').2) = true
    · exact Or.inl fun i _ => by simp [endsArmed, hany]
    · exact Or.inr fun i hi => by simp [endsArmed, h i hi, hany]

/-- three ranks, three sections; rank 1 throws in section 0, rank 2 reports failure in section 2 -/
def exScript : Nat → Nat → Arm × Act
  | 1, 0 => (.fresh, .throwUser)
  | 2, 2 => (.rearm, .finFalse)
  | 0, 1 => (.rearm, .react)
  | _, _ => (.fresh, .finTrue)

theorem exScript_matched : EndsMatched [0, 1, 2] exScript 3 :=
  (ends_matched_sufficient [0, 1, 2] 2 exScript).1 (by decide)

/-- `sections_agree` instantiated (all hypotheses): the theorem's right-hand side is the concrete table -/
example : runJoint 5 ([0, 1, 2].map fun i => rankProg (exScript i) 3) =
    .done [[.guardError, .none, .guardError], [.userExc, .none, .guardError], [.guardError, .none, .guardError]] := by
  rw [sections_agree [0, 1, 2] 3 5 exScript (by decide) exScript_matched]
  decide +kernel

/-- every rank ends with a successful reactivate(): the destructors of the three armed guards match -/
def exAllReact : Nat → Nat → Arm × Act
  | _, _ => (.fresh, .react)

example : runJoint 4 ([0, 1, 2].map fun i => rankProg (exAllReact i) 2) = .done [[.none, .none], [.none, .none], [.none, .none]] := by
  rw [sections_agree [0, 1, 2] 2 4 exAllReact (by decide)
    ((ends_matched_sufficient [0, 1, 2] 1 exAllReact).2.2.1 (by decide))]
  decide +kernel

/-- the unmatched end is a real deadlock of the model (rank 0 re-armed, rank 1 is done) -/
def exMixed : Nat → Nat → Arm × Act
  | 0, _ => (.fresh, .react)
  | _, _ => (.fresh, .finTrue)

example : runJoint 4 ([0, 1].map fun i => rankProg (exMixed i) 1) = .deadlock := rfl
example : ¬ EndsMatched [0, 1] exMixed 1 :=
  fun h => absurd ((ends_matched_executable [0, 1] exMixed 1).mpr h) (by decide)

/-- Agreement: if the section `k` fails on any member (exception, scope exit or finalize(false)), every member that
reaches the checkpoint in section `k` observes MPIGuardError — for all member sets, all failure subsets, both failure
modes, in each of any number of consecutive sections. -/
theorem agreement (members : List Nat) (n fuel : Nat) (script : Nat → Nat → Arm × Act) (hf : n + 1 < fuel)
    (hend : EndsMatched members script n) :
    ∃ out, runJoint fuel (members.map fun i => rankProg (script i) n) = .done out ∧
      out.length = members.length ∧
      ∀ (p i : Nat), members[p]? = some i → ∃ row : List Obs, out[p]? = some row ∧ row.length = n ∧
        ∀ k, k < n → (∃ j ∈ members, fails (script j k).2 = true) → reaches (script i k).2 = true →
          row[k]? = some Obs.guardError := by
  refine ⟨_, sections_agree members n fuel script hf hend, List.length_map _, fun p i hp => ?_⟩
  refine ⟨_, rows_getElem? members _ hp, by simp, fun k hk hfail hreach => ?_⟩
  rw [rows_getElem? _ _ (List.getElem?_range hk), specObs_of_failure members script i k hfail hreach]

/-- `agreement` instantiated: in section 0 rank 1 throws, ranks 0 and 2 reach the checkpoint and see the error -/
example : ∃ out, runJoint 5 ([0, 1, 2].map fun i => rankProg (exScript i) 3) = .done out ∧ out.length = 3 ∧
    ∃ row : List Obs, out[2]? = some row ∧ row[0]? = some Obs.guardError := by
  obtain ⟨out, h1, h2, h3⟩ := agreement [0, 1, 2] 3 5 exScript (by decide) exScript_matched
  obtain ⟨row, hr, _, hk⟩ := h3 2 2 (by decide)
  exact ⟨out, h1, h2, row, hr, hk 0 (by decide) ⟨1, by simp, by decide⟩ (by decide)⟩

/-- No failure, no error: if no member fails in section `k`, no member observes MPIGuardError there (every member
observes nothing at all). -/
theorem no_failure_no_error (members : List Nat) (n fuel : Nat) (script : Nat → Nat → Arm × Act) (hf : n + 1 < fuel)
    (hend : EndsMatched members script n) :
    ∃ out, runJoint fuel (members.map fun i => rankProg (script i) n) = .done out ∧
      ∀ (p i : Nat), members[p]? = some i → ∃ row : List Obs, out[p]? = some row ∧
        ∀ k, k < n → (∀ j ∈ members, fails (script j k).2 = false) → row[k]? = some Obs.none := by
  refine ⟨_, sections_agree members n fuel script hf hend, fun p i hp => ?_⟩
  refine ⟨_, rows_getElem? members _ hp, fun k hk hno => ?_⟩
  rw [rows_getElem? _ _ (List.getElem?_range hk),
    specObs_of_no_failure members script i k hno (List.mem_of_getElem? hp)]

/-- The user's own exception is never replaced and a failing rank never hangs: in the joint run, a rank that throws
sees its own exception and a rank leaving the scope sees nothing, in every section of every case. -/
theorem failing_rank_passes (members : List Nat) (n fuel : Nat) (script : Nat → Nat → Arm × Act) (hf : n + 1 < fuel)
    (hend : EndsMatched members script n) :
    ∃ out, runJoint fuel (members.map fun i => rankProg (script i) n) = .done out ∧
      ∀ (p i : Nat), members[p]? = some i → ∃ row : List Obs, out[p]? = some row ∧
        ∀ k, k < n → ((script i k).2 = .throwUser → row[k]? = some Obs.userExc) ∧
          ((script i k).2 = .leave → row[k]? = some Obs.none) := by
  refine ⟨_, sections_agree members n fuel script hf hend, fun p i hp => ?_⟩
  refine ⟨_, rows_getElem? members _ hp, fun k hk => ?_⟩
  rw [rows_getElem? _ _ (List.getElem?_range hk), specObs]
  constructor
  · intro h
    rw [h]
    rfl
  · intro h
    rw [h]
    rfl

/-- A future returned by a non-blocking operation is valid exactly until the result is taken: after any call history
`h` (valid/ready/wait/get/spin and the operation completing at any point) it is valid iff `h` contains no `get`.
All four classes. -/
theorem future_valid_until_get (initial incoming : List Int) (h : List FOp) :
    ((final MpiFut.step (MpiFut.start initial incoming) h).valid = !h.contains .get) ∧
    ((final MpiVoid.step MpiVoid.start h).valid = !h.contains .get) ∧
    ((final PseudoFut.step (PseudoFut.start incoming) h).valid = !h.contains .get) ∧
    ((final PseudoVoid.step PseudoVoid.start h).valid = !h.contains .get) := by
  have h1 : (final MpiFut.step (MpiFut.start initial incoming) h).valid = !h.contains .get :=
    MpiFut.protocol.final_valid _ h
  have h3 : (final PseudoFut.step (PseudoFut.start incoming) h).valid = !h.contains .get :=
    PseudoFut.protocol.final_valid _ h
  refine ⟨h1, ?_, h3, ?_⟩
  · exact (congrArg MpiVoid.valid (trace_sim mpiVoid_step (MpiFut.start initial incoming) h).2).trans h1
  · exact (congrArg PseudoVoid.valid (trace_sim pseudoVoid_step (PseudoFut.start incoming) h).2).trans h3

example : (final MpiFut.step (MpiFut.start [-777] [42]) [.valid, .ready, .complete, .wait]).valid = true := rfl
example : (final MpiFut.step (MpiFut.start [-777] [42]) [.valid, .get, .valid]).valid = false := rfl

/-- Exactly once, exactly the operation's data: over any call history the payloads handed out by `get` are the list
`[incoming]` if the history contains a `get` and `[]` otherwise — never the stale buffer contents `initial`, never
twice. -/
theorem get_once (initial incoming : List Int) (h : List FOp) :
    dataOf (trace MpiFut.step (MpiFut.start initial incoming) h) = (if h.contains .get then [incoming] else []) ∧
    dataOf (trace PseudoFut.step (PseudoFut.start incoming) h) = (if h.contains .get then [incoming] else []) :=
  ⟨(MpiFut.protocol.valid_run (MpiFut.start initial incoming) rfl h).1,
    (PseudoFut.protocol.valid_run (PseudoFut.start incoming) rfl h).1⟩

example : trace MpiFut.step (MpiFut.start [-777] [42]) [.ready, .get, .get, .valid] =
    [.bool false, .data [42], .errInvalid, .bool false] := rfl

/-- Exactly once, also where there is no payload to look at: over any call history the number of `get` calls that
return (are not answered by InvalidFutureException) is 1 if the history contains a `get` and 0 otherwise.  All four
classes. -/
theorem get_succeeds_once (initial incoming : List Int) (h : List FOp) :
    succGets h (trace MpiFut.step (MpiFut.start initial incoming) h) = (if h.contains .get then 1 else 0) ∧
    succGets h (trace MpiVoid.step MpiVoid.start h) = (if h.contains .get then 1 else 0) ∧
    succGets h (trace PseudoFut.step (PseudoFut.start incoming) h) = (if h.contains .get then 1 else 0) ∧
    succGets h (trace PseudoVoid.step PseudoVoid.start h) = (if h.contains .get then 1 else 0) := by
  have h1 := (MpiFut.protocol.valid_run (MpiFut.start initial incoming) rfl h).2
  have h3 := (PseudoFut.protocol.valid_run (PseudoFut.start incoming) rfl h).2
  refine ⟨h1, ?_, h3, ?_⟩
  · exact (void_judgements mpiVoid_step (MpiFut.start initial incoming) h).1.trans h1
  · exact (void_judgements pseudoVoid_step (PseudoFut.start incoming) h).1.trans h3

example : succGets [.get, .wait, .get, .get] (trace MpiVoid.step MpiVoid.start [.get, .wait, .get, .get]) = 1 := by
  decide +kernel

/-- After the result has been taken every further `get` and `wait` is answered with InvalidFutureException (no stale
data, no blocking), whatever happened before and whatever follows. -/
theorem get_after_get_error (initial incoming : List Int) (h1 h2 : List FOp) :
    MisuseReported h2 (trace MpiFut.step (final MpiFut.step (MpiFut.start initial incoming) (h1 ++ [.get])) h2) ∧
    MisuseReported h2 (trace PseudoFut.step (final PseudoFut.step (PseudoFut.start incoming) (h1 ++ [.get])) h2) := by
  constructor
  · refine (MpiFut.protocol.invalid_run _ ?_ h2).1
    rw [MpiFut.protocol.final_valid]
    simp
  · refine (PseudoFut.protocol.invalid_run _ ?_ h2).1
    rw [PseudoFut.protocol.final_valid]
    simp

/-- Misuse of any invalid future — result taken, or default constructed, whatever its request — in all four
classes: over every call history every `wait` and `get` is answered with InvalidFutureException, no payload is handed
out and no `get` returns. -/
theorem invalid_future_misuse (h : List FOp) :
    (∀ f : MpiFut, f.valid = false → MisuseReported h (trace MpiFut.step f h) ∧
      dataOf (trace MpiFut.step f h) = [] ∧ succGets h (trace MpiFut.step f h) = 0) ∧
    (∀ f : MpiVoid, f.valid = false → MisuseReported h (trace MpiVoid.step f h) ∧
      succGets h (trace MpiVoid.step f h) = 0) ∧
    (∀ f : PseudoFut, f.valid = false → MisuseReported h (trace PseudoFut.step f h) ∧
      dataOf (trace PseudoFut.step f h) = [] ∧ succGets h (trace PseudoFut.step f h) = 0) ∧
    (∀ f : PseudoVoid, f.valid = false → MisuseReported h (trace PseudoVoid.step f h) ∧
      succGets h (trace PseudoVoid.step f h) = 0) := by
  refine ⟨fun f hv => MpiFut.protocol.invalid_run f hv h, ?_, fun f hv => PseudoFut.protocol.invalid_run f hv h, ?_⟩
  -- a void future `f` is `eraseMpi (liftMpi f)` resp. `erasePseudo (liftPseudo f)` by structure eta, so
  -- `void_judgements` on the lifted state speaks about `f`
  · intro f hv
    obtain ⟨hm, _, hg⟩ := MpiFut.protocol.invalid_run (liftMpi f) hv h
    obtain ⟨eg, em, _⟩ := void_judgements mpiVoid_step (liftMpi f) h
    exact ⟨em hm, eg.trans hg⟩
  · intro f hv
    obtain ⟨hm, _, hg⟩ := PseudoFut.protocol.invalid_run (liftPseudo f) hv h
    obtain ⟨eg, em, _⟩ := void_judgements pseudoVoid_step (liftPseudo f) h
    exact ⟨em hm, eg.trans hg⟩

example : trace MpiFut.step MpiFut.invalid [.get, .wait, .valid, .get] =
    [.errInvalid, .errInvalid, .bool false, .errInvalid] := rfl

/-- `wait()` on an invalid future (result taken, or default constructed) throws InvalidFutureException immediately:
no MPI_Wait is issued, the state is unchanged.  All four classes. -/
theorem wait_invalid_error :
    (∀ f : MpiFut, f.valid = false → MpiFut.step f .wait = (.errInvalid, f)) ∧
    (∀ f : MpiVoid, f.valid = false → MpiVoid.step f .wait = (.errInvalid, f)) ∧
    (∀ f : PseudoFut, f.valid = false → PseudoFut.step f .wait = (.errInvalid, f)) ∧
    (∀ f : PseudoVoid, f.valid = false → PseudoVoid.step f .wait = (.errInvalid, f)) := by
  refine ⟨?_, ?_, ?_, ?_⟩ <;> intro f hv <;> cases f <;> cases hv <;> rfl

example : MpiVoid.step MpiVoid.invalid .wait = (.errInvalid, MpiVoid.invalid) := rfl

/-- Ready once the operation has completed: after the operation completed (environment step), or after a `wait`,
every later `ready()` (and polling loop) answers true — for ever, whatever else is called in between; a
PseudoFuture is ready as long as it is valid.  MPIFuture<void> alike. -/
theorem ready_after_complete (initial incoming : List Int) (h0 h : List FOp) :
    AlwaysReady h (trace MpiFut.step (final MpiFut.step (MpiFut.start initial incoming) (h0 ++ [.complete])) h) ∧
    AlwaysReady h (trace MpiFut.step (final MpiFut.step (MpiFut.start initial incoming) (h0 ++ [.wait])) h) ∧
    AlwaysReady h (trace MpiVoid.step (final MpiVoid.step MpiVoid.start (h0 ++ [.complete])) h) ∧
    AlwaysReady h (trace MpiVoid.step (final MpiVoid.step MpiVoid.start (h0 ++ [.wait])) h) ∧
    (h.contains .get = false → AlwaysReady h (trace PseudoFut.step (PseudoFut.start incoming) h)) ∧
    (h.contains .get = false → AlwaysReady h (trace PseudoVoid.step PseudoVoid.start h)) := by
  have hc := MpiFut.ready_after (MpiFut.start initial incoming) h0 .complete h (MpiFut.complete_notPending _)
  have hw := MpiFut.ready_after (MpiFut.start initial incoming) h0 .wait h
    (MpiFut.wait_notPending _ (MpiFut.inv_final _ h0 nofun))
  have e : MpiVoid.start = eraseMpi (MpiFut.start initial incoming) := rfl
  refine ⟨hc, hw, ?_, ?_, fun hg => PseudoFut.valid_ready _ h hg rfl, fun hg => ?_⟩
  · rw [e, (trace_sim mpiVoid_step _ _).2]
    exact (void_judgements mpiVoid_step _ h).2.2 hc
  · rw [e, (trace_sim mpiVoid_step _ _).2]
    exact (void_judgements mpiVoid_step _ h).2.2 hw
  · exact (void_judgements pseudoVoid_step (PseudoFut.start incoming) h).2.2 (PseudoFut.valid_ready _ h hg rfl)

/-- Readiness is stable: once a `ready()` of an MPI future has answered true (after any history), every later
`ready()` and polling loop answers true, whatever is called in between. -/
theorem ready_stays_true (initial incoming : List Int) (h0 h : List FOp)
    (ht : (MpiFut.step (final MpiFut.step (MpiFut.start initial incoming) h0) .ready).1 = .bool true) :
    AlwaysReady h (trace MpiFut.step (final MpiFut.step (MpiFut.start initial incoming) (h0 ++ [.ready])) h) :=
  MpiFut.ready_after _ h0 .ready h (MpiFut.ready_true_notPending _ ht)

example : AlwaysReady [.ready, .valid, .spin]
    (trace MpiFut.step (final MpiFut.step (MpiFut.start [0] [5]) ([.complete] ++ [.ready])) [.ready, .valid, .spin]) :=
  ready_stays_true [0] [5] [.complete] _ (by decide)

/-- Before completion `ready()` does not lie: while the request is pending it answers false. -/
theorem ready_false_while_pending (f : MpiFut) (hr : f.req = .pending) : (MpiFut.step f .ready).1 = .bool false := by
  simp [MpiFut.step, MpiFut.ready, mpiTest, hr]

example : trace MpiFut.step (MpiFut.start [0] [5]) [.ready, .complete, .ready, .valid, .ready] =
    [.bool false, .env, .bool true, .bool true, .bool true] := rfl

/-- The void futures follow the same protocol: for every call history, MPIFuture<void> (resp. PseudoFuture<void>)
answers exactly like MPIFuture<T> (resp. PseudoFuture<T>) with the payload erased.  (False for the code before
fixes/C19_mpifuture_void_get.patch: there `get` left MPIFuture<void> valid.) -/
theorem void_future_same_protocol (h : List FOp) :
    (∀ f : MpiFut, trace MpiVoid.step (eraseMpi f) h = (trace MpiFut.step f h).map eraseObs) ∧
    (∀ f : PseudoFut, trace PseudoVoid.step (erasePseudo f) h = (trace PseudoFut.step f h).map eraseObs) :=
  ⟨fun f => (trace_sim mpiVoid_step f h).1, fun f => (trace_sim pseudoVoid_step f h).1⟩

example : trace MpiVoid.step MpiVoid.start [.get, .valid, .get, .wait] =
    [.ok, .bool false, .errInvalid, .errInvalid] := rfl

/-- The type-erased `Dune::Future<T>` adds nothing and hides nothing: holding a future it answers every call history
exactly like that future (so all theorems above hold for it), and `Future<void>` around a future with a payload
answers with the payload erased. -/
theorem erased_future_transparent {σ : Type} (inner : σ → FOp → FObs × σ) (f : σ) (h : List FOp) :
    trace (erasedStep inner) (some f) h = trace inner f h ∧
    final (erasedStep inner) (some f) h = some (final inner f h) ∧
    trace (voidCastStep inner) f h = (trace inner f h).map eraseObs :=
  have hs := trace_sim (show Sim inner (erasedStep inner) some id from fun _ _ => rfl) f h
  have hv := trace_sim (show Sim inner (voidCastStep inner) id eraseObs from fun _ _ => rfl) f h
  ⟨hs.1.trans (List.map_id _), hs.2, hv.1⟩

example : trace (erasedStep MpiFut.step) (some (MpiFut.start [-777] [42])) [.ready, .get, .get] =
    [.bool false, .data [42], .errInvalid] := rfl

/-- A default-constructed or moved-from `Dune::Future<T>` (null pointer) reports misuse: over every call history
every `wait` and `get` throws InvalidFutureException, nothing is handed out, it stays null, and `valid()` answers
false.  (False for the code before fixes/C19_future_null_invalid.patch: there wait/get/ready dereferenced the null
pointer.) -/
theorem null_future_reports_misuse {σ : Type} (inner : σ → FOp → FObs × σ) (h : List FOp) :
    MisuseReported h (trace (erasedStep inner) none h) ∧ dataOf (trace (erasedStep inner) none h) = [] ∧
      succGets h (trace (erasedStep inner) none h) = 0 ∧ final (erasedStep inner) none h = none ∧
      (erasedStep inner none .valid).1 = .bool false :=
  have hn := dead_run (erasedStep inner) (· = none)
    (fun s o hs => by subst hs; exact ⟨by cases o <;> rfl, by cases o <;> rfl, by rintro (rfl | rfl) <;> rfl⟩) none rfl h
  ⟨hn.2.1, hn.2.2.1, hn.2.2.2, hn.1, rfl⟩

example : trace (erasedStep PseudoFut.step) none [.valid, .wait, .get, .ready] =
    [.bool false, .errInvalid, .errInvalid, .errInvalid] := rfl

/-- Move assignment hands over the *whole* future: for every state `t` of the target (default constructed, result
taken, still holding the result and the send object of an earlier operation, even with a request in flight) and every
state `s` of the source, after `t = std::move(s)` the target is exactly `s` — request, receive buffer *and* send
object — and the source (the temporary that is destroyed at the end of the statement) is exactly the old `t`, so that
nothing belonging to the new operation is destroyed with it.  `MPIFuture<R>`, `MPIFuture<void>`, `MPIFuture<R,S>`
(statement-by-statement transcriptions of the swaps), `PseudoFuture` (implicit member-wise assignment) and
`Dune::Future` (`unique_ptr` assignment: source becomes null).  (False for an `operator=` that does not swap
`send_data_`.) -/
theorem move_assign_transfers :
    (∀ t s : MpiFut, MpiFut.moveAssign t s = (s, t)) ∧
    (∀ t s : MpiVoid, MpiVoid.moveAssign t s = (s, t)) ∧
    (∀ t s : MpiFut2, MpiFut2.moveAssign t s = (s, t)) ∧
    (∀ t s : PseudoFut, PseudoFut.moveAssign t s = s) ∧
    (∀ t s : PseudoVoid, PseudoVoid.moveAssign t s = s) ∧
    (∀ (σ : Type) (t s : Option σ), erasedAssign t s = (s, none)) :=
  ⟨fun _ _ => rfl, fun _ _ => rfl, fun _ _ => rfl, fun _ _ => rfl, fun _ _ => rfl, fun _ _ _ => rfl⟩

/-- a variable that holds the result `[1,2]` and the send object `[9]` of an earlier, completed operation is assigned
the future of a new operation that is still in flight -/
example : MpiFut2.moveAssign
      { base := { valid := true, req := .null, buf := [1, 2], incoming := [1, 2] }, send := some [9] }
      (MpiFut2.start [-777] [42] [7]) =
    (MpiFut2.start [-777] [42] [7],
      { base := { valid := true, req := .null, buf := [1, 2], incoming := [1, 2] }, send := some [9] }) := rfl

/-- Move construction: the new object is exactly the future it was constructed from (request, receive buffer, send
object). -/
theorem move_construct_transfers :
    (∀ s : MpiFut, MpiFut.moveConstruct s = s) ∧ (∀ s : MpiVoid, MpiVoid.moveConstruct s = s) ∧
    (∀ s : MpiFut2, MpiFut2.moveConstruct s = s) :=
  ⟨fun _ => rfl, fun _ => rfl, fun _ => rfl⟩

example : MpiFut2.moveConstruct (MpiFut2.start [-777] [42] [7]) = MpiFut2.start [-777] [42] [7] := rfl

/-- No stale data from a re-used variable: whatever state `t` the variable is in — whatever operation it served
before and however far that was consumed — after `t = <future of the new operation>` every call history `h` is
answered exactly as by the fresh future of the new operation.  In particular the payloads handed out by `get` are
`[incoming]` of the *new* operation or nothing (never the buffer or the result of the old one), a two-buffer future
hands back the send object of the new operation, and the destroyed temporary holds the old request (no request of the
new operation is cancelled). -/
theorem reused_future_no_stale (initial incoming send : List Int) (h : List FOp) (h2 : List FOp2) :
    (∀ t : MpiFut, trace MpiFut.step (MpiFut.moveAssign t (MpiFut.start initial incoming)).1 h =
        trace MpiFut.step (MpiFut.start initial incoming) h ∧
      dataOf (trace MpiFut.step (MpiFut.moveAssign t (MpiFut.start initial incoming)).1 h) =
        (if h.contains .get then [incoming] else []) ∧
      (MpiFut.moveAssign t (MpiFut.start initial incoming)).2.req = t.req) ∧
    (∀ t : MpiVoid, trace MpiVoid.step (MpiVoid.moveAssign t MpiVoid.start).1 h = trace MpiVoid.step MpiVoid.start h) ∧
    (∀ t : MpiFut2, runFut2 (MpiFut2.moveAssign t (MpiFut2.start initial incoming send)).1 h2 =
        runFut2 (MpiFut2.start initial incoming send) h2 ∧
      (MpiFut2.moveAssign t (MpiFut2.start initial incoming send)).1.send = some send ∧
      (MpiFut2.moveAssign t (MpiFut2.start initial incoming send)).2 = t) ∧
    (∀ t : PseudoFut, trace PseudoFut.step (PseudoFut.moveAssign t (PseudoFut.start incoming)) h =
        trace PseudoFut.step (PseudoFut.start incoming) h) := by
  obtain ⟨a1, a2, a3, a4, _, _⟩ := move_assign_transfers
  refine ⟨fun t => ?_, fun t => by rw [a2], fun t => ?_, fun t => by rw [a4]⟩
  · rw [a1]
    exact ⟨rfl, (get_once initial incoming h).1, rfl⟩
  · rw [a3]
    exact ⟨rfl, rfl, rfl⟩

/-- the variable served an operation delivering `[1,2]`, the result was taken; it is assigned the future of an
operation delivering `[42]`: `get` delivers `[42]`, once -/
example : trace MpiFut.step
      (MpiFut.moveAssign (final MpiFut.step (MpiFut.start [0, 0] [1, 2]) [.get]) (MpiFut.start [-777] [42])).1
      [.valid, .get, .get] = [.bool true, .data [42], .errInvalid] := rfl

/-- The two-buffer future `MPIFuture<R,S>` follows the same protocol: for every history of the calls every future has
(valid/ready/wait/get/spin, completion at any point) and every state, request and receive buffer answer and evolve
exactly as those of `MPIFuture<R>` — so every theorem above holds for it — and the send object stays in the future
(it is kept alive while the operation may be in flight, whatever is called). -/
theorem two_buffer_same_protocol (f : MpiFut2) (h : List FOp) :
    runFut2 f (h.map .call) =
      some (trace MpiFut.step f.base h, { base := final MpiFut.step f.base h, send := f.send }) :=
  runFut2_calls f h

example : runFut2 (MpiFut2.start [-777] [42] [7]) ([FOp.ready, .get, .get].map .call) =
    some ([.bool false, .data [42], .errInvalid],
      { base := { valid := false, req := .null, buf := [42], incoming := [42] }, send := some [7] }) := rfl

/-- `get_send_data()` hands back exactly the send object of the operation, and only after the operation has
completed.  For the future of a two-buffer operation, every history `h1` of calls before and `h2` after:
the call is answered with the send object `send` — or with InvalidFutureException if the result had been taken
(`h1` contains a `get`) —, all other calls are answered as if it had been a `wait()` (so the request is complete and
null afterwards: the object is not released while MPI may still read it, and a later `get` still delivers the
operation's data), and the future owns the send object exactly until then. -/
theorem send_data_once (initial incoming send : List Int) (h1 h2 : List FOp) :
    runFut2 (MpiFut2.start initial incoming send) (h1.map .call ++ .sendData :: h2.map .call) =
      some (trace MpiFut.step (MpiFut.start initial incoming) h1 ++
          (if h1.contains .get then FObs.errInvalid else .data send) ::
          trace MpiFut.step (final MpiFut.step (MpiFut.start initial incoming) (h1 ++ [.wait])) h2,
        { base := final MpiFut.step (MpiFut.start initial incoming) (h1 ++ [.wait] ++ h2),
          send := if h1.contains .get then some send else none }) := by
  rw [runFut2_sendData _ send rfl]
  simp only [MpiFut2.start, (future_valid_until_get initial incoming h1).1]
  cases h1.contains FOp.get <;> rfl

example : runFut2 (MpiFut2.start [-777] [42] [7]) ([FOp2.call .ready, .sendData, .call .ready, .call .get]) =
    some ([.bool false, .data [7], .bool true, .data [42]],
      { base := { valid := false, req := .null, buf := [42], incoming := [42] }, send := none }) := rfl

example : runFut2 (MpiFut2.start [-777] [42] [7]) ([FOp2.call .get, .sendData]) =
    some ([.data [42], .errInvalid],
      { base := { valid := false, req := .null, buf := [42], incoming := [42] }, send := some [7] }) := rfl

/-- What the check does not judge: a second `get_send_data()` while the future is still valid (no `get` so far)
dereferences the emptied buffer — the model has no answer (`none`), the harness and the driver reject such lines.
Together with `send_data_once` this is exact for histories with up to two such calls. -/
theorem send_data_twice_undefined (initial incoming send : List Int) (h1 h2 h3 : List FOp2)
    (hg1 : h1.all (· ≠ .call .get)) (hs1 : h1.all (· ≠ .sendData))
    (hg2 : h2.all (· ≠ .call .get)) (hs2 : h2.all (· ≠ .sendData)) :
    runFut2 (MpiFut2.start initial incoming send) (h1 ++ .sendData :: (h2 ++ .sendData :: h3)) = none := by
  obtain ⟨c1, rfl, n1⟩ := calls_without_get h1 hg1 hs1
  obtain ⟨c2, rfl, n2⟩ := calls_without_get h2 hg2 hs2
  rw [← List.cons_append, ← List.append_assoc, runFut2_append, send_data_once, n1]
  simp only [Option.bind_some, Bool.false_eq_true, if_false]
  -- the second call finds the send object gone and the future still valid
  rw [runFut2_cons, sendData_none]
  · rfl
  · rw [(future_valid_until_get initial incoming _).1, List.contains_append, List.contains_append, n1, n2]
    rfl

example : runFut2 (MpiFut2.start [-777] [42] [7]) [.sendData, .call .valid, .sendData] = none := rfl

/-! `Gen/C19.lean` is regenerated from `mpiguard.hh`, `mpifuture.hh`, `future.hh` and the non-blocking members of
`mpicommunication.hh`, `communication.hh` by `tools/translators/tr_c19.py` on every run.  The theorems below are proved
about the *generated* definitions: they say that the generated guard programs and the generated member bodies of the
future classes (interpreted by `Interp`) are, for every state, the hand-written model all theorems above are about.
A change of the source that changes one of these bodies makes the theorem false (or leaves the translator's grammar),
which `check.py` reports as a broken obligation and answers with a search for a failing input. -/

/-- `finalize(bool)`, `reactivate()`, `~MPIGuard()` as read from mpiguard.hh are the model's programs — same
contribution to the collective, same `active_` afterwards, MPIGuardError thrown in the same cases, for every guard
state, every argument and every global sum — and the default argument of `finalize` is `true`. -/
theorem gen_guard_is_model :
    Gen.Guard.finalize = finalize ∧ Gen.Guard.reactivate = reactivate ∧
    (∀ g, (Gen.Guard.destroy g).bind (fun r => Prog.ret r.2) = destroy g) ∧
    Gen.Guard.finalizeDefaultArg = some true :=
  ⟨funext fun g => funext fun s => gen_finalize g s, funext gen_reactivate, gen_destroy, rfl⟩

example : runJoint 3 [Gen.Guard.finalize ⟨true⟩ false, Gen.Guard.reactivate ⟨true⟩, Gen.Guard.destroy ⟨true⟩] =
    .done [(⟨false⟩, true), (⟨false⟩, true), (⟨false⟩, false)] := rfl

/-- `finalize` on a guard that is NOT armed (a second `finalize` in a row, `MPIGuard(comm,false)` without `reactivate()`):
it still takes part in the collective with its contribution — so it cannot make the others deadlock — and never throws,
whatever the global sum is; the guard stays unarmed.  (Not a guarded section; the harness does not generate it — this
is what the model, and through `gen_guard_is_model` the source, says about it.) -/
theorem unarmed_finalize_never_throws (success : Bool) :
    ∃ k, Gen.Guard.finalize { active := false } success = Prog.sum (if success then 0 else 1) k ∧
      ∀ total, k total = Prog.ret ({ active := false }, false) := by
  rw [gen_finalize]
  exact ⟨_, rfl, fun total => by simp⟩

example : runJoint 3 [Gen.Guard.finalize ⟨false⟩ false, Gen.Guard.finalize ⟨true⟩ true] =
    .done [(⟨false⟩, false), (⟨false⟩, true)] := rfl

/-- every constructor of `MPIGuard` initialises `active_` with its parameter `active`, whose default is `true`: the arms
`n` (`MPIGuard guard(comm)` = armed) and `m` (`MPIGuard guard(comm,false)` = not armed) of the model. -/
theorem gen_guard_ctor_arms :
    (∀ c ∈ Gen.Guard.ctorActive, ∀ b, c b = b) ∧ (∀ d ∈ Gen.Guard.ctorDefault, d = some true) ∧
    Gen.Guard.ctorActive.length = Gen.Guard.ctorDefault.length ∧ 4 ≤ Gen.Guard.ctorActive.length := by
  refine ⟨?_, ?_, rfl, by decide⟩
  · intro c hc b
    simp only [Gen.Guard.ctorActive, List.mem_cons, List.not_mem_nil, or_false] at hc
    rcases hc with h | h | h | h <;> (subst h; rfl)
  · intro d hd
    simp only [Gen.Guard.ctorDefault, List.mem_cons, List.not_mem_nil, or_false] at hd
    rcases hd with h | h | h | h <;> exact h

example : Gen.Guard.ctorActive.map (· false) = [false, false, false, false] := rfl

/-- `valid`, `wait`, `ready`, `get`, `get_send_data` of `MPIFuture<R,S>` as read from mpifuture.hh, executed on the
generated bodies of `impl::Buffer<T>::get`/`operator bool` (value payloads), of `impl::Buffer<T&>` (lvalue payloads) and
of `impl::Buffer<void>` (`MPIFuture<void>`), answer and change every state exactly like the model's step functions;
the buffers' `get` hands out the object and empties the buffer. -/
theorem gen_future_is_model (f : MpiFut2) (fv : MpiVoid) (v : List Int) :
    (∀ o, genStep2 f o = MpiFut2.step f o) ∧
    genFutRef Gen.MpiFuture.valid f = MpiFut2.step f (.call .valid) ∧
    genFutRef Gen.MpiFuture.wait f = MpiFut2.step f (.call .wait) ∧
    genFutRef Gen.MpiFuture.ready f = MpiFut2.step f (.call .ready) ∧
    genFutRef Gen.MpiFuture.get f = MpiFut2.step f (.call .get) ∧
    genFutRef Gen.MpiFuture.getSendData f = MpiFut2.sendData f ∧
    genVoid Gen.MpiFuture.valid fv = some (MpiVoid.step fv .valid) ∧
    genVoid Gen.MpiFuture.wait fv = some (MpiVoid.step fv .wait) ∧
    genVoid Gen.MpiFuture.ready fv = some (MpiVoid.step fv .ready) ∧
    genVoid Gen.MpiFuture.get fv = some (MpiVoid.step fv .get) ∧
    Interp.bufGet Gen.MpiFuture.bufferValueGet (some v) none = some (v, none) ∧
    Interp.bufGet Gen.MpiFuture.bufferRefGet (some v) none = some (v, none) :=
  ⟨genStep2_eq f, gen_futref_valid f, gen_futref_wait f, gen_futref_ready f, gen_futref_get f, gen_futref_send f,
   (gen_void fv).1, (gen_void fv).2.1, (gen_void fv).2.2.1, (gen_void fv).2.2.2,
   (gen_buffers v none false).1, (gen_buffers v none false).2.1⟩

/-- every call history (any length, `get_send_data` included, completion at any point) executed by the generated
member bodies gives the observations and the final state of the model — so every future theorem above holds for the
code as read. -/
theorem gen_histories_are_model (f : MpiFut2) (h : List FOp2) : genRun2 f h = runFut2 f h := by
  induction h generalizing f with
  | nil => rfl
  | cons o os ih =>
    simp only [genRun2, runFut2, genStep2_eq]
    cases MpiFut2.step f o with
    | none => rfl
    | some r =>
      simp only [ih]
      rfl

example : genRun2 (MpiFut2.start [-777] [42] [7]) [.call .ready, .sendData, .call .get, .call .get, .call .valid] =
    some ([.bool false, .data [7], .data [42], .errInvalid, .bool false],
          { base := { valid := false, req := .null, buf := [42], incoming := [42] }, send := none }) := rfl

/-- `operator=(MPIFuture&&)` as the list of swaps read from the source, and the move constructor as its member
initialisers and swaps, are the model's `moveAssign` / `moveConstruct` (which `move_assign_transfers` and
`move_construct_transfers` show to hand over request, result buffer and send object). -/
theorem gen_moves_are_model (t s : MpiFut2) :
    Interp.moveAssignBy Gen.MpiFuture.assignSwaps t s = MpiFut2.moveAssign t s ∧
    Interp.moveConstructBy Gen.MpiFuture.ctorMoved Gen.MpiFuture.ctorNulled Gen.MpiFuture.ctorSwaps s =
      MpiFut2.moveConstruct s :=
  ⟨gen_move_assign t s, gen_move_construct s⟩

example : Interp.moveAssignBy Gen.MpiFuture.assignSwaps (MpiFut2.start [1] [2] [3]) (MpiFut2.start [-777] [42] [7]) =
    (MpiFut2.start [-777] [42] [7], MpiFut2.start [1] [2] [3]) := rfl

/-- the members of `PseudoFuture<T>` and `PseudoFuture<void>` as read from future.hh are the model's step functions -/
theorem gen_pseudo_is_model (f : PseudoFut) (fv : PseudoVoid) (o : FOp) (ho : o = .valid ∨ o = .wait ∨ o = .ready ∨ o = .get) :
    (∃ body, body ∈ [Gen.PseudoT.valid, Gen.PseudoT.wait, Gen.PseudoT.ready, Gen.PseudoT.get] ∧
       Interp.pseudoRun body f = some (PseudoFut.step f o)) ∧
    (∃ body, body ∈ [Gen.PseudoV.valid, Gen.PseudoV.wait, Gen.PseudoV.ready, Gen.PseudoV.get] ∧
       Interp.pseudoVoidRun body fv = some (PseudoVoid.step fv o)) := by
  have a := gen_pseudo f
  have b := gen_pseudo_void fv
  rcases ho with rfl | rfl | rfl | rfl
  · exact ⟨⟨_, .head _, a.1⟩, ⟨_, .head _, b.1⟩⟩
  · exact ⟨⟨_, .tail _ (.head _), a.2.1⟩, ⟨_, .tail _ (.head _), b.2.1⟩⟩
  · exact ⟨⟨_, .tail _ (.tail _ (.head _)), a.2.2.1⟩, ⟨_, .tail _ (.tail _ (.head _)), b.2.2.1⟩⟩
  · exact ⟨⟨_, .tail _ (.tail _ (.tail _ (.head _))), a.2.2.2⟩, ⟨_, .tail _ (.tail _ (.tail _ (.head _))), b.2.2.2⟩⟩

example : Interp.pseudoRun Gen.PseudoT.get (PseudoFut.start [5]) = some (.data [5], { valid := false, data := [5] }) := by
  decide +kernel

/-- `Dune::Future<T>` as read from future.hh — null test, then the virtual call into `FutureModel<F>`, which forwards to
the future it holds — is `erasedStep` around ANY inner future: transparent when it holds one, InvalidFutureException
(`valid()`: false) when null. -/
theorem gen_erased_is_model {σ : Type} (inner : σ → FOp → FObs × σ) (s : Option σ) :
    genErased inner Gen.Erased.valid s = some (erasedStep inner s .valid) ∧
    genErased inner Gen.Erased.wait s = some (erasedStep inner s .wait) ∧
    genErased inner Gen.Erased.ready s = some (erasedStep inner s .ready) ∧
    genErased inner Gen.Erased.get s = some (erasedStep inner s .get) := gen_erased inner s

example : genErased PseudoFut.step Gen.Erased.get (none : Option PseudoFut) = some (.errInvalid, none) := rfl
example : genErased PseudoFut.step Gen.Erased.get (some (PseudoFut.start [5])) =
    some (.data [5], some { valid := false, data := [5] }) := rfl

/-- The non-blocking members of `Communication<MPI_Comm>` as read from mpicommunication.hh: each posts exactly one
operation — the `MPI_I*` function of its name, on the buffers the future owns (`send_data_` first, `data_` second for
the two-buffer operations, `MPI_IN_PLACE` + `data_` for the in-place reduction) —, stores the request in the future and
returns that future; and for ALL parameter values the future it returns is the start state the theorems above speak
about: valid, request pending, `data_` = the forwarded payload / `data_out`, `send_data_` = `data_in`
(`MPIFuture<TOUT,TIN> future(forward(data_out), forward(data_in))`: receive object first). -/
theorem gen_operations_start (d s r x inc : List Int) :
    (Gen.Ops.mpi.map fun op => (op.name, op.call, op.bufs, op.reqInFuture && op.returnsFuture)) =
      [("ibarrier", "MPI_Ibarrier", [], true), ("ibroadcast", "MPI_Ibcast", [.data], true),
       ("igather", "MPI_Igather", [.sendData, .data], true), ("iscatter", "MPI_Iscatter", [.sendData, .data], true),
       ("iallgather", "MPI_Iallgather", [.sendData, .data], true), ("iallreduce", "MPI_Iallreduce", [.sendData, .data], true),
       ("iallreduce", "MPI_Iallreduce", [.inPlace, .data], true), ("isend", "MPI_Isend", [.data], true),
       ("irecv", "MPI_Irecv", [.data], true)] ∧
    List.zipWith (fun op args => Interp.mpiOpStart op args inc) Gen.Ops.mpi
        [[], [d, r], [s, d, r], [s, d, r], [s, d], [s, d], [d], [d, r, x], [d, r, x]] =
      [some (.mpiVoid MpiVoid.start), some (.mpiOne (MpiFut.start d inc)),
       some (.mpiTwo (MpiFut2.start d inc s)), some (.mpiTwo (MpiFut2.start d inc s)),
       some (.mpiTwo (MpiFut2.start d inc s)), some (.mpiTwo (MpiFut2.start d inc s)),
       some (.mpiOne (MpiFut.start d inc)), some (.mpiOne (MpiFut.start d inc)), some (.mpiOne (MpiFut.start d inc))] :=
  ⟨rfl, rfl⟩

example : (Gen.Ops.mpi[2]?.bind fun op => Interp.mpiOpStart op [[5], [-777, -777], [0]] [5, 7]) =
    some (.mpiTwo (MpiFut2.start [-777, -777] [5, 7] [5])) := rfl

/-- The non-blocking members of the sequential `Communication` as read from communication.hh, for ALL parameter
values: `ibarrier` returns a valid `PseudoFuture<void>`, `ibroadcast` and the in-place `iallreduce` a future holding
the payload, `igather`/`iallgather` the output object with its first entry replaced by the input, `iscatter` the first
entry of the input, the two-argument `iallreduce` the input — the data "of the completed operation" on one process. -/
theorem gen_seq_operations_start (x o : Int) (rest data inp out root : List Int) :
    Gen.Ops.seq.map (fun op => (op.name, op.arity)) =
      [("ibarrier", 0), ("ibroadcast", 2), ("igather", 3), ("iscatter", 3), ("iallgather", 2), ("iallreduce", 2),
       ("iallreduce", 1)] ∧
    List.zipWith Interp.seqOpStart Gen.Ops.seq
        [[], [data, root], [[x], o :: rest, root], [x :: rest, out, root], [[x], o :: rest], [inp, out], [data]] =
      [some (.pseudoVoid PseudoVoid.start), some (.pseudoOne (PseudoFut.start data)),
       some (.pseudoOne (PseudoFut.start (x :: rest))), some (.pseudoOne (PseudoFut.start [x])),
       some (.pseudoOne (PseudoFut.start (x :: rest))), some (.pseudoOne (PseudoFut.start inp)),
       some (.pseudoOne (PseudoFut.start data))] :=
  ⟨rfl, rfl⟩

example : (Gen.Ops.seq[3]?.bind fun op => Interp.seqOpStart op [[4, 5, 6], [-777], [0]]) = some (.pseudoOne (PseudoFut.start [4])) := by
  decide +kernel

end DV.C19
