import DuneVerif.Proofs.C07
/-!
# C07 — the collectives (core Lean only)

`gatherv`/`scatterv` with prefix-sum and with arbitrary displacements, `gather`/`scatter`, reductions as trees and cell
by cell, and the sequential stand-in `Communication<No_Comm>`.

Facts about a fold over the ranks that do not depend on the position come from core: an invariant of the fold by
`List.foldlRecOn`, a map that commutes with the step by `List.foldl_hom` (behind `List.foldl_map` when the list is mapped).
The inductions over the ranks written out here are those that carry a running displacement.
-/
namespace DV.C07.Proofs
open DV.C07 TMap

theorem flatten_length_parts {α} (e : Nat) (parts : List (List α × Nat)) (hl : ∀ p ∈ parts, p.1.length = p.2 * e) :
    (parts.map (·.1)).flatten.length = (parts.map (·.2)).sum * e := by
  induction parts with
  | nil => simp
  | cons p ps ih =>
    simp only [List.map_cons, List.flatten_cons, List.length_append, List.sum_cons, Nat.add_mul]
    rw [ih (fun q hq => hl q (by simp [hq])), hl p (by simp)]

theorem gathervAt_prefix_gen {α} (tm : TMap) (hwf : tm.wf) (parts : List (List α × Nat))
    (hl : ∀ p ∈ parts, p.1.length = p.2 * tm.extent) (s : Nat) (out : List α) :
    Spec.gathervAt tm (parts.map (·.1)) (parts.map (·.2)) (prefixSumsFrom s (parts.map (·.2))) out
      = transferN tm (parts.map (·.2)).sum (parts.map (·.1)).flatten 0 out (s * tm.extent) := by
  induction parts generalizing s out with
  | nil => rfl
  | cons p ps ih =>
    have ih' := ih (fun q hq => hl q (List.mem_cons_of_mem _ hq)) (s + p.2) (transferN tm p.2 p.1 0 out (s * tm.extent))
    simp only [Spec.gathervAt, List.map_cons, prefixSumsFrom, List.zip_cons_cons, List.foldl_cons] at ih' ⊢
    rw [ih', List.flatten_cons, List.sum_cons, transferN_append tm hwf _ _ _ _ (hl p List.mem_cons_self), Nat.add_mul]

theorem gatherAt_concat_gen {α} (tm : TMap) (hwf : tm.wf) (n : Nat) (ins : List (List α))
    (hl : ∀ inp ∈ ins, inp.length = n * tm.extent) (k : Nat) (out : List α) :
    (ins.zipIdx k).foldl (fun acc p => transferN tm n p.1 0 acc (p.2 * n * tm.extent)) out
      = transferN tm (ins.length * n) ins.flatten 0 out (k * n * tm.extent) := by
  induction ins generalizing k out with
  | nil => rw [List.length_nil, Nat.zero_mul]; rfl
  | cons x xs ih =>
    rw [List.zipIdx_cons, List.foldl_cons, ih (fun q hq => hl q (List.mem_cons_of_mem _ hq)), List.length_cons,
      List.flatten_cons, show (xs.length + 1) * n = n + xs.length * n by rw [Nat.succ_mul, Nat.add_comm],
      transferN_append tm hwf _ _ _ _ (hl x List.mem_cons_self), Nat.succ_mul k, Nat.add_mul]

theorem gatherAt_concat {α} (tm : TMap) (hwf : tm.wf) (n : Nat) (ins : List (List α))
    (hl : ∀ inp ∈ ins, inp.length = n * tm.extent) (out : List α) :
    Spec.gatherAt tm n ins out = transferN tm (ins.length * n) ins.flatten 0 out 0 := by
  rw [Spec.gatherAt, gatherAt_concat_gen tm hwf n ins hl 0 out, Nat.zero_mul, Nat.zero_mul]

theorem gatherAt_full {α} (e n : Nat) (ins : List (List α)) (hl : ∀ inp ∈ ins, inp.length = n * e) (out : List α)
    (hout : out.length = ins.length * n * e) : Spec.gatherAt (full e) n ins out = ins.flatten := by
  rw [gatherAt_concat (full e) (full_wf e) n ins hl out]
  exact transferN_full_all e _ _ out (by rw [flatten_length_uniform _ ins hl, Nat.mul_assoc]) hout

theorem prefixSumsFrom_getD (s : Nat) (ls : List Nat) (r : Nat) (hr : r < ls.length) :
    (prefixSumsFrom s ls).getD r 0 = s + (ls.take r).sum := by
  induction ls generalizing s r with
  | nil => exact absurd hr (Nat.not_lt_zero _)
  | cons l ls ih =>
    cases r with
    | zero => rfl
    | succ r =>
      rw [prefixSumsFrom, List.getD_cons_succ, ih (s + l) r (Nat.lt_of_succ_lt_succ hr), List.take_succ_cons,
        List.sum_cons, Nat.add_assoc]

theorem flatten_getElem?_at {α} (ls : List (List α)) (r : Nat) (hr : r < ls.length) (j : Nat) (hj : j < ls[r].length) :
    ls.flatten[(ls.take r).flatten.length + j]? = ls[r][j]? := by
  have h : ls.flatten = (ls.take r).flatten ++ (ls[r] ++ (ls.drop (r + 1)).flatten) := by
    rw [← List.flatten_cons, ← List.drop_eq_getElem_cons hr, ← List.flatten_append, List.take_append_drop]
  rw [h, List.getElem?_append_right (Nat.le_add_right _ _), Nat.add_sub_cancel_left, List.getElem?_append_left hj]

theorem flatten_getElem?_uniform {α} (m : Nat) (parts : List (List α)) (hl : ∀ p ∈ parts, p.length = m)
    (r : Nat) (hr : r < parts.length) (j : Nat) (hj : j < m) :
    parts.flatten[r * m + j]? = (parts[r])[j]? := by
  rw [← flatten_getElem?_at parts r hr j (by rwa [hl _ (List.getElem_mem hr)]),
    flatten_length_uniform m _ (fun p hp => hl p (List.mem_of_mem_take hp)), List.length_take_of_le (Nat.le_of_lt hr)]

theorem flatten_getElem?_parts {α} (e : Nat) (parts : List (List α × Nat)) (hl : ∀ p ∈ parts, p.1.length = p.2 * e)
    (r : Nat) (hr : r < parts.length) (j : Nat) (hj : j < parts[r].2 * e) :
    (parts.map (·.1)).flatten[((parts.map (·.2)).take r).sum * e + j]? = (parts[r].1)[j]? := by
  have hr' : r < (parts.map (·.1)).length := by rwa [List.length_map]
  have h := flatten_getElem?_at (parts.map (·.1)) r hr' j (by rwa [List.getElem_map, hl _ (List.getElem_mem hr)])
  rwa [← List.map_take, flatten_length_parts e _ (fun p hp => hl p (List.mem_of_mem_take hp)), List.map_take,
    List.getElem_map] at h

theorem allgather_mem {α} (tm : TMap) (n : Nat) (ins outs : List (List α)) (r : Nat) :
    (Spec.allgather tm n ins outs)[r]? = (outs[r]?).map (Spec.gatherAt tm n ins) := by
  rw [Spec.allgather, List.getElem?_map]

/-- the fold `Spec.gathervAt` runs, over a list of `(send buffer, count, displacement)` -/
def gathervFold {α} (tm : TMap) (segs : List (List α × Nat × Nat)) (out : List α) : List α :=
  segs.foldl (fun acc p => transferN tm p.2.1 p.1 0 acc (p.2.2 * tm.extent)) out

theorem gathervFold_cons {α} (tm : TMap) (s : List α × Nat × Nat) (ss : List (List α × Nat × Nat)) (out : List α) :
    gathervFold tm (s :: ss) out = gathervFold tm ss (transferN tm s.2.1 s.1 0 out (s.2.2 * tm.extent)) := rfl

theorem gathervFold_append {α} (tm : TMap) (pre post : List (List α × Nat × Nat)) (out : List α) :
    gathervFold tm (pre ++ post) out = gathervFold tm post (gathervFold tm pre out) := List.foldl_append

theorem gathervAt_eq_fold {α} (tm : TMap) (segs : List (List α × Nat × Nat)) (out : List α) :
    Spec.gathervAt tm (segs.map (·.1)) (segs.map (·.2.1)) (segs.map (·.2.2)) out = gathervFold tm segs out := by
  unfold Spec.gathervAt gathervFold
  rw [List.zip_map', List.zip_map', List.foldl_map]

theorem gathervFold_length {α} (tm : TMap) (segs : List (List α × Nat × Nat)) (out : List α) :
    (gathervFold tm segs out).length = out.length :=
  segs.foldlRecOn (motive := (List.length · = out.length)) _ rfl fun _ h _ _ => (transferN_length ..).trans h

theorem gathervFold_untouched {α} (tm : TMap) (hwf : tm.wf) (segs : List (List α × Nat × Nat))
    (out : List α) (i : Nat) (h : ∀ t ∈ segs, ¬ inSeg tm t.2.1 t.2.2 i) :
    (gathervFold tm segs out)[i]? = out[i]? :=
  segs.foldlRecOn (motive := (·[i]? = out[i]?)) _ rfl fun acc hacc s hs => by
    rw [transferN_getElem? tm hwf, if_neg (show ¬ (_ ∧ _) from h s hs), hacc]

theorem transferN_inSeg {α} (tm : TMap) (hwf : tm.wf) (src : List α) (len displ : Nat)
    (hs : src.length = len * tm.extent) (acc : List α) (i : Nat) (hi : i < acc.length)
    (hin : inSeg tm len displ i) :
    (transferN tm len src 0 acc (displ * tm.extent))[i]? = src[i - displ * tm.extent]? := by
  rw [transferN_getElem? tm hwf, if_pos (show _ ∧ _ from hin), Nat.zero_add]
  -- a covered cell lies inside the extent, which is therefore positive
  have hpos := Nat.zero_lt_of_lt (covers_lt tm hwf _ hin.2.2)
  exact ovw_getElem? _ _ _ _ (by rw [hs]; exact (Nat.div_lt_iff_lt_mul hpos).mp hin.2.1) hi

theorem tree_eval_foldl {β} (op : β → β → β) (hassoc : ∀ a b c, op (op a b) c = op a (op b c)) (t : Tree β) :
    ∃ a as, t.leaves = a :: as ∧ t.eval op = as.foldl op a := by
  induction t with
  | leaf x => exact ⟨x, [], rfl, rfl⟩
  | node l r ihl ihr =>
    obtain ⟨a, as, hl, el⟩ := ihl
    obtain ⟨b, bs, hr, er⟩ := ihr
    refine ⟨a, as ++ b :: bs, by rw [Tree.leaves, hl, hr]; rfl, ?_⟩
    rw [Tree.eval, el, er, List.foldl_append, List.foldl_cons]
    -- multiplying from the left commutes with the fold over the right subtree's leaves
    exact (List.foldl_hom (op _) (hassoc _)).symm

theorem foldRanks_perm {β} (op : β → β → β) (hassoc : ∀ a b c, op (op a b) c = op a (op b c))
    (hcomm : ∀ a b, op a b = op b a) (xs ys : List β) (hp : xs.Perm ys) :
    Spec.foldRanks op xs = Spec.foldRanks op ys := by
  have rc : ∀ a b c, op (op a b) c = op (op a c) b := by
    intro a b c; rw [hassoc, hcomm b c, ← hassoc]
  induction hp with
  | nil => rfl
  | cons x hp' _ =>
    simp only [Spec.foldRanks, Option.some.injEq]
    exact List.Perm.foldl_eq' hp' (fun a _ b _ c => rc c a b) x
  | swap x y l =>
    simp only [Spec.foldRanks, List.foldl_cons, Option.some.injEq]
    rw [hcomm]
  | trans _ _ ih1 ih2 => rw [ih1, ih2]

theorem allreduceVal_trees {α} (e n : Nat) (op : List α → List α → List α) (ins : List (List α))
    (ts : Nat → Tree (List α))
    (hts : ∀ j, j < n → some ((ts j).eval op) = Spec.foldRanks op (ins.map (Spec.elem e j))) :
    Spec.allreduceVal e n op ins = (List.range n).flatMap (fun j => (ts j).eval op) := by
  unfold Spec.allreduceVal
  rw [List.flatMap_def, List.flatMap_def]
  congr 1
  apply List.map_congr_left
  intro j hj
  rw [← hts j (List.mem_range.mp hj)]
  rfl

theorem elem_length {α} (e j n : Nat) (x : List α) (hj : j < n) (hx : x.length = n * e) : (Spec.elem e j x).length = e :=
  List.length_take_of_le (by
    rw [List.length_drop, hx]
    exact Nat.le_sub_of_add_le' (by rw [← Nat.succ_mul]; exact Nat.mul_le_mul_right _ hj))

theorem allreduceVal_length {α} (e n : Nat) (op : List α → List α → List α)
    (hop : ∀ a b, a.length = e → b.length = e → (op a b).length = e) (ins : List (List α)) (hne : ins ≠ [])
    (hl : ∀ x ∈ ins, x.length = n * e) : (Spec.allreduceVal e n op ins).length = n * e :=
  flatMap_length_const n e _ fun j hj => by
    cases ins with
    | nil => exact absurd rfl hne
    | cons x rest =>
      rw [List.map_cons, Spec.foldRanks, Option.getD_some, List.foldl_map]
      exact rest.foldlRecOn (motive := (List.length · = e)) _ (elem_length e j n x hj (hl x List.mem_cons_self))
        fun acc hacc y hy => hop _ _ hacc (elem_length e j n y hj (hl y (List.mem_cons_of_mem _ hy)))

theorem foldCells_cons {α} (f : α → α → α) (x : Option α) (xs : List (Option α)) :
    Spec.foldCells f (x :: xs) = xs.foldl (cellStep f) x := rfl

theorem foldl_zipWith_getElem? {α} (f : α → α → α) (xs : List (List α)) (x : List α) (i : Nat) :
    (xs.foldl (List.zipWith f) x)[i]? = (xs.map (·[i]?)).foldl (cellStep f) x[i]? := by
  refine (List.foldl_map.trans (List.foldl_hom (·[i]?) fun a b => ?_)).symm
  rw [List.getElem?_zipWith]
  cases a[i]? <;> cases b[i]? <;> rfl

theorem elems_flat {α} (e n : Nat) (x : List α) :
    (List.range n).flatMap (fun j => Spec.elem e j x) = x.take (n * e) := by
  induction n with
  | zero => simp
  | succ n ih =>
    rw [List.range_succ, List.flatMap_append, ih]
    simp only [List.flatMap_cons, List.flatMap_nil, List.append_nil, Spec.elem]
    rw [Nat.add_mul, Nat.one_mul, List.take_add]

theorem elem_zipWith {α} (f : α → α → α) (e j : Nat) (a b : List α) :
    List.zipWith f (Spec.elem e j a) (Spec.elem e j b) = Spec.elem e j (List.zipWith f a b) := by
  unfold Spec.elem
  rw [List.drop_zipWith, List.take_zipWith]

/-- with a cell-wise functor, taking elements commutes with the fold over the ranks: the element-wise reduction is the
reduction of the whole buffers, whatever their lengths -/
theorem allreduceVal_zipWith {α} (f : α → α → α) (e n : Nat) (x : List α) (xs : List (List α)) :
    Spec.allreduceVal e n (List.zipWith f) (x :: xs) = (xs.foldl (List.zipWith f) x).take (n * e) := by
  rw [← elems_flat]
  exact congrArg (List.flatMap · _) (funext fun j => List.foldl_map.trans (List.foldl_hom _ (elem_zipWith f e j)))

theorem copyLoop_eq {α} (e : Nat) (src : List α) (io : Nat) (dst : List α) (oo len : Nat) :
    Seq.copyLoop e src io dst oo len = transferN (full e) len src (io * e) dst (oo * e) := by
  -- the same fold over `range len`: `transfer (full e)` is `copyCells … e` by definition
  simp only [Seq.copyLoop, Seq.assignElem, Nat.add_mul]
  rfl

theorem assignElem_copyLoop {α} (e : Nat) (src dst : List α) :
    Seq.assignElem e src 0 dst 0 = Seq.copyLoop e src 0 dst 0 1 := by
  simp [Seq.copyLoop, List.range_succ]

theorem forCopy_eq_copyLoop {α} (e : Nat) (src dst : List α) (io oo len : Nat) :
    Seq.forCopy e src dst 0 len (fun i => oo + i) (fun i => io + i) = Seq.copyLoop e src io dst oo len := by
  unfold Seq.forCopy Seq.copyLoop
  rw [Nat.sub_zero, List.range_eq_range']

theorem gather_one {α} (tm : TMap) (n : Nat) (inp out : List α) :
    Spec.gather tm n 0 [inp] [out] = [transferN tm n inp 0 out 0] := by
  show [transferN tm n inp 0 out (0 * n * tm.extent)] = _
  rw [Nat.zero_mul, Nat.zero_mul]

theorem gatherv_one {α} (tm : TMap) (inp : List α) (len displ : Nat) (out : List α) :
    Spec.gatherv tm 0 [inp] [len] [displ] [out] = [transferN tm len inp 0 out (displ * tm.extent)] := rfl

theorem scatter_one {α} (tm : TMap) (n : Nat) (send recv : List α) :
    Spec.scatter tm n 0 [send] [recv] = [transferN tm n send 0 recv 0] := by
  show [transferN tm n send (0 * n * tm.extent) recv 0] = _
  rw [Nat.zero_mul, Nat.zero_mul]

theorem scatterv_one {α} (tm : TMap) (send : List α) (len displ : Nat) (recv : List α) :
    Spec.scatterv tm 0 [send] [len] [displ] [recv] = [transferN tm len send (displ * tm.extent) recv 0] := rfl

theorem allgather_one {α} (tm : TMap) (n : Nat) (sbuf rbuf : List α) :
    Spec.allgather tm n [sbuf] [rbuf] = [transferN tm n sbuf 0 rbuf 0] := by
  show [transferN tm n sbuf 0 rbuf (0 * n * tm.extent)] = _
  rw [Nat.zero_mul, Nat.zero_mul]

theorem allgatherv_one {α} (tm : TMap) (inp : List α) (len displ : Nat) (out : List α) :
    Spec.allgatherv tm [inp] [len] [displ] [out] = [transferN tm len inp 0 out (displ * tm.extent)] := rfl

theorem seq_iallgather {α} (e : Nat) (dataIn dataOut : List α) :
    Spec.allgather (full e) 1 [dataIn] [dataOut] = [Seq.iallgather e dataIn dataOut] := by
  rw [allgather_one, Seq.iallgather, assignElem_copyLoop, copyLoop_eq, Nat.zero_mul]

theorem allreduceVal_one {α} (e n : Nat) (op : List α → List α → List α) (x : List α) :
    Spec.allreduceVal e n op [x] = x.take (n * e) :=
  -- the fold over one rank is that rank's element
  elems_flat e n x

theorem allreduce_one {α} (e n : Nat) (op : List α → List α → List α) (x out : List α) :
    Spec.allreduce e n op [x] [out] = [copyCells x 0 out 0 (n * e)] := by
  show [transferN (full e) n (Spec.allreduceVal e n op [x]) 0 out 0] = _
  rw [allreduceVal_one e n op x, transferN_full, copyCells_take _ _ _ _ _ _ (Nat.le_of_eq (Nat.zero_add _))]

end DV.C07.Proofs
