import DuneVerif.Proofs.C04F
/-!
C04 — histories (core Lean only): the invariant that makes the no-op branch of `rebuild` sound, and what a history does to
the configuration and the sequence numbers of a rank.

`Inv w`: every rank whose object has been built since its last `free`/`setIndexSets` holds the lists of one and the
same collective build — `buildRemote ignB wB.sys p` for the world `wB` as it was then —, its stored sequence numbers are
not ahead of the index sets, and *if it reports itself in sync its own data is still what it was in `wB`*.  The
invariant keeps the world and not only its system: a system is determined by the length of the world and what the
ranks below it hand over (`sys_congr`), so when every rank is in sync the system then *is* the system now.

The configuration of a rank follows `Config.step` / `Config.after` (`step_config`, `run_config`); the sequence number of
an object counts the resizes that hit it (`resizes_rank`).
-/
namespace DV.C04.F
open DV.C04

theorem modify_length (w : World) (p : Nat) (f : RankW → RankW) : (w.modify p f).length = w.length := by
  simp [World.modify]

theorem modify_getD (w : World) (p : Nat) (f : RankW → RankW) (q : Nat) (hq : q < w.length) :
    (w.modify p f).getD q default = if q = p then f (w.getD q default) else w.getD q default := by
  rw [World.modify, getD_mapIdx _ _ default default hq]

theorem getD_mem {w : World} {p : Nat} (hp : p < w.length) : w.getD p default ∈ w := by
  rw [List.getD_eq_getElem?_getD, List.getElem?_eq_getElem hp]
  exact List.getElem_mem hp

theorem isSynced_iff (r : RankW) : r.isSynced = true ↔
    r.ri.sourceSeqNo = ((r.obj r.srcObj).seq : Int) ∧ r.ri.destSeqNo = ((r.obj r.tgtObj).seq : Int) := by
  simp [RankW.isSynced, Gen.isSynced]

theorem needs_false_iff (r : RankW) (ign : Bool) : r.needs ign = false ↔
    r.ri.firstBuild = false ∧ r.ri.publicIgnored = ign ∧ r.isSynced = true := by
  simp only [RankW.needs, Gen.needRebuild, Bool.or_eq_false_iff, bne_eq_false_iff_eq, Bool.not_eq_false', and_assoc,
    eq_comm (a := ign)]

theorem obj_setObj (r : RankW) (o : Nat) (x : IdxObj) (i : Nat) :
    (r.setObj o x).obj i = if sameObj i o then x else r.obj i := by
  rcases i with _ | _ | i <;> rcases o with _ | _ | o <;> rfl

theorem obj_objId (r : RankW) (i : Nat) : r.obj i = r.obj (objId i) := by
  rcases i with _ | _ | i <;> rfl

theorem obj_sameObj (r : RankW) {i o : Nat} (h : sameObj i o = true) : r.obj i = r.obj o := by
  rw [obj_objId r i, obj_objId r o, beq_iff_eq.mp h]

theorem seq_setObj (r : RankW) (o : Nat) (pairs : List Pair) (i : Nat) :
    ((r.setObj o { pairs := pairs, seq := (r.obj o).seq + 1 }).obj i).seq
      = (r.obj i).seq + if sameObj i o then 1 else 0 := by
  rw [obj_setObj]
  split
  · rename_i h
    rw [obj_sameObj r h]
  · rfl

theorem setObj_fields (r : RankW) (o : Nat) (x : IdxObj) :
    (r.setObj o x).ri = r.ri ∧ (r.setObj o x).srcObj = r.srcObj ∧ (r.setObj o x).tgtObj = r.tgtObj ∧
    (r.setObj o x).incl = r.incl ∧ (r.setObj o x).hints = r.hints := by
  rcases o with _ | _ | o <;> exact ⟨rfl, rfl, rfl, rfl, rfl⟩

/-- `B`: the system at the last collective build, `ignB` its `ignorePublic` flag -/
structure RankInv (B : System) (ignB : Bool) (p : Nat) (r : RankW) : Prop where
  remote : r.ri.remote = C04.buildRemote ignB B p (senders B p)
  pub : r.ri.publicIgnored = ignB
  seqS : r.ri.sourceSeqNo ≤ ((r.obj r.srcObj).seq : Int)
  seqT : r.ri.destSeqNo ≤ ((r.obj r.tgtObj).seq : Int)
  same : r.isSynced = true → r.data = B.rank p

def Inv (w : World) : Prop :=
  ∃ (wB : World) (ignB : Bool), wB.length = w.length ∧
    ∀ p, p < w.length → (w.getD p default).ri.firstBuild = false → RankInv wB.sys ignB p (w.getD p default)

theorem inv_fresh (w : World) (h : ∀ r ∈ w, r.ri.firstBuild = true) : Inv w := by
  refine ⟨w, false, rfl, fun p hp hf => ?_⟩
  rw [h _ (getD_mem hp)] at hf
  cases hf

/-- a stored sequence number that was not ahead of the object's and equals it after a resize: the resize did not hit the
    object -/
theorem not_hit_of_seq_eq {a : Int} {n : Nat} {b : Bool} (hle : a ≤ (n : Int))
    (he : a = ((n + if b = true then 1 else 0 : Nat) : Int)) : b = false := by
  cases b
  · rfl
  · rw [if_pos rfl] at he
    omega

theorem rankInv_resize {B : System} {ignB : Bool} {p : Nat} {r : RankW} (h : RankInv B ignB p r)
    (o : Nat) (pairs : List Pair) : RankInv B ignB p (r.setObj o { pairs := pairs, seq := (r.obj o).seq + 1 }) := by
  obtain ⟨f1, f2, f3, f4, f5⟩ := setObj_fields r o { pairs := pairs, seq := (r.obj o).seq + 1 }
  have hS := h.seqS
  have hT := h.seqT
  refine ⟨by rw [f1]; exact h.remote, by rw [f1]; exact h.pub, ?_, ?_, fun hsy => ?_⟩
  · rw [f1, f2, seq_setObj]
    exact Int.le_trans hS (Int.ofNat_le.mpr (Nat.le_add_right _ _))
  · rw [f1, f3, seq_setObj]
    exact Int.le_trans hT (Int.ofNat_le.mpr (Nat.le_add_right _ _))
  · -- in sync after the resize: it hit neither the source nor the target object, so nothing the rank hands over changed
    rw [isSynced_iff, f1, f2, f3, seq_setObj, seq_setObj] at hsy
    have hs : sameObj r.srcObj o = false := not_hit_of_seq_eq hS hsy.1
    have ht : sameObj r.tgtObj o = false := not_hit_of_seq_eq hT hsy.2
    have hd : (r.setObj o { pairs := pairs, seq := (r.obj o).seq + 1 }).data = r.data := by
      unfold RankW.data
      rw [f2, f3, f4, f5, obj_setObj, obj_setObj, hs, ht]
      rfl
    rw [hd]
    rw [hs, ht] at hsy
    exact h.same ((isSynced_iff r).mpr hsy)

theorem inv_modify_keep {w : World} (h : Inv w) (p : Nat) (f : RankW → RankW)
    (hf : ∀ r, (f r).ri.firstBuild = false →
      r.ri.firstBuild = false ∧ (∀ B ignB q, RankInv B ignB q r → RankInv B ignB q (f r))) :
    Inv (w.modify p f) := by
  obtain ⟨wB, ignB, hl, h⟩ := h
  refine ⟨wB, ignB, by rw [modify_length]; exact hl, fun q hq hfb => ?_⟩
  rw [modify_length] at hq
  rw [modify_getD w p f q hq] at hfb ⊢
  by_cases e : q = p
  · rw [if_pos e] at hfb ⊢
    have := hf _ hfb
    exact this.2 _ _ q (h q hq this.1)
  · rw [if_neg e] at hfb ⊢
    exact h q hq hfb

theorem sys_rank (w : World) (p : Nat) : w.sys.rank p = (w.getD p default).data := rfl

theorem sys_congr {w w' : World} (hl : w.length = w'.length)
    (h : ∀ p, p < w.length → (w.getD p default).data = (w'.getD p default).data) : w.sys = w'.sys := by
  unfold World.sys
  rw [hl]
  congr 1
  funext p
  by_cases hp : p < w.length
  · exact h p hp
  · rw [List.getD_eq_getElem?_getD, List.getD_eq_getElem?_getD, List.getElem?_eq_none (Nat.le_of_not_lt hp),
      List.getElem?_eq_none (hl ▸ Nat.le_of_not_lt hp)]

theorem built_data (r : RankW) (ign : Bool) (m : RMap) : (r.built ign m).data = r.data := rfl

/-- what holds on every rank right after a collective `rebuild<ign>()` that returned -/
structure Fresh (w : World) (ign : Bool) (p : Nat) : Prop where
  remote : (w.getD p default).ri.remote = C04.buildRemote ign w.sys p (senders w.sys p)
  synced : (w.getD p default).isSynced = true
  built : (w.getD p default).ri.firstBuild = false
  pub : (w.getD p default).ri.publicIgnored = ign

theorem inv_of_fresh {w : World} {ign : Bool} (h : ∀ p, p < w.length → Fresh w ign p) : Inv w := by
  refine ⟨w, ign, rfl, fun p hp _ => ?_⟩
  have hs := (isSynced_iff _).mp (h p hp).synced
  exact ⟨(h p hp).remote, (h p hp).pub, Int.le_of_eq hs.1, Int.le_of_eq hs.2, fun _ => rfl⟩

theorem rebuild_some {w w' : World} {ign : Bool} {arrivals : Nat → List Nat} (hr : w.rebuild ign arrivals = some w') :
    (w' = w ∧ ∀ r ∈ w, r.needs ign = false) ∨
    (∃ maps, buildAll ign w.sys arrivals = some maps ∧ w'.length = w.length ∧
      ∀ p, p < w.length → w'.getD p default = (w.getD p default).built ign (maps.getD p [])) := by
  revert hr
  fun_cases World.rebuild w ign arrivals with
  | case1 h1 =>  -- no rank needs to rebuild
    rintro ⟨⟩
    exact Or.inl ⟨rfl, fun r hr' => by simpa using List.all_eq_true.mp h1 r hr'⟩
  | case2 => exact fun hr => nomatch hr
  | case3 _ _ maps hb =>  -- every rank does, and the collective build returns
    rintro ⟨⟩
    exact Or.inr ⟨maps, hb, List.length_mapIdx, fun p hp => getD_mapIdx _ _ default default hp⟩
  | case4 => exact fun hr => nomatch hr  -- the ranks disagree

theorem rebuild_fresh {w w' : World} (h : Inv w) (ign : Bool)
    (arrivals : Nat → List Nat) (hr : w.rebuild ign arrivals = some w') :
    ∀ p, p < w'.length → Fresh w' ign p := by
  rcases rebuild_some hr with ⟨rfl, hall⟩ | ⟨maps, hb, hl, hget⟩
  · -- nobody rebuilds: every rank is in sync, so by the invariant the world hands over what it did at the last build
    obtain ⟨wB, ignB, hl, h⟩ := h
    intro p hp
    have hno : ∀ q, q < w'.length → _ := fun q hq => (needs_false_iff _ ign).mp (hall _ (getD_mem hq))
    have hri : ∀ q (hq : q < w'.length), RankInv wB.sys ignB q (w'.getD q default) := fun q hq => h q hq (hno q hq).1
    have hsys : wB.sys = w'.sys := sys_congr hl fun q hq => ((hri q (hl ▸ hq)).same (hno q (hl ▸ hq)).2.2).symm
    refine ⟨?_, (hno p hp).2.2, (hno p hp).1, (hno p hp).2.1⟩
    rw [(hri p hp).remote, hsys, (hri p hp).pub.symm.trans (hno p hp).2.1]
  · -- everybody rebuilds
    have hsys : w'.sys = w.sys := sys_congr hl fun p hp => by rw [hget p (hl ▸ hp)]; rfl
    intro p hp
    rw [hl] at hp
    refine ⟨?_, ?_, ?_, ?_⟩
    · rw [hget p hp, hsys]
      exact buildAll_some ign w.sys arrivals maps hb p hp
    · rw [hget p hp, isSynced_iff]
      exact ⟨rfl, rfl⟩
    · rw [hget p hp]; rfl
    · rw [hget p hp]; rfl

theorem inv_step {w w' : World} (h : Inv w) (e : Ev) (hc : e.core = true) (hs : w.step e = some w') : Inv w' := by
  cases e with
  | resize p o pairs =>
    cases hs
    refine inv_modify_keep h p _ fun r hf => ?_
    rw [(setObj_fields r o _).1] at hf
    exact ⟨hf, fun _ _ q hq => rankInv_resize hq o pairs⟩
  | rebuild ign arrivals => exact inv_of_fresh (rebuild_fresh h ign arrivals hs)
  | free p =>
    -- the rank counts as not built: nothing to show for it
    cases hs
    exact inv_modify_keep h p _ fun r hf => by simp [RankW.free] at hf
  | setSets p s t hints =>
    cases hs
    exact inv_modify_keep h p _ fun r hf => by simp [RankW.free] at hf
  | setIncl p b => cases hc
  | setNb p hints => cases hc

theorem run_cons_some {w w' : World} {e : Ev} {es : List Ev} (hr : World.run w (e :: es) = some w') :
    ∃ w1, w.step e = some w1 ∧ World.run w1 es = some w' :=
  Option.bind_eq_some_iff.mp (by rwa [World.run] at hr)

theorem run_append : ∀ (a b : List Ev) (w : World), World.run w (a ++ b) = (World.run w a).bind fun w' => World.run w' b := by
  intro a b w
  induction a generalizing w with
  | nil => rfl
  | cons e es ih =>
    rw [List.cons_append, World.run, World.run]
    cases w.step e with
    | none => rfl
    | some w1 => exact ih w1

theorem inv_run : ∀ (evs : List Ev) {w w' : World}, Inv w →
    (∀ e ∈ evs, e.core = true) → World.run w evs = some w' → Inv w' := by
  intro evs
  induction evs with
  | nil =>
    intro w w' h _ hr
    cases hr
    exact h
  | cons e es ih =>
    intro w w' h hc hr
    obtain ⟨w1, hs, hr1⟩ := run_cons_some hr
    exact ih (inv_step h e (hc e List.mem_cons_self) hs) (fun e' he' => hc e' (List.mem_cons_of_mem _ he')) hr1

theorem config_setObj (r : RankW) (o : Nat) (x : IdxObj) : (r.setObj o x).config = r.config := by
  obtain ⟨_, h2, h3, h4, h5⟩ := setObj_fields r o x
  simp [RankW.config, h2, h3, h4, h5]

theorem modify_config {w : World} {q : Nat} {f : RankW → RankW} {e : Ev}
    (hf : ∀ r, (f r).config = Config.step q r.config e) (hne : ∀ p c, p ≠ q → Config.step p c e = c) :
    (w.modify q f).length = w.length ∧
    ∀ p, p < w.length → ((w.modify q f).getD p default).config = Config.step p (w.getD p default).config e := by
  refine ⟨modify_length _ _ _, fun p hp => ?_⟩
  rw [modify_getD _ _ _ _ hp]
  split
  · rename_i h
    rw [h]
    exact hf _
  · rename_i h
    exact (hne p _ h).symm

theorem step_config {w w' : World} (e : Ev) (hs : w.step e = some w') :
    w'.length = w.length ∧
    ∀ p, p < w.length → (w'.getD p default).config = Config.step p (w.getD p default).config e := by
  cases e with
  | rebuild ign arrivals =>
    rcases rebuild_some hs with ⟨rfl, _⟩ | ⟨maps, _, hl, hget⟩
    · exact ⟨rfl, fun _ _ => rfl⟩
    · exact ⟨hl, fun p hp => by rw [hget p hp]; rfl⟩
  | resize q o pairs => cases hs; exact modify_config (fun _ => config_setObj _ _ _) (fun _ _ _ => rfl)
  | free q => cases hs; exact modify_config (fun _ => rfl) (fun _ _ _ => rfl)
  | setSets q s t hints => cases hs; exact modify_config (fun _ => (if_pos rfl).symm) (fun _ _ h => if_neg (Ne.symm h))
  | setIncl q b => cases hs; exact modify_config (fun _ => (if_pos rfl).symm) (fun _ _ h => if_neg (Ne.symm h))
  | setNb q hints => cases hs; exact modify_config (fun _ => (if_pos rfl).symm) (fun _ _ h => if_neg (Ne.symm h))

theorem run_config : ∀ (evs : List Ev) {w w' : World}, World.run w evs = some w' →
    w'.length = w.length ∧
    ∀ p, p < w.length → (w'.getD p default).config = Config.after p (w.getD p default).config evs := by
  intro evs
  induction evs with
  | nil => intro w w' hr; cases hr; exact ⟨rfl, fun _ _ => rfl⟩
  | cons e es ih =>
    intro w w' hr
    obtain ⟨w1, hs, hr1⟩ := run_cons_some hr
    obtain ⟨hl1, hc1⟩ := step_config e hs
    obtain ⟨hl2, hc2⟩ := ih hr1
    refine ⟨hl2.trans hl1, fun p hp => ?_⟩
    rw [hc2 p (hl1 ▸ hp), hc1 p hp]
    rfl

theorem resizes_rank : ∀ (rs : List (Nat × Nat × List Pair)) (w : World) (p : Nat), p < w.length →
    ((w.resizes rs).getD p default).ri = (w.getD p default).ri ∧
    ((w.resizes rs).getD p default).srcObj = (w.getD p default).srcObj ∧
    ((w.resizes rs).getD p default).tgtObj = (w.getD p default).tgtObj ∧
    ∀ i, (((w.resizes rs).getD p default).obj i).seq =
      ((w.getD p default).obj i).seq + rs.countP (fun e => e.1 == p && sameObj i e.2.1) := by
  intro rs
  induction rs with
  | nil => exact fun _ _ _ => ⟨rfl, rfl, rfl, fun _ => rfl⟩
  | cons e es ih =>
    intro w p hp
    have ih := ih
      (w.modify e.1 fun r => r.setObj e.2.1 { pairs := e.2.2, seq := (r.obj e.2.1).seq + 1 }) p
      (by rw [modify_length]; exact hp)
    rw [modify_getD w _ _ p hp] at ih
    rw [show World.resizes w (e :: es) = World.resizes
        (w.modify e.1 fun r => r.setObj e.2.1 { pairs := e.2.2, seq := (r.obj e.2.1).seq + 1 }) es from rfl]
    by_cases c : p = e.1
    · rw [if_pos c] at ih
      obtain ⟨i1, i2, i3, i4⟩ := ih
      obtain ⟨f1, f2, f3, _, _⟩ := setObj_fields (w.getD p default) e.2.1
        { pairs := e.2.2, seq := ((w.getD p default).obj e.2.1).seq + 1 }
      refine ⟨i1.trans f1, i2.trans f2, i3.trans f3, fun i => ?_⟩
      rw [i4 i, seq_setObj, List.countP_cons, beq_iff_eq.mpr c.symm, Bool.true_and, Nat.add_assoc,
        Nat.add_comm (List.countP _ es)]
    · rw [if_neg c] at ih
      obtain ⟨i1, i2, i3, i4⟩ := ih
      refine ⟨i1, i2, i3, fun i => ?_⟩
      rw [i4 i, List.countP_cons_of_neg (by simp [Ne.symm c])]

end DV.C04.F
