import DuneVerif.Proofs.C05System
/-!
C05, what a list of scatter calls does to a container under the copy and the add policy (with one sender per entry,
and with several: the last writer wins), read-after-write on the container pair of `worldRound` (`Cont.get_set`), and the
tagged form of the expected calls (exactly once).
-/
namespace DV.C05

/-- copy policy on a container with read-after-write semantics -/
structure CopyStore {Val Data} (gather : Data → Nat → Nat → Val) (scatter : Data → Val → Nat → Nat → Data) : Prop where
  get_set : ∀ d v l j l' j', gather (scatter d v l j) l' j' = if l' = l ∧ j' = j then v else gather d l' j'

/-- accumulating policy -/
structure AddStore {Val Data} (add : Val → Val → Val) (gather : Data → Nat → Nat → Val)
    (scatter : Data → Val → Nat → Nat → Data) : Prop where
  get_set : ∀ d v l j l' j', gather (scatter d v l j) l' j' =
    if l' = l ∧ j' = j then add (gather d l j) v else gather d l' j'

theorem applyCalls_cons {Val Data} (scatter : Data → Val → Nat → Nat → Data) (d : Data) (c) (cs : List (Val × Nat × Nat)) :
    applyCalls scatter d (c :: cs) = applyCalls scatter (scatter d c.1 c.2.1 c.2.2) cs := rfl

theorem applyCalls_add {Val Data} {add} {gather : Data → Nat → Nat → Val} {scatter} (h : AddStore add gather scatter)
    (calls : List (Val × Nat × Nat)) (d : Data) (l j : Nat) :
    gather (applyCalls scatter d calls) l j =
      ((calls.filter fun c => c.2 == (l, j)).map (·.1)).foldl add (gather d l j) := by
  rw [List.foldl_map, List.foldl_filter]
  -- reading the entry turns the fold of `scatter` into the fold of `add` over the calls aimed at it
  refine (List.foldl_hom (fun d => gather d l j) fun d c => ?_).symm
  rw [h.get_set]
  by_cases hc : c.2 = (l, j)
  · obtain ⟨v, l', j'⟩ := c
    cases hc
    rw [if_pos (beq_self_eq_true _), if_pos ⟨rfl, rfl⟩]
  · rw [if_neg fun hb => hc (eq_of_beq hb), if_neg fun hh => hc (by rw [hh.1, hh.2])]

theorem applyCalls_add_perm {Val Data} {add : Val → Val → Val} (comm : ∀ a b, add a b = add b a)
    (assoc : ∀ a b c, add (add a b) c = add a (add b c)) {gather : Data → Nat → Nat → Val} {scatter}
    (h : AddStore add gather scatter) {calls exp : List (Val × Nat × Nat)} (hp : calls.Perm exp) (d : Data) (l j : Nat) :
    gather (applyCalls scatter d calls) l j =
      ((exp.filter fun c => c.2 == (l, j)).map (·.1)).foldl add (gather d l j) := by
  rw [applyCalls_add h]
  apply List.Perm.foldl_eq' ((hp.filter _).map _)
  intro x _ y _ z
  rw [assoc, assoc, comm x y]

theorem foldl_overwrite_mem {α} : ∀ (l : List α) (a : α), l ≠ [] → l.foldl (fun _ v => v) a ∈ l
  | [_], _, _ => List.mem_singleton.2 rfl
  | x :: y :: l, _, _ => List.mem_cons_of_mem _ (foldl_overwrite_mem (y :: l) x (List.cons_ne_nil _ _))

/-- the copy policy is the accumulating policy whose `add` overwrites: after any permutation of a call list an entry
    that is aimed at holds the value of one of the calls aimed at it (the last one made), any other entry is unchanged -/
theorem applyCalls_copy_some {Val Data} {gather : Data → Nat → Nat → Val} {scatter} (h : CopyStore gather scatter)
    {calls exp : List (Val × Nat × Nat)} (hp : calls.Perm exp) (d : Data) :
    (∀ l j, (l, j) ∈ exp.map (·.2) → ∃ c ∈ exp, c.2 = (l, j) ∧ gather (applyCalls scatter d calls) l j = c.1) ∧
    (∀ l j, (l, j) ∉ exp.map (·.2) → gather (applyCalls scatter d calls) l j = gather d l j) := by
  have key := applyCalls_add (add := fun _ v => v) ⟨h.get_set⟩ calls d
  constructor
  · intro l j hm
    obtain ⟨c, hc, hcl⟩ := List.mem_map.1 ((hp.map (·.2)).mem_iff.2 hm)
    have hne : (calls.filter fun c => c.2 == (l, j)).map (·.1) ≠ [] :=
      List.ne_nil_of_mem (List.mem_map_of_mem (List.mem_filter.2 ⟨hc, beq_iff_eq.2 hcl⟩))
    obtain ⟨c', hc', hv⟩ := List.mem_map.1 (foldl_overwrite_mem _ (gather d l j) hne)
    exact ⟨c', hp.mem_iff.1 (List.mem_filter.1 hc').1, eq_of_beq (List.mem_filter.1 hc').2, (key l j).trans hv.symm⟩
  · intro l j hn
    rw [key, List.filter_eq_nil_iff.2 fun c hc hb => hn ((hp.map _).mem_iff.1 (List.mem_map.2 ⟨c, hc, eq_of_beq hb⟩))]
    rfl

theorem applyCalls_copy_perm {Val Data} {gather : Data → Nat → Nat → Val} {scatter} (h : CopyStore gather scatter)
    {calls exp : List (Val × Nat × Nat)} (hp : calls.Perm exp) (hnd : (exp.map (·.2)).Nodup) (d : Data) :
    (∀ c ∈ exp, gather (applyCalls scatter d calls) c.2.1 c.2.2 = c.1) ∧
    (∀ l j, (l, j) ∉ exp.map (·.2) → gather (applyCalls scatter d calls) l j = gather d l j) := by
  refine ⟨fun c hc => ?_, (applyCalls_copy_some h hp d).2⟩
  obtain ⟨c', hc', h2, hv⟩ := (applyCalls_copy_some h hp d).1 c.2.1 c.2.2 (List.mem_map_of_mem hc)
  -- one call per target: `c'` is `c`
  have hk := List.pairwise_map.1 hnd
  have h1 := find?_key_of_mem Prod.snd hk hc'
  rw [show c'.2 = c.2 from h2, find?_key_of_mem Prod.snd hk hc] at h1
  rw [hv, ← Option.some.inj h1]

theorem Cont.get_set {Data} (c : Cont Data) (k : Bool) (d : Data) : (c.set k d).get k = d := by
  simp only [Cont.set, Cont.get]
  split <;> rename_i h <;> simp_all

/-! ### exactly once: the expected calls carry distinct tags (sender, global index, component) -/

def pairExpectedTagged {Val} (blk : Int → Nat) (gat : Nat → Nat → Val) (p : Nat) (se re : List RIdx) :
    List ((Nat × Int × Nat) × (Val × Nat × Nat)) :=
  (se.zip re).flatMap fun xy => (List.range (blk xy.1.g)).map fun j => ((p, xy.1.g, j), (gat xy.1.l j, xy.2.l, j))

theorem pairExpectedTagged_snd {Val} (blk : Int → Nat) (gat : Nat → Nat → Val) (p : Nat) (se re : List RIdx) :
    (pairExpectedTagged blk gat p se re).map (·.2) = pairExpected blk gat se re := by
  simp only [pairExpectedTagged, pairExpected, List.map_flatMap, List.map_map]
  rfl

theorem pairwise_zip_left {α β} {R : α → α → Prop} (l1 : List α) (l2 : List β) (h : l1.Pairwise R) :
    (l1.zip l2).Pairwise fun a b => R a.1 b.1 := by
  -- the first components of the zip are a prefix of `l1`
  rw [← List.pairwise_map (f := Prod.fst), zip_take_left, List.map_fst_zip (List.length_take_le _ _)]
  exact h.sublist (List.take_sublist _ _)

/-- pairs of two lists with the same strictly ascending keys: the zip pairs exactly the elements with equal keys -/
theorem mem_zip_of_keys {α β} {f : α → Int} {f' : β → Int} : ∀ (l1 : List α) (l2 : List β),
    l1.map f = l2.map f' → (l1.map f).Pairwise (· < ·) → ∀ x y, (x, y) ∈ l1.zip l2 ↔ x ∈ l1 ∧ y ∈ l2 ∧ f x = f' y := by
  intro l1 l2 h hs x y
  have hl : l1.length = l2.length := by rw [← List.length_map f, h, List.length_map]
  have h1 := List.map_fst_zip (Nat.le_of_eq hl)
  have h2 := List.map_snd_zip (Nat.le_of_eq hl.symm)
  -- along the zip the two keys agree, and the key tells its elements apart
  have hk : ∀ p ∈ l1.zip l2, (f ∘ Prod.fst) p = (f' ∘ Prod.snd) p :=
    List.map_inj_left.1 (by rw [← List.map_map, ← List.map_map, h1, h2, h])
  have hn := (pairwise_zip_left l1 l2 (List.pairwise_map.1 hs)).imp Int.ne_of_lt
  constructor
  · intro hm
    exact ⟨(List.of_mem_zip hm).1, (List.of_mem_zip hm).2, hk _ hm⟩
  · rintro ⟨hx, hy, hf⟩
    rw [← h1] at hx
    rw [← h2] at hy
    obtain ⟨p, hp, rfl⟩ := List.mem_map.1 hx
    obtain ⟨q, hq, rfl⟩ := List.mem_map.1 hy
    have hpq := find?_key_of_mem (f ·.1) hn hp
    rw [show f p.1 = f q.1 from hf.trans (hk q hq).symm, find?_key_of_mem (f ·.1) hn hq] at hpq
    cases hpq
    exact hq

theorem tagged_nodup {Val} (blk : Int → Nat) (gat : Nat → Nat → Nat → Val) (P : Nat) (se re : Nat → List RIdx)
    (hs : ∀ p, ((se p).map (·.g)).Pairwise (· < ·)) :
    (((List.range P).flatMap fun p => pairExpectedTagged blk (gat p) p (se p) (re p)).map (·.1)).Nodup := by
  rw [List.map_flatMap, List.nodup_iff_pairwise_ne, List.pairwise_flatMap]
  constructor
  · intro p _
    simp only [pairExpectedTagged, List.map_flatMap, List.map_map, List.pairwise_flatMap]
    constructor
    · intro xy _
      rw [List.pairwise_map]
      apply List.Pairwise.imp _ List.pairwise_lt_range
      intro a b hab h
      simp only [Function.comp, Prod.mk.injEq] at h
      exact Nat.ne_of_lt hab h.2.2
    · have := pairwise_zip_left (se p) (re p) (List.pairwise_map.mp (hs p))
      apply List.Pairwise.imp _ this
      intro a b hab x hx y hy
      simp only [List.mem_map, Function.comp] at hx hy
      obtain ⟨_, _, rfl⟩ := hx
      obtain ⟨_, _, rfl⟩ := hy
      intro h
      simp only [Prod.mk.injEq] at h
      exact Int.ne_of_lt hab h.2.1
  · apply List.Pairwise.imp _ List.pairwise_lt_range
    intro a b hab x hx y hy
    simp only [pairExpectedTagged, List.map_flatMap, List.map_map, List.mem_flatMap, List.mem_map, Function.comp] at hx hy
    obtain ⟨_, _, _, _, rfl⟩ := hx
    obtain ⟨_, _, _, _, rfl⟩ := hy
    intro h
    simp only [Prod.mk.injEq] at h
    exact Nat.ne_of_lt hab h.1

end DV.C05
