import DuneVerif.Gen.C02
import Mathlib.LinearAlgebra.Matrix.NonsingularInverse
import Mathlib.Tactic.Ring
/-! C02 helpers for the closed-form theorems: the generated result records as Mathlib vectors / matrices, and the
generated closed forms of `invert` / `invertMatrix` / `solve` as the adjugate scaled by the reciprocal determinant
(times the right-hand side).  The lemmas about the generated functions are about variables and proved with `ring`, so
commuted / re-associated source expressions still pass. -/
namespace DV.C02
open Matrix
variable {K : Type} [Field K]

def v1 (r : Gen.V1 K) : Fin 1 → K := ![r.x0]
def v2 (r : Gen.V2 K) : Fin 2 → K := ![r.x0, r.x1]
def v3 (r : Gen.V3 K) : Fin 3 → K := ![r.x0, r.x1, r.x2]
def m1 (r : Gen.M1 K) : Matrix (Fin 1) (Fin 1) K := !![r.m00]
def m2 (r : Gen.M2 K) : Matrix (Fin 2) (Fin 2) K := !![r.m00, r.m01; r.m10, r.m11]
def m3 (r : Gen.M3 K) : Matrix (Fin 3) (Fin 3) K :=
  !![r.m00, r.m01, r.m02; r.m10, r.m11, r.m12; r.m20, r.m21, r.m22]

theorem det_fin_one' (A : Matrix (Fin 1) (Fin 1) K) : A.det = A 0 0 := by
  simp [Matrix.det_unique]

/-- over a field the nonsingular inverse is the adjugate over the determinant (and `0` for singular matrices) -/
theorem inv_eq_smul_adjugate {n : Type} [Fintype n] [DecidableEq n] (A : Matrix n n K) :
    A⁻¹ = A.det⁻¹ • adjugate A := by
  rw [inv_def, Ring.inverse_eq_inv']

theorem eq_inv_mulVec {n : Type} [Fintype n] [DecidableEq n] {A : Matrix n n K} {x b : n → K} (hdet : A.det ≠ 0)
    (h : A *ᵥ x = b) : x = A⁻¹ *ᵥ b := by
  rw [← h, mulVec_mulVec, nonsing_inv_mul _ (isUnit_iff_ne_zero.mpr hdet), one_mulVec]

/-- `t` times the adjugate of `!![a, b; c, d]` -/
def adj2 (t a b c d : K) : Gen.M2 K := ⟨t * d, t * -b, t * -c, t * a⟩

/-- `t` times the adjugate of `!![a, b, c; d, e, f; g, h, i]` (entries written as in `Matrix.adjugate_fin_three`) -/
def adj3 (t a b c d e f g h i : K) : Gen.M3 K :=
  ⟨t * (e * i - f * h), t * (-(b * i) + c * h), t * (b * f - c * e),
   t * (-(d * i) + f * g), t * (a * i - c * g), t * (-(a * f) + c * d),
   t * (d * h - e * g), t * (-(a * h) + b * g), t * (a * e - b * d)⟩

theorem m2_adj2 (t : K) (A : Matrix (Fin 2) (Fin 2) K) :
    m2 (adj2 t (A 0 0) (A 0 1) (A 1 0) (A 1 1)) = t • adjugate A := by
  rw [adjugate_fin_two, smul_of, smul_vec2, smul_vec2, smul_vec2]
  rfl

theorem m3_adj3 (t : K) (A : Matrix (Fin 3) (Fin 3) K) :
    m3 (adj3 t (A 0 0) (A 0 1) (A 0 2) (A 1 0) (A 1 1) (A 1 2) (A 2 0) (A 2 1) (A 2 2)) = t • adjugate A := by
  rw [adjugate_fin_three, smul_of, smul_vec3, smul_vec3, smul_vec3, smul_vec3]
  rfl

theorem m2_adj2_transpose (t : K) (A : Matrix (Fin 2) (Fin 2) K) :
    m2 (adj2 t (A 0 0) (A 1 0) (A 0 1) (A 1 1)) = (t • adjugate A)ᵀ := by
  rw [transpose_smul, adjugate_transpose]
  exact m2_adj2 t Aᵀ

theorem m3_adj3_transpose (t : K) (A : Matrix (Fin 3) (Fin 3) K) :
    m3 (adj3 t (A 0 0) (A 1 0) (A 2 0) (A 0 1) (A 1 1) (A 2 1) (A 0 2) (A 1 2) (A 2 2)) = (t • adjugate A)ᵀ := by
  rw [transpose_smul, adjugate_transpose]
  exact m3_adj3 t Aᵀ

def mulVec2 (r : Gen.M2 K) (b0 b1 : K) : Gen.V2 K := ⟨r.m00 * b0 + r.m01 * b1, r.m10 * b0 + r.m11 * b1⟩

def mulVec3 (r : Gen.M3 K) (b0 b1 b2 : K) : Gen.V3 K :=
  ⟨r.m00 * b0 + r.m01 * b1 + r.m02 * b2, r.m10 * b0 + r.m11 * b1 + r.m12 * b2,
   r.m20 * b0 + r.m21 * b1 + r.m22 * b2⟩

theorem m2_mulVec (r : Gen.M2 K) (b : Fin 2 → K) : m2 r *ᵥ b = v2 (mulVec2 r (b 0) (b 1)) := by
  simp only [m2, cons_mulVec, empty_mulVec, vec2_dotProduct]
  rfl

theorem m3_mulVec (r : Gen.M3 K) (b : Fin 3 → K) : m3 r *ᵥ b = v3 (mulVec3 r (b 0) (b 1) (b 2)) := by
  simp only [m3, cons_mulVec, empty_mulVec, vec3_dotProduct]
  rfl

/-! ### the generated closed forms are the scaled adjugate

Each proof names the reciprocal `s` the source computes and the reciprocal `t` of `Gen.det#`, shows `s = t` once, and
compares the entries. -/

theorem invert2_eq (a b c d : K) : Gen.invert2 a b c d = adj2 (Gen.det2 a b c d)⁻¹ a b c d := by
  simp only [Gen.invert2, Gen.det2, adj2]
  generalize hs : (1 / _ : K) = s
  generalize ht : (_ : K)⁻¹ = t
  obtain rfl : s = t := by rw [← hs, ← ht]; ring
  congr 1 <;> ring

theorem invert3_eq (a b c d e f g h i : K) :
    Gen.invert3 a b c d e f g h i = adj3 (Gen.det3 a b c d e f g h i)⁻¹ a b c d e f g h i := by
  simp only [Gen.invert3, Gen.det3, adj3]
  generalize hs : (1 / _ : K) = s
  generalize ht : (_ : K)⁻¹ = t
  obtain rfl : s = t := by rw [← hs, ← ht]; ring
  congr 1 <;> ring

/-- `FMatrixHelp::invertMatrix`: the determinant and the inverse -/
theorem fmhInvert2_eq (a b c d : K) :
    Gen.fmhInvert2 a b c d = (Gen.det2 a b c d, adj2 (Gen.det2 a b c d)⁻¹ a b c d) := by
  simp only [Gen.fmhInvert2, Gen.det2, adj2]
  refine congrArg₂ Prod.mk (by ring) ?_
  generalize hs : (1 / _ : K) = s
  generalize ht : (_ : K)⁻¹ = t
  obtain rfl : s = t := by rw [← hs, ← ht]; ring
  congr 1 <;> ring

theorem fmhInvert3_eq (a b c d e f g h i : K) :
    Gen.fmhInvert3 a b c d e f g h i =
      (Gen.det3 a b c d e f g h i, adj3 (Gen.det3 a b c d e f g h i)⁻¹ a b c d e f g h i) := by
  simp only [Gen.fmhInvert3, Gen.det3, adj3]
  refine congrArg₂ Prod.mk (by ring) ?_
  generalize hs : (1 / _ : K) = s
  generalize ht : (_ : K)⁻¹ = t
  obtain rfl : s = t := by rw [← hs, ← ht]; ring
  congr 1 <;> ring

/-- `FMatrixHelp::invertMatrix_retTransposed`: the determinant and the inverse of the transpose -/
theorem fmhInvertT2_eq (a b c d : K) :
    Gen.fmhInvertT2 a b c d = (Gen.det2 a b c d, adj2 (Gen.det2 a b c d)⁻¹ a c b d) := by
  simp only [Gen.fmhInvertT2, Gen.det2, adj2]
  refine congrArg₂ Prod.mk (by ring) ?_
  generalize hs : (1 / _ : K) = s
  generalize ht : (_ : K)⁻¹ = t
  obtain rfl : s = t := by rw [← hs, ← ht]; ring
  congr 1 <;> ring

theorem fmhInvertT3_eq (a b c d e f g h i : K) :
    Gen.fmhInvertT3 a b c d e f g h i =
      (Gen.det3 a b c d e f g h i, adj3 (Gen.det3 a b c d e f g h i)⁻¹ a d g b e h c f i) := by
  simp only [Gen.fmhInvertT3, Gen.det3, adj3]
  refine congrArg₂ Prod.mk (by ring) ?_
  generalize hs : (1 / _ : K) = s
  generalize ht : (_ : K)⁻¹ = t
  obtain rfl : s = t := by rw [← hs, ← ht]; ring
  congr 1 <;> ring

/-- Cramer's rule as the source writes it: the scaled adjugate times the right-hand side -/
theorem solve2_eq (a b c d b0 b1 : K) :
    Gen.solve2 a b c d b0 b1 = mulVec2 (adj2 (Gen.det2 a b c d)⁻¹ a b c d) b0 b1 := by
  simp only [Gen.solve2, Gen.det2, adj2, mulVec2]
  generalize hs : (1 / _ : K) = s
  generalize ht : (_ : K)⁻¹ = t
  obtain rfl : s = t := by rw [← hs, ← ht]; ring
  congr 1 <;> ring

theorem solve3_eq (a b c d e f g h i b0 b1 b2 : K) :
    Gen.solve3 a b c d e f g h i b0 b1 b2 =
      mulVec3 (adj3 (Gen.det3 a b c d e f g h i)⁻¹ a b c d e f g h i) b0 b1 b2 := by
  simp only [Gen.solve3, adj3, mulVec3]
  generalize Gen.det3 a b c d e f g h i = D
  congr 1 <;> ring

end DV.C02
