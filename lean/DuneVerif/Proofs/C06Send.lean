import DuneVerif.Proofs.C06Basic
/-! C06: one send round in both modes, the blocks of indices of all rounds, `sendAll`. -/
namespace DV.C06
variable {α : Type}

/-- the precondition of the property for one index list: variable size (`f = 0`): every index fits into the buffer;
    fixed size `f ≥ 1`: every index has `f` items and `f` fits -/
def Fits (h : Handle α) (B f : Nat) (is : List Nat) : Prop :=
  (f = 0 ∧ ∀ i ∈ is, h.size i ≤ B) ∨ (f ≠ 0 ∧ f ≤ B ∧ ∀ i ∈ is, h.size i = f)

theorem Fits.tail {h : Handle α} {B f : Nat} {a r : List Nat} (hf : Fits h B f (a ++ r)) : Fits h B f r := by
  rcases hf with ⟨h0, hs⟩ | ⟨h0, h1, hs⟩
  · exact Or.inl ⟨h0, fun i hi => hs i (List.mem_append_right a hi)⟩
  · exact Or.inr ⟨h0, h1, fun i hi => hs i (List.mem_append_right a hi)⟩

theorem Fits.head_le {h : Handle α} {B f i : Nat} {is : List Nat} (hf : Fits h B f (i :: is)) : h.size i ≤ B := by
  rcases hf with ⟨_, hs⟩ | ⟨_, h1, hs⟩
  · exact hs i (by simp)
  · rw [hs i (by simp)]; exact h1

theorem total_fixed (h : Handle α) (f : Nat) : ∀ (is : List Nat), (∀ i ∈ is, h.size i = f) → total h is = is.length * f := by
  intro is
  induction is with
  | nil => simp
  | cons i is ih =>
    intro hs
    simp [hs i (by simp), ih (fun j hj => hs j (by simp [hj])), Nat.succ_mul, Nat.add_comm]

/-- what one round takes from the indices left: (block packed, indices left) -/
def round1 (h : Handle α) (B f : Nat) (is : List Nat) : List Nat × List Nat :=
  if f ≠ 0 then (is.take (min (B / f) is.length), is.drop (min (B / f) is.length)) else takeFit h B is 0

theorem round1_append (h : Handle α) (B f : Nat) (is : List Nat) : (round1 h B f is).1 ++ (round1 h B f is).2 = is := by
  unfold round1
  split
  · simp
  · exact takeFit_append h B is 0

theorem round1_length (h : Handle α) (B f : Nat) (is : List Nat) :
    (round1 h B f is).1.length + (round1 h B f is).2.length = is.length := by
  rw [← List.length_append, round1_append]

theorem Fits.rest {h : Handle α} {B f : Nat} {is : List Nat} (hf : Fits h B f is) : Fits h B f (round1 h B f is).2 := by
  have := round1_append h B f is
  rw [← this] at hf
  exact hf.tail

theorem round1_greedy {h : Handle α} {B f : Nat} {is : List Nat} (hf : Fits h B f is) :
    total h (round1 h B f is).1 ≤ B ∧
      ∀ i r, (round1 h B f is).2 = i :: r → B < total h (round1 h B f is).1 + h.size i := by
  rcases hf with ⟨rfl, _⟩ | ⟨h0, _, hs⟩
  · have := takeFit_greedy h B is 0 (Nat.zero_le _)
    simp only [Nat.zero_add] at this
    exact this
  · rw [round1, if_pos h0, total_fixed h f _ fun i hi => hs i (List.mem_of_mem_take hi), List.length_take, Nat.min_assoc,
      Nat.min_self]
    refine ⟨Nat.le_trans (Nat.mul_le_mul_right f (Nat.min_le_left ..)) (Nat.div_mul_le_self B f), fun i r hr => ?_⟩
    -- something is left, so the block is not the whole list: it has `B / f` indices
    rw [hs i (List.mem_of_mem_drop (hr ▸ List.mem_cons_self)),
      Nat.min_eq_left (Nat.le_of_not_le fun hle => by rw [Nat.min_eq_right hle, List.drop_length] at hr; cases hr)]
    exact Nat.lt_div_mul_add (Nat.pos_of_ne_zero h0)

theorem round1_zero (h : Handle α) (B f : Nat) (is : List Nat) (hf : Fits h B f is)
    (hz : total h (round1 h B f is).1 = 0) : (round1 h B f is).2 = [] := by
  cases hr : (round1 h B f is).2 with
  | nil => rfl
  | cons i r =>
    -- the first index left fits alone, so it would have fitted next to a block without items
    have := (round1_greedy hf).2 i r hr
    have := Fits.head_le (hr ▸ hf.rest)
    omega

theorem round1_ne_nil (h : Handle α) (B f : Nat) (is : List Nat) (hf : Fits h B f is) (hne : is ≠ []) :
    (round1 h B f is).1 ≠ [] := by
  intro e
  apply hne
  rw [← round1_append h B f is, e, round1_zero h B f is hf (by rw [e]; rfl)]
  rfl

theorem total_round_pos {h : Handle α} {B f : Nat} {is : List Nat} (hf : Fits h B f is) (ht : 0 < total h is) :
    total h (round1 h B f is).1 ≠ 0 := by
  intro hz
  have : total h is = 0 := by
    rw [← round1_append h B f is, total_append, hz, round1_zero h B f is hf hz]; rfl
  omega

theorem rest_nil_or_pos {h : Handle α} {B f : Nat} {is : List Nat} (hf : Fits h B f is) :
    (round1 h B f is).2 = [] ∨ 0 < total h (round1 h B f is).2 := by
  cases hr : (round1 h B f is).2 with
  | nil => exact Or.inl rfl
  | cons i r =>
    have hg := round1_greedy hf
    have := hg.2 i r hr
    rw [total_cons]
    omega

theorem round1_length_le {h : Handle α} {B f : Nat} {is js : List Nat} (hl : js.length = is.length) :
    (round1 h B f is).1.length ≤ js.length :=
  hl ▸ Nat.le.intro (round1_length h B f is)

theorem drop_length_rest {h : Handle α} {B f : Nat} {is js : List Nat} (hl : js.length = is.length) :
    (js.drop (round1 h B f is).1.length).length = (round1 h B f is).2.length := by
  rw [List.length_drop, hl, ← round1_length h B f is, Nat.add_sub_cancel_left]

theorem round1_rest_length (h : Handle α) (B f : Nat) (is : List Nat) (hf : Fits h B f is) (hne : is ≠ []) :
    (round1 h B f is).2.length < is.length := by
  rw [← round1_length h B f is]
  exact Nat.lt_add_of_pos_left (List.length_pos_iff.2 (round1_ne_nil h B f is hf hne))

theorem drop_round_lt {h : Handle α} {B f : Nat} {is js : List Nat} (hl : js.length = is.length)
    (hf : Fits h B f is) (ht : 0 < total h is) : (js.drop (round1 h B f is).1.length).length < js.length := by
  rw [drop_length_rest hl, hl]
  exact round1_rest_length h B f is hf fun e => by rw [e] at ht; exact Nat.lt_irrefl _ ht

theorem round1_rest_lt_fuel (h : Handle α) (B f : Nat) (is : List Nat) (hf : Fits h B f is) (fuel : Nat)
    (hfu : is.length + 1 ≤ fuel + 1) (hr : (round1 h B f is).2 ≠ []) : (round1 h B f is).2.length + 1 ≤ fuel :=
  have hne : is ≠ [] := fun e => hr (List.append_eq_nil_iff.1 ((round1_append h B f is).trans e)).2
  Nat.le_trans (round1_rest_length h B f is hf hne) (Nat.le_of_succ_le_succ hfu)

theorem packFixedLoop_sendT (h : Handle α) (r f : Nat) : ∀ (n : Nat) (is : List Nat) (k : Nat) (b : MessageBuffer α),
    n ≤ is.length → b.fresh →
    packFixedLoop h n (sendT r k is f) b =
      (sendT r (k + n) (is.drop n) f,
       ⟨b.size, b.cells ++ (is.take n).flatMap h.data, b.position + total h (is.take n)⟩) := by
  intro n
  induction n with
  | zero => intro is k b _ _; simp [packFixedLoop]
  | succ n ih =>
    intro is k b hn hb
    cases is with
    | nil => simp at hn
    | cons i is =>
      simp only [packFixedLoop, sendT_iface, sendT_move, buf_write_fresh b _ hb]
      rw [ih is (k + 1) _ (by simpa using hn) (hb.append (h.data i))]
      simp [Handle.size, Nat.add_assoc, Nat.add_comm 1]

theorem packEntries_sendT (h : Handle α) (B f r k : Nat) (is : List Nat) (b : MessageBuffer α) (hb : b.size = B)
    (hf : Fits h B f is) :
    packEntries h (sendT r k is f) b.reset =
      (total h (round1 h B f is).1, sendT r (k + (round1 h B f is).1.length) (round1 h B f is).2 f,
       ⟨B, (round1 h B f is).1.flatMap h.data, total h (round1 h B f is).1⟩) := by
  have hfresh : (b.reset).fresh := rfl
  rcases hf with ⟨rfl, _⟩ | ⟨h0, _, hs⟩
  · have := packVarLoop_sendT h r is is.length k b.reset 0 (Nat.le_refl _) hfresh
    simpa [packEntries, round1, hb] using this
  · have hn : min (B / f) is.length ≤ is.length := Nat.min_le_right ..
    have := packFixedLoop_sendT h r f _ is k b.reset hn hfresh
    have htot := total_fixed h f _ fun i hi => hs i (List.mem_of_mem_take (i := min (B / f) is.length) hi)
    rw [List.length_take, Nat.min_eq_left hn] at htot
    simp only [packEntries, round1, sendT_fixed, ne_eq, h0, not_false_eq_true, if_true, sendT_left, buf_reset_size, hb, this,
      htot, List.length_take, Nat.min_eq_left hn, buf_reset_cells, buf_reset_pos, List.nil_append, Nat.zero_add]

theorem setupSend_sendT (h : Handle α) (B f r k : Nat) (is : List Nat) (b : MessageBuffer α) (hb : b.size = B)
    (hf : Fits h B f is) :
    (setupSend h (sendT r k is f) b).tracker = sendT r (k + (round1 h B f is).1.length) (round1 h B f is).2 f ∧
    (setupSend h (sendT r k is f) b).buffer.size = B ∧
    (setupSend h (sendT r k is f) b).message =
      if total h (round1 h B f is).1 ≠ 0 then some ((round1 h B f is).1.flatMap h.data) else none := by
  have hg := round1_greedy hf
  have hpos : ∀ i rr, (round1 h B f is).2 = i :: rr → h.size i ≠ 0 := fun i rr e => by have := hg.2 i rr e; omega
  simp only [setupSend, packEntries_sendT h B f r k is b hb hf, skipZeroSend_sendT h _ r _ _ f hpos]
  exact ⟨trivial, trivial, by rw [total, List.take_length]⟩

/-- the blocks of indices of the successive rounds -/
def blocks (h : Handle α) (B f : Nat) : Nat → List Nat → List (List Nat)
  | 0, _ => []
  | fuel + 1, is =>
    if (round1 h B f is).2.isEmpty then [(round1 h B f is).1]
    else (round1 h B f is).1 :: blocks h B f fuel (round1 h B f is).2

/-- the messages: the data of every block that holds at least one item -/
def msgsOf (h : Handle α) (B f fuel : Nat) (is : List Nat) : List (List α) :=
  ((blocks h B f fuel is).map (fun a => a.flatMap h.data)).filter (fun m => !m.isEmpty)

theorem msgsOf_succ (h : Handle α) (B f fuel : Nat) (is : List Nat) :
    msgsOf h B f (fuel + 1) is =
      (if total h (round1 h B f is).1 = 0 then [] else [(round1 h B f is).1.flatMap h.data]) ++
        if (round1 h B f is).2 = [] then [] else msgsOf h B f fuel (round1 h B f is).2 := by
  rw [msgsOf, msgsOf, blocks]
  simp only [total, List.length_eq_zero_iff]
  by_cases hr : (round1 h B f is).2 = [] <;> by_cases ht : (round1 h B f is).1.flatMap h.data = [] <;>
    simp [hr, ht]

theorem blocks_flatten (h : Handle α) (B f : Nat) : ∀ (fuel : Nat) (is : List Nat), is.length + 1 ≤ fuel →
    Fits h B f is → (blocks h B f fuel is).flatten = is := by
  intro fuel is
  fun_induction blocks h B f fuel is with
  | case1 => intro hfu; omega
  | case2 fuel is hr =>
    intro _ _
    have := round1_append h B f is
    rw [List.isEmpty_iff.1 hr] at this
    simpa using this
  | case3 fuel is hr ih =>
    intro hfu hf
    rw [List.flatten_cons, ih (round1_rest_lt_fuel h B f is hf fuel hfu (by simpa using hr)) hf.rest]
    exact round1_append h B f is

theorem blocks_mem (h : Handle α) (B f fuel : Nat) (is : List Nat) (hf : Fits h B f is) :
    ∀ a ∈ blocks h B f fuel is, total h a ≤ B ∧ (is ≠ [] → a ≠ []) := by
  fun_induction blocks h B f fuel is with
  | case1 => intro a ha; cases ha
  | case2 fuel is hr => exact List.forall_mem_singleton.2 ⟨(round1_greedy hf).1, round1_ne_nil h B f is hf⟩
  | case3 fuel is hr ih =>
    exact List.forall_mem_cons.2 ⟨⟨(round1_greedy hf).1, round1_ne_nil h B f is hf⟩,
      fun a ha => ⟨(ih hf.rest a ha).1, fun _ => (ih hf.rest a ha).2 (by simpa using hr)⟩⟩

/-- every round takes at least one index -/
theorem blocks_length_le (h : Handle α) (B f fuel : Nat) (is : List Nat) (hf : Fits h B f is) (hne : is ≠ []) :
    (blocks h B f fuel is).length ≤ is.length := by
  fun_induction blocks h B f fuel is with
  | case1 => exact Nat.zero_le _
  | case2 fuel is hr => exact List.length_pos_iff.2 hne
  | case3 fuel is hr ih =>
    exact Nat.succ_le_of_lt (Nat.lt_of_le_of_lt (ih hf.rest (by simpa using hr)) (round1_rest_length h B f is hf hne))

theorem sendAll_sendT (h : Handle α) (B f : Nat) : ∀ (fuel : Nat) (is : List Nat) (k r : Nat) (b : MessageBuffer α)
    (ini : Bool), is.length + 1 ≤ fuel → b.size = B → Fits h B f is → (ini = true ∨ 0 < total h is) →
    (sendAll h fuel ini (sendT r k is f) b).messages = msgsOf h B f fuel is ∧
    (sendAll h fuel ini (sendT r k is f) b).tracker.finished = true ∧
    (sendAll h fuel ini (sendT r k is f) b).stuck = false := by
  intro fuel
  induction fuel with
  | zero => intro is k r b ini hfu; omega
  | succ fuel ih =>
    intro is k r b ini hfu hb hf hini
    obtain ⟨ht, hbs, hm⟩ := setupSend_sendT h B f r k is b hb hf
    rw [msgsOf_succ]
    unfold sendAll
    by_cases hz : total h (round1 h B f is).1 = 0
    · -- nothing packed: everything was empty, no message
      have hini' : ini = true := hini.resolve_right fun hpos => total_round_pos hf hpos hz
      simp [hm, hz, ht, round1_zero h B f is hf hz, hini']
    · by_cases hr : (round1 h B f is).2 = []
      · simp [hm, hz, ht, hr]
      · have hrec := ih (round1 h B f is).2 (k + (round1 h B f is).1.length) r (setupSend h (sendT r k is f) b).buffer
          false (round1_rest_lt_fuel h B f is hf fuel hfu hr) hbs hf.rest (Or.inr ((rest_nil_or_pos hf).resolve_left hr))
        simp only [hm, hz, hr, ne_eq, not_false_eq_true, if_true, if_false, ht, sendT_skip, sendT_finished,
          List.isEmpty_iff, List.singleton_append]
        exact ⟨by rw [hrec.1], hrec.2.1, hrec.2.2⟩

end DV.C06
