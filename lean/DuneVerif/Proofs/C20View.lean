import DuneVerif.Proofs.C20Store
/-! Views: which cells a (strided) view denotes (`ViewOK`), what writing through a view does (`viewWrite` as `writeCells`),
    and the memory the harness lays a strided operand out in (`stridedMem`). -/
namespace DV.C20

/-- a view denotes existing cells: its block exists, it really strides, its records have a size (so every byte address
    `ptr + j*stride` is the start of a cell), every entry lies inside the block -/
def ViewOK (s : State) (v : View) : Prop :=
  v.blk < s.blocks.length ∧ v.step ≠ 0 ∧ 0 < v.lay.rsz ∧
  ∀ j, j < v.len → 0 ≤ v.off + (j : Int) * v.step ∧ v.off + (j : Int) * v.step < ((s.read v.blk).length : Int)

theorem ViewOK.pos_lt {s : State} {v : View} (h : ViewOK s v) (j : Nat) (hj : j < v.len) :
    v.pos j < (s.read v.blk).length := by
  have := h.2.2.2 j hj
  rw [View.pos_eq v h.2.2.1]
  omega

theorem stride_inj {off st : Int} (hst : st ≠ 0) {p q : Nat} (hp : 0 ≤ off + (p : Int) * st) (hq : 0 ≤ off + (q : Int) * st)
    (he : (off + (p : Int) * st).toNat = (off + (q : Int) * st).toNat) : p = q := by
  have he' : (p : Int) * st = (q : Int) * st := by omega
  have := Int.eq_of_mul_eq_mul_right hst he'
  omega

theorem ViewOK.pos_inj {s : State} {v : View} (h : ViewOK s v) (j j' : Nat) (hj : j < v.len) (hj' : j' < v.len)
    (he : v.pos j = v.pos j') : j = j' := by
  rw [View.pos_eq v h.2.2.1, View.pos_eq v h.2.2.1] at he
  exact stride_inj h.2.1 (h.2.2.2 j hj).1 (h.2.2.2 j' hj').1 he

theorem ViewOK.byte_addr {s : State} {v : View} (h : ViewOK s v) (j : Nat) (hj : j < v.len) :
    ∃ c : Nat, v.lay.cellAt (entryAddr v.info j) = some (c : Int) ∧ c < (s.read v.blk).length ∧ v.pos j = c := by
  have hb := h.2.2.2 j hj
  refine ⟨(v.off + (j : Int) * v.step).toNat, ?_, by omega, View.pos_eq v h.2.2.1 j⟩
  unfold View.info
  rw [cellAt_entryAddr v.lay h.2.2.1, Int.toNat_of_nonneg hb.1]

theorem fullView_ok (s : State) (b : Nat) (hb : b < s.blocks.length) : ViewOK s (fullView b (s.read b).length) := by
  refine ⟨hb, by simp [fullView], by simp [fullView], ?_⟩
  intro j hj
  simp only [fullView] at hj ⊢
  omega

/-- `viewWrite` as a fold on one block: cell `pos j` gets `vals[j]` for `j < m` -/
def writeCells (l : List Int) (pos : Nat → Nat) (vals : List Int) (m : Nat) : List Int :=
  (List.range m).foldl (fun l j => l.set (pos j) (vals.getD j 0)) l

theorem writeCells_succ (l : List Int) (pos : Nat → Nat) (vals : List Int) (m : Nat) :
    writeCells l pos vals (m + 1) = (writeCells l pos vals m).set (pos m) (vals.getD m 0) := by
  simp [writeCells, List.range_succ, List.foldl_append]

theorem writeCells_length (l : List Int) (pos : Nat → Nat) (vals : List Int) (m : Nat) :
    (writeCells l pos vals m).length = l.length := by
  induction m with
  | zero => simp [writeCells]
  | succ m ih => rw [writeCells_succ, List.length_set, ih]

theorem writeCells_get_other (l : List Int) (pos : Nat → Nat) (vals : List Int) (m q : Nat)
    (h : ∀ j, j < m → pos j ≠ q) : (writeCells l pos vals m)[q]? = l[q]? := by
  induction m with
  | zero => simp [writeCells]
  | succ m ih =>
    rw [writeCells_succ, List.getElem?_set_ne (h m (by omega)), ih (fun j hj => h j (by omega))]

theorem writeCells_get_pos (l : List Int) (pos : Nat → Nat) (vals : List Int) (m : Nat)
    (hinj : ∀ j j', j < m → j' < m → pos j = pos j' → j = j') (hin : ∀ j, j < m → pos j < l.length)
    (j : Nat) (hj : j < m) : (writeCells l pos vals m)[pos j]? = some (vals.getD j 0) := by
  induction m with
  | zero => omega
  | succ m ih =>
    rw [writeCells_succ]
    by_cases hjm : j = m
    · subst hjm
      exact List.getElem?_set_self (by rw [writeCells_length]; exact hin j (by omega))
    · rw [List.getElem?_set_ne fun he => hjm (hinj j m hj (Nat.lt_succ_self m) he.symm)]
      exact ih (fun a b ha hb => hinj a b (by omega) (by omega)) (fun a ha => hin a (by omega)) (by omega)

theorem viewWrite_eq (s : State) (v : View) (vals : List Int) (hb : v.blk < s.blocks.length) :
    s.viewWrite v vals = s.write v.blk (writeCells (s.read v.blk) v.pos vals (min v.len vals.length)) :=
  calc s.viewWrite v vals
      = (s.write v.blk (s.read v.blk)).viewWrite v vals := by rw [write_read_self s _ hb]
    _ = _ := List.foldl_hom (s.write v.blk) fun l j => by rw [read_write_same s _ _ hb, write_write]

/-- the memory of a strided operand: the filler, written along the operand's enumeration -/
theorem stridedMem_fst (st : Int) (L : List Int) :
    (stridedMem st L).1 = writeCells (List.replicate (max 1 (L.length * st.natAbs)) 77)
      (fun j => ((stridedMem st L).2 + (j : Int) * st).toNat) L L.length := rfl

theorem stridedMem_length (st : Int) (L : List Int) : (stridedMem st L).1.length = max 1 (L.length * st.natAbs) := by
  rw [stridedMem_fst, writeCells_length, List.length_replicate]

/-- entries `j < len` of a layout with stride `±(k+1)` stay inside `max 1 (len*(k+1))` cells -/
theorem stride_bounds (k len j : Nat) (hj : j < len) :
    (j : Int) * ((k + 1 : Nat) : Int) < ((max 1 (len * (k + 1)) : Nat) : Int) ∧
    0 ≤ ((max 1 (len * (k + 1)) : Nat) : Int) - 1 + (j : Int) * (-((k + 1 : Nat) : Int)) := by
  have h1 : (j + 1) * (k + 1) ≤ len * (k + 1) := Nat.mul_le_mul_right _ (by omega)
  rw [Nat.succ_mul] at h1
  rw [Int.mul_neg]
  omega

theorem Lay.stride_ne_zero (lay : Lay) : lay.stride ≠ 0 := by
  cases lay <;> simp only [Lay.stride] <;> first | decide | (split <;> omega)

theorem stridedMem_inside (st : Int) (hst : st ≠ 0) (L : List Int) (j : Nat) (hj : j < L.length) :
    0 ≤ (stridedMem st L).2 + (j : Int) * st ∧
    (stridedMem st L).2 + (j : Int) * st < ((stridedMem st L).1.length : Int) := by
  obtain ⟨k, hk⟩ : ∃ k, st.natAbs = k + 1 := Nat.exists_eq_succ_of_ne_zero (Int.natAbs_ne_zero.mpr hst)
  have hb := stride_bounds k L.length j hj
  have h0 : 0 ≤ (j : Int) * ((k + 1 : Nat) : Int) := Int.mul_nonneg (Int.natCast_nonneg j) (Int.natCast_nonneg _)
  rw [stridedMem_length, hk]
  simp only [stridedMem, hk]
  -- `st` is `k+1` or `-(k+1)`: put that in before `omega` sees `natAbs`
  rcases Int.natAbs_eq st with h | h <;> rw [hk] at h <;> rw [h]
  · rw [if_neg (by omega)]
    omega
  · rw [if_pos (by omega), Int.mul_neg]
    rw [Int.mul_neg] at hb
    omega

theorem stridedMem_getElem? (st : Int) (hst : st ≠ 0) (L : List Int) (j : Nat) (hj : j < L.length) :
    ((stridedMem st L).1)[((stridedMem st L).2 + (j : Int) * st).toNat]? = some (L.getD j 0) := by
  have hb := stridedMem_inside st hst L
  rw [stridedMem_fst]
  refine writeCells_get_pos _ _ L L.length (fun p q hp hq he => stride_inj hst (hb p hp).1 (hb q hq).1 he)
    (fun p hp => ?_) j hj
  have h1 := hb p hp
  rw [stridedMem_length] at h1
  rw [List.length_replicate]
  omega

/-- a fresh buffer object holds the numbers it was built from at the cells its view enumerates -/
theorem stridedMem_get (lay : Lay) (A : List Int) (j : Nat) (hj : j < A.length) :
    ((stridedMem lay.stride A).1)[((stridedMem lay.stride A).2 + (j : Int) * lay.stride).toNat]? = some (A.getD j 0) :=
  stridedMem_getElem? _ lay.stride_ne_zero A j hj

/-- the array register bound to a fresh buffer object shows exactly the numbers the object was built from (read back through
    the byte addresses of its entries) -/
theorem stridedMem_shows (lay : Lay) (A : List Int) (s : State) (a dt : Nat) (hr : 0 < lay.memLay.rsz) :
    ((s.alloc (stridedMem lay.stride A).1).1.bindA a
        { blk := s.blocks.length, off := (stridedMem lay.stride A).2, step := lay.stride, len := A.length, dt := dt,
          lay := lay.memLay }).viewVals
      { blk := s.blocks.length, off := (stridedMem lay.stride A).2, step := lay.stride, len := A.length, dt := dt,
        lay := lay.memLay } = A := by
  unfold State.viewVals
  simp only [bindA_read]
  have hrd : (s.alloc (stridedMem lay.stride A).1).1.read s.blocks.length = (stridedMem lay.stride A).1 :=
    read_alloc_new s _
  rw [hrd]
  refine map_getD_pos _ A _ A.length rfl fun j hj => ?_
  rw [View.pos_eq _ hr j, stridedMem_get lay A j hj]
  exact (getElem?_eq_some_getD hj).symm

theorem memLay_rsz_pos (lay : Lay) (dt : Nat) (h : lay.fits dt = true) : 0 < lay.memLay.rsz := by
  cases lay with
  | q R fo neg k =>
    simp only [Lay.fits, decide_eq_true_eq] at h
    simp only [Lay.memLay]
    have : 0 < dtSize dt := by unfold dtSize; split <;> omega
    omega
  | _ => simp [Lay.memLay]

end DV.C20
