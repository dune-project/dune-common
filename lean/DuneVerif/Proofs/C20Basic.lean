import DuneVerif.Model.C20
import DuneVerif.Common.Lists
/-! The binding-level functions against their specifications (constructor loops, byte addresses of the buffer protocol,
    index normalisation), the primitives of the store with the two orders on stores (`Extends`, `Grows`), and what the two
    invariant modules share: the case principle for register look-ups (`optCases`) and the induction over programs
    (`run_keeps`).  Core Lean only. -/
namespace DV.C20

theorem foldl_set_range {α} (f : Nat → α) (l : List α) (m : Nat) (h : m ≤ l.length) :
    (List.range m).foldl (fun acc i => acc.set i (f i)) l = (List.range m).map f ++ l.drop m := by
  induction m with
  | zero => rfl
  | succ m ih =>
    rw [List.range_succ, List.foldl_append, ih (Nat.le_of_succ_le h), List.map_append, List.append_assoc,
      List.drop_eq_getElem_cons h]
    simp [List.set_append_right, -List.getElem_cons_drop]

/-- the model reads cells with `getD _ 0`, the specifications speak of `[i]?`: in range they are the same entry -/
theorem getElem?_eq_some_getD {l : List Int} {i : Nat} (h : i < l.length) : l[i]? = some (l.getD i 0) := by
  rw [List.getD_eq_getElem?_getD, List.getElem?_eq_getElem h]
  rfl

theorem map_getD_pos (l m : List Int) (pos : Nat → Nat) (len : Nat) (hlen : m.length = len)
    (h : ∀ k, k < len → l[pos k]? = m[k]?) : (List.range len).map (fun j => l.getD (pos j) 0) = m := by
  subst hlen
  refine (List.map_congr_left fun k hk => ?_).trans (map_getD_range m 0)
  rw [List.getD_eq_getElem?_getD, List.getD_eq_getElem?_getD, h k (List.mem_range.mp hk)]

/-- the loop that `constructLoop` and `constructBuf` share -/
theorem fill_construct (n k : Nat) (f : Nat → Int) :
    (List.range (min n k)).foldl (fun acc i => acc.set i (f i)) (List.replicate n 0)
      = construct n ((List.range k).map f) := by
  rw [foldl_set_range f _ _ (List.length_replicate ▸ Nat.min_le_left n k)]
  unfold construct
  -- both sides end in `n - k` zeros
  rw [List.take_append, List.take_replicate, ← List.map_take, List.take_range, List.length_map, List.length_range,
    List.drop_replicate, ← Nat.sub_eq_sub_min, Nat.min_eq_left (Nat.sub_le n k)]

theorem constructLoop_eq (n : Nat) (xs : List Int) : constructLoop n xs = construct n xs := by
  unfold constructLoop
  rw [fill_construct, map_getD_range]

theorem construct_length (n : Nat) (xs : List Int) : (construct n xs).length = n := by
  simp [construct]

theorem construct_getElem? (n : Nat) (xs : List Int) (i : Nat) (hi : i < n) :
    (construct n xs)[i]? = some (if i < xs.length then xs.getD i 0 else 0) := by
  unfold construct
  rw [List.getElem?_take]
  simp only [hi, if_true]
  by_cases h : i < xs.length
  · rw [List.getElem?_append_left h]
    simp [h, List.getD_eq_getElem?_getD]
  · rw [List.getElem?_append_right (by omega), List.getElem?_replicate]
    have : i - xs.length < n := by omega
    simp [h, this]

theorem MemLay.cellAt_addr (m : MemLay) (hr : 0 < m.rsz) (c : Int) : m.cellAt (m.addr c) = some c := by
  unfold MemLay.cellAt MemLay.addr
  rw [if_neg (by omega), Int.add_sub_cancel, Int.mul_emod_right, if_pos rfl, Int.mul_ediv_cancel_left _ (by omega)]

theorem entryAddr_bufInfo (m : MemLay) (off step : Int) (len j : Nat) :
    entryAddr (bufInfo m off step len) j = m.addr (off + (j : Int) * step) := by
  simp only [entryAddr, bufInfo, MemLay.addr]
  rw [Int.mul_add, Int.mul_left_comm, Int.add_right_comm]

/-- Byte addressing finds the cell: the byte address `ptr + j*stride` of entry `j` of a buffer that shows the cells
    `off, off+step, …` of an object with records of any size `rsz > 0` is where cell `off + j*step` starts. -/
theorem cellAt_entryAddr (m : MemLay) (hr : 0 < m.rsz) (off step : Int) (len j : Nat) :
    m.cellAt (entryAddr (bufInfo m off step len) j) = some (off + (j : Int) * step) := by
  rw [entryAddr_bufInfo, MemLay.cellAt_addr m hr]

/-- Addressing in whole items of `w` bytes (`ptr[i * (stride / w)]`, truncating division) is the byte address
    `ptr + i*stride` exactly when `i = 0` or the stride is a multiple of the item size. -/
theorem elemAddr_eq_iff (w : Nat) (hw : 0 < w) (b : BufInfo) (i : Nat) :
    elemAddr w b i = entryAddr b i ↔ (i = 0 ∨ (w : Int) ∣ b.stride) := by
  have hwne : (w : Int) ≠ 0 := by omega
  unfold elemAddr entryAddr
  constructor
  · intro h
    by_cases hi : i = 0
    · exact Or.inl hi
    · have h1 : (i : Int) * ((w : Int) * b.stride.tdiv (w : Int)) = (i : Int) * b.stride := by
        rw [Int.mul_left_comm]
        omega
      exact Or.inr ⟨_, (Int.eq_of_mul_eq_mul_left (by omega) h1).symm⟩
  · rintro (rfl | hd)
    · simp
    · rw [Int.mul_left_comm, Int.mul_tdiv_cancel' hd]

theorem load_elemAddr (mem : List Int) (m : MemLay) (hr : 0 < m.rsz) (off step : Int) (shape i : Nat)
    (hal : i = 0 ∨ (8 : Int) ∣ (m.rsz : Int) * step) :
    m.load mem (elemAddr 8 (bufInfo m off step shape) i) = bufEntry mem off step i := by
  have h := (elemAddr_eq_iff 8 (by omega) (bufInfo m off step shape) i).2 hal
  unfold MemLay.load
  rw [h, cellAt_entryAddr m hr]
  rfl

/-- NumPy's alignment flag implies what the buffer constructor needs: at most one entry, or a byte stride that is a
    multiple of the item size -/
theorem aligned_stride (m : MemLay) (off step : Int) (shape : Nat) (h : (bufInfo m off step shape).aligned 8 = true) :
    shape ≤ 1 ∨ (8 : Int) ∣ (m.rsz : Int) * step := by
  simp only [BufInfo.aligned, bufInfo, Bool.or_eq_true, Bool.and_eq_true, beq_iff_eq] at h
  rcases h with h0 | ⟨_, h1 | h8⟩
  · left; omega
  · left; exact of_decide_eq_true h1
  · right; exact Int.dvd_of_emod_eq_zero h8

theorem constructBuf_eq (n : Nat) (mem : List Int) (m : MemLay) (hr : 0 < m.rsz) (off step : Int) (shape : Nat)
    (hal : shape ≤ 1 ∨ (8 : Int) ∣ (m.rsz : Int) * step) :
    constructBuf n mem m (bufInfo m off step shape) = construct n ((List.range shape).map (bufEntry mem off step)) := by
  unfold constructBuf
  rw [fill_construct]
  congr 1
  apply List.map_congr_left
  intro i hi
  have hi' : i < shape := by simpa [bufInfo] using hi
  exact load_elemAddr mem m hr off step shape i (hal.imp (fun h1 => by omega) id)

theorem constructBuf_length (n : Nat) (mem : List Int) (m : MemLay) (b : BufInfo) :
    (constructBuf n mem m b).length = n := by
  unfold constructBuf
  rw [fill_construct, construct_length]

theorem constructLoop_length (n : Nat) (xs : List Int) : (constructLoop n xs).length = n := by
  rw [constructLoop_eq]; exact construct_length _ _

theorem dynConstructLoop_eq (xs : List Int) : dynConstructLoop xs = xs := by
  unfold dynConstructLoop
  rw [foldl_set_range _ _ _ (Nat.le_of_eq List.length_replicate.symm), map_getD_range]
  simp

/-- Python's `%` on the admissible indices -/
theorem emod_of_index {n i : Int} (h0 : -n ≤ i) (h1 : i < n) : i % n = if i < 0 then i + n else i := by
  split
  · rw [← Int.add_emod_right, Int.emod_eq_of_lt (by omega) (by omega)]
  · exact Int.emod_eq_of_lt (by omega) h1

theorem normIndex_eq (n : Nat) (i : Int) :
    normIndex n i = if -(n : Int) ≤ i ∧ i < n then some (i % (n : Int)).toNat else none := by
  unfold normIndex
  by_cases hr : -(n : Int) ≤ i ∧ i < n
  · rw [if_pos hr, emod_of_index hr.1 hr.2, if_neg (by split <;> omega)]
  · rw [if_neg hr, if_pos (by split <;> omega)]

theorem normIndex_eq_mod (n : Nat) (i : Int) (h0 : -(n : Int) ≤ i) (h1 : i < n) :
    normIndex n i = some (i % (n : Int)).toNat := by
  rw [normIndex_eq, if_pos ⟨h0, h1⟩]

theorem normIndex_nonneg (n : Nat) (i : Int) (h0 : 0 ≤ i) (h1 : i < n) : normIndex n i = some i.toNat := by
  rw [normIndex_eq_mod n i (by omega) h1, Int.emod_eq_of_lt h0 h1]

theorem normIndex_out (n : Nat) (i : Int) (h : i < -(n : Int) ∨ (n : Int) ≤ i) : normIndex n i = none := by
  rw [normIndex_eq, if_neg (by omega)]

theorem normIndex_lt (n : Nat) (i : Int) (p : Nat) (h : normIndex n i = some p) : p < n := by
  rw [normIndex_eq] at h
  split at h
  · cases h
    have := Int.emod_lt_of_pos i (show (0 : Int) < n by omega)
    have := Int.emod_nonneg i (show (n : Int) ≠ 0 by omega)
    omega
  · cases h

theorem normIndex_mod (n : Nat) (i : Int) (h0 : -(n : Int) ≤ i) (h1 : i < n) :
    ∃ p : Nat, normIndex n i = some p ∧ p < n ∧ (p : Int) = i % (n : Int) :=
  have hn := normIndex_eq_mod n i h0 h1
  ⟨_, hn, normIndex_lt _ _ _ hn, Int.toNat_of_nonneg (Int.emod_nonneg i (by omega))⟩

theorem setItem_length {l : List Int} {j k : Int} {v : List Int} (h : setItem l j k = .ok v) : v.length = l.length := by
  unfold setItem at h
  split at h
  · cases h
  · cases h
    exact List.length_set

theorem upd_eq_some {α} {f : Nat → Option α} {t : Nat} {g : Option α} {t' : Nat} {x : α} (h : upd f t g t' = some x) :
    f t' = some x ∨ g = some x := by
  unfold upd at h
  split at h
  · right; exact h
  · left; exact h

theorem upd_some_of {α} {P : α → Prop} {f : Nat → Option α} {t : Nat} {y : α} (hy : P y) {t' : Nat} {x : α}
    (h : upd f t (some y) t' = some x) : f t' = some x ∨ P x :=
  (upd_eq_some h).imp id fun e => by cases e; exact hy

theorem read_write_same (s : State) (b : Nat) (v : List Int) (hb : b < s.blocks.length) :
    (s.write b v).read b = v := by
  simp [State.read, State.write, List.getD_eq_getElem?_getD, hb]

theorem read_write_other (s : State) (b c : Nat) (v : List Int) (h : b ≠ c) :
    (s.write b v).read c = s.read c := by
  simp [State.read, State.write, List.getD_eq_getElem?_getD, h]

theorem write_blocks_length (s : State) (b : Nat) (v : List Int) :
    (s.write b v).blocks.length = s.blocks.length := by
  simp [State.write]

theorem write_read_self (s : State) (b : Nat) (hb : b < s.blocks.length) : s.write b (s.read b) = s := by
  simp [State.write, State.read, List.getD_eq_getElem?_getD, hb]

theorem write_write (s : State) (b : Nat) (v w : List Int) : (s.write b v).write b w = s.write b w := by
  simp [State.write]

theorem read_alloc_new (s : State) (v : List Int) : (s.alloc v).1.read (s.alloc v).2 = v := by
  simp [State.read, State.alloc, List.getD_eq_getElem?_getD]

theorem read_alloc_old (s : State) (v : List Int) (b : Nat) (hb : b < s.blocks.length) :
    (s.alloc v).1.read b = s.read b := by
  simp [State.read, State.alloc, List.getD_eq_getElem?_getD, List.getElem?_append_left hb]

theorem alloc_fresh (s : State) (v : List Int) : (s.alloc v).2 = s.blocks.length := rfl

theorem alloc_blocks_length (s : State) (v : List Int) : (s.alloc v).1.blocks.length = s.blocks.length + 1 := by
  simp [State.alloc]

theorem alloc_fresh_lt (s : State) (v : List Int) : (s.alloc v).2 < (s.alloc v).1.blocks.length := by
  rw [alloc_blocks_length, alloc_fresh]
  exact Nat.lt_succ_self _

/-- states that only grew: old blocks keep their contents (what an allocation does) -/
def Extends (s s' : State) : Prop :=
  s.blocks.length ≤ s'.blocks.length ∧ ∀ b, b < s.blocks.length → s'.read b = s.read b

theorem Extends.refl (s : State) : Extends s s := ⟨Nat.le_refl _, fun _ _ => rfl⟩

theorem Extends.trans {a b c : State} (h1 : Extends a b) (h2 : Extends b c) : Extends a c :=
  ⟨Nat.le_trans h1.1 h2.1, fun x hx => by rw [h2.2 x (Nat.lt_of_lt_of_le hx h1.1), h1.2 x hx]⟩

theorem extends_alloc (s : State) (v : List Int) : Extends s (s.alloc v).1 :=
  ⟨Nat.le_of_lt (alloc_fresh_lt s v), fun b hb => read_alloc_old s v b hb⟩

/-- blocks are only added and keep their number of cells: all that `Inv` and `TInv` need of a step, and what writes satisfy
    as well as allocations (`Extends.grows`) -/
def Grows (s s' : State) : Prop :=
  s.blocks.length ≤ s'.blocks.length ∧ ∀ b, b < s.blocks.length → (s'.read b).length = (s.read b).length

theorem Grows.refl (s : State) : Grows s s := ⟨Nat.le_refl _, fun _ _ => rfl⟩

theorem Grows.trans {a b c : State} (h1 : Grows a b) (h2 : Grows b c) : Grows a c :=
  ⟨Nat.le_trans h1.1 h2.1, fun x hx => by rw [h2.2 x (Nat.lt_of_lt_of_le hx h1.1), h1.2 x hx]⟩

theorem Extends.grows {s s' : State} (h : Extends s s') : Grows s s' :=
  ⟨h.1, fun b hb => by rw [h.2 b hb]⟩

theorem grows_alloc (s : State) (v : List Int) : Grows s (s.alloc v).1 := (extends_alloc s v).grows

theorem grows_write (s : State) (b : Nat) (v : List Int) (hb : b < s.blocks.length) (hl : v.length = (s.read b).length) :
    Grows s (s.write b v) := by
  refine ⟨by rw [write_blocks_length]; exact Nat.le_refl _, fun c _ => ?_⟩
  by_cases h : b = c
  · subst h
    rw [read_write_same s b v hb, hl]
  · rw [read_write_other s b c v h]

theorem grows_of_blocks_eq {s s' : State} (h : s'.blocks = s.blocks) : Grows s s' := by
  refine ⟨by rw [h]; exact Nat.le_refl _, fun b _ => ?_⟩
  simp [State.read, h]

theorem View.pos_eq (v : View) (hr : 0 < v.lay.rsz) (j : Nat) : v.pos j = (v.off + (j : Int) * v.step).toNat := by
  unfold View.pos View.info
  rw [cellAt_entryAddr v.lay hr]

theorem View.pos_plain (b : Nat) (off step : Int) (len dt j : Nat) :
    View.pos { blk := b, off := off, step := step, len := len, dt := dt } j = (off + (j : Int) * step).toNat :=
  View.pos_eq _ (by show 0 < 8; omega) j

theorem fullView_pos (b n p : Nat) : (fullView b n).pos p = p := by
  unfold fullView
  rw [View.pos_plain]
  simp

theorem viewVals_length (s : State) (v : View) : (s.viewVals v).length = v.len := by
  simp [State.viewVals]

theorem viewVals_fullView (s : State) (b : Nat) :
    s.viewVals (fullView b (s.read b).length) = s.read b := by
  unfold State.viewVals
  simp only [fullView_pos]
  exact map_getD_range (s.read b) 0

/-- Case analysis of a look-up `r`, keeping the equation.  The motive is found by abstracting `r` in the goal, so this passes
    a `match` on `r` whatever its type and its other discriminants (a lemma stated with a `match` of its own only unifies
    with the one matcher it was compiled to): in both branches the model's matcher meets a constructor and reduces. -/
@[elab_as_elim] theorem optCases {α : Type} {motive : Option α → Prop} (r : Option α) (hn : motive none)
    (hs : ∀ b, r = some b → motive (some b)) : motive r := by
  cases r with
  | none => exact hn
  | some b => exact hs b rfl

theorem run_keeps (kd : Kind) {P : State → Prop} (hstep : ∀ s, P s → ∀ op, P (step kd s op).1) :
    ∀ (ops : List Op) (s : State), P s → P (run kd s ops).1
  | [], _, h => h
  | op :: ops, s, h => run_keeps kd hstep ops _ (hstep s h op)

end DV.C20
