/- C03: multi-object histories reduce to single-object histories.  Core Lean only. -/
import DuneVerif.Proofs.C03Inv
import DuneVerif.Model.C03World

namespace DV.C03

/-- `c` is a single-object history that reaches the set under test, `s` one that reaches the snapshot (if one was taken) -/
theorem runWFrom_flat (h : List WOp) : ∀ (w : World) (c : List Op) (s : Option (List Op)),
    w.cur = run c → w.snap = s.map run →
    (runWFrom w h).cur = run (flatFrom c s h).1 ∧ (runWFrom w h).snap = (flatFrom c s h).2.map run := by
  intro w c s
  fun_induction flatFrom c s h generalizing w with
  | case1 c s => exact And.intro
  | case2 c s o r ih => exact fun hc hs => ih _ ((run_snoc c o).trans (hc ▸ rfl)).symm hs
  | case3 c s r ih => exact fun hc _ => ih _ hc (congrArg some hc)
  | case4 c s r ih =>  -- `.restore`: with the snapshot substituted and `s` split, the match in `stepW` computes
    obtain ⟨cur, _⟩ := w
    rintro hc rfl
    cases s with
    | none => exact ih _ hc rfl
    | some sh => exact ih _ rfl rfl
  | case5 c s r ih =>  -- `.view`, likewise
    obtain ⟨cur, _⟩ := w
    rintro hc rfl
    cases s <;> exact ih _ hc rfl

theorem stepW_op_snap (w : World) (o : Op) : (stepW w (.op o)).1.snap = w.snap := rfl

theorem runWFrom_append : ∀ (h1 h2 : List WOp) (w : World), runWFrom w (h1 ++ h2) = runWFrom (runWFrom w h1) h2 := by
  intro h1 h2
  induction h1 with
  | nil => exact fun _ => rfl
  | cons o os ih => exact fun w => ih _

theorem runWFrom_ops_snap : ∀ (ops : List Op) (w : World), (runWFrom w (ops.map .op)).snap = w.snap := by
  intro ops
  induction ops with
  | nil => exact fun _ => rfl
  | cons o os ih => exact fun w => (ih _).trans (stepW_op_snap w o)

end DV.C03
