import DuneVerif.Model.C02
import Mathlib.Order.Defs.LinearOrder
import Mathlib.Logic.Equiv.Basic
import Mathlib.Tactic.SplitIfs
/-! C02: extensionality of `Mat`/`Vec`; induction principles for the loops (two loops in lockstep; one loop is the case
where the second does nothing); closed forms of the inner loops of `luDecomposition` (row exchange, pivot search,
elimination loop), for any scalar type. -/
namespace DV.C02
-- the sections declare the scalar operations of the model (`[Add K] … [OfNat K 1]`) together; most lemmas need only some
set_option linter.unusedSectionVars false

theorem Mat.ext {n : Nat} {K : Type} {A B : Mat n K} (h : ∀ i j, A.f i j = B.f i j) : A = B := by
  obtain ⟨ra, rfl, wa⟩ := A
  obtain ⟨rb, wb, wb'⟩ := B
  congr 1
  exact Array.ext wb.symm fun i hi hi' =>
    Array.ext ((wa i hi).trans (wb' i hi').symm) fun j hj _ => h ⟨i, hi⟩ ⟨j, wa i hi ▸ hj⟩

theorem Vec.ext {n : Nat} {K : Type} {v w : Vec n K} (h : ∀ i, v.f i = w.f i) : v = w := by
  obtain ⟨a, rfl⟩ := v
  obtain ⟨b, wb⟩ := w
  congr 1
  exact Array.ext wb.symm fun i hi _ => h ⟨i, hi⟩

@[simp] theorem Mat.ofFn_eta {n : Nat} {K : Type} (A : Mat n K) : Mat.ofFn A.f = A :=
  Mat.ext (by simp)

@[simp] theorem Vec.ofFn_eta {n : Nat} {K : Type} (v : Vec n K) : Vec.ofFn v.f = v :=
  Vec.ext (by simp)

theorem forUp_succ {n : Nat} {β : Type} (init : β) (body : Fin (n + 1) → β → β) :
    forUp (n + 1) init body = body (Fin.last n) (forUp n init fun k => body k.castSucc) := by
  simp only [forUp, List.finRange_succ_last, List.foldl_append, List.foldl_map, List.foldl_cons, List.foldl_nil]

theorem forDown_succ {n : Nat} {β : Type} (init : β) (body : Fin (n + 1) → β → β) :
    forDown (n + 1) init body = body 0 (forDown n init fun k => body k.succ) := by
  simp only [forDown, List.finRange_succ, List.foldr_cons, List.foldr_map]

/-! Two loops in lockstep, under a relation that may depend on the number of passes made.  Nothing here is about scaling,
whatever the namespace says; `DV.C02.forUp_rel` / `forDown_rel` (C02Tri.lean) are the case of a relation that does not
depend on the pass. -/
namespace Scale

theorem forUp_rel {n : Nat} {β γ : Type} (b : β) (c : γ) (f : Fin n → β → β) (g : Fin n → γ → γ)
    (P : Nat → β → γ → Prop) (h0 : P 0 b c)
    (hs : ∀ (k : Fin n) (s : β) (t : γ), P k.1 s t → P (k.1 + 1) (f k s) (g k t)) :
    P n (forUp n b f) (forUp n c g) := by
  induction n with
  | zero => exact h0
  | succ n ih =>
    rw [forUp_succ, forUp_succ]
    exact hs (Fin.last n) _ _ (ih (fun k => f k.castSucc) (fun k => g k.castSucc) fun k => hs k.castSucc)

theorem forDown_rel {n : Nat} {β γ : Type} (b : β) (c : γ) (f : Fin n → β → β) (g : Fin n → γ → γ)
    (P : Nat → β → γ → Prop) (h0 : P n b c)
    (hs : ∀ (k : Fin n) (s : β) (t : γ), P (k.1 + 1) s t → P k.1 (f k s) (g k t)) :
    P 0 (forDown n b f) (forDown n c g) := by
  induction n generalizing P with
  | zero => exact h0
  | succ n ih =>
    rw [forDown_succ, forDown_succ]
    exact hs 0 _ _ (ih (fun k => f k.succ) (fun k => g k.succ) (fun m => P (m + 1)) h0 fun k => hs k.succ)

end Scale

/-- induction over `for (k = 0; k < n; ++k)`: `P m st` = "`st` is the state after the passes `k < m`" -/
theorem forUp_ind {n : Nat} {β : Type} (init : β) (body : Fin n → β → β) (P : Nat → β → Prop)
    (h0 : P 0 init) (hs : ∀ (k : Fin n) (st : β), P k.1 st → P (k.1 + 1) (body k st)) :
    P n (forUp n init body) :=
  Scale.forUp_rel init () body (fun _ u => u) (fun m st _ => P m st) h0 fun k st _ => hs k st

/-- induction over `for (k = n; k > 0;) { --k; … }`: `P m st` = "`st` is the state after the passes `k ≥ m`" -/
theorem forDown_ind {n : Nat} {β : Type} (init : β) (body : Fin n → β → β) (P : Nat → β → Prop)
    (h0 : P n init) (hs : ∀ (k : Fin n) (st : β), P (k.1 + 1) st → P k.1 (body k st)) :
    P 0 (forDown n init body) :=
  Scale.forDown_rel init () body (fun _ u => u) (fun m st _ => P m st) h0 fun k st _ => hs k st

/-- the successor step of the invariant "the slots `< k` hold their final values `v`, the others their initial values `x₀`"
for a pass that writes slot `k` -/
theorem slot_step {n : Nat} {α : Type} {k : Fin n} {v x₀ x x' : Fin n → α}
    (ih : ∀ r, x r = if r.1 < k.1 then v r else x₀ r) (h : ∀ r, x' r = if r = k then v k else x r) :
    ∀ r, x' r = if r.1 < k.1 + 1 then v r else x₀ r := by
  intro r
  rw [h]
  by_cases hr : r = k
  · rw [if_pos hr, hr, if_pos (Nat.lt_succ_self _)]
  · rw [if_neg hr, ih]
    exact if_congr ⟨Nat.lt_succ_of_lt, fun h => Nat.lt_of_le_of_ne (Nat.le_of_lt_succ h) fun e => hr (Fin.ext e)⟩ rfl rfl

theorem update_forall {ι α : Type} [DecidableEq ι] {P : α → Prop} {θ : ι → α} {p : α} (r : ι) (hp : P p)
    (hθ : ∀ k, P (θ k)) : ∀ k, P (Function.update θ r p k) :=
  (Function.forall_update_iff θ fun _ => P).2 ⟨hp, fun k _ => hθ k⟩

section Swap
variable {n : Nat} {K : Type}

theorem swapRows_f (A : Mat n K) (i p r c : Fin n) :
    (swapRows A i p).f r c = A.f (Equiv.swap i p r) c := by
  simp only [swapRows, Mat.ofFn_f, Equiv.swap_apply_def, apply_ite (A.f · c)]

theorem swapRows_self (A : Mat n K) (i : Fin n) : swapRows A i i = A := by
  apply Mat.ext; intro r c; rw [swapRows_f]; simp

/-- exchanging two rows `i ≤ p` does not move a row above `i`, nor change which rows lie below it -/
theorem swap_lt_iff {i p c r : Fin n} (hip : i ≤ p) (hc : c.1 < i.1) : c < Equiv.swap i p r ↔ c < r := by
  have hp : c < p := Fin.lt_of_lt_of_le hc hip
  by_cases h1 : r = i
  · rw [h1, Equiv.swap_apply_left]; exact iff_of_true hp hc
  by_cases h2 : r = p
  · rw [h2, Equiv.swap_apply_right]; exact iff_of_true hc hp
  rw [Equiv.swap_apply_of_ne_of_ne h1 h2]

theorem swap_fix {i p c : Fin n} (hip : i ≤ p) (hc : c.1 < i.1) : Equiv.swap i p c = c :=
  Equiv.swap_apply_of_ne_of_ne (Fin.ne_of_lt hc) (Fin.ne_of_lt (Fin.lt_of_lt_of_le hc hip))

end Swap

section Elim
variable {n : Nat} {K S : Type} [Add K] [Sub K] [Mul K] [Div K] [Neg K] [OfNat K 0] [OfNat K 1]

/-- entry `(r, c)` of the matrix after the complete elimination loop of outer step `i` -/
def elimEntry (A : Mat n K) (i r c : Fin n) : K :=
  if c = i then A.f r i / A.f i i else if i < c then A.f r c - (A.f r i / A.f i i) * A.f i c else A.f r c

/-- the matrix after the complete elimination loop of outer step `i` -/
def elimAll (A : Mat n K) (i : Fin n) : Mat n K :=
  Mat.ofFn fun r c => if i < r then elimEntry A i r c else A.f r c

theorem elimAll_f (B : Mat n K) (i r c : Fin n) :
    (elimAll B i).f r c = if i < r then elimEntry B i r c else B.f r c := by
  simp [elimAll]

theorem elimAll_f_row (B : Mat n K) (i r c : Fin n) (h : ¬ i < r) : (elimAll B i).f r c = B.f r c := by
  rw [elimAll_f, if_neg h]
theorem elimAll_f_left (B : Mat n K) (i r c : Fin n) (h : i < r) (hc : c.1 < i.1) :
    (elimAll B i).f r c = B.f r c := by
  rw [elimAll_f, if_pos h, elimEntry, if_neg (Fin.ne_of_lt hc), if_neg (Fin.lt_asymm hc)]
theorem elimAll_f_piv (B : Mat n K) (i r : Fin n) (h : i < r) :
    (elimAll B i).f r i = B.f r i / B.f i i := by
  rw [elimAll_f, if_pos h, elimEntry, if_pos rfl]
theorem elimAll_f_right (B : Mat n K) (i r c : Fin n) (h : i < r) (hc : i < c) :
    (elimAll B i).f r c = B.f r c - (B.f r i / B.f i i) * B.f i c := by
  rw [elimAll_f, if_pos h, elimEntry, if_neg (Fin.ne_of_gt hc), if_pos hc]

/-- the diagonal entries `≤ i` after outer step `i` (the `diag` half of `RunInv_step`): those above row `i` are not touched,
entry `i` is the one the row exchange put there -/
theorem diag_step {P : K → Prop} {A : Mat n K} {i p : Fin n} (hip : i ≤ p)
    (hD : ∀ j : Fin n, j.1 < i.1 → P (A.f j j)) (hne : P ((swapRows A i p).f i i)) :
    ∀ j : Fin n, j.1 < i.1 + 1 → P ((elimAll (swapRows A i p) i).f j j) := by
  intro j hj
  rcases Nat.lt_succ_iff_lt_or_eq.mp hj with hlt | heq
  · rw [elimAll_f_row _ i j j (fun h => Nat.lt_asymm hlt h), swapRows_f, swap_fix hip hlt]
    exact hD j hlt
  · obtain rfl : j = i := Fin.ext heq
    rw [elimAll_f_row _ j j j (Nat.lt_irrefl _)]
    exact hne

/-- the elimination loop of outer step `i`: the matrix part is `elimAll A i`, and the functor is called with the
multipliers `A[k][i]/A[i][i]` of the rows `k > i` in turn (rows `k` and `i` are still untouched when row `k` is reached) -/
theorem elimLoop_eq (F : Func n K S) (A : Mat n K) (s : S) (i : Fin n) :
    elimLoop F A s i =
      (elimAll A i, forUp n s fun k s => if i < k then F.elim s (A.f k i / A.f i i) k i else s) := by
  unfold elimLoop
  -- invariant: the rows `< m` are those of `elimAll A i` (which keeps the rows `≤ i`); `h` is the invariant at `m = n`
  refine (fun h => Prod.ext (Mat.ext fun r c => (h.1 c r).trans (if_pos r.2)) h.2)
    (Scale.forUp_rel (A, s) s _ _ (fun m st t =>
      (∀ c r, st.1.f r c = if r.1 < m then (elimAll A i).f r c else A.f r c) ∧ st.2 = t) ⟨fun c r => rfl, rfl⟩ ?_)
  rintro k st t ⟨ih, rfl⟩
  have hk c : st.1.f k c = A.f k c := by rw [ih, if_neg (Nat.lt_irrefl _)]
  by_cases hik : i < k
  · have hi c : st.1.f i c = A.f i c := by
      rw [ih, if_pos (Fin.lt_def.1 hik), elimAll_f_row _ _ _ _ (Fin.lt_irrefl i)]
    rw [if_pos hik, if_pos hik, factor, hk, hi]
    refine ⟨fun c => slot_step (ih c) fun r => ?_, rfl⟩
    rw [elimRow, Mat.ofFn_f, elimAll_f, if_pos hik, elimEntry]
    simp only [hk, hi]
  · rw [if_neg hik, if_neg hik]
    refine ⟨fun c => slot_step (ih c) fun r => ?_, rfl⟩
    by_cases h : r = k
    · rw [if_pos h, h, hk, elimAll_f_row _ _ _ _ hik]
    · rw [if_neg h]

theorem elimLoop_fst (F : Func n K S) (A : Mat n K) (s : S) (i : Fin n) :
    (elimLoop F A s i).1 = elimAll A i := by
  rw [elimLoop_eq]

theorem elimLoop_elimFunc_snd (A : Mat n K) (s : Vec n K) (i : Fin n) :
    (elimLoop elimFunc A s i).2 = Vec.ofFn fun r => if i < r then s.f r - (A.f r i / A.f i i) * s.f i else s.f r := by
  rw [elimLoop_eq]
  refine Vec.ext fun r => ?_
  rw [Vec.ofFn_f]
  refine (forUp_ind s _ (fun m st => ∀ r, st.f r =
      if r.1 < m then (if i < r then s.f r - (A.f r i / A.f i i) * s.f i else s.f r) else s.f r)
    (fun r => rfl) (fun k st ih => ?_) r).trans (if_pos r.2)
  have hk : st.f k = s.f k := by rw [ih, if_neg (Nat.lt_irrefl _)]
  refine slot_step ih fun r => ?_
  by_cases hik : i < k
  · have hi : st.f i = s.f i := by rw [ih, if_pos (Fin.lt_def.1 hik), if_neg (Fin.lt_irrefl i)]
    rw [if_pos hik, if_pos hik, elimFunc, Vec.ofFn_f, hk, hi]
  · rw [if_neg hik, if_neg hik]
    by_cases h : r = k
    · rw [if_pos h, h, hk]
    · rw [if_neg h]

theorem elimLoop_snd_of_elim_id (F : Func n K S) (hF : ∀ s fac k i, F.elim s fac k i = s)
    (A : Mat n K) (s : S) (i : Fin n) : (elimLoop F A s i).2 = s := by
  rw [elimLoop_eq]
  simp only [hF, ite_self]
  exact forUp_ind s _ (fun _ st => st = s) rfl fun _ _ h => h

end Elim

section Pivot
variable {n : Nat} {K Q : Type} [LinearOrder Q]

/-- The pivot search as a loop over the row index alone: the magnitude it carries is that of the candidate row. -/
theorem pivotSearch_eq (absval : K → Q) (A : Mat n K) (i : Fin n) :
    pivotSearch absval A i = (fun p => (absval (A.f p i), p))
      (forUp n i fun k p => if i < k then (if absval (A.f p i) < absval (A.f k i) then k else p) else p) :=
  Scale.forUp_rel _ i _ _ (fun _ st p => st = (absval (A.f p i), p)) rfl (by
    rintro k _ p rfl
    simp only [apply_ite fun q : Fin n => (absval (A.f q i), q)])

/-- the pivot search returns a row `imax ≥ i` whose column-`i` entry has the maximal absolute value among rows `≥ i` -/
theorem pivotSearch_spec (absval : K → Q) (A : Mat n K) (i : Fin n) :
    i ≤ (pivotSearch absval A i).2 ∧
    (pivotSearch absval A i).1 = absval (A.f (pivotSearch absval A i).2 i) ∧
    ∀ k, i ≤ k → absval (A.f k i) ≤ (pivotSearch absval A i).1 := by
  rw [pivotSearch_eq]
  -- the index loop: candidate `i` and the candidates of the passes `< m` are bounded by the one kept
  refine (fun h => ⟨h.1, rfl, fun k hk => (Fin.eq_or_lt_of_le hk).elim (fun e => e ▸ h.2.1) fun hk => h.2.2 k hk k.2⟩)
    (forUp_ind i _ (fun m p => i ≤ p ∧ absval (A.f i i) ≤ absval (A.f p i) ∧
      ∀ k : Fin n, i < k → k.1 < m → absval (A.f k i) ≤ absval (A.f p i))
      ⟨Fin.le_refl _, le_refl _, fun _ _ h => absurd h (Nat.not_lt_zero _)⟩ ?_)
  rintro k p ⟨h1, h3, h4⟩
  -- a row `q` bounds the candidates of the passes `≤ k` if it is above the old bound and above candidate `k`
  have bound (q : Fin n) (hq : absval (A.f p i) ≤ absval (A.f q i)) (hk : i < k → absval (A.f k i) ≤ absval (A.f q i))
      (k' : Fin n) (hk' : i < k') (hb : k'.1 < k.1 + 1) : absval (A.f k' i) ≤ absval (A.f q i) := by
    rcases Fin.eq_or_lt_of_le (Nat.le_of_lt_succ hb) with rfl | hb
    · exact hk hk'
    · exact le_trans (h4 k' hk' hb) hq
  by_cases hik : i < k
  · rw [if_pos hik]
    by_cases hlt : absval (A.f p i) < absval (A.f k i)
    · rw [if_pos hlt]
      exact ⟨Fin.le_of_lt hik, le_of_lt (lt_of_le_of_lt h3 hlt), bound k (le_of_lt hlt) fun _ => le_refl _⟩
    · rw [if_neg hlt]
      exact ⟨h1, h3, bound p (le_refl _) fun _ => not_lt.mp hlt⟩
  · rw [if_neg hik]
    exact ⟨h1, h3, bound p (le_refl _) fun h => absurd h hik⟩

end Pivot

end DV.C02
