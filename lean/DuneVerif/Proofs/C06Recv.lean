import DuneVerif.Proofs.C06Send
/-! C06: unpacking one message; the receive loop over all messages of the peer, for an abstract receive side `RecvSide`. -/
namespace DV.C06
variable {α : Type}

/-- the scatter calls the receiver owes for send indices `is` matched with receive indices `js`
    (zero-size indices get no call) -/
def callsOf (h : Handle α) : List Nat → List Nat → List (Call α)
  | i :: is, j :: js => if h.size i = 0 then callsOf h is js else ⟨j, h.size i, h.data i⟩ :: callsOf h is js
  | _, _ => []

@[simp] theorem callsOf_nil_left (h : Handle α) (js : List Nat) : callsOf h [] js = [] := by
  cases js <;> rfl

theorem callsOf_eq_filterMap (h : Handle α) (is js : List Nat) :
    callsOf h is js =
      (js.zip is).filterMap fun ji => if h.size ji.2 = 0 then none else some ⟨ji.1, h.size ji.2, h.data ji.2⟩ := by
  induction is generalizing js with
  | nil => simp
  | cons i is ih =>
    cases js with
    | nil => rfl
    | cons j js =>
      rw [callsOf, ih, List.zip_cons_cons, List.filterMap_cons]
      by_cases hz : h.size i = 0
      · rw [if_pos hz, if_pos hz]
      · rw [if_neg hz, if_neg hz]

theorem callsOf_append (h : Handle α) : ∀ (a ja r jr : List Nat), ja.length = a.length →
    callsOf h (a ++ r) (ja ++ jr) = callsOf h a ja ++ callsOf h r jr := by
  intro a ja r jr hl
  simp only [callsOf_eq_filterMap, List.zip_append hl, List.filterMap_append]

theorem callsOf_allzero (h : Handle α) : ∀ (is js : List Nat), total h is = 0 → callsOf h is js = [] := by
  intro is js ht
  rw [callsOf_eq_filterMap, List.filterMap_eq_nil_iff]
  intro ji hji
  exact if_pos ((total_eq_zero_iff h is).1 ht _ (List.of_mem_zip hji).2)

@[simp] theorem recvT_iface (r k js ss) : (recvT r k js ss).iface = js := rfl
@[simp] theorem recvT_sizes (r k js ss) : (recvT r k js ss).sizes = ss := rfl

theorem MessageBuffer.read_front {β : Type} (b : MessageBuffer β) (n : Nat) (d r : List β) (hn : d.length = n)
    (h : b.cells.drop b.position = d ++ r) :
    (b.read n).1 = d ∧ (b.read n).2.cells.drop (b.read n).2.position = r := by
  subst hn
  simp only [MessageBuffer.read]
  rw [← List.drop_drop, h]
  simp

theorem unpackVarLoop_recvS (h : Handle α) (r : Nat) (rest jrest : List Nat) :
    ∀ (a ja : List Nat) (k unpacked fuel : Nat) (b : MessageBuffer α) (cs : List (Call α)),
    ja.length = a.length → b.cells.drop b.position = a.flatMap h.data →
    (recvS r k (ja ++ jrest) ((a ++ rest).map h.size)).indicesLeft ≤ fuel →
    unpackVarLoop (unpacked + total h a) fuel unpacked (recvS r k (ja ++ jrest) ((a ++ rest).map h.size)) b cs =
      (recvS r (k + a.length) jrest (rest.map h.size), { b with position := b.position + total h a },
        cs ++ callsOf h a ja) := by
  intro a
  induction a with
  | nil =>
    intro ja k unpacked fuel b cs hl _ _
    obtain rfl := List.eq_nil_of_length_eq_zero hl
    cases fuel <;> simp [unpackVarLoop]
  | cons i a ih =>
    intro ja k unpacked fuel b cs hl hcells hfuel
    obtain ⟨j, ja, rfl⟩ := List.exists_cons_of_length_eq_add_one hl
    rw [List.cons_append, List.cons_append, List.map_cons] at hfuel ⊢
    rw [total_cons, callsOf, List.length_cons, ← Nat.add_assoc k, Nat.add_right_comm k]
    by_cases hz : h.size i = 0
    · -- an empty index: the tracker has skipped it already
      rw [hz, recvS_zero] at hfuel ⊢
      rw [List.flatMap_cons, List.eq_nil_of_length_eq_zero hz, List.nil_append] at hcells
      rw [if_pos rfl, Nat.zero_add]
      exact ih ja (k + 1) unpacked fuel b cs (Nat.succ.inj hl) hcells hfuel
    · rw [recvS_pos _ _ _ _ _ _ hz] at hfuel ⊢
      obtain ⟨hread, hcells'⟩ := b.read_front (h.size i) (h.data i) (a.flatMap h.data) rfl hcells
      cases fuel with
      | zero => exact absurd hfuel (Nat.not_succ_le_zero _)
      | succ fuel =>
        have hlt : unpacked < unpacked + (h.size i + total h a) :=
          Nat.lt_add_of_pos_right (Nat.add_pos_left (Nat.pos_of_ne_zero hz) _)
        have hfuel' := Nat.le_trans (recvS_left_le r (k + 1) (ja ++ jrest) ((a ++ rest).map h.size))
          (Nat.le_of_succ_le_succ hfuel)
        rw [unpackVarLoop, if_pos hlt]
        simp only [recvT_iface, recvT_sizes, recvT_move, hread]
        rw [← Nat.add_assoc unpacked, ih ja (k + 1) _ fuel _ _ (Nat.succ.inj hl) hcells' hfuel', if_neg hz]
        simp only [MessageBuffer.read, Nat.add_assoc, List.append_assoc, List.singleton_append]

theorem unpackFixedLoop_sendT (h : Handle α) (r f : Nat) (jrest : List Nat) (hf : f ≠ 0) :
    ∀ (a ja : List Nat) (k : Nat) (b : MessageBuffer α) (cs : List (Call α)),
    ja.length = a.length → (∀ i ∈ a, h.size i = f) → b.cells.drop b.position = a.flatMap h.data →
    unpackFixedLoop a.length (sendT r k (ja ++ jrest) f) b cs =
      (sendT r (k + a.length) jrest f, { b with position := b.position + total h a }, cs ++ callsOf h a ja) := by
  intro a
  induction a with
  | nil =>
    intro ja k b cs hl _ _
    obtain rfl := List.eq_nil_of_length_eq_zero hl
    simp [unpackFixedLoop]
  | cons i a ih =>
    intro ja k b cs hl hs hcells
    obtain ⟨j, ja, rfl⟩ := List.exists_cons_of_length_eq_add_one hl
    have hi : h.size i = f := hs i (List.mem_cons_self ..)
    obtain ⟨hread, hcells'⟩ := b.read_front f (h.data i) (a.flatMap h.data) hi hcells
    rw [List.length_cons, List.cons_append, unpackFixedLoop]
    simp only [sendT_iface, sendT_fixed, sendT_move, hread]
    rw [ih ja (k + 1) _ _ (Nat.succ.inj hl) (fun x hx => hs x (List.mem_cons_of_mem _ hx)) hcells', total_cons,
      callsOf, hi, if_neg hf, Nat.add_right_comm k]
    simp only [MessageBuffer.read, Nat.add_assoc, List.append_assoc, List.singleton_append]

/-- the receive tracker that stands in front of receive indices `js`, matched with the peer's send indices `is` -/
def rcvT (h : Handle α) (f r k : Nat) (js is : List Nat) : Tracker :=
  if f ≠ 0 then sendT r k js f else recvS r k js (is.map h.size)

theorem rcvT_skip (h : Handle α) (f r k : Nat) (js is : List Nat) :
    (rcvT h f r k js is).skipZeroIndices = rcvT h f r k js is := by
  unfold rcvT; split <;> simp

theorem rcvT_left_le (h : Handle α) (f r k : Nat) (js is : List Nat) : (rcvT h f r k js is).indicesLeft ≤ js.length := by
  unfold rcvT; split
  · simp
  · exact recvS_left_le ..

theorem rcvT_finished (h : Handle α) (B f r k : Nat) (js is : List Nat) (hl : js.length = is.length)
    (hf : Fits h B f is) : (rcvT h f r k js is).finished = (total h is == 0) := by
  rcases hf with ⟨rfl, _⟩ | ⟨h0, _, hs⟩
  · exact recvS_finished h r is js k hl
  · rw [rcvT, if_pos h0, sendT_finished, total_fixed h f is hs, ← hl]
    cases js <;> simp [Nat.mul_eq_zero, h0]

theorem unpackEntries_rcvT (h : Handle α) (B f r k : Nat) {a rest ja jrest js is : List Nat} (b : MessageBuffer α)
    (cs : List (Call α)) (count : Nat) (hjs : ja ++ jrest = js) (his : a ++ rest = is) (hl : ja.length = a.length)
    (hf : Fits h B f is) (hb : b.size = B) (hcells : b.cells.drop b.position = a.flatMap h.data)
    (hcount : f = 0 → count = total h a) (hn : f ≠ 0 → min (B / f) js.length = a.length) :
    unpackEntries (rcvT h f r k js is) b count cs =
      (rcvT h f r (k + a.length) jrest rest, { b with position := b.position + total h a }, cs ++ callsOf h a ja) := by
  subst hjs his hb
  rcases hf with ⟨rfl, _⟩ | ⟨h0, _, hs⟩
  · have := unpackVarLoop_recvS h r rest jrest a ja k 0 _ b cs hl hcells (Nat.le_refl _)
    rw [Nat.zero_add] at this
    rw [hcount rfl]
    exact this
  · rw [rcvT, rcvT, if_pos h0, if_pos h0, unpackEntries, sendT_fixed, if_pos h0, sendT_left, hn h0]
    exact unpackFixedLoop_sendT h r f jrest h0 a ja k b cs hl (fun i hi => hs i (List.mem_append_left _ hi)) hcells

theorem unpackEntries_round (h : Handle α) (B f r k : Nat) (js is : List Nat) (b : MessageBuffer α)
    (cs : List (Call α)) (hl : js.length = is.length) (hf : Fits h B f is) (hb : b.size = B) (hp : b.position = 0)
    (count : Nat) (hcount : f = 0 → count = total h (round1 h B f is).1) :
    unpackEntries (rcvT h f r k js is) (b.received ((round1 h B f is).1.flatMap h.data)) count cs =
      (rcvT h f r (k + (round1 h B f is).1.length) (js.drop (round1 h B f is).1.length) (round1 h B f is).2,
       ⟨B, (round1 h B f is).1.flatMap h.data, total h (round1 h B f is).1⟩,
       cs ++ callsOf h (round1 h B f is).1 (js.take (round1 h B f is).1.length)) := by
  rw [unpackEntries_rcvT h B f r k (b.received ((round1 h B f is).1.flatMap h.data)) cs count (List.take_append_drop ..)
    (round1_append ..) (by rw [List.length_take]; exact Nat.min_eq_left (round1_length_le hl)) hf hb
    (by simp [MessageBuffer.received, hp]) hcount (fun h0 => by simp [round1, h0, hl])]
  simp [MessageBuffer.received, hp, hb]

theorem setupRecv_true {β : Type} (t : Tracker) (b : MessageBuffer β) :
    setupRecv true t b = (t.skipZeroIndices, b.reset, !t.skipZeroIndices.finished) := by
  cases h : t.skipZeroIndices.iface <;> simp [setupRecv, Tracker.finished, Tracker.indicesLeft, h]

section generic
variable {β σ : Type} (hd : Handle β) (B f : Nat) (getCount : Bool)
  (unpack : Tracker → MessageBuffer β → Nat → σ → Tracker × MessageBuffer β × σ)
  (T : Nat → List Nat → List Nat → Tracker) (Inv : σ → Nat → List Nat → List Nat → Prop)

/-- what `recvLoop_generic` needs to know about a receive side: `T k js is` is the tracker standing in front of the receive
    indices `js`, matched with the peer's send indices `is`; `Inv acc k is js` is the invariant of the accumulated result.
    Mind the order: `T` takes the receive list first, `Inv` the send list first. -/
structure RecvSide : Prop where
  skip : ∀ k js is, (T k js is).skipZeroIndices = T k js is
  fin : ∀ k js is, js.length = is.length → Fits hd B f is → (T k js is).finished = (total hd is == 0)
  round : ∀ k js is (b : MessageBuffer β) acc, js.length = is.length → Fits hd B f is → 0 < total hd is →
      b.size = B → b.position = 0 →
      (unpack (T k js is) (b.received ((round1 hd B f is).1.flatMap hd.data))
          (if getCount then total hd (round1 hd B f is).1 else 0) acc).1.skipZeroIndices
        = T (k + (round1 hd B f is).1.length) (js.drop (round1 hd B f is).1.length) (round1 hd B f is).2 ∧
      (unpack (T k js is) (b.received ((round1 hd B f is).1.flatMap hd.data))
          (if getCount then total hd (round1 hd B f is).1 else 0) acc).2.1.size = B
  left : ∀ k js is, js.length = is.length → Fits hd B f is → 0 < total hd is →
      (T (k + (round1 hd B f is).1.length) (js.drop (round1 hd B f is).1.length) (round1 hd B f is).2).indicesLeft
        < (T k js is).indicesLeft
  /-- the invariant of the accumulated result (`Inv acc k is js`: `acc` is right for everything before `is`/`js`) -/
  roundInv : ∀ k js is (b : MessageBuffer β) acc, js.length = is.length → Fits hd B f is → 0 < total hd is →
      b.size = B → b.position = 0 → Inv acc k is js →
      Inv (unpack (T k js is) (b.received ((round1 hd B f is).1.flatMap hd.data))
          (if getCount then total hd (round1 hd B f is).1 else 0) acc).2.2
        (k + (round1 hd B f is).1.length) (round1 hd B f is).2 (js.drop (round1 hd B f is).1.length)

variable {hd B f getCount unpack T Inv}

theorem RecvSide.round_cc (hR : RecvSide hd B f getCount unpack T Inv) (k : Nat) (is js : List Nat) (b : MessageBuffer β)
    (acc : σ) (hl : js.length = is.length) (hf : Fits hd B f is) (ht : 0 < total hd is) (hb : b.size = B)
    (hp : b.position = 0) (hacc : Inv acc k is js) :
    ∃ (rb' : MessageBuffer β) (acc' : σ) (o : Option Bool), rb'.size = B ∧
      Inv acc' (k + (round1 hd B f is).1.length) (round1 hd B f is).2 (js.drop (round1 hd B f is).1.length) ∧
      ccBody getCount true unpack (setupRecv true) ((round1 hd B f is).1.flatMap hd.data).length (T k js is)
          (b.received ((round1 hd B f is).1.flatMap hd.data)) acc =
        (T (k + (round1 hd B f is).1.length) (js.drop (round1 hd B f is).1.length) (round1 hd B f is).2, rb', acc', o,
          o.isSome) ∧
      (((round1 hd B f is).2 = [] ∧ o = none) ∨
       (0 < total hd (round1 hd B f is).2 ∧ o = some true ∧ rb'.position = 0)) := by
  obtain ⟨h1, h2⟩ := hR.round k js is b acc hl hf ht hb hp
  have h3 := hR.roundInv k js is b acc hl hf ht hb hp hacc
  have hlen : ((round1 hd B f is).1.flatMap hd.data).length = total hd (round1 hd B f is).1 := rfl
  have hfin := hR.fin (k + (round1 hd B f is).1.length) (js.drop (round1 hd B f is).1.length) _ (drop_length_rest hl) hf.rest
  generalize hu : unpack (T k js is) (b.received ((round1 hd B f is).1.flatMap hd.data))
    (if getCount then total hd (round1 hd B f is).1 else 0) acc = u at h1 h2 h3
  rcases rest_nil_or_pos hf with hr | hr
  · refine ⟨u.2.1, u.2.2, none, h2, h3, ?_, Or.inl ⟨hr, rfl⟩⟩
    rw [show (total hd (round1 hd B f is).2 == 0) = true by rw [hr]; rfl] at hfin
    simp only [ccBody, hlen, hu, h1, hfin, if_true, Option.isSome_none]
  · refine ⟨u.2.1.reset, u.2.2, some true, by simpa using h2, h3, ?_, Or.inr ⟨hr, rfl, rfl⟩⟩
    rw [beq_false_of_ne (Nat.pos_iff_ne_zero.1 hr)] at hfin
    simp only [ccBody, hlen, hu, h1, hfin, Bool.false_eq_true, if_false, setupRecv_true, hR.skip, Bool.not_false,
      Option.isSome_some]

theorem recvLoop_generic (hR : RecvSide hd B f getCount unpack T Inv) :
    ∀ (fuel : Nat) (is js : List Nat) (k : Nat) (b : MessageBuffer β) (posted : Nat) (acc : σ),
      is.length + 1 ≤ fuel → js.length = is.length → b.size = B → b.position = 0 → Fits hd B f is →
      0 < total hd is → Inv acc k is js →
      ∃ k', Inv (recvLoop true getCount unpack (msgsOf hd B f fuel is) (T k js is) b posted acc).acc k' [] [] ∧
        (recvLoop true getCount unpack (msgsOf hd B f fuel is) (T k js is) b posted acc).posted + 1
          = posted + (msgsOf hd B f fuel is).length ∧
        (recvLoop true getCount unpack (msgsOf hd B f fuel is) (T k js is) b posted acc).ok = true := by
  intro fuel
  induction fuel with
  | zero => intro is js k b posted acc hfu; omega
  | succ fuel ih =>
    intro is js k b posted acc hfu hl hb hp hf htot hinv
    obtain ⟨rb', acc', o, h1, h2, he, hsub⟩ := hR.round_cc k is js b acc hl hf htot hb hp hinv
    have hjl := drop_length_rest (h := hd) (B := B) (f := f) hl
    rw [msgsOf_succ, if_neg (total_round_pos hf htot), List.singleton_append, recvLoop_cc, he]
    rcases hsub with ⟨hr, rfl⟩ | ⟨htot', rfl, hpos⟩
    · -- last round: nothing left
      have hfin := hR.fin (k + (round1 hd B f is).1.length) _ _ hjl hf.rest
      rw [if_pos hr]
      rw [hr] at hfin hjl h2
      rw [List.eq_nil_of_length_eq_zero hjl] at h2
      exact ⟨_, h2, rfl, by simp [recvLoopResult, RecvRun.ok, hr, hfin]⟩
    · have hr : (round1 hd B f is).2 ≠ [] := by
        intro e
        rw [e] at htot'
        exact Nat.lt_irrefl _ htot'
      obtain ⟨k', hrec⟩ := ih _ _ (k + (round1 hd B f is).1.length) rb' (posted + 1) acc'
        (round1_rest_lt_fuel hd B f is hf fuel hfu hr) hjl h1 hpos hf.rest htot' h2
      rw [if_neg hr]
      exact ⟨k', hrec.1, hrec.2.1.trans (by rw [List.length_cons]; omega), hrec.2.2⟩

end generic

end DV.C06
