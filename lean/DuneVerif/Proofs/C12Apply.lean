/-
C12 — what a sequence of assignments (`applyAll`: duplicate test, overwrite test, `pt[key] = value`) does to the
tree: it is a sequence of `set`s, records its keys, obeys the overwrite flag, rebuilds every hierarchy from its
entries; and a static condition on the keys under which no assignment meets a group of the same name.
-/
import DuneVerif.Proofs.C12Ini
import DuneVerif.Proofs.C12Tree

namespace DV.C12

theorem assignStep_ok {ow : Bool} {st st' : St} {k v : Str} (h : assignStep ow st k v = .ok st') :
    k ∉ st.seen ∧ ∃ t, storeStep ow st.tree k v = .ok t ∧ st' = { st with seen := k :: st.seen, tree := t } := by
  rw [assignStep_eq] at h
  split at h
  · cases h
  · rename_i hc
    obtain ⟨t, ht, h⟩ := andThen_eq_ok.mp h
    exact ⟨by simpa using hc, t, ht, (Except.ok.inj h).symm⟩

theorem storeStep_ok {ow : Bool} {t t' : Tree} {k v : Str} (h : storeStep ow t k v = .ok t') :
    (ow = false ∧ t.hasKey k = .ok true ∧ t' = t) ∨ ((ow = true ∨ t.hasKey k = .ok false) ∧ t.set k v = .ok t') := by
  unfold storeStep at h
  cases ow with
  | true => exact Or.inr ⟨Or.inl rfl, h⟩
  | false =>
    simp only [Bool.false_eq_true, if_false] at h
    split at h
    · cases h
    · rename_i hk; exact Or.inl ⟨rfl, hk, (Except.ok.inj h).symm⟩
    · rename_i hk; exact Or.inr ⟨Or.inr hk, h⟩

theorem applyAll_cons (ow : Bool) (k v : Str) (r : List (Str × Str)) (st : St) :
    applyAll ow ((k, v) :: r) st = andThen (assignStep ow st k v) (applyAll ow r) := by
  simp only [applyAll]
  cases assignStep ow st k v <;> rfl

theorem applyAll_append (ow : Bool) : ∀ (a b : List (Str × Str)) (st : St),
    applyAll ow (a ++ b) st = andThen (applyAll ow a st) (applyAll ow b) := by
  intro a b st
  -- the three cases of `applyAll`: no assignment left; the next one rejected; the next one accepted
  fun_induction applyAll ow a st with
  | case1 => rfl
  | case2 _ _ _ _ _ hs => simp only [List.cons_append, applyAll, hs]; rfl
  | case3 _ _ _ _ _ hs ih => simp only [List.cons_append, applyAll, hs]; exact ih

theorem applyAll_seen {ow : Bool} {es : List (Str × Str)} {st st' : St} (h : applyAll ow es st = .ok st') (k : Str) :
    k ∈ es.map Prod.fst ∨ k ∈ st.seen → k ∈ st'.seen := by
  fun_induction applyAll ow es st with
  | case1 => cases h; simp
  | case2 => cases h
  | case3 _ _ _ _ _ hs ih =>
    obtain ⟨_, t, _, rfl⟩ := assignStep_ok hs
    intro hk
    apply ih h
    simp only [List.map_cons, List.mem_cons] at hk ⊢
    rcases hk with (hk | hk) | hk
    · exact Or.inr (Or.inl hk)
    · exact Or.inl hk
    · exact Or.inr (Or.inr hk)

theorem assignStep_dup (ow : Bool) (st : St) (k v : Str) (h : k ∈ st.seen) : assignStep ow st k v = .error .parser := by
  simp [assignStep_eq, h]

theorem applyAll_dup (ow : Bool) {es₁ : List (Str × Str)} {k : Str} {st : St} (hk : k ∈ es₁.map Prod.fst ∨ k ∈ st.seen)
    (v : Str) (es₃ : List (Str × Str)) :
    applyAll ow (es₁ ++ (k, v) :: es₃) st = andThen (applyAll ow es₁ st) fun _ => .error .parser := by
  rw [applyAll_append]
  cases h : applyAll ow es₁ st with
  | error e => rfl
  | ok s => rw [andThen_ok, andThen_ok, applyAll_cons, assignStep_dup ow s k v (applyAll_seen h k hk)]; rfl

/-- every accepted assignment acts on the tree as `pt[key] = w`: `w` is the written value, or — when the
    assignment is skipped because the key exists and `overwrite` is off — the value already stored -/
theorem assignStep_as_set {ow : Bool} {st st' : St} {k v : Str} (h : assignStep ow st k v = .ok st') :
    ∃ w, some w = (if ow then some v else (st.tree.get? k).or (some v)) ∧ setPath (comps k) w st.tree = .ok st'.tree := by
  obtain ⟨_, t, ht, rfl⟩ := assignStep_ok h
  rcases storeStep_ok ht with ⟨rfl, hk, rfl⟩ | ⟨how, hs⟩
  · obtain ⟨s, hs⟩ := Option.isSome_iff_exists.mp (getPath_isSome_of_hasKeyPath hk)
    exact ⟨s, by simp [Tree.get?, hs], setPath_same _ _ _ hs⟩
  · refine ⟨v, ?_, hs⟩
    rcases how with rfl | hk
    · rfl
    · have hg : getPath (comps k) st.tree = none := by simpa using getPath_isSome_of_hasKeyPath hk
      simp [Tree.get?, hg]

/-- with either flag the paths of the document are set in order, possibly with other values (a skipped assignment
    writes what is stored); with `overwrite` the values are the document's too -/
theorem applyAll_setAllP_any {ow : Bool} {es : List (Str × Str)} {st st' : St} (h : applyAll ow es st = .ok st') :
    ∃ ps, ps.map Prod.fst = (pathsOf es).map Prod.fst ∧ (ow = true → ps = pathsOf es) ∧
      setAllP ps st.tree = .ok st'.tree := by
  fun_induction applyAll ow es st with
  | case1 => cases h; exact ⟨[], rfl, fun _ => rfl, rfl⟩
  | case2 => cases h
  | case3 k _ _ _ _ hs ih =>
    obtain ⟨w, hw, hset⟩ := assignStep_as_set hs
    obtain ⟨ps, hp1, hp2, hp3⟩ := ih h
    refine ⟨(comps k, w) :: ps, congrArg (comps k :: ·) hp1, fun e => ?_, by simpa only [setAllP, hset, andThen_ok] using hp3⟩
    subst e
    cases hw
    exact congrArg _ (hp2 rfl)

theorem applyAll_true_setAllP : ∀ (es : List (Str × Str)) (st st' : St), applyAll true es st = .ok st' →
    setAllP (pathsOf es) st.tree = .ok st'.tree := by
  intro es st st' h
  obtain ⟨ps, _, hp, h⟩ := applyAll_setAllP_any h
  exact hp rfl ▸ h

/-- no assignment of the source targets, as a value, a name that is a group at that moment -/
def NoLeafClash (ow : Bool) : List (Str × Str) → St → Prop
  | [], _ => True
  | (k, v) :: r, st =>
    leafClash (comps k) st.tree = false ∧ ∀ st', assignStep ow st k v = .ok st' → NoLeafClash ow r st'

/-- an accepted run assigns no key that was recorded before it: that would be a duplicate -/
theorem applyAll_ok_fresh {ow : Bool} {es : List (Str × Str)} {st st' : St} (h : applyAll ow es st = .ok st') :
    ∀ k ∈ st.seen, aGet? k es = none := by
  intro k hk
  rw [aGet?_none_iff, aHas_false_iff]
  intro hm
  obtain ⟨⟨_, v⟩, he, rfl⟩ := List.mem_map.mp hm
  obtain ⟨es₁, es₃, rfl⟩ := List.append_of_mem he
  rw [applyAll_dup ow (.inr hk)] at h
  obtain ⟨_, _, h⟩ := andThen_eq_ok.mp h
  cases h

theorem applyAll_get {ow : Bool} {es : List (Str × Str)} {st st' : St} (h : applyAll ow es st = .ok st') :
    NoLeafClash ow es st → ∀ q,
    st'.tree.get? q = if ow then (aGet? q es).or (st.tree.get? q) else (st.tree.get? q).or (aGet? q es) := by
  fun_induction applyAll ow es st with
  | case1 => cases h; intro _ q; cases ow <;> simp [aGet?]
  | case2 => cases h
  | case3 k _ _ _ _ hs ih =>
    intro hc q
    obtain ⟨w, hw, hset⟩ := assignStep_as_set hs
    have hfresh := applyAll_ok_fresh h k (by obtain ⟨_, t, _, rfl⟩ := assignStep_ok hs; simp)
    rw [ih h (hc.2 _ hs) q, get?_setPath hset hc.1 q]
    by_cases hq : q = k
    · subst hq
      simp [aGet?, hfresh, hw]
    · have hb : ¬ k = q := fun e => hq e.symm
      simp [aGet?, hb, hq]

/-- conversely: distinct new keys (stated as: the `seen` list the run ends with has no duplicates, which is the same
    hypothesis again after each step) are accepted as long as the `set`s succeed -/
theorem applyAll_true_of_setAllP : ∀ (es : List (Str × Str)) (st : St) (t' : Tree),
    ((es.map (·.1)).reverse ++ st.seen).Nodup → setAllP (pathsOf es) st.tree = .ok t' →
    ∃ st', applyAll true es st = .ok st' ∧ st'.tree = t'
  | [], st, t', _, h => ⟨st, rfl, Except.ok.inj h⟩
  | (k, v) :: r, st, t', hnd, h => by
    obtain ⟨t1, hs, h⟩ := andThen_eq_ok.mp h
    rw [List.map_cons, List.reverse_cons, List.append_assoc] at hnd
    have hk : ¬ st.seen.contains k = true := by
      simpa using (List.nodup_cons.mp (List.nodup_append.mp hnd).2.1).1
    rw [applyAll_cons, assignStep_eq, if_neg hk, storeStep, if_pos rfl, Tree.set, hs]
    exact applyAll_true_of_setAllP r _ t' hnd h

theorem applyAll_flatten (t : Tree) (h : WFT t) (pfx : Str) :
    ∃ st', applyAll true (flatten t) ⟨pfx, [], .empty⟩ = .ok st' ∧ st'.tree = t :=
  applyAll_true_of_setAllP (flatten t) ⟨pfx, [], .empty⟩ t
    (by simpa [(List.reverse_perm _).nodup_iff] using flatten_keys_nodup t h) (by rw [pathsOf_flatten t h]; exact rebuild t h)

/-- `a` is a proper prefix of `b` -/
def Pre (a b : List Str) : Prop := ∃ c, c ≠ [] ∧ a ++ c = b

/-- no path of the list is a proper prefix of another one -/
def Compat (K : List (List Str)) : Prop := ∀ a ∈ K, ∀ b ∈ K, ¬ Pre a b

theorem Compat.left {K L : List (List Str)} (h : Compat (K ++ L)) : Compat K :=
  fun a ha b hb => h a (List.mem_append_left _ ha) b (List.mem_append_left _ hb)

theorem leafClash_setPath : ∀ (p : List Str) (v : Str) (t t' : Tree) (g : List Str), setPath p v t = .ok t' →
    leafClash g t' = true → leafClash g t = true ∨ Pre g p := by
  intro p v t
  induction p, t using path_induction with
  | nil t => intro t' g h hg; cases h; exact Or.inl hg
  | leaf k vals subs =>
    intro t' g h hg
    rw [setPath_leaf_ok h] at hg
    cases g with
    | nil => exact Or.inl hg
    | cons k' r => exact Or.inl (leafClash_congr rfl ▸ hg)
  | inner k k2 rest vals subs ih =>
    intro t' g h hg
    obtain ⟨_, s', hs, rfl⟩ := setPath_inner_ok h
    match g with
    | [] => exact Or.inl hg
    | k' :: r =>
      by_cases hk : k' = k
      · subst hk
        cases r with
        | nil => exact Or.inr ⟨k2 :: rest, by simp, rfl⟩
        | cons g2 gr =>
          rw [leafClash_cons_cons, aGet?_aSet_self] at hg
          rw [leafClash_cons_cons]
          exact (ih s' (g2 :: gr) hs hg).imp id fun ⟨c, hc, e⟩ => ⟨c, hc, by rw [List.cons_append, e]⟩
      · exact Or.inl (leafClash_congr (aGet?_aSet_ne s' hk subs) ▸ hg)

/-- every group of `t` lies on the way to a key of `K` (`leafClash g t = true`: the path `g` names a group of `t`) -/
def GroupsBelow (K : List (List Str)) (t : Tree) : Prop := ∀ g, leafClash g t = true → ∃ b ∈ K, Pre g b

theorem groupsBelow_empty (K : List (List Str)) : GroupsBelow K .empty := by
  intro g hg; simp [leafClash_empty] at hg

theorem groupsBelow_assignStep {K : List (List Str)} {ow : Bool} {st st' : St} {k v : Str} (h : GroupsBelow K st.tree)
    (hs : assignStep ow st k v = .ok st') : GroupsBelow (K ++ [comps k]) st'.tree := by
  obtain ⟨w, _, hw⟩ := assignStep_as_set hs
  intro g hg
  rcases leafClash_setPath _ w _ _ g hw hg with h1 | h1
  · obtain ⟨b, hb, hp⟩ := h g h1
    exact ⟨b, List.mem_append_left _ hb, hp⟩
  · exact ⟨_, by simp, h1⟩

def keyPaths (es : List (Str × Str)) : List (List Str) := es.map (fun e => comps e.1)

/-- if no key (of the tree's history `K` and of the source) is a proper dotted prefix of
    another, no assignment of the source ever targets a group name -/
theorem noLeafClash_of_compat (ow : Bool) : ∀ {es : List (Str × Str)} {st : St} {K : List (List Str)},
    GroupsBelow K st.tree → Compat (K ++ keyPaths es) → NoLeafClash ow es st
  | [], _, _, _, _ => trivial
  | (k, v) :: r, st, K, hinv, hc => by
    refine ⟨Bool.eq_false_iff.mpr fun hcl => ?_, fun st' hs => ?_⟩
    · obtain ⟨b, hb, hp⟩ := hinv _ hcl
      exact hc _ (List.mem_append_right _ List.mem_cons_self) b (List.mem_append_left _ hb) hp
    · apply noLeafClash_of_compat ow (groupsBelow_assignStep hinv hs)
      rw [List.append_assoc]
      exact hc

theorem groupsBelow_applyAll {ow : Bool} {es : List (Str × Str)} {st st' : St} {K : List (List Str)}
    (hinv : GroupsBelow K st.tree) (h : applyAll ow es st = .ok st') : GroupsBelow (K ++ keyPaths es) st'.tree := by
  fun_induction applyAll ow es st generalizing K with
  | case1 => cases h; simpa [keyPaths] using hinv
  | case2 => cases h
  | case3 _ _ _ _ _ hs ih => simpa [keyPaths, List.append_assoc] using ih (groupsBelow_assignStep hinv hs) h

end DV.C12
