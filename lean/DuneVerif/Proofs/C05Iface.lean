import DuneVerif.Model.C05
import DuneVerif.Common.Lists
/-!
C05, `Interface::build`: the two passes, and the interface map of a process as a function of the neighbour rank (the
stripped and the unstripped one are both `(List.range P).filterMap` of an entry function, and agree under lookup); the
send/receive lists in terms of the index sets (`mem_sendEntries`, `mem_recvEntries`), their order and the mirror
property.  Core Lean only.
-/
namespace DV.C05

theorem flatMap_congr_mem {α β} {l : List α} {f g : α → List β} (h : ∀ x ∈ l, f x = g x) :
    l.flatMap f = l.flatMap g := by
  rw [List.flatMap_def, List.flatMap_def, List.map_congr_left h]

theorem flatMap_filterMap {α β γ} (g : α → Option β) (h : β → List γ) (l : List α) :
    (l.filterMap g).flatMap h = l.flatMap fun a => match g a with | some b => h b | none => [] := by
  induction l with
  | nil => rfl
  | cons a as ih =>
    rw [List.filterMap_cons, List.flatMap_cons]
    cases hg : g a with
    | none => simp only [List.nil_append]; exact ih
    | some b => simp only [List.flatMap_cons]; rw [ih]

theorem find?_key_of_mem {α κ} [BEq κ] [LawfulBEq κ] (key : α → κ) : ∀ {l : List α},
    l.Pairwise (fun a b => key a ≠ key b) → ∀ {x}, x ∈ l → l.find? (fun e => key e == key x) = some x := by
  intro l hk x hx
  obtain ⟨as, bs, rfl⟩ := List.append_of_mem hx
  exact List.find?_eq_some_iff_append.2 ⟨beq_self_eq_true _, as, bs, rfl, fun a ha =>
    bne_iff_ne.2 ((List.pairwise_append.1 hk).2.2 a ha x List.mem_cons_self)⟩

def Keys (ifs : IfMap) : Prop := (ifs.map (·.1)).Pairwise (· < ·)

theorem Keys.tail {e : Nat × Info × Info} {es : IfMap} (h : Keys (e :: es)) : Keys es :=
  (List.pairwise_cons.1 h).2

theorem Keys.head_lt {e : Nat × Info × Info} {es : IfMap} (h : Keys (e :: es)) : ∀ k ∈ es.map (·.1), e.1 < k :=
  (List.pairwise_cons.1 h).1

theorem IfMap.get_cons_eq {e : Nat × Info × Info} (es : IfMap) {q : Nat} (h : e.1 = q) : IfMap.get (e :: es) q = e.2 := by
  simp [IfMap.get, h]

theorem IfMap.get_cons_ne {e : Nat × Info × Info} (es : IfMap) {q : Nat} (h : e.1 ≠ q) :
    IfMap.get (e :: es) q = IfMap.get es q := by
  simp [IfMap.get, h]

theorem IfMap.get_of_not_mem : ∀ {m : IfMap} {q : Nat}, q ∉ m.map (·.1) → m.get q = (Info.empty, Info.empty) := by
  intro m q h
  rw [IfMap.get, List.find?_eq_none.2 fun e he hq => h (List.mem_map.2 ⟨e, he, eq_of_beq hq⟩)]

theorem IfMap.get_of_mem {m : IfMap} (hk : Keys m) {e} (he : e ∈ m) : m.get e.1 = e.2 := by
  rw [IfMap.get, find?_key_of_mem Prod.fst ((List.pairwise_map.1 hk).imp Nat.ne_of_lt) he]

/-! ### a `std::map<int, …>` given by its entry for every rank: `(List.range n).filterMap g` with `g i` keyed by `i` -/

section
variable {β : Type} (g : Nat → Option (Nat × β)) (hk : ∀ i x, g i = some x → x.1 = i)
include hk

theorem mem_filterMap_range {n : Nat} {x : Nat × β} : x ∈ (List.range n).filterMap g ↔ x.1 < n ∧ g x.1 = some x := by
  rw [List.mem_filterMap]
  constructor
  · rintro ⟨i, hi, h⟩
    rw [hk i x h]
    exact ⟨List.mem_range.1 hi, h⟩
  · rintro ⟨hn, h⟩
    exact ⟨x.1, List.mem_range.2 hn, h⟩

theorem keys_filterMap_range_sorted (n : Nat) : (((List.range n).filterMap g).map (·.1)).Pairwise (· < ·) := by
  rw [List.pairwise_map]
  refine List.Pairwise.filterMap g (fun a a' h b hb b' hb' => ?_) List.pairwise_lt_range
  rw [hk a b hb, hk a' b' hb']
  exact h

end

theorem get_filterMap_range (g : Nat → Option (Nat × Info × Info)) (hk : ∀ i x, g i = some x → x.1 = i) (q n : Nat) :
    IfMap.get ((List.range n).filterMap g) q =
      if q < n then ((g q).map (·.2)).getD (Info.empty, Info.empty) else (Info.empty, Info.empty) := by
  split
  · next hq =>
    cases hg : g q with
    | some x =>
      obtain rfl := hk q x hg
      exact IfMap.get_of_mem (keys_filterMap_range_sorted g hk n) ((mem_filterMap_range g hk).2 ⟨hq, hg⟩)
    | none =>
      refine IfMap.get_of_not_mem fun h => ?_
      obtain ⟨x, hm, rfl⟩ := List.mem_map.1 h
      cases hg.symm.trans ((mem_filterMap_range g hk).1 hm).2
  · next hq =>
    refine IfMap.get_of_not_mem fun h => ?_
    obtain ⟨x, hm, rfl⟩ := List.mem_map.1 h
    exact hq ((mem_filterMap_range g hk).1 hm).1

/-- a loop over the entries of the map visits every rank, the absent ones contributing nothing -/
theorem flatMap_filterMap_range {γ} (g : Nat → Option (Nat × Info × Info)) (hk : ∀ i x, g i = some x → x.1 = i)
    (h : Nat → Info × Info → List γ) (h0 : ∀ p, h p (Info.empty, Info.empty) = []) (n : Nat) :
    ((List.range n).filterMap g).flatMap (fun e => h e.1 e.2) =
      (List.range n).flatMap fun p => h p (IfMap.get ((List.range n).filterMap g) p) := by
  rw [flatMap_filterMap]
  apply flatMap_congr_mem
  intro p hp
  rw [get_filterMap_range g hk, if_pos (List.mem_range.1 hp)]
  cases hg : g p with
  | none => exact (h0 p).symm
  | some x => simp only [Option.map_some, Option.getD_some, hk p x hg]

/-- the tests the translator read from the counting loop of `buildInterface` are the documented ones -/
theorem passesCount_eq : passesCount = passes := by
  funext send S T x
  cases send <;> simp [passesCount, passes, evalTest, Gen.countOuter, Gen.countInner]

theorem passesAdd_eq : passesAdd = passes := by
  funext send S T x
  cases send <;> simp [passesAdd, passes, evalTest, Gen.addOuter, Gen.addInner]

theorem countPass_eq (send : Bool) (S T : Nat → Bool) (l : List RIdx) :
    countPass send S T l = (l.filter (passes send S T)).length := by
  rw [← List.countP_eq_length_filter]
  induction l with
  | nil => rfl
  | cons x xs ih => rw [countPass, ih, passesCount_eq, List.countP_cons, Nat.add_comm]

theorem addPass_eq (send : Bool) (S T : Nat → Bool) (l : List RIdx) (inf : Info) :
    addPass send S T l inf = { inf with idx := inf.idx ++ (l.filter (passes send S T)).map (·.l) } := by
  induction l generalizing inf with
  | nil => simp [addPass]
  | cons x xs ih =>
    simp only [addPass, ih, List.filter_cons, passesAdd_eq]
    split <;> simp [Info.add]

theorem infoOf_eq (send : Bool) (S T : Nat → Bool) (l : List RIdx) :
    infoOf send S T l = ⟨(l.filter (passes send S T)).length, (l.filter (passes send S T)).map (·.l)⟩ := by
  simp [infoOf, addPass_eq, countPass_eq, Info.reserve]

theorem infoOf_nil (send : Bool) (S T : Nat → Bool) : infoOf send S T [] = Info.empty := by
  simp [infoOf_eq, Info.empty]

theorem infoOf_size_zero (send : Bool) (S T : Nat → Bool) (l : List RIdx) (h : (infoOf send S T l).size = 0) :
    infoOf send S T l = Info.empty := by
  rw [infoOf_eq] at h ⊢
  simp only [Info.size, List.length_map] at h
  have : l.filter (passes send S T) = [] := List.eq_nil_of_length_eq_zero h
  simp [this, Info.empty]

/-- may `p` have an entry about `q` at all? (the process itself only with two index sets) -/
def admits (sys : System) (p q : Nat) : Prop := q < sys.P ∧ (q ≠ p ∨ (sys.rank p).two = true)

instance (sys : System) (p q : Nat) : Decidable (admits sys p q) := by unfold admits; exact inferInstance

theorem remoteEntry_eq (ign : Bool) (sys : System) (p q : Nat) :
    remoteEntry ign sys p q =
      if (q ≠ p ∨ (sys.rank p).two = true) ∧ ¬ (sendSpec ign sys p q = [] ∧ recvSpec ign sys p q = [])
      then some (q, sendSpec ign sys p q, recvSpec ign sys p q) else none := by
  have hself : (q = p ∧ (sys.rank p).two = false) ↔ ¬ (q ≠ p ∨ (sys.rank p).two = true) := by
    rw [not_or, Decidable.not_not, Bool.not_eq_true]
  simp only [remoteEntry, hself, List.isEmpty_iff]
  by_cases h1 : q ≠ p ∨ (sys.rank p).two = true
  · simp only [h1, not_true_eq_false, if_false, true_and, ite_not]
  · simp only [h1, not_false_eq_true, if_true, false_and, if_false]

theorem remoteEntry_key {ign sys p q x} (h : remoteEntry ign sys p q = some x) : x.1 = q := by
  rw [remoteEntry_eq] at h
  split at h
  · cases h; rfl
  · cases h

/-- the entry of neighbour `q` in the unstripped interface of `p` -/
def rawEntry (ign : Bool) (S T : Nat → Bool) (sys : System) (p q : Nat) : Option (Nat × Info × Info) :=
  (remoteEntry ign sys p q).map fun e => (e.1, infoOf true S T e.2.1, infoOf false S T e.2.2)

/-- … and in the interface, if it survives `strip` -/
def ifEntry (ign : Bool) (S T : Nat → Bool) (sys : System) (p q : Nat) : Option (Nat × Info × Info) :=
  (rawEntry ign S T sys p q).filter fun e => !(e.2.1.size == 0 && e.2.2.size == 0)

theorem rawInterfaceOf_eq (ign : Bool) (S T : Nat → Bool) (sys : System) (p : Nat) :
    rawInterfaceOf ign S T sys p = (List.range sys.P).filterMap (rawEntry ign S T sys p) := by
  simp only [rawInterfaceOf, buildInterfaceRaw, remoteSpec, List.map_filterMap]
  rfl

theorem interfaceOf_eq (ign : Bool) (S T : Nat → Bool) (sys : System) (p : Nat) :
    interfaceOf ign S T sys p = (List.range sys.P).filterMap (ifEntry ign S T sys p) := by
  rw [interfaceOf, buildInterface, strip, ← rawInterfaceOf, rawInterfaceOf_eq, List.filter_filterMap]
  rfl

theorem rawEntry_key {ign S T sys p q x} (h : rawEntry ign S T sys p q = some x) : x.1 = q := by
  obtain ⟨e, he, rfl⟩ := Option.map_eq_some_iff.1 h
  exact remoteEntry_key he

theorem ifEntry_key {ign S T sys p q x} (h : ifEntry ign S T sys p q = some x) : x.1 = q :=
  rawEntry_key (Option.filter_eq_some_iff.1 h).1

theorem get_rawInterfaceOf (ign : Bool) (S T : Nat → Bool) (sys : System) (p q : Nat) :
    (rawInterfaceOf ign S T sys p).get q =
      if admits sys p q then (infoOf true S T (sendSpec ign sys p q), infoOf false S T (recvSpec ign sys p q))
      else (Info.empty, Info.empty) := by
  rw [rawInterfaceOf_eq, get_filterMap_range _ (fun i x h => rawEntry_key h), rawEntry, remoteEntry_eq]
  unfold admits
  by_cases hq : q < sys.P
  · by_cases hy : q ≠ p ∨ (sys.rank p).two = true
    · by_cases he : sendSpec ign sys p q = [] ∧ recvSpec ign sys p q = []
      · simp [hq, hy, he.1, he.2, infoOf_nil]
      · simp [hq, hy, he]
    · simp [hq, hy]
  · simp [hq]

/-- an entry that `strip` erases has empty lists, like one the map does not have -/
theorem get_interfaceOf_eq_raw (ign : Bool) (S T : Nat → Bool) (sys : System) (p q : Nat) :
    (interfaceOf ign S T sys p).get q = (rawInterfaceOf ign S T sys p).get q := by
  rw [interfaceOf_eq, rawInterfaceOf_eq, get_filterMap_range _ (fun i x h => ifEntry_key h),
    get_filterMap_range _ (fun i x h => rawEntry_key h), ifEntry]
  by_cases hq : q < sys.P
  · rw [if_pos hq, if_pos hq]
    cases hr : rawEntry ign S T sys p q with
    | none => rfl
    | some e =>
      obtain ⟨r, _, rfl⟩ := Option.map_eq_some_iff.1 hr
      rw [Option.filter_some]
      split
      · rfl
      · rename_i hc
        have hs : (infoOf true S T r.2.1).size = 0 ∧ (infoOf false S T r.2.2).size = 0 := by simpa using hc
        show (Info.empty, Info.empty) = (infoOf true S T r.2.1, infoOf false S T r.2.2)
        rw [infoOf_size_zero _ _ _ _ hs.1, infoOf_size_zero _ _ _ _ hs.2]
  · rw [if_neg hq, if_neg hq]

theorem get_interfaceOf (ign : Bool) (S T : Nat → Bool) (sys : System) (p q : Nat) :
    (interfaceOf ign S T sys p).get q =
      if admits sys p q then (infoOf true S T (sendSpec ign sys p q), infoOf false S T (recvSpec ign sys p q))
      else (Info.empty, Info.empty) :=
  (get_interfaceOf_eq_raw ign S T sys p q).trans (get_rawInterfaceOf ign S T sys p q)

theorem keys_interfaceOf_sorted (ign : Bool) (S T : Nat → Bool) (sys : System) (p : Nat) :
    Keys (interfaceOf ign S T sys p) := by
  rw [interfaceOf_eq]
  exact keys_filterMap_range_sorted _ (fun i x h => ifEntry_key h) sys.P

theorem keys_interfaceOf_lt (ign : Bool) (S T : Nat → Bool) (sys : System) (p : Nat) :
    ∀ e ∈ interfaceOf ign S T sys p, e.1 < sys.P := by
  rw [interfaceOf_eq]
  exact fun e he => ((mem_filterMap_range _ fun i x h => ifEntry_key h).1 he).1

theorem mem_keys_interfaceOf (ign : Bool) (S T : Nat → Bool) (sys : System) (p q : Nat) :
    q ∈ (interfaceOf ign S T sys p).map (·.1) ↔
      ((interfaceOf ign S T sys p).get q).1.size ≠ 0 ∨ ((interfaceOf ign S T sys p).get q).2.size ≠ 0 := by
  constructor
  · intro hq
    obtain ⟨e, he, rfl⟩ := List.mem_map.1 hq
    rw [IfMap.get_of_mem (keys_interfaceOf_sorted ign S T sys p) he]
    have hs : e ∈ strip (buildInterfaceRaw S T (remoteSpec ign sys p)) := he
    simpa using (List.mem_filter.1 hs).2
  · intro h
    apply Classical.byContradiction
    intro hq
    rw [IfMap.get_of_not_mem hq] at h
    exact h.elim (fun h1 => h1 rfl) (fun h2 => h2 rfl)

/-- every global index at most once, ascending: the iteration order of a `ParallelIndexSet` -/
def StrictSorted (s : List Entry) : Prop := s.Pairwise (fun a b => a.g < b.g)

theorem StrictSorted.published {s : List Entry} (h : StrictSorted s) (ign : Bool) : StrictSorted (published ign s) :=
  List.Pairwise.sublist List.filter_sublist h

theorem joinSpec_globals_sorted {A : List Entry} (hA : StrictSorted A) (B : List Entry) (P : RIdx → Bool) :
    (((joinSpec A B).filter P).map (·.g)).Pairwise (· < ·) := by
  rw [List.pairwise_map]
  refine (List.Pairwise.filterMap _ (fun a a' h x hx x' hx' => ?_) hA).sublist List.filter_sublist
  obtain ⟨_, _, rfl⟩ := Option.map_eq_some_iff.1 hx
  obtain ⟨_, _, rfl⟩ := Option.map_eq_some_iff.1 hx'
  exact h

/-- the entries of the send list of `p` for `q` that pass the attribute tests (annotated with the global index) -/
def sendEntries (ign : Bool) (S T : Nat → Bool) (sys : System) (p q : Nat) : List RIdx :=
  (sendSpec ign sys p q).filter (passes true S T)
/-- the entries of the receive list of `p` for `q` that pass the attribute tests -/
def recvEntries (ign : Bool) (S T : Nat → Bool) (sys : System) (p q : Nat) : List RIdx :=
  (recvSpec ign sys p q).filter (passes false S T)

/-- index sets are in `ParallelIndexSet` order on every rank -/
structure WF (sys : System) : Prop where
  src : ∀ p, StrictSorted (sys.rank p).src
  tgt : ∀ p, StrictSorted (sys.rank p).tgtSet

theorem passes_eq_and (send : Bool) (S T : Nat → Bool) :
    passes send S T = fun x => (if send then T else S) x.ra && (if send then S else T) x.a := by
  funext x
  cases send <;> simp [passes]

theorem mem_filter_joinSpec {A B : List Entry} (hB : StrictSorted B) (P Q : Nat → Bool) (x : RIdx) :
    x ∈ (joinSpec A B).filter (fun x => Q x.ra && P x.a) ↔
      ∃ a ∈ A, ∃ b ∈ B, b.g = a.g ∧ P a.a = true ∧ Q b.a = true ∧ x = ⟨a.g, b.a, a.l, a.a⟩ := by
  simp only [joinSpec, List.mem_filter, List.mem_filterMap, Option.map_eq_some_iff, Bool.and_eq_true]
  constructor
  · rintro ⟨⟨a, ha, b, hb, rfl⟩, hQ, hP⟩
    exact ⟨a, ha, b, List.mem_of_find?_eq_some hb, eq_of_beq (List.find?_some hb :), hP, hQ, rfl⟩
  · rintro ⟨a, ha, b, hb, hg, hP, hQ, rfl⟩
    exact ⟨⟨a, ha, b, hg ▸ find?_key_of_mem Entry.g (hB.imp Int.ne_of_lt) hb, rfl⟩, hQ, hP⟩

theorem mem_sendEntries {ign S T sys} (hwf : WF sys) {p q : Nat} (x : RIdx) :
    x ∈ sendEntries ign S T sys p q ↔
      ∃ a ∈ published ign (sys.rank p).src, ∃ b ∈ published ign (sys.rank q).tgtSet,
        b.g = a.g ∧ S a.a = true ∧ T b.a = true ∧ x = ⟨a.g, b.a, a.l, a.a⟩ := by
  rw [sendEntries, passes_eq_and]
  exact mem_filter_joinSpec ((hwf.tgt q).published ign) S T x

theorem mem_recvEntries {ign S T sys} (hwf : WF sys) {p q : Nat} (x : RIdx) :
    x ∈ recvEntries ign S T sys p q ↔
      ∃ a ∈ published ign (sys.rank p).tgtSet, ∃ b ∈ published ign (sys.rank q).src,
        b.g = a.g ∧ T a.a = true ∧ S b.a = true ∧ x = ⟨a.g, b.a, a.l, a.a⟩ := by
  rw [recvEntries, passes_eq_and]
  exact mem_filter_joinSpec ((hwf.src q).published ign) T S x

theorem entries_mirror {ign S T sys} (hwf : WF sys) (p q : Nat) :
    (sendEntries ign S T sys p q).map (·.g) = (recvEntries ign S T sys q p).map (·.g) := by
  apply eq_of_pairwise_of_mem_iff (R := (· < ·)) (fun a b h1 h2 => Int.lt_asymm h1 h2)
  · exact joinSpec_globals_sorted ((hwf.src p).published ign) _ _
  · exact joinSpec_globals_sorted ((hwf.tgt q).published ign) _ _
  · intro g
    simp only [List.mem_map]
    constructor
    · rintro ⟨x, hx, rfl⟩
      obtain ⟨a, ha, b, hb, hg, hS, hT, rfl⟩ := (mem_sendEntries hwf x).1 hx
      exact ⟨⟨b.g, a.a, b.l, b.a⟩, (mem_recvEntries hwf _).2 ⟨b, hb, a, ha, hg.symm, hT, hS, rfl⟩, hg⟩
    · rintro ⟨x, hx, rfl⟩
      obtain ⟨a, ha, b, hb, hg, hT, hS, rfl⟩ := (mem_recvEntries hwf x).1 hx
      exact ⟨⟨b.g, a.a, b.l, b.a⟩, (mem_sendEntries hwf _).2 ⟨b, hb, a, ha, hg.symm, hS, hT, rfl⟩, hg⟩

end DV.C05
