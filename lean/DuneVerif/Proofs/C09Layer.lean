import DuneVerif.Model.C09X
import DuneVerif.Proofs.C09
import DuneVerif.Proofs.C09Lawful
import DuneVerif.Common.Lists
/-!
# C09 — the functions of the abstraction layer for LoopSIMD: lane, lane assignment, cond, mask reductions,
nested lane numbering; the three instances of `SimdLike` are lawful (no Mathlib, no Std)

The functions (`Simd.lane`, `Simd.cond`, `Simd.reduceFlat`, … of `Model/C09.lean`) run what the translator regenerates:
`Gen.laneInner/laneOuter/laneCount` and `Gen.loop_condLanes` are unfolded here, `Gen.red_*`, `Gen.scalarReduce`, `Gen.scalarCond`
enter by `rfl` through `Simd.reduceFlat` and the instances of `Model/C09LU.lean`.
The scalar, `LoopSIMD<·,S>` (`SimdLike.loop`) and `LoopSIMD<LoopSIMD<·,S₂>,S₁>` (`SimdLike.nested`) are lawful `SimdLike`s, and
the operations of the latter two are the translated functions (`…_instance`); so every dense-matrix theorem about a lawful
`SimdLike` holds for vectors and for vectors of vectors.
-/
namespace DV.C09
open Gen

section Lane
variable {α : Type} {S S₂ S₁ : Nat}

theorem lane_flat (v : Vec α S) (l : Nat) : Simd.lane l v = v[l]? := by
  unfold Simd.lane laneOuter laneInner
  rw [Nat.div_one]
  simp only [Nat.mod_one, if_true, Option.bind_fun_some]

theorem setLane_flat (v : Vec α S) (l : Nat) (x : α) (hl : l < S) : Simd.setLane l x v = some (v.set l x hl) := by
  unfold Simd.setLane laneOuter laneInner
  simp only [Nat.mod_one, if_true, Nat.div_one, dif_pos hl]

-- lane number `i * S₂ + j` ↔ entry `(i, j)`
theorem nested_entry_lt {i j : Nat} (hi : i < S₁) (hj : j < S₂) : i * S₂ + j < S₁ * S₂ :=
  Nat.lt_of_lt_of_le (Nat.add_lt_add_left hj _) (Nat.succ_mul i S₂ ▸ Nat.mul_le_mul_right S₂ hi)
theorem nested_entry_div {i j : Nat} (hj : j < S₂) : (i * S₂ + j) / S₂ = i :=
  Nat.div_eq_of_lt_le (Nat.le_add_right _ _) (Nat.succ_mul i S₂ ▸ Nat.add_lt_add_left hj _)

/-- `lane(l, v)` of a vector of vectors (loop.hh) is the `lane` of the instance the dense algorithms use:
    lane `l % S₂` of entry `l / S₂` … -/
theorem laneNested_instance (v : Vec (Vec α S₂) S) (l : Fin (S * S₂)) :
    Simd.laneNested l.val v = some ((SimdLike.nested S S₂).lane l v) := by
  unfold Simd.laneNested
  rw [if_pos (show l.val < laneCount S S₂ from l.isLt)]
  show (v[l.val / S₂]?).bind (fun x => x[l.val % S₂]?) = _
  rw [Vector.getElem?_eq_getElem (nested_div_lt l), Option.bind_some, Vector.getElem?_eq_getElem (nested_mod_lt l)]
  rfl

/-- … i.e. entry `(i, j)` is lane `i * S₂ + j`: the lanes are numbered in storage order -/
theorem nested_lane_of_entry (v : Vec (Vec α S₂) S) {i j : Nat} (hi : i < S) (hj : j < S₂) :
    (SimdLike.nested S S₂).lane ⟨i * S₂ + j, nested_entry_lt hi hj⟩ v = (v[i])[j] := by
  simp only [SimdLike.nested, nested_entry_div hj, Nat.mul_add_mod_of_lt hj]

end Lane

section Cond
variable {α : Type} {S S₂ : Nat}

/-- the vector addressed by lane number (the result of the per-lane loops of `cond` and `implCast`), read back entry by entry -/
theorem ofLanesFlat_eq (r : Vec α (laneCount S 1)) :
    Simd.ofLanesFlat r = some (Vector.ofFn fun i : Fin S => r[i.val]'(by simp [laneCount])) := by
  unfold Simd.ofLanesFlat
  rw [allSome_eq_some_iff]
  intro i hi
  have hi' : i < laneCount S 1 := by simpa [laneCount] using hi
  simp only [Vector.getElem_ofFn, laneOuter, laneInner, Nat.div_one, Nat.mod_one, and_self, if_true]
  exact Vector.getElem?_eq_getElem hi'

theorem ofLanesNested_eq (r : Vec α (laneCount S S₂)) :
    Simd.ofLanesNested r = some (Vector.ofFn fun i : Fin S => Vector.ofFn fun j : Fin S₂ =>
      r[i.val * S₂ + j.val]'(by simpa [laneCount] using nested_entry_lt i.isLt j.isLt)) := by
  unfold Simd.ofLanesNested
  rw [allSome_eq_some_iff]
  intro i hi
  simp only [Vector.getElem_ofFn]
  rw [allSome_eq_some_iff]
  intro j hj
  simp only [Vector.getElem_ofFn, laneOuter, laneInner, nested_entry_div hj, Nat.mul_add_mod_of_lt hj, and_self, if_true]
  exact Vector.getElem?_eq_getElem (by simpa [laneCount] using nested_entry_lt hi hj)

/-- the per-lane loop of `Simd::cond` over operands of a vector type whose `lane` (`get`) is defined on all `n` lanes selects lane by lane -/
theorem condLanes_total {V : Type → Type} (n : Nat) (get : {β : Type} → Nat → V β → Option β) (lane : {β : Type} → Fin n → V β → β)
    (h : ∀ {β : Type} (v : V β) (l : Fin n), get l.val v = some (lane l v)) (m : V Bool) (a b : V α) :
    Simd.condLanes n (get · m) (get · a) (get · b) =
      some (Vector.ofFn fun l => if lane l m then lane l a else lane l b) := by
  unfold Simd.condLanes
  rw [show loop_condLanes.args = [.vec 0 .i, .vec 1 .i, .vec 2 .i] by decide, ← allSome_ofFn_some]
  exact loopOut_canonical loop_condLanes (by decide) (by decide) _ _ fun l hl => by
    simp only [ixEval, Option.bind_some, h _ ⟨l, hl⟩, Vector.getElem_ofFn]

/-- **lane_cond** for a vector of scalars: `cond(mask, a, b)` is `mask[l] ? a[l] : b[l]` in every lane, which is the `cond` of the
    vector instance used by the dense algorithms -/
theorem cond_loop_instance (m : Vec Bool S) (a b : Vec α S) :
    Simd.cond m a b = some ((SimdLike.loop S).cond m a b) := by
  have hS : ∀ l : Fin (laneCount S 1), l.val < S := fun l => Nat.lt_of_lt_of_eq l.isLt (Nat.mul_one S)
  show (Simd.condLanes _ _ _ _).bind Simd.ofLanesFlat = _
  rw [condLanes_total (V := (Vec · S)) _ Simd.lane (fun l v => v[l.val]'(hS l)) fun v l => (lane_flat v _).trans (Vector.getElem?_eq_getElem (hS l)),
    Option.bind_some, ofLanesFlat_eq]
  simp only [Vector.getElem_ofFn]
  rfl

/-- **lane_cond** for a vector of vectors: the selection happens in every lane of every entry -/
theorem condNested_instance (m : Vec (Vec Bool S₂) S) (a b : Vec (Vec α S₂) S) :
    Simd.condNested m a b = some ((SimdLike.nested S S₂).cond m a b) := by
  show (Simd.condLanes _ _ _ _).bind Simd.ofLanesNested = _
  rw [condLanes_total (V := fun β => Vec (Vec β S₂) S) (laneCount S S₂) Simd.laneNested (SimdLike.nested S S₂).lane laneNested_instance,
    Option.bind_some, ofLanesNested_eq]
  -- `laneCount`: the read-back numbers the lanes in `Fin (laneCount S S₂)`, `nested_lane_of_entry` in `Fin (S * S₂)`
  simp only [Vector.getElem_ofFn, laneCount, nested_lane_of_entry, Fin.is_lt]
  rfl

end Cond

section Reductions
variable {μ : Type} {S S₂ : Nat}

theorem vec_any_iff (g : μ → Bool) (m : Vector μ S) :
    m.toList.any g = true ↔ ∃ i, ∃ h : i < S, g m[i] = true := by
  rw [Vector.any_toList, Vector.any_eq_true]

theorem vec_all_iff (g : μ → Bool) (m : Vector μ S) :
    m.toList.all g = true ↔ ∀ i, ∀ h : i < S, g m[i] = true := by
  rw [Vector.all_toList, Vector.all_eq_true]

theorem loop_anyTrue_eq (m : Vec Bool S) : (SimdLike.loop S).anyTrue m = m.toList.any id :=
  (foldl_or _ _ _).trans (Bool.false_or _)
theorem loop_allTrue_eq (m : Vec Bool S) : (SimdLike.loop S).allTrue m = m.toList.all id :=
  (foldl_and _ _ _).trans (Bool.true_and _)

/-- a loop over the lane numbers `lo … lo + n - 1` that reads lane `l` through an accessor `get` which is the indexing of the list
    `xs` of lanes, shifted by `lo`, is the fold over `xs` -/
theorem foldl_range'_get {σ α : Type} (step : σ → α → σ) (get : Nat → Option α) (xs : List α) (lo : Nat)
    (hget : ∀ i, get (lo + i) = xs[i]?) {n : Nat} (hn : xs.length = n) (a : σ) :
    (List.range' lo n).foldl (fun s l => s.bind fun s => (get l).map (step s)) (some a) = some (xs.foldl step a) := by
  subst hn
  induction xs generalizing lo a with
  | nil => rfl
  | cons x xs ih =>
    have h0 : get lo = some x := hget 0
    rw [List.length_cons, List.range'_succ, List.foldl_cons, Option.bind_some, h0]
    exact ih (lo + 1) (fun i => by rw [Nat.add_assoc, Nat.add_comm 1, hget]; rfl) _

/-- a canonical reduction loop folds `|=` / `&=` over all entries: "some entry" resp. "every entry" -/
theorem reduce_canonical (R : Reduce) (hlo : R.lo = 0) (hhi : R.hiMinus = 0) (hix : R.ix = .i) (g : μ → Bool) (m : Vec μ S) :
    Simd.reduce R (fun e => some (g e)) m =
      some (if R.isOr then (R.init || m.toList.any g) else (R.init && m.toList.all g)) := by
  have hstep : Simd.stepRed R (fun e => some (g e)) m = fun s l => s.bind fun out =>
      (m[l]?).map fun e => if R.isOr then (out || g e) else (out && g e) := by
    funext s l
    cases s with
    | none => rfl
    | some out =>
      simp only [Simd.stepRed, hix, rd, ixEval, Option.bind_some]
      cases m[l]? <;> rfl
  unfold Simd.reduce
  rw [hlo, hhi, Nat.sub_zero, Nat.sub_zero, hstep,
    foldl_range'_get _ (m[·]?) m.toList 0 (fun i => by rw [Nat.zero_add, Vector.getElem?_toList]) m.length_toList]
  cases R.isOr
  · simp only [Bool.false_eq_true, if_false, foldl_and]
  · simp only [if_true, foldl_or]

/-- what each reduction says about the lanes -/
def redSpec (k : RedKind) (lanes : List Bool) : Bool :=
  match k with
  | .anyTrue => lanes.any id
  | .allTrue => lanes.all id
  | .anyFalse => lanes.any (!·)
  | .allFalse => lanes.all (!·)

theorem reduceFlat_eq (k : RedKind) (m : Vec Bool S) : Simd.reduceFlat k m = some (redSpec k m.toList) := by
  unfold Simd.reduceFlat
  cases k <;> exact reduce_canonical _ rfl rfl rfl _ m

theorem reduceNested_eq (k : RedKind) (m : Vec (Vec Bool S₂) S) :
    Simd.reduceNested k m = some (redSpec k (Simd.flatten m)) := by
  unfold Simd.reduceNested
  simp only [funext (reduceFlat_eq (S := S₂) _)]
  -- "some entry has some lane …" is "some lane of the concatenation …", and likewise for "every"
  cases k <;>
  · rw [reduce_canonical _ rfl rfl rfl]
    simp only [redSpec, Simd.flatten, List.any_flatten, List.all_flatten, List.any_map, List.all_map, Function.comp_def]
    rfl

/-- the reductions of the vector instance used by the dense algorithms are the translated ones -/
theorem anyTrue_loop_instance (m : Vec Bool S) : Simd.reduceFlat .anyTrue m = some ((SimdLike.loop S).anyTrue m) := by
  rw [reduceFlat_eq, loop_anyTrue_eq]
  rfl
theorem allTrue_loop_instance (m : Vec Bool S) : Simd.reduceFlat .allTrue m = some ((SimdLike.loop S).allTrue m) := by
  rw [reduceFlat_eq, loop_allTrue_eq]
  rfl

end Reductions

section LoopInstance
variable {α β γ : Type} {S : Nat}

/-- for total scalar operations the translated binary loop *is* the `map2` of the vector instance (e.g. `-`, `*`,
    `/`, `>` on floating-point numbers in the dense algorithms) -/
theorem binaryVV_loop_instance (op : BinOp) (f : α → α → α) (a b : Vec α S) :
    Simd.binaryVV (fun _ x y => some (f x y)) op a b = some ((SimdLike.loop S).map2 f a b) := by
  rw [lanewise_binaryVV, allSome_zipWith_some]
  rfl
theorem compareVV_loop_instance (op : CmpOp) (f : α → α → Bool) (a b : Vec α S) :
    Simd.compareVV (fun _ x y => some (f x y)) op a b = some ((SimdLike.loop S).map2 f a b) := by
  rw [lanewise_compareVV, allSome_zipWith_some]
  rfl
theorem math_loop_instance (op : MathOp) (f : α → α) (a : Vec α S) :
    Simd.math (fun _ x => some (f x)) op a = some ((SimdLike.loop S).map f a) := by
  rw [lanewise_math, allSome_map_some]
  rfl

end LoopInstance

section Index
variable {S₁ S₂ : Nat}

/-- quantifying over the lanes of a nested vector = quantifying over entries and their lanes -/
theorem nested_exists_iff (P : Nat → Nat → Prop) :
    (∃ l : Fin (S₁ * S₂), P (l.val / S₂) (l.val % S₂)) ↔ ∃ i, i < S₁ ∧ ∃ j, j < S₂ ∧ P i j := by
  constructor
  · rintro ⟨l, h⟩
    exact ⟨_, nested_div_lt l, _, nested_mod_lt l, h⟩
  · rintro ⟨i, hi, j, hj, h⟩
    refine ⟨⟨i * S₂ + j, nested_entry_lt hi hj⟩, ?_⟩
    simp only [nested_entry_div hj, Nat.mul_add_mod_of_lt hj]
    exact h

theorem nested_forall_iff (P : Nat → Nat → Prop) :
    (∀ l : Fin (S₁ * S₂), P (l.val / S₂) (l.val % S₂)) ↔ ∀ i, i < S₁ → ∀ j, j < S₂ → P i j := by
  constructor
  · intro h i hi j hj
    have := h ⟨i * S₂ + j, nested_entry_lt hi hj⟩
    simpa only [nested_entry_div hj, Nat.mul_add_mod_of_lt hj] using this
  · intro h l
    exact h _ (nested_div_lt l) _ (nested_mod_lt l)

end Index

theorem scalar_lawful : SimdLike.scalar.Lawful where
  lane_setLane := by
    intro α l l' x v
    rw [if_pos (Subsingleton.elim l l')]
    rfl
  lane_bcast := by intros; rfl
  lane_map := by intros; rfl
  lane_map2 := by intros; rfl
  lane_cond := by intro α l m a b; cases m <;> rfl
  anyTrue_iff := fun _ => ⟨fun h => ⟨0, h⟩, fun ⟨_, h⟩ => h⟩
  allTrue_iff := fun _ => ⟨fun h _ => h, fun h => h 0⟩

theorem loop_lawful (S : Nat) : (SimdLike.loop S).Lawful where
  lane_setLane := by
    intro α l l' x v
    simp only [SimdLike.loop, Fin.getElem_fin, Vector.getElem_set, Fin.val_inj]
  lane_bcast := fun _ _ => Vector.getElem_replicate ..
  lane_map := fun _ _ _ => Vector.getElem_map ..
  lane_map2 := fun _ _ _ _ => Vector.getElem_zipWith ..
  lane_cond := fun _ _ _ _ => Vector.getElem_ofFn ..
  anyTrue_iff := by
    intro m
    rw [loop_anyTrue_eq, vec_any_iff, Fin.exists_iff]
    rfl
  allTrue_iff := by
    intro m
    rw [loop_allTrue_eq, vec_all_iff, Fin.forall_iff]
    rfl

/-- seen through its lane numbers a vector of vectors is its `Vector.flatten`: `Vector.getElem_flatten` is `lane` -/
theorem flatten_eq_toList {α : Type} {S₁ S₂ : Nat} (v : Vec (Vec α S₂) S₁) : Simd.flatten v = v.flatten.toList := by
  simp only [Simd.flatten, Vector.flatten, Vector.toList, Array.toList_flatten, Array.toList_map, List.map_map, Function.comp_def]
  rfl

theorem nested_anyTrue_eq {S₁ S₂ : Nat} (m : Vec (Vec Bool S₂) S₁) : (SimdLike.nested S₁ S₂).anyTrue m = m.flatten.any id := by
  show m.toList.foldl (fun out e => out || (SimdLike.loop S₂).anyTrue e) false = _
  simp only [foldl_or, Bool.false_or, loop_anyTrue_eq, Vector.any_toList, Vector.any_flatten]
theorem nested_allTrue_eq {S₁ S₂ : Nat} (m : Vec (Vec Bool S₂) S₁) : (SimdLike.nested S₁ S₂).allTrue m = m.flatten.all id := by
  show m.toList.foldl (fun out e => out && (SimdLike.loop S₂).allTrue e) true = _
  simp only [foldl_and, Bool.true_and, loop_allTrue_eq, Vector.all_toList, Vector.all_flatten]

theorem nested_lawful (S₁ S₂ : Nat) : (SimdLike.nested S₁ S₂).Lawful where
  lane_setLane := by
    intro α l l' x v
    have hll : l = l' ↔ l.val / S₂ = l'.val / S₂ ∧ l.val % S₂ = l'.val % S₂ :=
      ⟨fun e => e ▸ ⟨rfl, rfl⟩, fun h => Fin.ext (by rw [← Nat.div_add_mod l.val S₂, h.1, h.2, Nat.div_add_mod])⟩
    simp only [SimdLike.nested, Vector.getElem_set, hll]
    by_cases hd : l.val / S₂ = l'.val / S₂
    · simp only [hd, if_true, true_and, Vector.getElem_set]
    · simp only [hd, if_false, false_and]
  lane_bcast := by intro α l x; simp only [SimdLike.nested, Vector.getElem_replicate]
  lane_map := by intro α β l f v; simp only [SimdLike.nested, Vector.getElem_map]
  lane_map2 := by intro α β γ l f a b; simp only [SimdLike.nested, Vector.getElem_zipWith]
  lane_cond := by intro α l m a b; simp only [SimdLike.nested, Vector.getElem_ofFn]; rfl
  anyTrue_iff := by
    intro m
    rw [nested_anyTrue_eq, Vector.any_eq_true, Fin.exists_iff]
    simp only [Vector.getElem_flatten, id]
    rfl
  allTrue_iff := by
    intro m
    rw [nested_allTrue_eq, Vector.all_eq_true, Fin.forall_iff]
    simp only [Vector.getElem_flatten, id]
    rfl

section NestedInstance
variable {α : Type} {S S₂ : Nat}

theorem setLaneNested_instance (v : Vec (Vec α S₂) S) (l : Fin (S * S₂)) (x : α) :
    Simd.setLaneNested l.val x v = some ((SimdLike.nested S S₂).setLane l x v) := by
  unfold Simd.setLaneNested
  rw [dif_pos (show laneOuter l.val S₂ < S from nested_div_lt l), dif_pos (show laneInner l.val S₂ < S₂ from nested_mod_lt l)]
  rfl

theorem anyTrueNested_instance (m : Vec (Vec Bool S₂) S) :
    Simd.reduceNested .anyTrue m = some ((SimdLike.nested S S₂).anyTrue m) := by
  rw [reduceNested_eq, nested_anyTrue_eq, flatten_eq_toList, ← Vector.any_toList]
  rfl

theorem allTrueNested_instance (m : Vec (Vec Bool S₂) S) :
    Simd.reduceNested .allTrue m = some ((SimdLike.nested S S₂).allTrue m) := by
  rw [reduceNested_eq, nested_allTrue_eq, flatten_eq_toList, ← Vector.all_toList]
  rfl

/-- an operator of the nested vector (outer loop over the inner operator) is the `map2` of the instance -/
theorem binaryNested_instance (op : BinOp) (f : α → α → α) (a b : Vec (Vec α S₂) S) :
    Simd.binVV loop_BINARY_OP_vv (Simd.binaryVV (fun _ x y => some (f x y)) op) a b =
      some ((SimdLike.nested S S₂).map2 f a b) := by
  rw [binVV_canonical loop_BINARY_OP_vv (by decide) (by decide) (by decide),
    show Simd.binaryVV (S := S₂) (fun _ x y => some (f x y)) op = _ from
      funext fun x => funext (binaryVV_loop_instance op f x),
    allSome_zipWith_some]
  rfl

/-- a vector of one entry has the lanes of that entry -/
theorem laneMat_nested_one {K : Type} {n : Nat} (A : Mat (Vec K S) n) (l : Fin (1 * S)) (hl : l.val < S) :
    laneMat (SimdLike.nested 1 S) l (Mat.map (fun e => (#v[e] : Vec (Vec K S) 1)) A) =
      laneMat (SimdLike.loop S) ⟨l.val, hl⟩ A := by
  apply Mat.ext
  intro i j
  rw [laneMat_get, laneMat_get, Mat.get_map]
  exact (Vector.getElem_flatten l.isLt).symm.trans (by simp only [Vector.flatten_singleton, Vector.getElem_cast]; rfl)

end NestedInstance

end DV.C09
