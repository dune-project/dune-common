/-
C03: the binary search of exists / at / operator[].  Core Lean only.
-/
import DuneVerif.Proofs.C03Sort

namespace DV.C03

theorem pAt_some_iff {xs : List Pair} {i : Int} {p : Pair} :
    pAt xs i = some p ↔ 0 ≤ i ∧ ∃ h : i.toNat < xs.length, xs[i.toNat] = p := by
  unfold pAt
  split
  · next h => exact ⟨nofun, fun ⟨h0, _⟩ => absurd h0 (Int.not_le.2 h)⟩
  · next h =>
    rw [List.getElem?_eq_some_iff]
    exact ⟨fun hh => ⟨Int.not_lt.1 h, hh⟩, fun hh => hh.2⟩

theorem pAt_natCast (xs : List Pair) (n : Nat) : pAt xs n = xs[n]? := by
  simp only [pAt, Int.not_lt.2 (Int.natCast_nonneg n), if_false, Int.toNat_natCast]

theorem pAt_isSome {xs : List Pair} {i : Int} (h0 : 0 ≤ i) (h1 : i < xs.length) : ∃ p, pAt xs i = some p :=
  ⟨xs[i.toNat]'((Int.toNat_lt h0).2 h1), pAt_some_iff.2 ⟨h0, _, rfl⟩⟩

theorem pAt_lt {xs : List Pair} {i : Int} {p : Pair} (h : pAt xs i = some p) : i < xs.length :=
  let ⟨h0, h1, _⟩ := pAt_some_iff.1 h
  (Int.toNat_lt h0).1 h1

theorem pAt_mem {xs : List Pair} {i : Int} {p : Pair} (h : pAt xs i = some p) : p ∈ xs := by
  obtain ⟨_, h1, h2⟩ := pAt_some_iff.1 h
  exact h2 ▸ List.getElem_mem h1

theorem mem_pAt {xs : List Pair} {p : Pair} (h : p ∈ xs) : ∃ i : Int, pAt xs i = some p := by
  obtain ⟨i, hi⟩ := List.getElem?_of_mem h
  exact ⟨i, by rw [pAt_natCast, hi]⟩

theorem pairwise_pAt {R : Pair → Pair → Prop} {xs : List Pair} (hs : xs.Pairwise R) {i j : Int} {a b : Pair}
    (hij : i < j) (ha : pAt xs i = some a) (hb : pAt xs j = some b) : R a b := by
  obtain ⟨hi0, hi1, rfl⟩ := pAt_some_iff.1 ha
  obtain ⟨hj0, hj1, rfl⟩ := pAt_some_iff.1 hb
  exact List.pairwise_iff_getElem.1 hs i.toNat j.toNat hi1 hj1 (by rw [Int.lt_toNat, Int.toNat_of_nonneg hi0]; exact hij)

theorem pAt_inj_of_strict {xs : List Pair} (hs : StrictG xs) {i j : Int} {a b : Pair}
    (ha : pAt xs i = some a) (hb : pAt xs j = some b) (hg : a.g = b.g) : i = j := by
  rcases Int.lt_trichotomy i j with h | h | h
  · exact absurd hg (Int.ne_of_lt (pairwise_pAt hs h ha hb))
  · exact h
  · exact absurd hg.symm (Int.ne_of_lt (pairwise_pAt hs h hb ha))

theorem sorted_pAt {xs : List Pair} (hs : SortedG xs) {i j : Int} {a b : Pair}
    (hij : i ≤ j) (ha : pAt xs i = some a) (hb : pAt xs j = some b) : a.g ≤ b.g := by
  rcases Int.lt_or_eq_of_le hij with h | rfl
  · exact pairwise_pAt hs h ha hb
  · rw [ha] at hb; cases hb; exact Int.le_refl _

theorem gAt_eq_map (xs : List Pair) (i : Int) : gAt xs i = (pAt xs i).map (·.g) := by
  unfold gAt pAt; split <;> rfl

theorem searchLoop_done (xs : List Pair) (g : Int) (fuel : Nat) {low high : Int} (h : ¬ low < high) :
    searchLoop xs g fuel low high = some low := by
  cases fuel <;> simp only [searchLoop, h, if_false]

theorem searchLoop_succ (xs : List Pair) (g : Int) (fuel : Nat) {low high : Int} (h : low < high) {p : Pair}
    (hp : pAt xs (Int.tdiv (high + low) 2) = some p) :
    searchLoop xs g (fuel + 1) low high =
      if p.g ≥ g then searchLoop xs g fuel low (Int.tdiv (high + low) 2)
      else searchLoop xs g fuel (Int.tdiv (high + low) 2 + 1) high := by
  simp only [searchLoop, h, if_true, gAt_eq_map, hp, Option.map_some]

/-- the probe lies in `[low, high)`; the only place where the division is looked at -/
theorem probe_bounds {low high : Int} (h0 : 0 ≤ low) (h : low < high) :
    low ≤ Int.tdiv (high + low) 2 ∧ Int.tdiv (high + low) 2 < high := by
  -- both bounds, multiplied by 2: `low + low ≤ high + low < high + high`
  rw [Int.tdiv_eq_ediv_of_nonneg (Int.add_nonneg (Int.le_trans h0 (Int.le_of_lt h)) h0),
    Int.le_ediv_iff_mul_le (by decide), Int.ediv_lt_iff_lt_mul (by decide), Int.mul_comm low, Int.mul_comm high,
    Int.two_mul, Int.two_mul]
  exact ⟨Int.add_le_add_right (Int.le_of_lt h) low, Int.add_lt_add_left h high⟩

/-- both intervals an iteration can continue with are shorter -/
theorem fuel_step {low high m f : Int} (hf : high - low ≤ f + 1) (h1 : low ≤ m) (h2 : m < high) :
    m - low ≤ f ∧ high - (m + 1) ≤ f :=
  ⟨Int.lt_add_one_iff.1 (Int.lt_of_lt_of_le (Int.sub_lt_sub_right h2 low) hf),
    Int.lt_add_one_iff.1 (Int.lt_of_lt_of_le (Int.sub_lt_sub_left (Int.lt_add_one_iff.2 h1) high) hf)⟩

/-- The loop on `[low, high]` inside the list, for every list, ascending or not: it terminates within the fuel and reads inside
the list only.  `low` only ever moves to just behind an entry `< g` and `high` only onto an entry `≥ g`; hence the two witnesses
at the position where they meet, which is all the lookups need: sortedness comes in afterwards (`search_post`). -/
theorem searchLoop_spec (xs : List Pair) (g : Int) :
    ∀ (fuel : Nat) (low high : Int), 0 ≤ low → high < xs.length → high - low ≤ fuel →
      ∃ r, searchLoop xs g fuel low high = some r ∧ low ≤ r ∧
        (r = low ∨ ∃ p, pAt xs (r - 1) = some p ∧ p.g < g) ∧
        (low ≤ high → r = high ∨ ∃ p, pAt xs r = some p ∧ g ≤ p.g) := by
  intro fuel
  induction fuel with
  | zero =>
    intro low high _ _ hf
    have hlt : ¬ low < high := Int.not_lt.2 (Int.le_of_sub_nonpos hf)
    exact ⟨low, searchLoop_done xs g 0 hlt, Int.le_refl _, .inl rfl, fun h => .inl (Int.le_antisymm h (Int.not_lt.1 hlt))⟩
  | succ f ih =>
    intro low high h0 hh hf
    by_cases hlt : low < high
    · obtain ⟨hm1, hm2⟩ := probe_bounds h0 hlt
      obtain ⟨hf1, hf2⟩ := fuel_step (f := f) hf hm1 hm2
      obtain ⟨p, hp⟩ := pAt_isSome (xs := xs) (Int.le_trans h0 hm1) (Int.lt_trans hm2 hh)
      rw [searchLoop_succ xs g f hlt hp]
      generalize Int.tdiv (high + low) 2 = m at hm1 hm2 hf1 hf2 hp
      by_cases hc : p.g ≥ g
      · rw [if_pos hc]
        obtain ⟨r, hr, h1, h2, h3⟩ := ih low m h0 (Int.lt_trans hm2 hh) hf1
        exact ⟨r, hr, h1, h2, fun _ => .inr ((h3 hm1).elim (· ▸ ⟨p, hp, hc⟩) id)⟩
      · rw [if_neg hc]
        obtain ⟨r, hr, h1, h2, h3⟩ := ih (m + 1) high (Int.le_add_one (Int.le_trans h0 hm1)) hh hf2
        exact ⟨r, hr, Int.le_trans (Int.le_add_one hm1) h1,
          .inr (h2.elim (fun h => ⟨p, by rwa [h, Int.add_sub_cancel], Int.not_le.1 hc⟩) id),
          fun _ => h3 (Int.add_one_le_of_lt hm2)⟩
    · exact ⟨low, searchLoop_done xs g _ hlt, Int.le_refl _, .inl rfl,
        fun h => .inl (Int.le_antisymm h (Int.not_lt.1 hlt))⟩

/-- `search` is the loop on the whole list.  The entry at the position it returns need not be `≥ g`: when every entry is `< g`
the loop stops on the last one. -/
theorem search_post (xs : List Pair) (g : Int) :
    ∃ r, search xs g = some r ∧ 0 ≤ r ∧
      (xs ≠ [] → ∃ p, pAt xs r = some p ∧ (r = (xs.length : Int) - 1 ∨ g ≤ p.g)) ∧
      (SortedG xs → ∀ (i : Int) (q : Pair), i < r → pAt xs i = some q → q.g < g) := by
  obtain ⟨r, hr, h0, hlo, hhi⟩ := searchLoop_spec xs g xs.length 0 ((xs.length : Int) - 1) (Int.le_refl _)
    (Int.sub_one_lt_of_le (Int.le_refl _)) (by omega)
  refine ⟨r, hr, h0, fun hne => ?_, fun hs i q hi hq => ?_⟩
  · rcases hhi (Int.le_sub_one_of_lt (Int.natCast_pos.2 (List.length_pos_iff.2 hne))) with rfl | ⟨p, hp, hge⟩
    · obtain ⟨p, hp⟩ := pAt_isSome (xs := xs) h0 (Int.sub_one_lt_of_le (Int.le_refl _))
      exact ⟨p, hp, .inl rfl⟩
    · exact ⟨p, hp, .inr hge⟩
  · rcases hlo with rfl | ⟨p, hp, hlt⟩
    · exact absurd (pAt_some_iff.1 hq).1 (Int.not_le.2 hi)
    · exact Int.lt_of_le_of_lt (sorted_pAt hs (Int.le_sub_one_of_lt hi) hq hp) hlt

theorem find?_global_eq_none {xs : List Pair} {g : Int} (h : g ∉ globals xs) : xs.find? (·.g == g) = none := by
  rw [List.find?_eq_none]
  intro x hx hxg
  exact h (List.mem_map.2 ⟨x, hx, beq_iff_eq.1 hxg⟩)

theorem search_find (xs : List Pair) (g : Int) (hs : SortedG xs) (hne : xs ≠ []) :
    ∃ (r : Int) (p : Pair), search xs g = some r ∧ pAt xs r = some p ∧ (g ∈ globals xs ↔ p.g = g) ∧
      (p.g = g → xs.find? (·.g == g) = some p) := by
  obtain ⟨r, hr, _, h1, hlo⟩ := search_post xs g
  obtain ⟨p, hp, hhi⟩ := h1 hne
  refine ⟨r, p, hr, hp, ⟨fun hmem => ?_, fun h => List.mem_map.2 ⟨p, pAt_mem hp, h⟩⟩, fun hpg => ?_⟩
  · -- an entry `q` with global `g` sits at some `j ≥ r`, so `p.g ≤ g`; and `g ≤ p.g` unless `r` is the last position, where `j ≤ r`
    obtain ⟨q, hq, rfl⟩ := List.mem_map.1 hmem
    obtain ⟨j, hj⟩ := mem_pAt hq
    exact Int.le_antisymm (sorted_pAt hs (Int.not_lt.1 fun h => Int.lt_irrefl _ (hlo hs j q h hj)) hp hj)
      (hhi.elim (fun hl => sorted_pAt hs (hl ▸ Int.le_sub_one_of_lt (pAt_lt hj)) hj hp) id)
  · obtain ⟨_, h1, h2⟩ := pAt_some_iff.1 hp
    rw [List.find?_eq_some_iff_getElem]
    refine ⟨beq_iff_eq.2 hpg, r.toNat, h1, h2, fun j hj => ?_⟩
    have hjl : j < xs.length := Nat.lt_trans hj h1
    have := hlo hs j xs[j] (Int.lt_toNat.1 hj) (by rw [pAt_natCast]; exact List.getElem?_eq_getElem hjl)
    exact bne_iff_ne.2 (Int.ne_of_lt this)

theorem fitsI32_iff (i : Int) : fitsI32 i = true ↔ -2147483648 ≤ i ∧ i ≤ 2147483647 := by
  simp [fitsI32]

/-- below 2^30 entries neither `high + low` nor `probe + 1` leaves the range of `int` -/
theorem fits_of_bounds {low high m n : Int} (hn : n ≤ 1073741824) (h0 : 0 ≤ low) (hh : high < n) (h1 : low ≤ m)
    (h2 : m < high) : fitsI32 (high + low) = true ∧ fitsI32 (m + 1) = true := by
  simp only [fitsI32_iff]; omega

theorem searchLoopI32_eq (xs : List Pair) (g : Int) (hlen : xs.length ≤ 1073741824) :
    ∀ (fuel : Nat) (low high : Int), 0 ≤ low → high < xs.length →
      searchLoopI32 xs g fuel low high = searchLoop xs g fuel low high := by
  intro fuel
  induction fuel with
  | zero => intro low high _ _; rfl
  | succ f ih =>
    intro low high h0 hh
    by_cases hlt : low < high
    · obtain ⟨hm1, hm2⟩ := probe_bounds h0 hlt
      obtain ⟨hfit, hfit'⟩ := fits_of_bounds (Int.ofNat_le.2 hlen) h0 hh hm1 hm2
      simp only [searchLoopI32, searchLoop, hlt, if_true, hfit, hfit', Bool.not_true, Bool.false_eq_true, if_false,
        ih low _ h0 (Int.lt_trans hm2 hh), ih _ high (Int.le_add_one (Int.le_trans h0 hm1)) hh]
    · simp only [searchLoopI32, searchLoop, hlt, if_false]

theorem searchI32_eq (xs : List Pair) (g : Int) (hlen : xs.length ≤ 1073741824) : searchI32 xs g = search xs g := by
  have hfit : fitsI32 ((xs.length : Int) - 1) = true := (fitsI32_iff _).2 (by omega)
  unfold searchI32 search
  simp only [hfit, Bool.not_true, Bool.false_eq_true, if_false]
  exact searchLoopI32_eq xs g hlen xs.length 0 _ (Int.le_refl _) (Int.sub_one_lt_of_le (Int.le_refl _))

theorem lookups_of_search {xs : List Pair} {g r : Int} {p : Pair} (hr : search xs g = some r) (hp : pAt xs r = some p) :
    existsL xs g = some (decide (p.g = g)) ∧ atL xs g = some (if p.g = g then .ok p else .error .range) ∧
      getL xs g = some (r.toNat, p) := by
  have hlen : xs.length ≠ 0 := fun h => List.ne_nil_of_mem (pAt_mem hp) (List.eq_nil_of_length_eq_zero h)
  simp only [existsL, atL, getL, hr, hlen, if_false, gAt_eq_map, hp, Option.map_some]
  by_cases hpg : p.g = g <;> simp [hpg]

theorem existsL_spec (xs : List Pair) (g : Int) (hs : SortedG xs) :
    existsL xs g = some (decide (g ∈ globals xs)) := by
  by_cases hne : xs = []
  · subst hne; rfl
  · obtain ⟨r, p, hr, hp, hiff, _⟩ := search_find xs g hs hne
    rw [(lookups_of_search hr hp).1, decide_eq_decide.2 hiff]

theorem atL_spec (xs : List Pair) (g : Int) (hs : SortedG xs) :
    atL xs g = some (match xs.find? (·.g == g) with | some p => .ok p | none => .error .range) := by
  by_cases hne : xs = []
  · subst hne; rfl
  · obtain ⟨r, p, hr, hp, hiff, hfound⟩ := search_find xs g hs hne
    rw [(lookups_of_search hr hp).2.1]
    by_cases hpg : p.g = g
    · rw [if_pos hpg, hfound hpg]
    · rw [if_neg hpg, find?_global_eq_none (mt hiff.1 hpg)]

theorem getL_spec (xs : List Pair) (g : Int) (hs : SortedG xs) (hmem : g ∈ globals xs) :
    ∃ (i : Nat) (p : Pair), getL xs g = some (i, p) ∧ xs[i]? = some p ∧ xs.find? (·.g == g) = some p := by
  obtain ⟨q, hq, _⟩ := List.mem_map.1 hmem
  obtain ⟨r, p, hr, hp, hiff, hfound⟩ := search_find xs g hs (List.ne_nil_of_mem hq)
  obtain ⟨h0, h1, h2⟩ := pAt_some_iff.1 hp
  exact ⟨r.toNat, p, (lookups_of_search hr hp).2.2, List.getElem?_eq_some_iff.2 ⟨h1, h2⟩, hfound (hiff.1 hmem)⟩

theorem find_of_strict {xs : List Pair} (hs : StrictG xs) {p : Pair} (hp : p ∈ xs) :
    xs.find? (·.g == p.g) = some p := by
  obtain ⟨as, bs, rfl⟩ := List.append_of_mem hp
  exact List.find?_eq_some_iff_append.2 ⟨beq_self_eq_true _, as, bs, rfl, fun a ha =>
    bne_iff_ne.2 (Int.ne_of_lt ((List.pairwise_append.1 hs).2.2 a ha p List.mem_cons_self))⟩

theorem getL_of_mem {xs : List Pair} (hs : StrictG xs) {p : Pair} (hp : p ∈ xs) :
    ∃ i, getL xs p.g = some (i, p) ∧ xs[i]? = some p := by
  obtain ⟨i, q, h1, h2, h3⟩ := getL_spec xs p.g hs.sortedG (List.mem_map_of_mem hp)
  rw [find_of_strict hs hp] at h3
  cases h3
  exact ⟨i, h1, h2⟩

end DV.C03
