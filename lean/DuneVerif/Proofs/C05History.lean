import DuneVerif.Proofs.C05Layout
/-!
C05, the communicator as a stateful object: with buffers of the allocated sizes (`BufOK`) the calls of a step of
`worldStep` are `roundCallsFrom` on the stale receive buffer (`stepCalls_eq`); `Comm.build` after `free` equals a fresh
`buildComm` (`std::map::insert` semantics of `messageInformation_`).  Core Lean only.
-/
namespace DV.C05

theorem recvBufAfter_congr {Val} (c : Comm) (fwd : Bool) (inc inc' : Nat → List Val) (arr : List Nat) (init : List Val)
    (h : ∀ p ∈ arr, inc p = inc' p) : c.recvBufAfter fwd inc init arr = c.recvBufAfter fwd inc' init arr :=
  List.foldl_rel rfl fun p hp _ _ hb => by rw [hb, h p hp]

theorem Comm.sendBuf_length {Val} (c : Comm) (fwd : Bool) (gat : Nat → Nat → Val) :
    (c.sendBuf fwd gat).length = c.sendElems fwd := by
  simp only [Comm.sendBuf, gatherBuf_length, Comm.sendElems, Comm.csSend]
  cases fwd <;> simp [sendSide]

theorem overwritePrefix_same_length {Val} (old new : List Val) (h : old.length = new.length) :
    overwritePrefix old new = new := by
  rw [overwritePrefix, List.drop_of_length_le (Nat.le_of_eq h), List.append_nil]

/-- the buffers of every process have the sizes `build` allocated (their contents are arbitrary) -/
def BufOK {Val Data} (P : Nat) (comm : Nat → Comm) (st : Nat → PState Val Data) : Prop :=
  ∀ p, p < P → (st p).b0.length = (comm p).sendElems true ∧ (st p).b1.length = (comm p).sendElems false

theorem BufOK.sendB {Val Data} {P comm} {st : Nat → PState Val Data} (h : BufOK P comm st) {p : Nat} (hp : p < P) (fwd : Bool) :
    ((st p).sendB fwd).length = (comm p).sendElems fwd := by
  cases fwd
  · exact (h p hp).2
  · exact (h p hp).1

theorem BufOK.recvB {Val Data} {P comm} {st : Nat → PState Val Data} (h : BufOK P comm st) {p : Nat} (hp : p < P) (fwd : Bool) :
    ((st p).recvB fwd).length = (comm p).recvElems fwd := by
  cases fwd
  · exact (h p hp).1
  · exact (h p hp).2

theorem stepSendBuf_eq {Val Data} {P comm} {st : Nat → PState Val Data} (h : BufOK P comm st) (gather : Data → Nat → Nat → Val)
    (fwd : Bool) {p : Nat} (hp : p < P) :
    stepSendBuf comm gather fwd st p = (comm p).sendBuf fwd (gather ((st p).cont.get (!fwd))) := by
  simp only [stepSendBuf]
  apply overwritePrefix_same_length
  rw [h.sendB hp, Comm.sendBuf_length]

theorem stepRecvBuf_eq {Val Data} {P comm} {st : Nat → PState Val Data} (h : BufOK P comm st) (gather : Data → Nat → Nat → Val)
    (fwd : Bool) (q : Nat) (arr : List Nat) (harr : ∀ p ∈ arr, p < P) :
    stepRecvBuf comm gather fwd st q arr =
      (comm q).recvBufAfter fwd (fun p => (comm p).msgTo fwd ((comm p).sendBuf fwd (gather ((st p).cont.get (!fwd)))) q)
        ((st q).recvB fwd) arr := by
  simp only [stepRecvBuf]
  apply recvBufAfter_congr
  intro p hp
  rw [stepSendBuf_eq h gather fwd (harr p hp)]

theorem stepCalls_eq {Val Data} {P comm} {st : Nat → PState Val Data} (h : BufOK P comm st) (gather : Data → Nat → Nat → Val)
    (r : Round) (q : Nat) (harr : ∀ p ∈ r.arr q, p < P) :
    stepCalls comm gather r st q =
      roundCallsFrom comm r.fwd (fun p => gather ((st p).cont.get (!r.fwd))) ((st q).recvB r.fwd) q (r.arr q) (r.order q) := by
  simp only [stepCalls, roundCallsFrom, stepRecvBuf_eq h gather r.fwd q (r.arr q) harr]

/-- `insert` behind all present keys appends -/
theorem insertKeep_of_lt (acc : List (Nat × MsgInfo × MsgInfo)) (e) (h : ∀ x ∈ acc, x.1 < e.1) :
    insertKeep acc e = acc ++ [e] := by
  induction acc with
  | nil => rfl
  | cons x xs ih =>
    have hx := h x List.mem_cons_self
    rw [insertKeep, if_neg (Nat.lt_asymm hx), if_neg (by rw [beq_iff_eq]; exact Nat.ne_of_gt hx),
      ih fun y hy => h y (List.mem_cons_of_mem _ hy)]
    rfl

theorem foldl_insertKeep_append (new acc : List (Nat × MsgInfo × MsgInfo)) (h : (acc ++ new).Pairwise (·.1 < ·.1)) :
    new.foldl insertKeep acc = acc ++ new := by
  induction new generalizing acc with
  | nil => exact (List.append_nil acc).symm
  | cons e es ih =>
    rw [List.foldl_cons, insertKeep_of_lt acc e fun x hx => (List.pairwise_append.1 h).2.2 x hx e List.mem_cons_self,
      ih (acc ++ [e]) (by rwa [List.append_assoc]), List.append_assoc]
    rfl

theorem Comm.build_eq_fresh (c : Comm) (sz : Nat) (csS csT : Nat → Nat) (ifs : IfMap) (hk : Keys ifs) :
    c.build sz csS csT ifs = buildComm sz csS csT ifs := by
  simp only [Comm.build, Comm.free, buildComm]
  rw [foldl_insertKeep_append _ [] (List.pairwise_map.1 (hk.sublist (layout_keys_sublist sz csS csT ifs 0 0)))]
  simp

end DV.C05
