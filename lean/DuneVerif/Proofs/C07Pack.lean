import DuneVerif.Proofs.C07
/-!
# C07 — MPIPack (core Lean only): `pack` writes the wire format behind the old content, `unpack` reads it back
-/
namespace DV.C07.Proofs
open DV.C07 TMap

theorem encCells_length {α β} (C : Codec α β) (xs : List α) : (encCells C xs).length = xs.length * C.w := by
  rw [encCells, List.flatMap_def, flatten_length_uniform C.w _ (List.forall_mem_map.mpr fun x _ => C.enc_len x),
    List.length_map]

theorem decCells_encCells {α β} (C : Codec α β) (xs : List α) (rest : List β) :
    decCells C xs.length (encCells C xs ++ rest) = xs := by
  induction xs with
  | nil => simp [decCells]
  | cons x xs ih =>
    simp only [encCells, List.flatMap_cons, List.length_cons, decCells, List.append_assoc] at ih ⊢
    rw [List.take_left' (C.enc_len x), List.drop_left' (C.enc_len x), C.dec_enc, ih]

/-- `st'` is `st` with the bytes `w` written behind the position, which stays inside the buffer -/
structure Appends {β} (st st' : PState β) (w : List β) : Prop where
  pos_le : st'.pos ≤ st'.buf.length
  pos_eq : st'.pos = st.pos + w.length
  take_eq : st'.buf.take st'.pos = st.buf.take st.pos ++ w

theorem Appends.trans {β} {a b c : PState β} {v w : List β} (h1 : Appends a b v) (h2 : Appends b c w) :
    Appends a c (v ++ w) :=
  ⟨h2.pos_le, by rw [h2.pos_eq, h1.pos_eq, List.length_append, Nat.add_assoc],
    by rw [h2.take_eq, h1.take_eq, List.append_assoc]⟩

theorem Appends.drop_eq {β} {st st' : PState β} {w : List β} (h : Appends st st' w) (hpos : st.pos ≤ st.buf.length) :
    st'.buf.drop st.pos = w ++ st'.buf.drop st'.pos := by
  conv => lhs; rw [← List.take_append_drop st'.pos st'.buf, h.take_eq, List.append_assoc]
  exact List.drop_left' (List.length_take_of_le hpos)

theorem writeBytes_spec {β} (st : PState β) (bs : List β) (h : st.pos + bs.length ≤ st.buf.length) :
    Appends st (writeBytes st bs) bs := by
  refine ⟨by rw [writeBytes, copyCells_length]; exact h, rfl, ?_⟩
  have hl : (st.buf.take st.pos ++ bs).length = st.pos + bs.length := by
    rw [List.length_append, List.length_take_of_le (Nat.le_trans (Nat.le_add_right _ _) h)]
  simp only [writeBytes]
  rw [copyCells_write bs st.buf st.pos h, ← List.append_assoc, List.take_left' hl]

theorem writeBytes_append {β} (st : PState β) (as bs : List β) :
    writeBytes (writeBytes st as) bs = writeBytes st (as ++ bs) := by
  simp only [writeBytes, List.length_append, Nat.add_assoc, PState.mk.injEq, and_true]
  rw [copyCells_add, Nat.zero_add]
  rw [copyCells_src_congr (as ++ bs) as 0 0 st.buf st.pos as.length
      (fun j hj => by rw [Nat.zero_add]; exact List.getElem?_append_left hj),
    copyCells_src_congr (as ++ bs) bs as.length 0 _ (st.pos + as.length) bs.length
      (fun j _ => by rw [Nat.zero_add, List.getElem?_append_right (Nat.le_add_right _ _), Nat.add_sub_cancel_left])]

theorem wire_length {α β} (C : Codec α β) (ofNat : Nat → α) (it : DV.C07.Item α β) :
    (it.wire C ofNat).length = (if it.isDynamic then C.w else 0) + (it.payload C).length := by
  unfold Item.wire
  split <;> simp [C.enc_len]

/-- the growth step of `MPIPack::pack` -/
def grow {β} (zero : β) (st : PState β) (size : Nat) : List β :=
  if st.pos + size > st.buf.length then st.buf ++ List.replicate (st.pos + size - st.buf.length) zero else st.buf

theorem grow_length {β} (zero : β) (st : PState β) (size : Nat) : st.pos + size ≤ (grow zero st size).length := by
  unfold grow
  split
  next h => rw [List.length_append, List.length_replicate, Nat.add_sub_cancel' (Nat.le_of_lt h)]; exact Nat.le_refl _
  next h => exact Nat.le_of_not_gt h

theorem grow_take {β} (zero : β) (st : PState β) (size : Nat) (hpos : st.pos ≤ st.buf.length) :
    (grow zero st size).take st.pos = st.buf.take st.pos := by
  unfold grow
  split
  · exact List.take_append_of_le_length hpos
  · rfl

theorem packItem_eq {α β} (C : Codec α β) (ofNat : Nat → α) (bound : Nat → Nat) (zero : β) (st : PState β)
    (it : DV.C07.Item α β) :
    packItem C ofNat bound zero st it =
      writeBytes ⟨grow zero st (bound (it.payload C).length + if it.isDynamic then bound C.w else 0), st.pos⟩
        (it.wire C ofNat) := by
  unfold packItem Item.wire
  cases it.isDynamic
  · rfl
  · exact writeBytes_append _ _ _

theorem packItem_spec {α β} (C : Codec α β) (ofNat : Nat → α) (bound : Nat → Nat) (hb : ∀ k, k ≤ bound k)
    (zero : β) (st : PState β) (hpos : st.pos ≤ st.buf.length) (it : DV.C07.Item α β) :
    Appends st (packItem C ofNat bound zero st it) (it.wire C ofNat) := by
  -- `MPI_Pack_size` bounds the prefix and the payload separately
  have hw : (it.wire C ofNat).length ≤ bound (it.payload C).length + if it.isDynamic then bound C.w else 0 := by
    rw [wire_length, Nat.add_comm]
    exact Nat.add_le_add (hb _) (by split; exact hb _; exact Nat.le_refl 0)
  have h := writeBytes_spec ⟨grow zero st _, st.pos⟩ (it.wire C ofNat)
    (Nat.le_trans (Nat.add_le_add_left hw st.pos) (grow_length zero st _))
  rw [← packItem_eq] at h
  exact ⟨h.pos_le, h.pos_eq, by rw [h.take_eq, grow_take zero st _ hpos]⟩

theorem resizeBytes_length {β} (zero : β) (bytes : List β) (n : Nat) : (resizeBytes zero bytes n).length = n := by
  unfold resizeBytes
  split
  next h => exact List.length_take_of_le h
  next h => rw [List.length_append, List.length_replicate, Nat.add_sub_cancel' (Nat.le_of_not_le h)]

/-- what `unpackItem_wire` needs of the payload of a `stat` or `dyn` item: its length on the wire, and that reading it back
is the direct transfer -/
theorem unpackN_payload {α β} (C : Codec α β) (tm : TMap) (hwf : tm.wf) (n : Nat) (cells : List α)
    (hlen : cells.length = n * tm.extent) (rest : List β) (dst : List α) :
    (encCells C (packN tm n cells)).length = n * tm.size * C.w ∧
      unpackN tm n (decCells C (n * tm.size) ((encCells C (packN tm n cells) ++ rest).take (n * tm.size * C.w))) dst =
        transferN tm n cells 0 dst 0 := by
  have hpl := packN_length tm hwf n cells (Nat.le_of_eq hlen.symm)
  have hel : (encCells C (packN tm n cells)).length = n * tm.size * C.w := by rw [encCells_length, hpl]
  have hd := decCells_encCells C (packN tm n cells) []
  rw [List.append_nil, hpl] at hd
  have hu := unpackN_packN tm hwf n cells (Nat.le_of_eq hlen.symm) [] dst
  rw [List.append_nil] at hu
  exact ⟨hel, by rw [List.take_left' hel, hd, hu]⟩

theorem unpackItem_wire {α β} (C : Codec α β) (ofNat : Nat → α) (toNat : α → Nat) (hnat : ∀ n, toNat (ofNat n) = n)
    (zero : β) (buf : List β) (pos : Nat) (it : DV.C07.Item α β) (d : Dest α β) (rest : List β)
    (hwf : Item.wf it) (hc : compatible it d) (hs : buf.drop pos = it.wire C ofNat ++ rest) :
    unpackItem C toNat zero ⟨buf, pos⟩ d = (received it d, ⟨buf, pos + (it.wire C ofNat).length⟩) := by
  revert hc
  fun_cases compatible it d with
  | case1 tm n cells tm' n' dcells =>
    rintro ⟨rfl, rfl⟩
    obtain ⟨hl, hp⟩ := unpackN_payload C tm hwf.1 n cells hwf.2 rest dcells
    simp only [Item.wire, Item.isDynamic, Bool.false_eq_true, if_false, List.nil_append, Item.payload] at hs ⊢
    simp only [unpackItem, received, hs, hp, hl]
  | case2 tm n cells tm' dflt dcells =>
    rintro rfl
    obtain ⟨hl, hp⟩ := unpackN_payload C tm hwf.1 n cells hwf.2 rest (resizeCells tm.extent dflt dcells n)
    have henc := C.enc_len (ofNat n)
    simp only [Item.wire, Item.isDynamic, if_true, Item.payload, Item.count, List.append_assoc] at hs ⊢
    simp only [unpackItem, received, hs, drop_add_of_drop_eq hs henc, List.take_left' henc, C.dec_enc, hnat, hp, hl,
      List.length_append, henc, Nat.add_assoc]
  | case3 bytes old =>
    intro _
    have henc := C.enc_len (ofNat bytes.length)
    simp only [Item.wire, Item.isDynamic, if_true, Item.payload, Item.count, List.append_assoc] at hs ⊢
    simp only [unpackItem, received, hs, drop_add_of_drop_eq hs henc, List.take_left' henc, C.dec_enc, hnat,
      List.take_left' (rfl : bytes.length = _), copyCells_all _ _ _ rfl (resizeBytes_length zero old bytes.length),
      List.length_append, henc, Nat.add_assoc]
  | case4 => exact False.elim

def wires {α β} (C : Codec α β) (ofNat : Nat → α) (its : List (DV.C07.Item α β)) : List β :=
  its.flatMap (fun it => it.wire C ofNat)

theorem wires_cons {α β} (C : Codec α β) (ofNat : Nat → α) (it : DV.C07.Item α β) (its : List (DV.C07.Item α β)) :
    wires C ofNat (it :: its) = it.wire C ofNat ++ wires C ofNat its := rfl

theorem unpackAll_wires {α β} (C : Codec α β) (ofNat : Nat → α) (toNat : α → Nat) (hnat : ∀ n, toNat (ofNat n) = n)
    (zero : β) (buf : List β) (pairs : List (DV.C07.Item α β × Dest α β))
    (hwf : ∀ p ∈ pairs, Item.wf p.1 ∧ compatible p.1 p.2) (pos : Nat) (rest : List β)
    (hs : buf.drop pos = wires C ofNat (pairs.map (·.1)) ++ rest) :
    unpackAll C toNat zero ⟨buf, pos⟩ (pairs.map (·.2))
      = (pairs.map (fun p => received p.1 p.2), ⟨buf, pos + (wires C ofNat (pairs.map (·.1))).length⟩) := by
  induction pairs generalizing pos with
  | nil => simp [unpackAll, wires]
  | cons p ps ih =>
    obtain ⟨hw, hc⟩ := hwf p List.mem_cons_self
    rw [List.map_cons, wires_cons, List.append_assoc] at hs
    have h1 := unpackItem_wire C ofNat toNat hnat zero buf pos p.1 p.2 _ hw hc hs
    have h2 := ih (fun q hq => hwf q (List.mem_cons_of_mem _ hq)) _ (drop_add_of_drop_eq hs rfl)
    simp only [List.map_cons, wires_cons, unpackAll, h1, h2, List.length_append, Nat.add_assoc]

theorem packAll_spec {α β} (C : Codec α β) (ofNat : Nat → α) (bound : Nat → Nat) (hb : ∀ k, k ≤ bound k) (zero : β)
    (its : List (DV.C07.Item α β)) (st : PState β) (hpos : st.pos ≤ st.buf.length) :
    Appends st (packAll C ofNat bound zero st its) (wires C ofNat its) := by
  induction its generalizing st with
  | nil => exact ⟨hpos, rfl, (List.append_nil _).symm⟩
  | cons it its ih =>
    have h := packItem_spec C ofNat bound hb zero st hpos it
    exact h.trans (ih _ h.pos_le)

theorem received_full_stat {α β} (e n : Nat) (cells dcells : List α) (hc : cells.length = n * e)
    (hd : dcells.length = n * e) :
    received (β := β) (.stat (full e) n cells) (.stat (full e) n dcells) = .stat (full e) n cells := by
  simp only [received, transferN_full_all e n cells dcells hc hd]

theorem received_full_dyn {α β} (e n m : Nat) (he : 0 < e) (cells dflt dcells : List α) (hc : cells.length = n * e)
    (hdf : dflt.length = e) (hd : dcells.length = m * e) :
    received (β := β) (.dyn (full e) n cells) (.dyn (full e) dflt dcells) = .dyn (full e) dflt cells := by
  show Dest.dyn _ _ (transferN (full e) n cells 0 (resizeCells e dflt dcells n) 0) = _
  rw [transferN_full_all e n cells _ hc (resizeCells_length e he dflt dcells m n hdf hd)]

end DV.C07.Proofs
