/-
C12 — the command-line readers (model section 5): `readOptions` ("-key value" pairs) and `readNamedOptions`
(positional / `--key=value` arguments, help, unknown, superfluous, missing, already specified).
-/
import DuneVerif.Proofs.C12Tree

namespace DV.C12

/-- the assignments `pt[k] = v` in order -/
def setAll : List (Str × Str) → Tree → Except Err Tree
  | [], t => .ok t
  | (k, v) :: r, t => match t.set k v with
    | .error e => .error e
    | .ok t' => setAll r t'

/-- argv of "-key value" pairs -/
def optArgs (pairs : List (Str × Str)) : List Str := pairs.flatMap fun kv => [('-' :: kv.1), kv.2]

theorem optArgs_nil : optArgs [] = [] := rfl

theorem optArgs_cons (k v : Str) (r : List (Str × Str)) :
    optArgs ((k, v) :: r) = ('-' :: k) :: v :: optArgs r := by
  simp [optArgs]

theorem isOpt_dash_cons {k : Str} (h : k ≠ []) : isOpt ('-' :: k) = true := by
  cases k with
  | nil => exact absurd rfl h
  | cons c r => rfl

theorem readOptions_cons_opt {a : Str} (h : isOpt a = true) (v : Str) (rest : List Str) (t : Tree) :
    readOptions (a :: v :: rest) t = andThen (t.set (a.drop 1) v) (readOptions rest) := by
  simp only [readOptions, h, if_true]
  cases t.set (a.drop 1) v <;> rfl

theorem readOptions_optArgs_append : ∀ (pairs : List (Str × Str)), (∀ kv ∈ pairs, kv.1 ≠ []) →
    ∀ (rest : List Str) (t : Tree), readOptions (optArgs pairs ++ rest) t = andThen (setAll pairs t) (readOptions rest)
  | [], _, _, _ => rfl
  | (k, v) :: r, hk, rest, t => by
    rw [optArgs_cons, List.cons_append, List.cons_append, readOptions_cons_opt (isOpt_dash_cons (hk _ List.mem_cons_self))]
    simp only [setAll, List.drop_succ_cons, List.drop_zero]
    cases t.set k v with
    | error e => rfl
    | ok t' => exact readOptions_optArgs_append r (fun kv h => hk kv (List.mem_cons_of_mem _ h)) rest t'

theorem readOptions_pairs (pairs : List (Str × Str)) (hk : ∀ kv ∈ pairs, kv.1 ≠ []) (t : Tree) :
    readOptions (optArgs pairs) t = setAll pairs t := by
  have h := readOptions_optArgs_append pairs hk [] t
  rw [List.append_nil] at h
  rw [h]
  cases setAll pairs t <;> rfl

theorem readOptions_skip (t : Tree) (a : Str) (rest : List Str) (h : isOpt a = false) :
    readOptions (a :: rest) t = readOptions rest t := by
  cases rest with
  | nil => simp [readOptions, h]
  | cons v r => simp [readOptions, h]

theorem readOptions_missing_argument (pairs : List (Str × Str)) (hk : ∀ kv ∈ pairs, kv.1 ≠ []) (t : Tree)
    (a : Str) (t' : Tree) (ha : isOpt a = true) (h : setAll pairs t = .ok t') :
    readOptions (optArgs pairs ++ [a]) t = .error .range := by
  rw [readOptions_optArgs_append pairs hk, h, andThen_ok]
  simp [readOptions, ha]

theorem touchPath_of_getPath : ∀ (p : List Str) (t : Tree) (s : Str),
    getPath p t = some s → touchPath p t = .ok (t, s) := by
  intro p t
  induction p, t using path_induction with
  | nil => exact fun _ h => nomatch h
  | leaf k vals subs =>
    intro s h
    obtain ⟨h1, h2, hg⟩ := getPath_leaf_some h
    simp [touchPath, h1, h2, hg]
  | inner k k2 rest vals subs ih =>
    intro s h
    obtain ⟨h1, sub, hg, hs⟩ := getPath_inner_some h
    rw [hg, Option.getD_some] at ih
    simp [touchPath, h1, hg, ih s hs, aSet_of_aGet? k sub subs hg]

theorem storeOpt_already (t : Tree) (key value s : Str) (hs : t.get? key = some s) (hne : s ≠ []) :
    storeOpt false t key value = .error .parser := by
  unfold Tree.get? at hs
  simp [storeOpt, touchPath_of_getPath _ t s hs, hne]

theorem storeOpt_true (t : Tree) (key value : Str) : storeOpt true t key value = t.set key value := by
  simp [storeOpt]

theorem toList_h : "-h".toList = ['-', 'h'] := String.toList_ofList
theorem toList_help : "--help".toList = ['-', '-', 'h', 'e', 'l', 'p'] := String.toList_ofList

/-- what one command-line argument is -/
inductive Arg where
  | help
  | bad                       -- `--name` without `=`
  | named (key value : Str)   -- `--key=value`
  | pos (a : Str)
  deriving Repr, DecidableEq

/-- the text behind a leading `--` -/
def ddBody : Str → Option Str
  | '-' :: '-' :: body => some body
  | _ => none

theorem ddBody_some {a body : Str} (h : ddBody a = some body) : a = '-' :: '-' :: body := by
  unfold ddBody at h
  split at h
  · injection h with h; subst h; rfl
  · cases h

theorem ddBody_eq_none {a : Str} (h : ∀ body, a ≠ '-' :: '-' :: body) : ddBody a = none := by
  cases hb : ddBody a with
  | none => rfl
  | some body => exact absurd (ddBody_some hb) (h body)

def classify (a : Str) : Arg :=
  if a == "-h".toList || a == "--help".toList then .help
  else match ddBody a with
    | some body =>
      match splitFirst '=' body with
      | none => .bad
      | some (k, v) => .named k v
    | none => .pos a

/-- a positional argument: not `-h`, not starting with `--` -/
def Positional (a : Str) : Prop := a ≠ "-h".toList ∧ ∀ r, a ≠ '-' :: '-' :: r

theorem Positional.not_help {a : Str} (h : Positional a) :
    (a == "-h".toList || a == "--help".toList) = false := by
  have h1 : a ≠ ['-', 'h'] := toList_h ▸ h.1
  have h2 : a ≠ ['-', '-', 'h', 'e', 'l', 'p'] := h.2 _
  simp [toList_h, toList_help, h1, h2]

theorem classify_pos {a : Str} (h : Positional a) : classify a = .pos a := by
  unfold classify
  rw [h.not_help, ddBody_eq_none h.2]
  rfl

theorem keyval_ne_help {key value : Str} (heq : '=' ∉ key) : key ++ '=' :: value ≠ ['h', 'e', 'l', 'p'] := by
  intro e
  have h1 := splitFirst_append '=' key value heq
  rw [e] at h1
  have : splitFirst '=' ['h', 'e', 'l', 'p'] = none := by decide
  rw [this] at h1; cases h1

theorem classify_dd {body : Str} (hh : body ≠ ['h', 'e', 'l', 'p']) :
    classify ('-' :: '-' :: body) =
      match splitFirst '=' body with
      | none => .bad
      | some (k, v) => .named k v := by
  unfold classify
  rw [if_neg (by simp [toList_h, toList_help, hh])]
  rfl

theorem classify_keyval {key : Str} (value : Str) (heq : '=' ∉ key) :
    classify ('-' :: '-' :: key ++ '=' :: value) = .named key value := by
  rw [List.cons_append, List.cons_append, classify_dd (keyval_ne_help heq), splitFirst_append '=' key value heq]

theorem classify_bad {key : Str} (heq : '=' ∉ key) (hh : key ≠ ['h', 'e', 'l', 'p']) :
    classify ('-' :: '-' :: key) = .bad := by
  rw [classify_dd hh, splitFirst_none '=' key heq]

/-- the positional branch of the loop body -/
def posStep (keywords : List Str) (allowMore ow : Bool) (opt : Str) (rest : List Str) (t : Tree)
    (done : List Bool) (cur : Nat) : Except Err (Tree × List Bool) :=
  let cur' := skipDone done.length done cur
  if cur' ≥ done.length then .error .parser
  else match storeOpt ow t (keywords.getD cur' []) opt with
    | .error e => .error e
    | .ok t' => namedLoop keywords allowMore ow rest t' (done.set cur' true) cur'

def markDone (it : Option Nat) (done : List Bool) : List Bool :=
  match it with
  | some i => done.set i true
  | none => done

/-- the `--key=value` branch of the loop body -/
def namedStep (keywords : List Str) (allowMore ow : Bool) (key value : Str) (rest : List Str) (t : Tree)
    (done : List Bool) (cur : Nat) : Except Err (Tree × List Bool) :=
  if !allowMore && (findIdx? key keywords).isNone then .error .parser
  else match storeOpt ow t key value with
    | .error e => .error e
    | .ok t' => namedLoop keywords allowMore ow rest t' (markDone (findIdx? key keywords) done) cur

theorem namedLoop_cons (kws : List Str) (am ow : Bool) (a : Str) (rest : List Str) (t : Tree) (done : List Bool) (cur : Nat) :
    namedLoop kws am ow (a :: rest) t done cur =
      match classify a with
      | .help => .error .help
      | .bad => .error .parser
      | .named k v => namedStep kws am ow k v rest t done cur
      | .pos x => posStep kws am ow x rest t done cur := by
  unfold namedLoop classify
  split
  · rfl
  · split
    · rename_i body _
      simp only [ddBody]
      cases splitFirst '=' body with
      | none => rfl
      | some kv =>
        simp only [namedStep]
        split
        · rfl
        · cases storeOpt ow t kv.1 kv.2 with
          | error e => rfl
          | ok t' => cases findIdx? kv.1 kws <;> rfl
    · rename_i hx
      rw [ddBody_eq_none hx]
      simp only [posStep]
      split
      · rfl
      · cases storeOpt ow t (kws.getD (skipDone done.length done cur) []) a <;> rfl

theorem getD_false_of_ge (done : List Bool) (i : Nat) (h : done.length ≤ i) : done.getD i false = false := by
  rw [List.getD_eq_getElem?_getD, List.getElem?_eq_none h]; rfl

theorem skipDone_spec (done : List Bool) : ∀ (f cur : Nat), done.length - cur ≤ f → cur ≤ done.length →
    cur ≤ skipDone f done cur ∧ skipDone f done cur ≤ done.length ∧
    (∀ j, cur ≤ j → j < skipDone f done cur → done.getD j false = true) ∧
    done.getD (skipDone f done cur) false = false := by
  intro f cur
  fun_induction skipDone f done cur with
  | case1 done cur =>
    intro h1 h2
    exact ⟨Nat.le_refl _, h2, fun j h3 h4 => by omega, getD_false_of_ge done _ (by omega)⟩
  | case2 f done cur hd ih =>
    intro h1 h2
    have hlt : cur < done.length := Nat.lt_of_not_le fun hn => by
      rw [getD_false_of_ge done cur hn] at hd
      cases hd
    obtain ⟨a, b, c, d⟩ := ih (by omega) (by omega)
    refine ⟨by omega, b, fun j h3 h4 => ?_, d⟩
    by_cases hj : j = cur
    · subst hj; exact hd
    · exact c j (by omega) h4
  | case3 f done cur hd =>
    intro h1 h2
    exact ⟨Nat.le_refl _, h2, fun j h3 h4 => by omega, by simpa using hd⟩

theorem findIdx?_eq (k : Str) : ∀ (l : List Str), findIdx? k l = l.findIdx? (· == k)
  | [] => rfl
  | x :: xs => by simp [findIdx?, List.findIdx?_cons, findIdx?_eq k xs]

theorem findIdx?_isNone_iff (k : Str) (l : List Str) : (findIdx? k l).isNone = !l.contains k := by
  rw [findIdx?_eq, Bool.eq_iff_iff]
  simp [List.forall_mem_ne']

theorem findIdx?_getD (k : Str) (l : List Str) (i : Nat) (h : findIdx? k l = some i) :
    i < l.length ∧ l.getD i [] = k := by
  rw [findIdx?_eq, List.findIdx?_eq_some_iff_getElem] at h
  obtain ⟨hi, hk, _⟩ := h
  exact ⟨hi, by rw [List.getD_eq_getElem?_getD, List.getElem?_eq_getElem hi]; exact beq_iff_eq.mp hk⟩

theorem findIdx?_some_of_mem (k : Str) (l : List Str) (h : k ∈ l) : ∃ i, findIdx? k l = some i ∧ i < l.length := by
  cases hf : findIdx? k l with
  | none => simpa [hf, h] using findIdx?_isNone_iff k l
  | some i => exact ⟨i, rfl, (findIdx?_getD k l i hf).1⟩

theorem namedLoop_nil (kws : List Str) (am ow : Bool) (t : Tree) (done : List Bool) (cur : Nat) :
    namedLoop kws am ow [] t done cur = .ok (t, done) := by
  rw [namedLoop]

/-- the "missing parameter(s)" test that `readNamedOptions` applies to the result of the loop -/
def checkMissing (required n : Nat) : Except Err (Tree × List Bool) → Except Err Tree
  | .error e => .error e
  | .ok (t, done) =>
    if (List.range n).any (fun i => i < required && !(done.getD i false)) then .error .parser else .ok t

theorem readNamed_eq (args : List Str) (t : Tree) (kws : List Str) (required : Nat) (am ow : Bool) :
    readNamedOptions args t kws required am ow =
      checkMissing required kws.length (namedLoop kws am ow args t (List.replicate kws.length false) 0) := rfl

/-- `done` when the first `i` keywords are filled and the `k` behind them are free -/
def doneUpTo (i k : Nat) : List Bool := List.replicate i true ++ List.replicate k false

theorem length_doneUpTo (i k : Nat) : (doneUpTo i k).length = i + k := by simp [doneUpTo]

theorem getD_doneUpTo (i k j : Nat) : (doneUpTo i k).getD j false = decide (j < i) := by
  unfold doneUpTo
  rw [List.getD_eq_getElem?_getD, List.getElem?_append]
  by_cases h : j < i
  · simp [h]
  · simp [h, List.getElem?_replicate]
    split <;> rfl

theorem set_doneUpTo (i k : Nat) : (doneUpTo i (k + 1)).set i true = doneUpTo (i + 1) k := by
  unfold doneUpTo
  rw [List.set_append_right _ _ (by simp), List.length_replicate, Nat.sub_self, List.replicate_succ, List.set_cons_zero,
    List.replicate_succ', List.append_assoc]
  rfl

theorem skipDone_doneUpTo {i k cur : Nat} (hc : cur ≤ i) : skipDone (i + k) (doneUpTo i k) cur = i := by
  have hl := length_doneUpTo i k
  obtain ⟨_, _, c, d⟩ := skipDone_spec (doneUpTo i k) (i + k) cur (by omega) (by omega)
  generalize skipDone (i + k) (doneUpTo i k) cur = r at c d
  rw [getD_doneUpTo, decide_eq_false_iff_not, Nat.not_lt] at d
  rcases Nat.lt_or_eq_of_le d with h | h
  · have := c i hc h
    rw [getD_doneUpTo, decide_eq_true_eq] at this
    exact absurd this (Nat.lt_irrefl i)
  · exact h.symm

theorem missing_doneUpTo (n i k required : Nat) :
    (List.range n).any (fun j => j < required && !((doneUpTo i k).getD j false)) = decide (i < min required n) := by
  rw [Bool.eq_iff_iff]
  simp only [List.any_eq_true, List.mem_range, getD_doneUpTo, Bool.and_eq_true, decide_eq_true_eq,
    Bool.not_eq_true', decide_eq_false_iff_not]
  constructor
  · rintro ⟨j, h⟩
    omega
  · intro h
    exact ⟨i, by omega⟩

/-- positional arguments from a state with the first `i` keywords filled and `k` free: argument `j` goes to keyword
    `i + j`.  The test at the end is part of the induction, so the final `done` vector is never described.
    The sums have `i` on the right so that the instance `i = 0` holds by computation. -/
theorem checkMissing_positional (kws : List Str) (required : Nat) (am : Bool) : ∀ (args : List Str) (i k cur : Nat) (t : Tree),
    k + i = kws.length → cur ≤ i → (∀ a ∈ args, Positional a) →
    checkMissing required kws.length (namedLoop kws am true args t (doneUpTo i k) cur) =
      andThen (setAll ((kws.drop i).zip args) t) fun t' =>
        if k < args.length ∨ args.length + i < min required kws.length then .error .parser else .ok t'
  | [], i, k, cur, t, hik, hc, _ => by
    rw [namedLoop_nil, List.zip_nil_right, setAll, andThen_ok, checkMissing, missing_doneUpTo]
    simp
  | a :: rest, i, k, cur, t, hik, hc, hp => by
    rw [namedLoop_cons, classify_pos (hp a List.mem_cons_self)]
    simp only [posStep, length_doneUpTo, skipDone_doneUpTo hc]
    cases k with
    | zero =>
      rw [if_pos (by omega), List.drop_eq_nil_of_le (by omega), List.zip_nil_left, setAll, andThen_ok, checkMissing]
      exact (if_pos (Or.inl (Nat.zero_lt_succ _))).symm
    | succ k =>
      have hi : i < kws.length := by omega
      rw [if_neg (by omega), storeOpt_true, List.getD_eq_getElem?_getD, List.getElem?_eq_getElem hi, Option.getD_some,
        set_doneUpTo, List.drop_eq_getElem_cons hi, List.zip_cons_cons, setAll]
      cases t.set kws[i] a with
      | error e => rfl
      | ok t' =>
        simp only
        rw [checkMissing_positional kws required am rest (i + 1) k i t' (by omega) (by omega)
          (fun x hx => hp x (List.mem_cons_of_mem _ hx))]
        simp only [List.length_cons, Nat.add_lt_add_iff_right, Nat.add_assoc, Nat.add_comm 1 i]

/-- `readNamedOptions` on positional arguments only: argument `i` is stored under keyword `i`; then too many
    arguments are "superfluous", too few for the required keywords "missing" -/
theorem readNamed_positional (kws args : List Str) (required : Nat) (am : Bool) (t : Tree)
    (hpos : ∀ a ∈ args, Positional a) :
    readNamedOptions args t kws required am true =
      andThen (setAll (kws.zip args) t) fun t' =>
        if kws.length < args.length ∨ args.length < min required kws.length then .error .parser else .ok t' :=
  checkMissing_positional kws required am args 0 kws.length 0 t rfl (Nat.le_refl _) hpos

theorem zip_take_length {α β} : ∀ (l : List α) (m : List β), l.zip (m.take l.length) = l.zip m
  | [], _ => by simp
  | _ :: _, [] => by simp
  | _ :: l, _ :: m => by simp [zip_take_length l m]

/-- `--key=value` with a key outside the keyword list and allow_more = false: "unknown parameter" -/
theorem named_unknown_reported (kws rest : List Str) (key value : Str) (required : Nat) (ow : Bool) (t : Tree)
    (heq : '=' ∉ key) (hk : key ∉ kws) :
    readNamedOptions (('-' :: '-' :: key ++ '=' :: value) :: rest) t kws required false ow = .error .parser := by
  rw [readNamed_eq, namedLoop_cons, classify_keyval value heq]
  simp [namedStep, findIdx?_isNone_iff, hk, checkMissing]

/-- `--key` without `=`: "value missing for parameter" -/
theorem named_value_missing (kws rest : List Str) (key : Str) (required : Nat) (am ow : Bool) (t : Tree)
    (heq : '=' ∉ key) (hh : '-' :: '-' :: key ≠ "--help".toList) :
    readNamedOptions (('-' :: '-' :: key) :: rest) t kws required am ow = .error .parser := by
  have hh' : key ≠ ['h', 'e', 'l', 'p'] := by
    intro e; apply hh; rw [e, toList_help]
  rw [readNamed_eq, namedLoop_cons, classify_bad heq hh']
  rfl

/-- `-h` / `--help`: HelpRequest, wherever it stands, provided the loop gets there (here: first position) -/
theorem named_help (kws rest : List Str) (required : Nat) (am ow : Bool) (t : Tree) :
    readNamedOptions ("-h".toList :: rest) t kws required am ow = .error .help ∧
    readNamedOptions ("--help".toList :: rest) t kws required am ow = .error .help := by
  constructor <;> simp [readNamed_eq, namedLoop, checkMissing]

/-- a single named parameter that is a keyword is stored under its key (overwrite = true); every required
    keyword index must be the index `findIdx?` marks, i.e. the FIRST occurrence of `key` -/
theorem named_named (kws : List Str) (key value : Str) (required : Nat) (am : Bool) (t : Tree)
    (heq : '=' ∉ key) (hk : key ∈ kws)
    (hreq : ∀ i, i < min required kws.length → findIdx? key kws = some i) :
    readNamedOptions [('-' :: '-' :: key ++ '=' :: value)] t kws required am true = t.set key value := by
  obtain ⟨j, hj, hjl⟩ := findIdx?_some_of_mem key kws hk
  rw [readNamed_eq, namedLoop_cons, classify_keyval value heq]
  simp only [namedStep, hj, Option.isNone_some, Bool.and_false, Bool.false_eq_true, if_false, storeOpt_true,
    markDone]
  cases t.set key value with
  | error e => rfl
  | ok t' =>
    simp only [namedLoop_nil, checkMissing]
    rw [if_neg]
    simp only [List.any_eq_true, List.mem_range, Bool.and_eq_true, decide_eq_true_eq, Bool.not_eq_true']
    rintro ⟨i, h1, h2, h3⟩
    obtain rfl : j = i := Option.some.inj (hj.symm.trans (hreq i (by omega)))
    simp [List.getD_eq_getElem?_getD, hjl] at h3

theorem named_named_of_required_zero (kws : List Str) (key value : Str) (am : Bool) (t : Tree)
    (hk : key ∈ kws) (heq : '=' ∉ key) :
    readNamedOptions [('-' :: '-' :: key ++ '=' :: value)] t kws 0 am true = t.set key value :=
  named_named kws key value 0 am t heq hk (fun i hi => by simp at hi)

theorem named_named_head (kws : List Str) (key value : Str) (required : Nat) (am : Bool) (t : Tree)
    (heq : '=' ∉ key) (hreq : required ≤ 1) :
    readNamedOptions [('-' :: '-' :: key ++ '=' :: value)] t (key :: kws) required am true = t.set key value :=
  named_named (key :: kws) key value required am t heq List.mem_cons_self (fun i hi => by
    have : i = 0 := by omega
    subst this
    simp [findIdx?])

/-- overwrite = false: an entry that already holds a non-empty string is "already specified" -/
theorem named_already_specified (kws rest : List Str) (key value : Str) (required : Nat) (am : Bool) (t : Tree)
    (heq : '=' ∉ key) (s : Str) (hk : key ∈ kws ∨ am = true) (hs : t.get? key = some s) (hne : s ≠ []) :
    readNamedOptions (('-' :: '-' :: key ++ '=' :: value) :: rest) t kws required am false = .error .parser := by
  have hc : (!am && (findIdx? key kws).isNone) = false := by
    rcases hk with hk | hk <;> simp [findIdx?_isNone_iff, hk]
  rw [readNamed_eq, namedLoop_cons, classify_keyval value heq]
  simp only [namedStep, hc, Bool.false_eq_true, if_false, storeOpt_already t key value s hs hne, checkMissing]

/-- the same for a positional argument: the keyword it would fill is already set -/
theorem positional_already_specified (kw a s : Str) (kws rest : List Str) (required : Nat) (am : Bool) (t : Tree)
    (hp : Positional a) (hs : t.get? kw = some s) (hne : s ≠ []) :
    readNamedOptions (a :: rest) t (kw :: kws) required am false = .error .parser := by
  rw [readNamed_eq, namedLoop_cons, classify_pos hp]
  simp [posStep, skipDone, List.replicate_succ, storeOpt_already t kw a s hs hne, checkMissing]

example : readOptions (optArgs [("a".toList, "1".toList), ("b.c".toList, "2".toList), ("a".toList, "3".toList)]) .empty
    = .ok (.node [("a".toList, "3".toList)] [("b".toList, .node [("c".toList, "2".toList)] [])]) := by decide +kernel
example : readOptions ["x".toList, "-".toList, "-a".toList, "1".toList, "y".toList] .empty
    = .ok (.node [("a".toList, "1".toList)] []) := by decide +kernel
example : readOptions ["-a".toList, "1".toList, "-b".toList] .empty = .error .range := by decide +kernel
example : Positional "x".toList := ⟨by decide, fun r => by simp⟩
example : Positional "-x".toList := ⟨by decide, fun r => by simp⟩
example : readNamedOptions ["1".toList, "2".toList] .empty ["a".toList, "b".toList, "c".toList] 2 false true
    = .ok (.node [("a".toList, "1".toList), ("b".toList, "2".toList)] []) := by decide +kernel
example : readNamedOptions ["1".toList] .empty ["a".toList, "b".toList, "c".toList] 2 false true
    = .error .parser := by decide +kernel
example : readNamedOptions ["1".toList, "2".toList] .empty ["a".toList] 0 true true = .error .parser := by decide +kernel
example : readNamedOptions ["--z=1".toList] .empty ["a".toList] 0 false true = .error .parser := by decide +kernel
example : readNamedOptions ["--z=1".toList] .empty ["a".toList] 0 true true
    = .ok (.node [("z".toList, "1".toList)] []) := by decide +kernel
example : readNamedOptions ["--a".toList] .empty ["a".toList] 0 true true = .error .parser := by decide +kernel
example : readNamedOptions ["1".toList, "--help".toList] .empty ["a".toList] 0 true true = .error .help := by decide +kernel
/-- a named keyword is skipped by the positional arguments -/
example : readNamedOptions ["--a=1".toList, "2".toList] .empty ["a".toList, "b".toList] 2 false true
    = .ok (.node [("a".toList, "1".toList), ("b".toList, "2".toList)] []) := by decide +kernel
example : readNamedOptions ["--a=1".toList] (.node [("a".toList, "0".toList)] []) ["a".toList] 1 false false
    = .error .parser := by decide +kernel
/-- overwrite = false with an entry holding the empty string: not "already specified" -/
example : readNamedOptions ["--a=1".toList] (.node [("a".toList, [])] []) ["a".toList] 1 false false
    = .ok (.node [("a".toList, "1".toList)] []) := by decide +kernel
/-- why `named_named` needs the first-occurrence hypothesis: a repeated required keyword stays "missing" -/
example : readNamedOptions ["--a=1".toList] .empty ["a".toList, "a".toList] 2 false true = .error .parser := by decide +kernel

end DV.C12
