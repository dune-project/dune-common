/-
C17 — what does not need an ordered field: the laws that hold by the shape of the generated `ne … le` and of the vector
loops, for every scalar type (comparable operands `Tri`, reflexivity and symmetry of `eq` are hypotheses), and the
comparison algebra in the rounding arithmetic `FP f` of every binary floating-point format (exact operation, then
round-to-nearest-even, overflow to infinity).  Core Lean only.

Why the laws survive rounding: a rounded number is the sign of the exact one put on its rounded magnitude (`ofMag`),
so `|a ⊖ b|` is the rounded `|a - b|` and equals `|b ⊖ a|` exactly; finite numbers are totally ordered, and `max`/`min`
of two comparable numbers do not depend on the order of the arguments; a product of two non-negative finite
numbers is non-negative or `+∞`, never NaN.
-/
import DuneVerif.Model.C17

namespace DV.C17

-- every statement of a section takes the instance arguments of its one `variable` line, needed or not; the commutativity
-- lemmas handed to `simp` (`leS_iff`, `ltS_iff`) are unused for the present order of the operands in the source
set_option linter.unusedSectionVars false
set_option linter.unusedSimpArgs false
section generic
variable {K : Type} [Zero K] [Neg K] [Sub K] [Mul K] [LT K] [LE K] [DecidableLT K] [DecidableLE K]

/-- the component loop is a library function; it stops at the shorter operand, so no condition on the lengths -/
theorem eqLoop_eq_all (s : Style) (a b : List K) (e : K) :
    eqLoop s a b e = (a.zip b).all fun p => eqS s p.1 p.2 e := by
  induction a generalizing b with
  | nil => rfl
  | cons x xs ih =>
    cases b with
    | nil => rfl
    | cons y ys =>
      rw [eqLoop, ih, List.zip_cons_cons, List.all_cons]
      cases eqS s x y e <;> rfl

theorem eqLoop_iff (s : Style) (a b : List K) (e : K) :
    eqLoop s a b e = true ↔ ∀ (i : Nat) (ha : i < a.length) (hb : i < b.length), eqS s a[i] b[i] e = true := by
  rw [eqLoop_eq_all, List.all_eq_true, List.forall_mem_iff_forall_getElem]
  simp only [List.getElem_zip, List.length_zip, Nat.lt_min]
  exact ⟨fun h i ha hb => h i ⟨ha, hb⟩, fun h i hi => h i hi.1 hi.2⟩

theorem eqVec_iff (s : Style) (a b : List K) (e : K) :
    eqVec s a b e = true ↔ a.length = b.length ∧
      ∀ (i : Nat) (ha : i < a.length) (hb : i < b.length), eqS s a[i] b[i] e = true := by
  simp [eqVec, eqLoop_iff]

theorem leS_eq (s : Style) (a b e : K) : leS s a b e = (ltS s a b e || eqS s a b e) := by
  simp only [leS, ltS, Gen.le, Gen.lt, Gen.ne]
  cases decide (a < b) <;> cases eqS s a b e <;> rfl

theorem geS_eq (s : Style) (a b e : K) : geS s a b e = (gtS s a b e || eqS s a b e) := by
  simp only [geS, gtS, Gen.ge, Gen.gt, Gen.ne]
  cases decide (a > b) <;> cases eqS s a b e <;> rfl

-- (`and_comm` / `or_comm`: independent of the order of the two operands of `&&` / `||` in the source)
theorem leS_iff (s : Style) (p q e : K) : leS s p q e = true ↔ (p < q ∨ eqS s p q e = true) := by
  simp [leS, Gen.le, or_comm]

theorem ltS_iff (s : Style) (p q e : K) : ltS s p q e = true ↔ (p < q ∧ eqS s p q e = false) := by
  simp [ltS, Gen.lt, Gen.ne, and_comm]

theorem leVec_eq (s : Style) (a b : List K) (e : K) : leVec s a b e = (ltVec s a b e || eqVec s a b e) := by
  simp only [leVec, ltVec, neVec]
  cases lexLt a b <;> cases eqVec s a b e <;> rfl

theorem geVec_eq (s : Style) (a b : List K) (e : K) : geVec s a b e = (gtVec s a b e || eqVec s a b e) := by
  simp only [geVec, gtVec, neVec]
  cases lexLt b a <;> cases eqVec s a b e <;> rfl

theorem ltS_eq_gtS_swap (s : Style) {a b e : K} (h : eqS s a b e = eqS s b a e) : ltS s a b e = gtS s b a e := by
  simp only [ltS, gtS, Gen.lt, Gen.gt, Gen.ne, h]

/-- the three mutually exclusive outcomes of comparing two scalars with `<` -/
def Tri (x y : K) : Prop :=
  (x = y ∧ ¬ x < y ∧ ¬ y < x) ∨ (x < y ∧ ¬ y < x) ∨ (¬ x < y ∧ y < x)

theorem maxK_comm_of {a b : K} (h : Tri a b) : maxK a b = maxK b a := by
  rcases h with ⟨rfl, -, -⟩ | ⟨h1, h2⟩ | ⟨h1, h2⟩
  · rfl
  · simp [maxK, h1, h2]
  · simp [maxK, h1, h2]

theorem minK_comm_of {a b : K} (h : Tri a b) : minK a b = minK b a := by
  rcases h with ⟨rfl, -, -⟩ | ⟨h1, h2⟩ | ⟨h1, h2⟩
  · rfl
  · simp [minK, h1, h2]
  · simp [minK, h1, h2]

theorem trichotomy_of (s : Style) (a b e : K) (htri : Tri a b) (hrefl : eqS s a a e = true) :
    (ltS s a b e = true ∧ eqS s a b e = false ∧ gtS s a b e = false) ∨
    (ltS s a b e = false ∧ eqS s a b e = true ∧ gtS s a b e = false) ∨
    (ltS s a b e = false ∧ eqS s a b e = false ∧ gtS s a b e = true) := by
  cases hE : eqS s a b e
  · rcases htri with ⟨h0, _, _⟩ | ⟨h1, h2⟩ | ⟨h1, h2⟩
    · subst h0; rw [hrefl] at hE; exact Bool.noConfusion hE
    · left; simp [ltS, gtS, Gen.lt, Gen.gt, Gen.ne, hE, h1, h2]
    · right; right; simp [ltS, gtS, Gen.lt, Gen.gt, Gen.ne, hE, h1, h2]
  · right; left; simp [ltS, gtS, Gen.lt, Gen.gt, Gen.ne, hE]

/-- the lexicographic `<` of `std::vector` is a strict total order on vectors whose components are totally ordered -/
theorem lexLt_total_of (a b : List K) (h : ∀ x ∈ a, ∀ y ∈ b, Tri x y) :
    (a = b ∧ lexLt a b = false ∧ lexLt b a = false) ∨
    (lexLt a b = true ∧ lexLt b a = false) ∨
    (lexLt a b = false ∧ lexLt b a = true) := by
  induction a generalizing b with
  | nil => cases b <;> simp [lexLt]
  | cons x xs ih =>
    cases b with
    | nil => simp [lexLt]
    | cons y ys =>
      have ih := ih ys fun p hp q hq => h p (List.mem_cons_of_mem _ hp) q (List.mem_cons_of_mem _ hq)
      rcases h x (List.mem_cons_self ..) y (List.mem_cons_self ..) with ⟨rfl, h1, -⟩ | ⟨h1, h2⟩ | ⟨h1, h2⟩
      · -- equal heads: the statement is the one about the tails
        simpa [lexLt, h1] using ih
      · simp [lexLt, h1, h2]
      · simp [lexLt, h1, h2]

theorem vec_trichotomy_of (s : Style) (a b : List K) (e : K)
    (htri : ∀ x ∈ a, ∀ y ∈ b, Tri x y) (hrefl : ∀ x ∈ a, eqS s x x e = true) :
    (ltVec s a b e = true ∧ eqVec s a b e = false ∧ gtVec s a b e = false) ∨
    (ltVec s a b e = false ∧ eqVec s a b e = true ∧ gtVec s a b e = false) ∨
    (ltVec s a b e = false ∧ eqVec s a b e = false ∧ gtVec s a b e = true) := by
  cases hE : eqVec s a b e
  · rcases lexLt_total_of a b htri with ⟨h1, _, _⟩ | ⟨h2, h3⟩ | ⟨h2, h3⟩
    · subst h1
      have : eqVec s a a e = true := by
        rw [eqVec_iff]; exact ⟨rfl, fun i ha _ => hrefl _ (List.getElem_mem ha)⟩
      rw [this] at hE; exact Bool.noConfusion hE
    · left; simp [ltVec, gtVec, neVec, hE, h2, h3]
    · right; right; simp [ltVec, gtVec, neVec, hE, h2, h3]
  · right; left; simp [ltVec, gtVec, neVec, hE]

theorem eqVec_symm_of (s : Style) (a b : List K) (e : K)
    (hsymm : ∀ x ∈ a, ∀ y ∈ b, eqS s x y e = eqS s y x e) : eqVec s a b e = eqVec s b a e := by
  rw [Bool.eq_iff_iff, eqVec_iff, eqVec_iff]
  constructor
  · rintro ⟨hl, h⟩
    exact ⟨hl.symm, fun i ha hb => by
      rw [← hsymm _ (List.getElem_mem hb) _ (List.getElem_mem ha)]; exact h i hb ha⟩
  · rintro ⟨hl, h⟩
    exact ⟨hl.symm, fun i ha hb => by
      rw [hsymm _ (List.getElem_mem ha) _ (List.getElem_mem hb)]; exact h i hb ha⟩

end generic

namespace FP
variable {f : Fmt}

theorem lt_iff (a b : FP f) : a < b ↔ lt a b = true := Iff.rfl
theorem le_iff (a b : FP f) : a ≤ b ↔ le a b = true := Iff.rfl

theorem fin_lt_iff (p q : Int) : ((FP.fin p : FP f) < .fin q) ↔ p < q :=
  decide_eq_true_iff

theorem tri_fin (a b : Int) : Tri (.fin a : FP f) (.fin b) := by
  unfold Tri
  rw [fin_lt_iff, fin_lt_iff]
  rcases Int.lt_trichotomy a b with h | rfl | h
  · exact Or.inr (Or.inl ⟨h, Int.lt_asymm h⟩)
  · exact Or.inl ⟨rfl, Int.lt_irrefl a, Int.lt_irrefl a⟩
  · exact Or.inr (Or.inr ⟨Int.lt_asymm h, h⟩)

theorem absK_fin (n : Int) : absK (.fin n : FP f) = .fin n.natAbs := by
  simp only [absK, show (0 : FP f) = .fin 0 from rfl, fin_lt_iff]
  split
  · next h => rw [Int.ofNat_natAbs_of_nonpos (Int.le_of_lt h)]; rfl
  · next h => rw [Int.natAbs_of_nonneg (Int.not_lt.mp h)]

theorem absK_ofMag (b : Bool) (g : Nat) : absK (ofMag f b g) = ofMag f false g := by
  unfold ofMag
  split
  · cases b <;> rfl
  · cases b <;> simp [absK_fin]

-- `show` first (here and in `mul_def`): a bare `rfl` unfolds `rnd` before the instance, which is slow to check
theorem sub_def (a b : Int) : (.fin a : FP f) - .fin b = rnd f (a - b) 0 := by
  show sub (.fin a) (.fin b) = _; rfl

theorem mul_def (a b : Int) : (.fin a : FP f) * .fin b = rnd f (a * b) f.sh := by
  show mul (.fin a) (.fin b) = _; rfl

theorem abs_sub_comm (a b : Int) : absK ((.fin a : FP f) - .fin b) = absK ((.fin b : FP f) - .fin a) := by
  rw [sub_def, sub_def, rnd, rnd, absK_ofMag, absK_ofMag, ← Int.natAbs_neg, Int.neg_sub]

theorem eqS_symm (s : Style) (a b : Int) (e : FP f) :
    eqS s (.fin a : FP f) (.fin b) e = eqS s (.fin b) (.fin a) e := by
  cases s
  · simp only [eqS, Gen.eq_relativeWeak]
    rw [abs_sub_comm a b, absK_fin, absK_fin, maxK_comm_of (tri_fin _ _)]
  · simp only [eqS, Gen.eq_relativeStrong]
    rw [abs_sub_comm a b, absK_fin, absK_fin, minK_comm_of (tri_fin _ _)]
  · simp only [eqS, Gen.eq_absolute]
    rw [abs_sub_comm a b]

theorem roundMag_zero (f : Fmt) (s : Nat) : roundMag f 0 s = 0 := by
  simp [roundMag]

theorem rnd_zero (f : Fmt) (s : Nat) : rnd f 0 s = .fin 0 := by
  simp [rnd, roundMag_zero, ofMag]

theorem zero_le_rnd (z : Int) (s : Nat) (hz : 0 ≤ z) : (.fin 0 : FP f) ≤ rnd f z s := by
  show le (.fin 0) (rnd f z s) = true
  rw [rnd, decide_eq_false (Int.not_lt.mpr hz), ofMag]
  split
  · rfl
  · exact decide_eq_true (Int.natCast_nonneg (roundMag f z.natAbs s))

theorem zero_le_mul (m k : Int) (hm : 0 ≤ m) (hk : 0 ≤ k) : (.fin 0 : FP f) ≤ (.fin m : FP f) * .fin k := by
  rw [mul_def]; exact zero_le_rnd _ _ (Int.mul_nonneg hm hk)

theorem eqS_refl (s : Style) (a m : Int) (hm : 0 ≤ m) : eqS s (.fin a : FP f) (.fin a) (.fin m) = true := by
  have hsub : absK ((.fin a : FP f) - .fin a) = .fin 0 := by
    rw [sub_def, Int.sub_self, rnd_zero]; exact absK_fin 0
  have hk := Int.natCast_nonneg a.natAbs
  -- `max(p,p)` and `min(p,p)` are `p` by the shape of the conditional; `assumption` finds the sign of each factor,
  -- whichever way round the product is written
  cases s
  · simp only [eqS, Gen.eq_relativeWeak, hsub, absK_fin, maxK, ite_self, decide_eq_true_eq]
    exact zero_le_mul _ _ (by assumption) (by assumption)
  · simp only [eqS, Gen.eq_relativeStrong, hsub, absK_fin, minK, ite_self, decide_eq_true_eq]
    exact zero_le_mul _ _ (by assumption) (by assumption)
  · simp only [eqS, Gen.eq_absolute, hsub, decide_eq_true_eq]
    exact decide_eq_true hm

theorem trichotomy (s : Style) (a b m : Int) (hm : 0 ≤ m) :
    let x : FP f := .fin a; let y : FP f := .fin b; let e : FP f := .fin m
    (ltS s x y e = true ∧ eqS s x y e = false ∧ gtS s x y e = false) ∨
    (ltS s x y e = false ∧ eqS s x y e = true ∧ gtS s x y e = false) ∨
    (ltS s x y e = false ∧ eqS s x y e = false ∧ gtS s x y e = true) := by
  exact trichotomy_of s _ _ _ (tri_fin a b) (eqS_refl s a m hm)

end FP
end DV.C17
