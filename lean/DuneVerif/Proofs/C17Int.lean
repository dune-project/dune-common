/-
C17 — lemmas about the machine-integer models of `power`, `factorial` and `binomial` (every intermediate value goes
through `chk`): for each loop one lemma, the exact value if it is representable and `none` otherwise.  Also the loop
of `power` over a field (`powLoopK_eq`) and the fold of the `FieldVector` classifier `isFiniteV` (`foldl_and`; `isNaNV`, `isInfV` use `DV.foldl_or` of `Common/Lists.lean`).
-/
import DuneVerif.Proofs.C17M
import DuneVerif.Common.Lists
import Mathlib.Data.Nat.GCD.Basic
import Mathlib.Data.Nat.Choose.Basic
import Mathlib.Data.Nat.Factorial.Basic
import Mathlib.Algebra.Order.Ring.Abs
import Mathlib.Tactic.Ring
import Mathlib.Algebra.Field.Basic

namespace DV.C17
open Nat

theorem chk_of_fits {t : IType} {x : Int} (h : t.fits x = true) : chk t x = some x := by
  simp [chk, h]

theorem chk_of_not_fits {t : IType} {x : Int} (h : t.fits x = false) : chk t x = none := by
  simp [chk, h]

/-- a checked step of a loop whose result `R` is representable only if the value checked here is: the `if` passes through -/
theorem chk_bind_eq_ite {t : IType} {x R : Int} {f : Int → Option Int} (hR : t.fits R = true → t.fits x = true)
    (hf : t.fits x = true → f x = if t.fits R then some R else none) :
    (chk t x).bind f = if t.fits R then some R else none := by
  cases hx : t.fits x
  · rw [chk_of_not_fits hx, if_neg (mt hR (ne_true_of_eq_false hx))]; rfl
  · rw [chk_of_fits hx]; exact hf hx

theorem lo_cases (t : IType) : t.lo = 0 ∨ t.lo = -(t.hi + 1) := by
  unfold IType.lo IType.hi
  cases t.signed <;> simp

theorem IType.fits_natCast_of_le (t : IType) {a b : Nat} (h : a ≤ b) (hb : t.fits (b : Int) = true) : t.fits (a : Int) = true :=
  IType.fits_between (IType.fits_zero t) hb (Int.natCast_nonneg a) (Int.ofNat_le.mpr h)

theorem fact_succ_cast (k : Nat) : ((k ! : Nat) : Int) * ((k : Int) + 1) = (((k + 1)! : Nat) : Int) := by
  rw [Nat.factorial_succ]; push_cast; ring

/-- the loop of `factorial(n)` at its invariant `fac = k!`: the factorials grow, so a value that is not representable
    on the way means that `n!` is not -/
theorem factLoop_eq (t : IType) {n : Nat} (it k : Nat) (h : k + it = n) (hk : t.fits ((k ! : Nat) : Int) = true) :
    factLoop t it (k : Int) ((k ! : Nat) : Int) =
      if t.fits ((n ! : Nat) : Int) then some ((n ! : Nat) : Int) else none := by
  induction it generalizing k with
  | zero => rw [Nat.add_zero] at h; subst h; rw [hk]; rfl
  | succ it ih =>
    have hle : (k + 1)! ≤ n ! := Nat.factorial_le (by omega)
    rw [factLoop]
    -- `((k + 1 : ℕ) : ℤ)` unfolds to `(k : ℤ) + 1`: no cast lemma is needed here or for the induction hypothesis
    refine chk_bind_eq_ite (IType.fits_natCast_of_le t ((Nat.self_le_factorial (k + 1)).trans hle)) fun _ => ?_
    rw [fact_succ_cast]
    exact chk_bind_eq_ite (IType.fits_natCast_of_le t hle) (ih (k + 1) (by omega))

/-- the loop of `power` from the accumulator `r`; `h`: the partial products are representable when the last one is -/
theorem powerLoop_eq (t : IType) (m : Int) : ∀ (n : Nat) (r : Int), t.fits r = true →
    (∀ j, j ≤ n → t.fits (r * m ^ n) = true → t.fits (r * m ^ j) = true) →
    powerLoop t m n r = if t.fits (r * m ^ n) then some (r * m ^ n) else none
  | 0, r, hr, _ => by rw [powerLoop, pow_zero, mul_one, hr]; rfl
  | n + 1, r, _, h => by
    rw [powerLoop]
    refine chk_bind_eq_ite (by simpa only [pow_one] using h 1 (by omega)) fun h1 => ?_
    rw [_root_.pow_succ', ← mul_assoc]
    exact powerLoop_eq t m n (r * m) h1 fun j hj => by
      simpa only [_root_.pow_succ', mul_assoc] using h (j + 1) (by omega)

theorem fits_pow_mono (t : IType) (m : Int) (n : Nat) (h1 : t.fits 1 = true) (hm : t.fits m = true) (j : Nat) (hj : j ≤ n)
    (hn : t.fits (m ^ n) = true) : t.fits (m ^ j) = true := by
  rcases eq_or_lt_of_le hj with rfl | hjn
  · exact hn
  rw [IType.fits_iff] at *
  -- `|m|^j ≤ hi`: clear for `|m| ≤ 1`; otherwise `2·|m|^j ≤ |m|^n ≤ hi + 1` (the bound `hi + 1` is attained: `(-2)^31` in `int`)
  have habs : |m ^ j| ≤ t.hi := by
    rw [abs_pow]
    rcases le_or_gt |m| 1 with hs | hb
    · exact (pow_le_one₀ (abs_nonneg m) hs).trans h1.2
    · have hle : |m| ^ (j + 1) ≤ |m| ^ n := pow_le_pow_right₀ hb.le hjn
      have hn' : |m| ^ n ≤ t.hi + 1 := by
        rw [← abs_pow, abs_le]; rcases lo_cases t with h | h <;> constructor <;> omega
      have h2 : |m| ^ j * 2 ≤ |m| ^ (j + 1) := by
        rw [pow_succ]; exact mul_le_mul_of_nonneg_left hb (pow_nonneg (abs_nonneg m) j)
      omega
  rw [abs_le] at habs
  refine ⟨?_, habs.2⟩
  rcases lo_cases t with h | h
  · rw [h]; exact pow_nonneg (h ▸ hm.1) j
  · omega

theorem powerLoop_pow (t : IType) (m : Int) (p : Nat) (h1 : t.fits 1 = true) (hm : t.fits m = true) :
    powerLoop t m p 1 = if t.fits (m ^ p) then some (m ^ p) else none := by
  simpa only [one_mul] using powerLoop_eq t m p 1 h1 (by simpa only [one_mul] using fits_pow_mono t m p h1 hm)

/-- one step of the overflow-free evaluation, `bin = (bin / (i/g)) * (m/g)` with `g = gcd m i`: if `a·B = C·i` then
    `B / (i/g) * (a/g) = C`, and both divisions are exact (`i ∣ a·B` gives `i ∣ g·B`, that is `i/g ∣ B`).  The loop
    has `a = m+j+1`, `i = j+1`, `B = C(m+j, j)`, `C = C(m+j+1, j+1)`. -/
theorem div_gcd_mul_div_gcd {a i B C : Nat} (hi : 0 < i) (key : a * B = C * i) :
    B / (i / Nat.gcd a i) * (a / Nat.gcd a i) = C := by
  have hg := Nat.gcd_dvd_right a i
  have hdvd : i / Nat.gcd a i ∣ B := by
    rw [Nat.div_dvd_iff_dvd_mul hg (Nat.gcd_pos_of_pos_right a hi), Nat.gcd_comm, Nat.dvd_gcd_mul_iff_dvd_mul, key]
    exact Nat.dvd_mul_left i C
  rw [Nat.div_mul_div_comm hdvd (Nat.gcd_dvd_left a i), Nat.div_mul_cancel hg, Nat.mul_comm, key]
  exact Nat.mul_div_cancel C hi

theorem choose_add_mono (m j j' : Nat) (h : j ≤ j') : (m + j).choose j ≤ (m + j').choose j' := by
  rw [← Nat.choose_symm_add, ← Nat.choose_symm_add]
  exact Nat.choose_le_choose m (by omega)

/-- one iteration at the loop invariant `i = j+1`, `bin = C(m+j, j)`, where the two index computations fit -/
theorem binomLoop_succ (t : IType) (m it j : Nat) (fa : t.fits ((m : Int) + ((j : Int) + 1)) = true)
    (fi : t.fits ((j : Int) + 1 + 1) = true) :
    binomLoop t (m : Int) (it + 1) ((j : Int) + 1) (((m + j).choose j : Nat) : Int) =
      (chk t (((m + (j + 1)).choose (j + 1) : Nat) : Int)).bind (binomLoop t (m : Int) it ((j : Int) + 1 + 1)) := by
  simp only [binomLoop, chk_of_fits fa, Option.bind_some, chk_of_fits fi]
  congr 2
  exact_mod_cast div_gcd_mul_div_gcd (Nat.succ_pos j) (Nat.add_one_mul_choose_eq (m + j) j)

/-- the loop of `binomial(m+J, J)`; `hJ`: the last `++i` computes `J + 1` -/
theorem binomLoop_eq (t : IType) {m J : Nat} (hn : t.fits ((m + J : Nat) : Int) = true) (hJ : J = 0 ∨ J + 1 ≤ m + J)
    (it j : Nat) (h : j + it = J) (hs : t.fits (((m + j).choose j : Nat) : Int) = true) :
    binomLoop t (m : Int) it ((j : Int) + 1) (((m + j).choose j : Nat) : Int) =
      if t.fits (((m + J).choose J : Nat) : Int) then some (((m + J).choose J : Nat) : Int) else none := by
  induction it generalizing j with
  | zero => rw [Nat.add_zero] at h; subst h; rw [hs]; rfl
  | succ it ih =>
    have h0 := IType.fits_zero t
    rw [binomLoop_succ t m it j (IType.fits_between h0 hn (by omega) (by omega))
      (IType.fits_between h0 hn (by omega) (by omega))]
    -- the coefficients grow along the loop
    exact chk_bind_eq_ite (IType.fits_natCast_of_le t (choose_add_mono m (j + 1) J (by omega))) (ih (j + 1) (by omega))

theorem binomCore_nat (t : IType) (n k : Nat) (hk : k ≤ n) (hk' : k = 0 ∨ k + 1 ≤ n)
    (h1 : t.fits 1 = true) (hn : t.fits (n : Int) = true) :
    binomCore t (n : Int) (k : Int) =
      if t.fits ((n.choose k : Nat) : Int) then some ((n.choose k : Nat) : Int) else none := by
  obtain ⟨m, rfl⟩ := Nat.exists_eq_add_of_le' hk
  simp only [binomCore, Nat.cast_add, add_sub_cancel_right, chk_of_fits (IType.fits_natCast_of_le t (Nat.le_add_right m k) hn),
    Option.bind_some, Int.toNat_natCast]
  simpa using binomLoop_eq t hn hk' k 0 (Nat.zero_add k) (by simpa using h1)

theorem powLoopK_eq {F : Type} [Field F] (m : F) : ∀ (n : Nat) (r : F), powLoopK m n r = r * m ^ n
  | 0, r => by rw [powLoopK, pow_zero, mul_one]
  | n + 1, r => by rw [powLoopK, powLoopK_eq m n (r * m), _root_.pow_succ', mul_assoc]

theorem foldl_and {α} (f : α → Bool) : ∀ (v : List α) (acc : Bool),
    v.foldl (fun out x => out && f x) acc = (acc && v.all f) :=
  DV.foldl_and f

end DV.C17
