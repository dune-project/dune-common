import DuneVerif.Proofs.C13Basic
/-! C13: lemmas about the definitions that take source-derived data as parameters (`insertEntryG`, `calcInfo`,
`WireLayout`).  Core Lean only. -/
namespace DV.C13

/-- the reference conditions: advance while `<`, insert if `≠`, scan while `=`, found if the remote attribute is equal,
insert unless found -/
def InsertConds.reference : InsertConds := ⟨.lt, .ne, .eq, .eq, true⟩

/-- the hand-written `insertEntry` of the protocol model is the skeleton of `insertIntoRemoteIndexList` with the
reference conditions -/
theorem insertEntryG_reference (n : RemEntry) (l : List RemEntry) :
    insertEntryG InsertConds.reference n l = insertEntry n l := by
  induction l with
  | nil => rfl
  | cons e es ih =>
    rw [insertEntryG, insertEntry, ih]
    simp only [InsertConds.reference, Cmp.evalKey, Cmp.evalNat, remLt, sameKey, beq_true]
    rfl

/-- the counting increments the model's messages correspond to: one published index and as many pairs as holders -/
def CountIncr.reference : CountIncr := ⟨.const 1, .holders⟩

/-- the inner loop over holders with distinct process numbers: the counters of `q` grow once if `q` is a holder -/
theorem inner_fold (a b q : Nat) (l : List (Nat × Nat)) (hd : l.Pairwise (fun x y => x.1 ≠ y.1)) (info : Nat → Nat × Nat) :
    (l.foldl (fun info h => fun q => if q = h.1 then ((info q).1 + a, (info q).2 + b) else info q) info) q =
      if l.any (fun h => h.1 == q) then ((info q).1 + a, (info q).2 + b) else info q := by
  induction l generalizing info with
  | nil => rfl
  | cons h t ih =>
    rw [List.pairwise_cons] at hd
    rw [List.foldl_cons, ih hd.2, List.any_cons]
    by_cases hq : q = h.1
    · have hnot : t.any (fun x => x.1 == q) = false :=
        List.any_eq_false.2 fun x hx => by rw [beq_iff_eq, hq]; exact Ne.symm (hd.1 x hx)
      rw [hnot, if_neg Bool.false_ne_true, if_pos hq, ← hq, beq_self_eq_true, Bool.true_or, if_pos rfl]
    · rw [if_neg hq, beq_false_of_ne (Ne.symm hq), Bool.false_or]

theorem msgCounts_cons (it : Item) (items : List Item) :
    msgCounts (it :: items) = ((msgCounts items).1 + 1, it.pairs.length + (msgCounts items).2) := rfl

/-- the outer loop, over any list of index pairs with the remote map fixed: the counters of `q` grow by the counts of
the message the model lets `packAndSend(q)` write for these pairs -/
theorem outer_fold (r : List (Nat × List RemEntry)) (hd : r.Pairwise (fun a b => a.1 ≠ b.1)) (q : Nat)
    (idx : List IdxEntry) (info : Nat → Nat × Nat) :
    (idx.foldl (fun info e =>
      let hs := holders r e.g
      hs.foldl (fun info h => fun q =>
        if q = h.1 then ((info q).1 + CountIncr.reference.publish.eval hs.length,
          (info q).2 + CountIncr.reference.pairs.eval hs.length) else info q) info) info) q =
    ((info q).1 + (msgCounts (itemsFor ⟨idx, r, 0, 0⟩ q)).1, (info q).2 + (msgCounts (itemsFor ⟨idx, r, 0, 0⟩ q)).2) := by
  induction idx generalizing info with
  | nil => rfl
  | cons e t ih =>
    rw [List.foldl_cons, ih, itemsFor, itemsFor, List.filterMap_cons]
    dsimp only
    rw [inner_fold _ _ q _ (holders_pairwise _ r e.g hd)]
    by_cases hany : (holders r e.g).any (fun h => h.1 == q) = true
    · rw [if_pos hany, if_pos hany, msgCounts_cons]
      dsimp only [CountIncr.reference, Amount.eval]
      rw [Nat.add_assoc, Nat.add_comm 1, Nat.add_assoc]
    · rw [if_neg hany, if_neg hany]

/-- **The counters of `calculateMessageSizes` are the counts of the message `packAndSend` writes**, for every state
whose neighbour map has distinct keys (a `std::map`) and every destination. -/
theorem calcInfo_reference (st : RankState) (hd : st.remote.Pairwise (fun a b => a.1 ≠ b.1)) (q : Nat) :
    calcInfo CountIncr.reference st q = msgCounts (itemsFor st q) := by
  rw [calcInfo, outer_fold st.remote hd q, Nat.zero_add, Nat.zero_add]
  rfl

/-- a list each of whose elements occurs at least as often in `b` weighs no more than `b`, whatever the weights:
take the head of `a` out of `b` and go on -/
theorem sum_map_le_of_count_le {α : Type} [DecidableEq α] (f : α → Nat) (a b : List α)
    (h : ∀ t, a.count t ≤ b.count t) : (a.map f).sum ≤ (b.map f).sum := by
  induction a generalizing b with
  | nil => exact Nat.zero_le _
  | cons t ts ih =>
    have ht : t ∈ b := List.count_pos_iff.1 (Nat.lt_of_lt_of_le (by rw [List.count_cons_self]; exact Nat.succ_pos _) (h t))
    rw [((List.perm_cons_erase ht).map f).sum_nat, List.map_cons, List.map_cons, List.sum_cons, List.sum_cons]
    refine Nat.add_le_add_left (ih _ fun u => ?_) _
    have hu := h u
    by_cases hut : u = t
    · rw [hut, List.count_cons_self] at hu
      rw [hut, List.count_erase_self]
      exact Nat.le_sub_one_of_lt hu
    · rw [List.count_cons_of_ne (Ne.symm hut)] at hu
      rw [List.count_erase_of_ne hut]
      exact hu

theorem groupBytes_le_of_covers (sz : WireTy → Nat) (a b : List WireTy) (h : WireLayout.covers a b = true) :
    WireLayout.groupBytes sz a ≤ WireLayout.groupBytes sz b := by
  simp only [WireLayout.covers, List.all_cons, List.all_nil, Bool.and_true, Bool.and_eq_true, decide_eq_true_eq] at h
  exact sum_map_le_of_count_le sz a b fun t => by
    cases t
    · exact h.1
    · exact h.2.1
    · exact h.2.2

theorem bytes_le_of_covers (sz : WireTy → Nat) (A B : WireLayout)
    (h1 : WireLayout.covers A.header B.header = true) (h2 : WireLayout.covers A.perIndex B.perIndex = true)
    (h3 : WireLayout.covers A.perPair B.perPair = true) (publish pairs : Nat) :
    A.bytes sz publish pairs ≤ B.bytes sz publish pairs :=
  Nat.add_le_add (Nat.add_le_add (groupBytes_le_of_covers sz _ _ h1)
    (Nat.mul_le_mul_left publish (groupBytes_le_of_covers sz _ _ h2)))
    (Nat.mul_le_mul_left pairs (groupBytes_le_of_covers sz _ _ h3))

end DV.C13
