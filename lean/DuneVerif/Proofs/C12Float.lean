/-
C12 — acceptance of floating-point text.

`Parser<double>` / `Parser<float>` accept EXACTLY  blanks  literal  blanks  where the literal is
`[sign] digits* [. digits*] [e|E [sign] digits+]` with at least one mantissa digit and its pieces evaluate
(`FloatLex.evalB`: exact decimal value, rounded to nearest / ties to even, overflow = failure) to a finite number of
the format, and that evaluation is what is returned.  `LexOf t f` ties the text of a literal to the pieces the lexer
reports; `FloatLit t` is the syntax alone.  Everything else — empty text, a lone sign or point, `1e`, `1e+`, a second
number, any other trailing character — is a RangeError.  (No theorem is stated about the rounding `roundToBin`; it is
compared bit for bit with strtod/strtof and std::from_chars on every run.)
-/
import DuneVerif.Proofs.C12Lex

namespace DV.C12

/-- the fraction stage of the lexer: `.digits*` or nothing -/
def fracSplit (s3 : Str) : Str × Str :=
  match s3 with
  | '.' :: r => (r.takeWhile isDig, r.dropWhile isDig)
  | _ => ([], s3)

/-- the exponent stage, given that a mantissa was found -/
def expoStage (neg : Bool) (ip fp s4 : Str) : Option (FloatLex × Str) :=
  match s4 with
  | e :: r =>
    if e == 'e' || e == 'E' then
      let ex := (signSplit r).2.takeWhile isDig
      if ex = [] then none
      else some (⟨neg, ip, fp, (signSplit r).1, ex⟩, (signSplit r).2.dropWhile isDig)
    else some (⟨neg, ip, fp, false, []⟩, s4)
  | [] => some (⟨neg, ip, fp, false, []⟩, [])

/-- `extractFloatLex` in terms of what its stages produce: blanks skipped, sign split off, digits spanned, fraction
    split off.  `fracSplit` and `expoStage` repeat the model's text, so with the results put in this is an unfolding -/
theorem extractFloatLex_of_stages {s s1 s2 s3 s4 ip fp : Str} {neg : Bool} {p : FloatLex × Str}
    (h1 : skipWs s = s1) (h2 : signSplit s1 = (neg, s2)) (h3 : s2.takeWhile isDig = ip) (h4 : s2.dropWhile isDig = s3)
    (h5 : fracSplit s3 = (fp, s4)) :
    extractFloatLex s = some p ↔ (ip ≠ [] ∨ fp ≠ []) ∧ expoStage neg ip fp s4 = some p := by
  have e : extractFloatLex s = if ip = [] && fp = [] then none else expoStage neg ip fp s4 := by
    obtain ⟨rfl, rfl⟩ := Prod.mk.inj h2
    obtain ⟨rfl, rfl⟩ := Prod.mk.inj h5
    subst h1 h3 h4
    rfl
  simp only [e, Option.ite_none_left_eq_some, Bool.and_eq_true, decide_eq_true_eq, Classical.not_and_iff_not_or_not, ne_eq]

/-- a floating literal: [sign] digits* [. digits*] [e|E [sign] digits+] with at least one mantissa digit -/
def FloatLit (t : Str) : Prop :=
  ∃ sign ip frac expo, t = sign ++ ip ++ frac ++ expo ∧ SignOK sign ∧ AllDig ip ∧
    (frac = [] ∨ ∃ fp, frac = '.' :: fp ∧ AllDig fp) ∧
    (ip ≠ [] ∨ ∃ fp, fp ≠ [] ∧ frac = '.' :: fp) ∧
    (expo = [] ∨ ∃ e esign ex, expo = e :: (esign ++ ex) ∧ (e = 'e' ∨ e = 'E') ∧ SignOK esign ∧ ex ≠ [] ∧ AllDig ex)

/-- the text `t` is a floating literal and `f` are its pieces as the lexer reports them -/
def LexOf (t : Str) (f : FloatLex) : Prop :=
  ∃ sign frac expo, t = sign ++ f.ip ++ frac ++ expo ∧ SignOK sign ∧ f.neg = decide (sign = ['-']) ∧
    AllDig f.ip ∧ AllDig f.fp ∧ ((frac = [] ∧ f.fp = []) ∨ frac = '.' :: f.fp) ∧ (f.ip ≠ [] ∨ f.fp ≠ []) ∧
    ((expo = [] ∧ f.eneg = false ∧ f.ex = []) ∨
      ∃ e esign, expo = e :: (esign ++ f.ex) ∧ (e = 'e' ∨ e = 'E') ∧ SignOK esign ∧ f.eneg = decide (esign = ['-']) ∧
        f.ex ≠ [] ∧ AllDig f.ex)

/-- the exponent clause of `LexOf`, which has it written out (the two agree by unfolding `ExpoOf`): `expo` is empty, or a
    marker, an optional sign (`eneg`: a minus) and the digits `ex` -/
def ExpoOf (expo : Str) (eneg : Bool) (ex : Str) : Prop :=
  (expo = [] ∧ eneg = false ∧ ex = []) ∨
    ∃ e esign, expo = e :: (esign ++ ex) ∧ (e = 'e' ∨ e = 'E') ∧ SignOK esign ∧ eneg = decide (esign = ['-']) ∧
      ex ≠ [] ∧ AllDig ex

theorem LexOf.floatLit {t : Str} {f : FloatLex} (h : LexOf t f) : FloatLit t := by
  obtain ⟨sign, frac, expo, rfl, hsign, _, hip, hfp, hfrac, hne, hexpo⟩ := h
  refine ⟨sign, f.ip, frac, expo, rfl, hsign, hip, hfrac.imp And.left fun h => ⟨_, h, hfp⟩,
    hne.imp_right fun h => ⟨_, h, hfrac.resolve_left fun h0 => h h0.2⟩, hexpo.imp And.left ?_⟩
  rintro ⟨e, esign, h1, h2, h3, _, h4, h5⟩
  exact ⟨e, esign, _, h1, h2, h3, h4, h5⟩

theorem head_of_allSpace {P : Char → Prop} {R : Str} (hR : AllSpace R) (h : ∀ c, isSpaceC c = true → P c) :
    ∀ c, R.head? = some c → P c :=
  fun c hc => h c (hR c (List.mem_of_head? hc))

theorem ne_of_isSpaceC {c k : Char} (hk : isSpaceC k = false) (hc : isSpaceC c = true) : c ≠ k :=
  fun e => by rw [e, hk] at hc; cases hc

theorem isDig_dot : isDig '.' = false := by decide
theorem isDig_e : isDig 'e' = false := by decide
theorem isDig_E : isDig 'E' = false := by decide

theorem fracSplit_spec {s3 fp s4 : Str} (h : fracSplit s3 = (fp, s4)) :
    ∃ frac, s3 = frac ++ s4 ∧ AllDig fp ∧ ((frac = [] ∧ fp = []) ∨ frac = '.' :: fp) := by
  revert h
  fun_cases fracSplit s3 with
  | case1 r =>
    rintro ⟨⟩
    exact ⟨'.' :: r.takeWhile isDig, congrArg _ List.takeWhile_append_dropWhile.symm,
      fun c hc => mem_takeWhile_pos isDig r c hc, Or.inr rfl⟩
  | case2 =>
    rintro ⟨⟩
    exact ⟨[], rfl, allDig_nil, Or.inl ⟨rfl, rfl⟩⟩

theorem fracSplit_body {frac fp R : Str} (hfrac : (frac = [] ∧ fp = []) ∨ frac = '.' :: fp) (hfp : AllDig fp)
    (hR : ∀ c, R.head? = some c → isDig c = false ∧ c ≠ '.') :
    fracSplit (frac ++ R) = (fp, R) ∧ NoDigHead (frac ++ R) := by
  have hnd : NoDigHead R := fun c hc => (hR c hc).1
  rcases hfrac with ⟨rfl, rfl⟩ | rfl
  · refine ⟨?_, hnd⟩
    unfold fracSplit
    split
    · rename_i r h
      exact absurd rfl (hR '.' (congrArg List.head? h)).2
    · rfl
  · exact ⟨by simp only [List.cons_append, fracSplit, takeWhile_append_stop hfp hnd, dropWhile_append_stop hfp hnd],
      head_cons isDig_dot⟩

theorem expoStage_plain {neg : Bool} {ip fp s4 : Str} (h : ∀ c, s4.head? = some c → ¬(c = 'e' ∨ c = 'E')) :
    expoStage neg ip fp s4 = some (⟨neg, ip, fp, false, []⟩, s4) := by
  cases s4 with
  | nil => rfl
  | cons c r =>
    have hc : (c == 'e' || c == 'E') = false := by simpa using h c rfl
    simp only [expoStage, hc, Bool.false_eq_true, if_false]

theorem expoStage_marker {neg eneg : Bool} {ip fp r r2 ex rest : Str} {e : Char} (he : e = 'e' ∨ e = 'E')
    (h1 : signSplit r = (eneg, r2)) (h2 : r2.takeWhile isDig = ex) (h3 : r2.dropWhile isDig = rest) :
    expoStage neg ip fp (e :: r) = if ex = [] then none else some (⟨neg, ip, fp, eneg, ex⟩, rest) := by
  have hm : (e == 'e' || e == 'E') = true := by rcases he with rfl | rfl <;> rfl
  simp only [expoStage, hm, if_true, h1, h2, h3]

theorem decide_eq_of_iff {b : Bool} {p : Prop} [Decidable p] (h : b = true ↔ p) : b = decide p := by
  simp [← h]

theorem expoStage_sound {neg : Bool} {ip fp s4 rest : Str} {f : FloatLex}
    (h : expoStage neg ip fp s4 = some (f, rest)) :
    ∃ expo eneg ex, f = ⟨neg, ip, fp, eneg, ex⟩ ∧ s4 = expo ++ rest ∧ ExpoOf expo eneg ex := by
  revert h
  fun_cases expoStage neg ip fp s4 with
  | case1 => nofun
  | case2 e r hm ex hex =>
    rintro ⟨⟩
    obtain ⟨esign, hes, hr, hneg⟩ := signSplit_spec r
    obtain ⟨hd, _, hr2⟩ := digs_split (signSplit r).2
    refine ⟨e :: (esign ++ ex), _, _, rfl, ?_,
      Or.inr ⟨e, esign, rfl, by simpa using hm, hes, decide_eq_of_iff hneg, hex, hd⟩⟩
    rw [List.cons_append, List.append_assoc, ← hr2, ← hr]
  | case3 | case4 =>
    rintro ⟨⟩
    exact ⟨[], _, _, rfl, rfl, Or.inl ⟨rfl, rfl, rfl⟩⟩

theorem expoStage_body {neg eneg : Bool} {ip fp expo ex post : Str} (hexpo : ExpoOf expo eneg ex) (hpost : AllSpace post) :
    expoStage neg ip fp (expo ++ post) = some (⟨neg, ip, fp, eneg, ex⟩, post) ∧
      ∀ c, (expo ++ post).head? = some c → isDig c = false ∧ c ≠ '.' := by
  rcases hexpo with ⟨rfl, rfl, rfl⟩ | ⟨e, esign, rfl, he, hes, rfl, hex, hexd⟩
  · exact ⟨expoStage_plain (head_of_allSpace hpost fun c hc =>
        not_or.mpr ⟨ne_of_isSpaceC (by decide) hc, ne_of_isSpaceC (by decide) hc⟩),
      head_of_allSpace hpost fun c hc => ⟨isDig_of_isSpaceC hc, ne_of_isSpaceC (by decide) hc⟩⟩
  · have hnd := noDigHead_of_allSpace hpost
    refine ⟨?_, ?_⟩
    · rw [List.cons_append, List.append_assoc, expoStage_marker he
        (signSplit_sign_body hes fun c hc => not_sign_of_isDig (head_digs hex hexd c hc))
        (takeWhile_append_stop hexd hnd) (dropWhile_append_stop hexd hnd), if_neg hex]
    · rcases he with rfl | rfl <;> exact head_cons (by decide)

/-- completeness of the lexer: on blanks, a floating literal, blanks it reports the literal's pieces and leaves
    the trailing blanks -/
theorem extractFloatLex_complete (pre lit post : Str) (f : FloatLex) (hpre : AllSpace pre) (hpost : AllSpace post)
    (hl : LexOf lit f) : extractFloatLex (pre ++ lit ++ post) = some (f, post) := by
  obtain ⟨sign, frac, expo, rfl, hsign, hneg, hip, hfp, hfrac, hne, hexpo⟩ := hl
  obtain ⟨hE, hEhd⟩ := expoStage_body (neg := f.neg) (ip := f.ip) (fp := f.fp) hexpo hpost
  obtain ⟨hF, hFnd⟩ := fracSplit_body hfrac hfp hEhd
  -- the mantissa starts with a digit or with the point
  have hT : ∀ c, (f.ip ++ (frac ++ (expo ++ post))).head? = some c → (c ≠ '-' ∧ c ≠ '+') ∧ isSpaceC c = false := by
    cases hi : f.ip with
    | cons d ds =>
      have hd : isDig d = true := hip d (hi ▸ List.mem_cons_self)
      exact head_cons ⟨not_sign_of_isDig hd, isSpaceC_of_isDig hd⟩
    | nil =>
      rcases hfrac with ⟨_, h⟩ | rfl
      · exact absurd h (hne.resolve_left (not_not_intro hi))
      · exact head_cons (by decide)
  simp only [List.append_assoc]
  exact (extractFloatLex_of_stages (skipWs_body hpre (head_sign_not_space hsign fun c hc => (hT c hc).2))
    (signSplit_sign_body hsign fun c hc => (hT c hc).1) (takeWhile_append_stop hip hFnd)
    (dropWhile_append_stop hip hFnd) hF).mpr ⟨hne, hneg ▸ hE⟩

/-- soundness of the lexer with the pieces: what it reports are the pieces of the literal it consumed -/
theorem extractFloatLex_sound (s : Str) (f : FloatLex) (rest : Str) (h : extractFloatLex s = some (f, rest)) :
    ∃ pre t, s = pre ++ t ++ rest ∧ AllSpace pre ∧ LexOf t f := by
  obtain ⟨pre, hpre, hs, _⟩ := skipWs_split s
  obtain ⟨sign, hsign, hs1, hneg⟩ := signSplit_spec (skipWs s)
  obtain ⟨hdig, _, hs2⟩ := digs_split (signSplit (skipWs s)).2
  rcases hF : fracSplit ((signSplit (skipWs s)).2.dropWhile isDig) with ⟨fp, s4⟩
  obtain ⟨frac, hs3, hfp, hfrac⟩ := fracSplit_spec hF
  obtain ⟨hne, hx⟩ := (extractFloatLex_of_stages (s2 := (signSplit (skipWs s)).2) rfl rfl rfl rfl hF).mp h
  obtain ⟨expo, eneg, ex, rfl, hs4, hexpo⟩ := expoStage_sound hx
  refine ⟨pre, _, ?_, hpre, sign, frac, expo, rfl, hsign, decide_eq_of_iff hneg, hdig, hfp, hfrac, hne, hexpo⟩
  simp only [List.append_assoc]
  rw [← hs4, ← hs3, ← hs2, ← hs1]
  exact hs

theorem extractBin_eq_some (b : BinFmt) (s : Str) (v : Nat) (rest : Str) :
    extractBin b s = some (v, rest) ↔ ∃ f, extractFloatLex s = some (f, rest) ∧ f.evalB b = some v := by
  constructor
  · fun_cases extractBin b s with
    | case1 => nofun
    | case2 => nofun
    | case3 f r hx w hv =>
      rintro ⟨⟩
      exact ⟨f, hx, hv⟩
  · rintro ⟨f, hx, hv⟩
    simp only [extractBin, hx, hv]

/-- acceptance of floating text, both directions: `Parser<double|float>` (any binary format `b` of the model)
    accepts exactly blanks, one floating literal, blanks whose pieces evaluate (`evalB`: exact decimal value rounded
    to nearest-even, overflow = failure) to a finite number, and returns that evaluation -/
theorem parseBin_iff (b : BinFmt) (s : Str) (v : Nat) :
    parseScalar (extractBin b) s = some v ↔
      ∃ pre lit post f, s = pre ++ lit ++ post ∧ AllSpace pre ∧ AllSpace post ∧ LexOf lit f ∧ f.evalB b = some v := by
  rw [parseScalar_eq_some]
  constructor
  · rintro ⟨rest, h1, hrest⟩
    obtain ⟨f, hl, hv⟩ := (extractBin_eq_some b s v rest).mp h1
    obtain ⟨pre, t, hs, hpre, ht⟩ := extractFloatLex_sound s f rest hl
    exact ⟨pre, t, rest, f, hs, hpre, hrest, ht, hv⟩
  · rintro ⟨pre, lit, post, f, rfl, hpre, hpost, hl, hv⟩
    exact ⟨post, (extractBin_eq_some b _ v post).mpr ⟨f, extractFloatLex_complete pre lit post f hpre hpost hl, hv⟩, hpost⟩

theorem parseBin_syntax (b : BinFmt) (s : Str) (v : Nat) (h : parseScalar (extractBin b) s = some v) :
    ∃ pre t post, s = pre ++ t ++ post ∧ AllSpace pre ∧ AllSpace post ∧ FloatLit t := by
  obtain ⟨pre, lit, post, f, hs, hpre, hpost, hl, _⟩ := (parseBin_iff b s v).mp h
  exact ⟨pre, lit, post, hs, hpre, hpost, hl.floatLit⟩

theorem extracts_bin_syntax (b : BinFmt) {s : Str} {vs : List Nat} (h : Extracts (extractBin b) s vs) :
    ∃ (pieces : List Str) (post : Str), pieces.length = vs.length ∧ AllSpace post ∧ s = pieces.flatten ++ post ∧
      ∀ p ∈ pieces, ∃ pre t, p = pre ++ t ∧ AllSpace pre ∧ FloatLit t := by
  induction h with
  | nil h => exact ⟨[], _, rfl, h, rfl, by simp⟩
  | cons h1 _ ih =>
    obtain ⟨pieces, post, hl, hpost, rfl, hp⟩ := ih
    obtain ⟨f, hx, _⟩ := (extractBin_eq_some b _ _ _).mp h1
    obtain ⟨pre, t, rfl, hpre, ht⟩ := extractFloatLex_sound _ f _ hx
    exact ⟨(pre ++ t) :: pieces, post, by simp [hl], hpost, by simp [List.append_assoc],
      List.forall_mem_cons.mpr ⟨⟨pre, t, rfl, hpre, ht.floatLit⟩, hp⟩⟩

/-- fixed-size ranges of floating values: `n` literals (blanks optional between adjacent ones only where the
    lexer can separate them), then only blanks — stated as: every extraction consumed blanks + one literal -/
theorem parseRange_bin_syntax (b : BinFmt) (n : Nat) (s : Str) (vs : List Nat)
    (h : parseRange (extractBin b) n s = some vs) :
    ∃ (pieces : List Str) (post : Str), pieces.length = n ∧ AllSpace post ∧ s = pieces.flatten ++ post ∧
      ∀ p ∈ pieces, ∃ pre t, p = pre ++ t ∧ AllSpace pre ∧ FloatLit t := by
  obtain ⟨hl, he⟩ := (parseRange_iff _ _ _ _).mp h
  exact hl ▸ extracts_bin_syntax b he

end DV.C12
