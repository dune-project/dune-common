/-
C10: the arithmetic operators as maps of residues modulo W; operation histories (`Model/C10Prog.lean`) refine the
machine over natural numbers modulo W.  Core Lean only.
-/
import DuneVerif.Proofs.C10Bit
import DuneVerif.Proofs.C10Shift
import DuneVerif.Proofs.C10Mul
import DuneVerif.Proofs.C10Div
import DuneVerif.Proofs.C10Conv

namespace DV.C10
open DV.C10.Gen

/-! ### the arithmetic operators act on residues

`+`, `-`, `*` map representatives to representatives (and so does the conversion of a built-in, `Rep.assign`), so an
identity between operator expressions follows from the congruence of the numbers they stand for (`Rep.ext`).
They are proved from `add_rep`, `sub_rep`, `mul_rep`, whose operands are well-formed values standing for themselves. -/

section Rep
variable {n k s t : Nat} {a b : List Nat}

theorem Rep.add (ha : Rep n a s) (hb : Rep n b t) : Rep n (add a b) (s + t) :=
  ⟨(add_rep ha.1 hb.1).1, by rw [(add_rep ha.1 hb.1).2, ha.2, hb.2, ← Nat.add_mod]⟩

theorem Rep.sub (ha : Rep n a s) (hb : Rep n b t) : Rep n (sub a b) (s + (W n - t % W n)) :=
  ⟨(sub_rep ha.1 hb.1).1, by
    rw [(sub_rep ha.1 hb.1).2, ha.2, hb.2, Nat.add_sub_assoc (Nat.le_of_lt (Nat.mod_lt t (W_pos n))), Nat.mod_add_mod]⟩

theorem Rep.mul (ha : Rep (ndigits k) a s) (hb : Rep (ndigits k) b t) : Rep (ndigits k) (mul k a b) (s * t) :=
  ⟨(mul_rep ha.1 hb.1).1, by rw [(mul_rep ha.1 hb.1).2, ha.2, hb.2, ← Nat.mul_mod]⟩

end Rep

/-- both variables hold well-formed `n`-digit values -/
def WfRegs (n : Nat) (r : Regs) : Prop := Wf n r.a ∧ Wf n r.b

instance (n : Nat) (r : Regs) : Decidable (WfRegs n r) := by unfold WfRegs; exact inferInstance

theorem WfRegs.get {n : Nat} {r : Regs} (h : WfRegs n r) (d : Reg) : Wf n (r.get d) := by
  cases d
  · exact h.1
  · exact h.2

theorem WfRegs.set {n : Nat} {r : Regs} (h : WfRegs n r) (d : Reg) {v : List Nat} (hv : Wf n v) :
    WfRegs n (r.set d v) := by
  cases d
  · exact ⟨hv, h.2⟩
  · exact ⟨h.1, hv⟩

theorem abs_get (r : Regs) (d : Reg) : r.abs.get d = val (r.get d) := by cases d <;> rfl

theorem abs_set (r : Regs) (d : Reg) (v : List Nat) : (r.set d v).abs = r.abs.set d (val v) := by
  cases d <;> rfl

def ResOk (n : Nat) (res : Res) (spec : Option Nat) : Prop :=
  res.abs = spec ∧ ∀ v, res = .ok v → Wf n v

theorem resOk_ok {n : Nat} {v : List Nat} {s : Nat} (h : Wf n v ∧ val v = s) : ResOk n (.ok v) (some s) :=
  ⟨congrArg some h.2, fun w hw => by cases hw; exact h.1⟩

theorem resOk_err {n : Nat} : ResOk n .mathError none := ⟨rfl, fun _ h => nomatch h⟩

theorem divmod_resOk {n : Nat} {a x : List Nat} (ha : Wf n a) (hx : Wf n x) :
    ResOk n (div a x) (if val x = 0 then none else some (val a / val x)) ∧
    ResOk n (mod a x) (if val x = 0 then none else some (val a % val x)) := by
  by_cases h : val x = 0
  · rw [(divmod_zero a hx h).1, (divmod_zero a hx h).2, if_pos h, if_pos h]
    exact ⟨resOk_err, resOk_err⟩
  · obtain ⟨q, r, hq, hr, hwq, hwr, hvq, hvr⟩ := divmod_spec ha hx h
    rw [hq, hr, if_neg h, if_neg h]
    exact ⟨resOk_ok ⟨hwq, hvq⟩, resOk_ok ⟨hwr, hvr⟩⟩

theorem applyBin_spec {k : Nat} (o : BinOp) {a x : List Nat} (ha : Wf (ndigits k) a) (hx : Wf (ndigits k) x) :
    ResOk (ndigits k) (applyBin k o a x) (specBin (W (ndigits k)) o (val a) (val x)) := by
  cases o
  · exact resOk_ok (add_rep ha hx)
  · exact resOk_ok (sub_rep ha hx)
  · exact resOk_ok (mul_rep ha hx)
  · exact (divmod_resOk ha hx).1
  · exact (divmod_resOk ha hx).2
  · exact resOk_ok (band_spec ha hx)
  · exact resOk_ok (bor_spec ha hx)
  · exact resOk_ok (bxor_spec ha hx)

/-- the outcome `m` of a model step refines the outcome `s` of the specification step: they agree after
    abstraction (in particular both reject or neither does), and the variables stay well-formed -/
def Refines {ω ω' : Type} (n : Nat) (absO : ω → ω') (m : Option (Regs × ω)) (s : Option (SRegs × ω')) : Prop :=
  m.map (fun p => (p.1.abs, absO p.2)) = s ∧ ∀ r' o, m = some (r', o) → WfRegs n r'

theorem refines_none {ω ω' : Type} {n : Nat} {absO : ω → ω'} : Refines n absO none none :=
  ⟨rfl, fun _ _ h => nomatch h⟩

theorem refines_some {ω ω' : Type} {n : Nat} {absO : ω → ω'} {r : Regs} (hr : WfRegs n r) (o : ω) :
    Refines n absO (some (r, o)) (some (r.abs, absO o)) :=
  ⟨rfl, fun _ _ h => by cases h; exact hr⟩

theorem refines_commit {n : Nat} {r : Regs} (hr : WfRegs n r) (d : Reg) {res : Res} {spec : Option Nat}
    (h : ResOk n res spec) : Refines n Res.abs (some (commit r d res)) (some (scommit r.abs d spec)) := by
  obtain ⟨rfl, h2⟩ := h
  cases res with
  | ok v =>
    show Refines n Res.abs (some (r.set d v, .ok v)) (some (r.abs.set d (val v), Res.abs (.ok v)))
    rw [← abs_set]
    exact refines_some (hr.set d (h2 v rfl)) _
  | mathError => exact refines_some hr _

theorem step_refines {k : Nat} {r : Regs} (hr : WfRegs (ndigits k) r) (op : POp) :
    Refines (ndigits k) Res.abs (step k r op) (specStep (ndigits k) r.abs op) := by
  unfold step specStep
  by_cases hv : op.valid (ndigits k) = true
  · simp only [hv, Bool.not_true, Bool.false_eq_true, if_false, abs_get, ← W_eq]
    cases op with
    | bin o d s => exact refines_commit hr d (applyBin_spec o (hr.get d) (hr.get s))
    | binU o d y =>
      have h := applyBin_spec (k := k) o (hr.get d) (assign_wf' (ndigits k) y)
      rw [assign_val' _ (of_decide_eq_true hv)] at h
      exact refines_commit hr d h
    | incr d => exact refines_commit hr d (resOk_ok (incr_rep (hr.get d)))
    | bnot d => exact refines_commit hr d (resOk_ok (bnot_spec (hr.get d)))
    | shl d s => exact refines_commit hr d (resOk_ok (shl_spec (hr.get d) (of_decide_eq_true hv)))
    | shr d s => exact refines_commit hr d (resOk_ok (shr_spec (hr.get d) s))
    | copy d s => exact refines_commit hr d (resOk_ok ⟨hr.get s, rfl⟩)
  · simp only [hv, Bool.not_false, if_true]
    exact refines_none

end DV.C10
