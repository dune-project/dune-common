/-
C10: `operator<<` and `operator>>` (whole digits, then the bit remainder).  Core Lean only.
-/
import DuneVerif.Proofs.C10Mul

namespace DV.C10
open DV.C10.Gen

theorem B_split {j : Nat} (hj : j ≤ bits) : B = 2 ^ j * 2 ^ (bits - j) := by
  rw [B_def, ← Nat.pow_add, Nat.add_sub_cancel' hj]

theorem pow_shift (s : Nat) : W (s / bits) * 2 ^ (s % bits) = 2 ^ s := by
  rw [W_eq, ← Nat.pow_add, Nat.div_add_mod]

theorem shl_carry_lt {d : Nat} (hd : d < B) (j : Nat) : (d <<< j) >>> bits < 2 ^ j := by
  rw [Nat.shiftLeft_eq, shr_bits]
  exact Nat.div_lt_of_lt_mul (Nat.mul_lt_mul_of_lt_of_le hd (Nat.le_refl _) (Nat.two_pow_pos j))

/-- the bit pass of `<<` is the row loop of `*=` with the factor `2^j` -/
theorem shlBits_eq_mul {j : Nat} (hj : j ≤ bits) : ∀ (l : List Nat) (cin : Nat), Digs l → cin < 2 ^ j →
    shlBits j l cin = mulDigitLoop l (2 ^ j) cin
  | [], _, _, _ => rfl
  | d :: ds, cin, hl, hc => by
    have hB : 2 ^ j ≤ B := Nat.pow_le_pow_right Nat.zero_lt_two hj
    have hcB := Nat.lt_of_lt_of_le hc hB
    have h := shl_carry_lt (digs_cons.1 hl).1 j
    simp only [shlBits, mulDigitLoop]
    -- adding a carry below `2^j` to `d <<< j` is an OR, and mask and shift distribute over it
    rw [← Nat.shiftLeft_eq, Nat.shiftLeft_add_eq_or_of_lt hc, Nat.and_or_distrib_right, Nat.shiftRight_or_distrib,
      and_bitmask cin, Nat.mod_eq_of_lt hcB, Nat.shiftRight_eq_zero cin bits hcB, Nat.or_zero,
      and_bitmask (_ >>> bits), Nat.mod_eq_of_lt (Nat.lt_of_lt_of_le h hB), shlBits_eq_mul hj ds _ (digs_cons.1 hl).2 h]

theorem shlBits_rep {j : Nat} (hj : j ≤ bits) {l : List Nat} (hl : Digs l) :
    Rep l.length (shlBits j l 0) (val l * 2 ^ j) := by
  rw [shlBits_eq_mul hj l 0 hl (Nat.two_pow_pos j)]
  exact mulDigitLoop_rep l (2 ^ j) 0 hl (Nat.pow_le_pow_right Nat.zero_lt_two hj) B_pos

/-- first pass: `q` whole digits up -/
theorem shl_moved {n : Nat} {a : List Nat} (ha : Wf n a) {q : Nat} (hq : q ≤ n) :
    Wf n (zeros q ++ a.take (n - q)) ∧ val (zeros q ++ a.take (n - q)) = val a * W q % W n := by
  have hn : W n = W q * W (n - q) := by rw [← W_add, Nat.add_sub_cancel' hq]
  refine ⟨⟨?_, digs_append.2 ⟨digs_zeros _, digs_take ha.2 _⟩⟩, ?_⟩
  · rw [List.length_append, List.length_take, ha.1, zeros, List.length_replicate,
      Nat.min_eq_left (Nat.sub_le n q), Nat.add_sub_cancel' hq]
  · rw [val_append, val_zeros, Nat.zero_add, val_take ha.2, zeros, List.length_replicate, hn, Nat.mul_comm (val a),
      Nat.mul_mod_mul_left]

theorem shl_spec {n : Nat} {a : List Nat} (ha : Wf n a) {s : Nat} (hs : s < bits * n) :
    Wf n (shl a s) ∧ val (shl a s) = (val a * 2 ^ s) % W n := by
  have hq : s / bits ≤ n := Nat.le_of_lt (Nat.div_lt_of_lt_mul hs)
  obtain ⟨hm, hv⟩ := shl_moved ha hq
  have h := shlBits_rep (Nat.le_of_lt (Nat.mod_lt s bits_pos)) hm.2
  rw [hm.1, Rep, hv, Nat.mod_mul_mod, Nat.mul_assoc, pow_shift] at h
  simp only [shl, ha.1, Nat.min_eq_left hq]
  exact h

/-- the carry out of one digit of the `<<` pass fits a digit, so the mask `compbitmask` of `>>` loses nothing of it -/
theorem shl_carry_keep {j d : Nat} (hj : j ≤ bits) (hd : d < B) :
    ((d <<< j) &&& compbitmask) >>> bits = (d <<< j) >>> bits :=
  and_compbitmask_shr (Nat.lt_of_lt_of_le (shl_carry_lt hd j) (Nat.pow_le_pow_right Nat.zero_lt_two hj))

/-- `temp = r_i << (bits - j)` sends its high half to `r_i` and its low half to `r_{i-1}`: the bit pass of `>>` by `j` is
    the bit pass of `<<` by `bits - j` over one more (zero) digit, without the lowest digit it writes -/
theorem shrBits_eq_tail (j : Nat) : ∀ (l : List Nat) (cin : Nat), Digs l →
    shrBits j l = (shlBits (bits - j) (l ++ [0]) cin).tail
  | [], _, _ => rfl
  | [d], _, hl => by
    simp only [shlBits, shrBits, List.cons_append, List.nil_append, List.tail_cons,
      shl_carry_keep (Nat.sub_le bits j) (digs_cons.1 hl).1, Nat.zero_shiftLeft, Nat.zero_and, Nat.zero_or, Nat.or_zero]
  | d :: e :: es, _, hl => by
    rw [shrBits, shrBits_eq_tail j (e :: es) ((d <<< (bits - j)) >>> bits) (digs_cons.1 hl).2,
      shl_carry_keep (Nat.sub_le bits j) (digs_cons.1 hl).1, Nat.or_comm]
    rfl

theorem shrBits_spec {j : Nat} (hj : j ≤ bits) {l : List Nat} (hl : Digs l) :
    Wf l.length (shrBits j l) ∧ val (shrBits j l) = val l / 2 ^ j := by
  obtain ⟨hw, hv⟩ := shlBits_rep (Nat.sub_le bits j) (digs_append.2 ⟨hl, digs_cons.2 ⟨B_pos, digs_nil⟩⟩)
  rw [shrBits_eq_tail j l 0 hl, ← List.drop_one]
  refine ⟨⟨?_, digs_drop hw.2 1⟩, ?_⟩
  · rw [List.length_drop, hw.1, List.length_append]
    rfl
  · rw [val_drop hw.2, hv, val_append, val_cons, val_nil, Nat.mul_zero, Nat.add_zero, Nat.mul_zero, Nat.add_zero,
      List.length_append, List.length_singleton, W_succ, W_succ, W_zero, Nat.mul_one]
    -- dropping the low digit of a value taken modulo `B * W n` leaves the quotient modulo `W n`, and that is below `W n`
    rw [Nat.mod_mul_right_div_self, B_split hj, Nat.mul_div_mul_right _ _ (Nat.two_pow_pos _),
      Nat.mod_eq_of_lt (Nat.lt_of_le_of_lt (Nat.div_le_self _ _) (val_lt_of_digs hl))]

theorem shr_spec {n : Nat} {a : List Nat} (ha : Wf n a) (s : Nat) :
    Wf n (shr a s) ∧ val (shr a s) = val a / 2 ^ s := by
  have hlen : (a.drop (s / bits) ++ zeros (min (s / bits) n)).length = n := by
    rw [List.length_append, List.length_drop, ha.1, zeros, List.length_replicate, Nat.min_comm,
      Nat.sub_add_min_cancel]
  obtain ⟨h1, h2⟩ := shrBits_spec (Nat.le_of_lt (Nat.mod_lt s bits_pos))
    (digs_append.2 ⟨digs_drop ha.2 _, digs_zeros (min (s / bits) n)⟩)
  rw [hlen] at h1
  simp only [shr, ha.1]
  refine ⟨h1, ?_⟩
  rw [h2, val_append, val_zeros, Nat.mul_zero, Nat.add_zero, val_drop ha.2, Nat.div_div_eq_div_mul, pow_shift]

end DV.C10
