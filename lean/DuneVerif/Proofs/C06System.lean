import DuneVerif.Model.C06
/-! C06: `setupInterfaceTrackers` and the lookup of the peer's trackers in `receiveFrom`. -/
namespace DV.C06
variable {α : Type}

theorem length_setupTrackersLoop (h : Handle α) (fwd : Bool) (es : List IfaceEntry) :
    ∀ fs, (setupTrackersLoop h fwd es fs).length = es.length := by
  induction es with
  | nil => exact fun _ => rfl
  | cons _ _ ih => exact fun _ => congrArg (· + 1) (ih _)

/-- The invariant of the loop for a fixed-size handle: the carried `fixedsize` is the initial 1 until the first
    neighbour with a non-empty send list, and `f` from there on. -/
theorem setupTrackersLoop_fixedSize (h : Handle α) (fwd : Bool) (f : Nat) (hx : h.fixed = true)
    (es : List IfaceEntry) (hfix : ∀ x ∈ es, ∀ i ∈ x.send fwd, h.size i = f) :
    ∀ fs, fs = 1 ∨ fs = f → ∀ tx ∈ (setupTrackersLoop h fwd es fs).zip es,
      (tx.1.1.fixedSize = 1 ∨ tx.1.1.fixedSize = f) ∧ (tx.2.send fwd ≠ [] → tx.1.1.fixedSize = f) := by
  induction es with
  | nil => exact fun _ _ _ htx => nomatch htx
  | cons x es ih =>
    intro fs hfs
    replace ih := ih fun y hy => hfix y (List.mem_cons_of_mem x hy)
    rw [setupTrackersLoop, List.zip_cons_cons, List.forall_mem_cons, if_pos hx]
    cases hs : x.send fwd with
    | nil => exact ⟨⟨hfs, fun hne => absurd rfl hne⟩, ih fs hfs⟩
    | cons i is =>
      have hi : h.size i = f := hfix x List.mem_cons_self i (hs ▸ List.mem_cons_self)
      exact ⟨⟨Or.inr hi, fun _ => hi⟩, ih _ (Or.inr hi)⟩

theorem find_peer_trackers (h : Handle α) (fwd : Bool) (q f : Nat) (pe : IfaceEntry) :
    ∀ (es : List IfaceEntry) (fs : Nat), (h.fixed = true → ∀ x ∈ es, ∀ i ∈ x.send fwd, h.size i = f) →
      pe ∈ es → (∀ x ∈ es, x.rank = q → x = pe) → pe.rank = q →
      (h.fixed = true → fs = 1 ∨ fs = f) →
      ∃ ts : Tracker × Tracker,
        ((setupTrackersLoop h fwd es fs).zip es).find? (fun x => x.2.rank == q) = some (ts, pe) ∧
        (h.fixed = true → (ts.1.fixedSize = 1 ∨ ts.1.fixedSize = f) ∧ (pe.send fwd ≠ [] → ts.1.fixedSize = f)) := by
  intro es fs hfix hmem huniq hrank hfs
  rw [← List.map_snd_zip (Nat.le_of_eq (length_setupTrackersLoop h fwd es fs).symm)] at hmem
  obtain ⟨tx, htx, hpe⟩ := List.mem_map.1 hmem
  cases hfd : ((setupTrackersLoop h fwd es fs).zip es).find? (fun x => x.2.rank == q) with
  | none => exact absurd (beq_iff_eq.2 (hpe ▸ hrank)) (List.find?_eq_none.1 hfd tx htx)
  | some ty =>
    obtain ⟨ts, y⟩ := ty
    have hty := List.mem_of_find?_eq_some hfd
    have hq := List.find?_some hfd
    obtain rfl : y = pe := huniq y (List.of_mem_zip hty).2 (eq_of_beq hq)
    exact ⟨ts, rfl, fun hx => setupTrackersLoop_fixedSize h fwd f hx es (hfix hx) fs (hfs hx) _ hty⟩

end DV.C06
