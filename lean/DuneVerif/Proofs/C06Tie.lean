import DuneVerif.Gen.C06
import DuneVerif.Proofs.C06Basic
/-!
C06 — the generated source view (`Gen/C06.lean`, regenerated from variablesizecommunicator.hh on every run) computes the
same as the hand-written model functions the delivery / termination theorems are about.

Every generated expression has a *specification lemma* (what the condition / bound / body means on the zipper
representation; proved by `simp`/`omega`, hence insensitive to commuted operands or renamed locals in the source);
the structural proofs (loops against the model's fuelled recursions) use the specification lemmas only.
-/
-- the `simp` lists below name more accessors than the source as it is needs, so that an accessor spelt through another one
-- still unfolds
set_option linter.unusedSimpArgs false
namespace DV.C06
variable {α : Type}

theorem gen_hasSpace (b : MessageBuffer α) (n : Nat) :
    Gen.hasSpaceForItems b.position b.size n = b.hasSpaceForItems n := by
  unfold Gen.hasSpaceForItems MessageBuffer.hasSpaceForItems
  apply Bool.eq_iff_iff.mpr; simp <;> omega

theorem gen_resetPosition : Gen.resetPosition = 0 := by
  unfold Gen.resetPosition; first | rfl | omega | simp

theorem gen_ctorBuffer : ∀ B p, B ≤ (Gen.ctorBuffer B p).1 ∧ (Gen.ctorBuffer B p).2.1 = B ∧ (Gen.ctorBuffer B p).2.2 = 0 := by
  intro B p; unfold Gen.ctorBuffer; refine ⟨?_, ?_, ?_⟩ <;> first | rfl | (simp; done) | omega | (simp; omega)

theorem gen_copyBuffer : ∀ B p, B ≤ (Gen.copyBuffer B p).1 ∧ (Gen.copyBuffer B p).2.1 = B ∧ (Gen.copyBuffer B p).2.2 = p := by
  intro B p; unfold Gen.copyBuffer; refine ⟨?_, ?_, ?_⟩ <;> first | rfl | (simp; done) | omega | (simp; omega)

theorem gen_finished (t : Tracker) : Gen.trackerFinished t.index t.ifaceSize = t.finished := by
  have : t.iface.isEmpty = decide (t.iface.length = 0) := by cases t.iface <;> simp
  simp only [Gen.trackerFinished, Gen.trackerEmpty, Gen.indicesLeft, Gen.trackerOffset, Tracker.ifaceSize, Tracker.finished]
  rw [this]; apply Bool.eq_iff_iff.mpr; simp <;> omega

theorem finished_cons (t : Tracker) (i : Nat) (is : List Nat) (h : t.iface = i :: is) : t.finished = false := by
  unfold Tracker.finished; simp [h]

theorem gen_finished_cons (t : Tracker) (i : Nat) (is : List Nat) (h : t.iface = i :: is) :
    Gen.trackerFinished t.index t.ifaceSize = false := by
  rw [gen_finished, finished_cons t i is h]

theorem gen_empty (t : Tracker) : Gen.trackerEmpty t.ifaceSize = (t.index == 0 && t.iface.isEmpty) := by
  have : t.iface.isEmpty = decide (t.iface.length = 0) := by cases t.iface <;> simp
  simp only [Gen.trackerFinished, Gen.trackerEmpty, Gen.indicesLeft, Gen.trackerOffset, Tracker.ifaceSize]
  rw [this, Bool.eq_iff_iff]; first | (simp; done) | (simp; omega)

theorem gen_indicesLeft (t : Tracker) : Gen.indicesLeft t.index t.ifaceSize = t.indicesLeft := by
  (simp only [Gen.trackerFinished, Gen.trackerEmpty, Gen.indicesLeft, Gen.trackerOffset, Tracker.ifaceSize, Tracker.indicesLeft]) <;>
  first | omega | (simp; done) | (simp; omega)

theorem gen_offset (t : Tracker) : Gen.trackerOffset t.index = t.offset := by
  (simp only [Gen.trackerFinished, Gen.trackerEmpty, Gen.indicesLeft, Gen.trackerOffset, Tracker.offset]) <;> first | rfl | omega | simp

theorem gen_skipStep : Gen.skipStep = 1 := by
  unfold Gen.skipStep; first | rfl | omega | simp

theorem gen_skipCond_nosizes (k n s : Nat) : Gen.skipCond 0 k n s = false := by
  simp [Gen.skipCond]

theorem gen_skipCond_run (z k n s : Nat) (hz : z ≠ 0) (hk : k ≠ n) : Gen.skipCond z k n s = decide (s = 0) := by
  simp [Gen.skipCond, hz, hk, Ne.symm hk]

/-- the model's `skipZeroIndices` satisfies the one-step equation of the generated loop -/
theorem skipZeroIndices_step (t : Tracker) :
    t.skipZeroIndices =
      if t.okSkip && Gen.skipCond t.sizesSize t.index t.ifaceSize t.sizeHere then
        (t.increment Gen.skipStep).skipZeroIndices
      else t := by
  obtain ⟨r, k, is, hs, ss, f⟩ := t
  cases hs with
  | false => simp [Tracker.skipZeroIndices, Tracker.sizesSize, gen_skipCond_nosizes]
  | true =>
    match is, ss with
    | i :: is, s :: ss =>
      rw [gen_skipCond_run _ _ _ _ (by simp [Tracker.sizesSize]) (by simp [Tracker.ifaceSize]), gen_skipStep]
      cases s <;> rfl
    | [], _ | _ :: _, [] => rfl

theorem loopG_skip : ∀ (n : Nat) (t : Tracker), t.iface.length ≤ n →
    loopG Tracker.okSkip (fun t => Gen.skipCond t.sizesSize t.index t.ifaceSize t.sizeHere)
      (fun t => Tracker.increment t Gen.skipStep) n t = t.skipZeroIndices := by
  intro n
  induction n with
  | zero =>
    intro t ht
    rw [skipZeroIndices_step, Tracker.okSkip, List.eq_nil_of_length_eq_zero (Nat.le_zero.mp ht)]
    rfl
  | succ n ih =>
    intro t ht
    rw [loopG, skipZeroIndices_step t]
    split
    · exact ih _ (by simp [Tracker.increment, gen_skipStep]; omega)
    · rfl

theorem gen_skipZeroIndices (t : Tracker) : Gen.skipZeroIndices t = t.skipZeroIndices :=
  loopG_skip _ t (Nat.le_refl _)

theorem gen_increment (t : Tracker) (n : Nat) : Gen.increment t n = t.increment n := by
  simp [Gen.increment]

theorem gen_moveToNextIndex (t : Tracker) : Gen.moveToNextIndex t = t.moveToNextIndex := by
  simp [Gen.moveToNextIndex, gen_increment, gen_skipZeroIndices, Tracker.moveToNextIndex, Tracker.increment]

attribute [local simp] gen_finished gen_hasSpace gen_indicesLeft gen_increment gen_skipZeroIndices gen_moveToNextIndex

@[simp] theorem skipZeroIndices_fixedSize (t : Tracker) : t.skipZeroIndices.fixedSize = t.fixedSize := by
  unfold Tracker.skipZeroIndices; split <;> rfl

@[simp] theorem moveToNextIndex_fixedSize (t : Tracker) : t.moveToNextIndex.fixedSize = t.fixedSize := by
  unfold Tracker.moveToNextIndex; simp

theorem packFixedLoop_fixedSize (h : Handle α) : ∀ (n : Nat) (t : Tracker) (b : MessageBuffer α),
    (packFixedLoop h n t b).1.fixedSize = t.fixedSize := by
  intro n
  induction n with
  | zero => intro t b; rfl
  | succ n ih =>
    intro t b
    unfold packFixedLoop
    split
    · rfl
    · rw [ih]; simp

/-! ### loops

The translator emits every loop as `loopG ok cond body fuel state` with `cond` / `body` written as local lambdas over
the loop state (they may capture locals of the enclosing function).  `loopG_congr` replaces such a lambda by the
*canonical* condition / body below whenever the two agree on every state the loop can reach (invariant `I`: the
tracker's `fixedSize` is the one the function started with), so the structural proofs are about the canonical forms
only and any spelling of the source that computes the same state transformer is accepted. -/

theorem loopG_congr {σ : Type} (I : σ → Prop) (ok c c' : σ → Bool) (f f' : σ → σ)
    (hc : ∀ s, I s → ok s = true → c s = c' s)
    (hf : ∀ s, I s → ok s = true → c' s = true → f s = f' s)
    (hI : ∀ s, I s → ok s = true → c' s = true → I (f' s)) :
    ∀ (n : Nat) (s : σ), I s → loopG ok c f n s = loopG ok c' f' n s := by
  intro n
  induction n with
  | zero => intro s _; rfl
  | succ n ih =>
    intro s hs
    simp only [loopG]
    by_cases hok : ok s = true
    · have h1 := hc s hs hok
      by_cases hcs : c' s = true
      · have h2 := hf s hs hok hcs
        have h3 := hI s hs hok hcs
        simp only [hok, h1, hcs, Bool.and_self, if_true]
        rw [h2]; exact ih _ h3
      · simp [hok, h1, hcs]
    · simp [hok]

/-- a function that satisfies the two equations of `loopG` (read through `p`) is `loopG` -/
theorem loopG_eq {σ ρ : Type} (ok c : σ → Bool) (f : σ → σ) (p : σ → ρ) (G : Nat → σ → ρ)
    (h0 : ∀ s, G 0 s = p s) (hS : ∀ n s, G (n + 1) s = if ok s && c s then G n (f s) else p s) :
    ∀ n s, p (loopG ok c f n s) = G n s := by
  intro n
  induction n with
  | zero => intro s; exact (h0 s).symm
  | succ n ih =>
    intro s
    rw [loopG, hS]
    split
    · exact ih _
    · rfl

/-- the loop body of the fixed-size branch of `PackEntries` -/
def canPackBody1 (h : Handle α) (s : St α) : St α :=
  ⟨s.t.moveToNextIndex, s.b.write (h.data s.t.cur), s.acc, s.calls⟩
/-- `!tracker.finished() && buffer.hasSpaceForItems(handle.size(tracker.index()))` -/
def canPackCond2 (h : Handle α) (s : St α) : Bool := !s.t.finished && s.b.hasSpaceForItems (h.size s.t.cur)
def canPackBody2 (h : Handle α) (s : St α) : St α :=
  ⟨s.t.moveToNextIndex, s.b.write (h.data s.t.cur), s.acc + h.size s.t.cur, s.calls⟩
/-- the loop body of the fixed-size branch of `UnpackEntries` -/
def canUnpackBody1 (s : St α) : St α :=
  ⟨s.t.moveToNextIndex, (s.b.read s.t.fixedSize).2, s.acc,
   s.calls ++ [⟨s.t.cur, s.t.fixedSize, (s.b.read s.t.fixedSize).1⟩]⟩
def canUnpackCond2 (c : Nat) (s : St α) : Bool := decide (s.acc < c)
def canUnpackBody2 (s : St α) : St α :=
  ⟨s.t.moveToNextIndex, (s.b.read s.t.sizeHere).2, s.acc + s.t.sizeHere,
   s.calls ++ [⟨s.t.cur, s.t.sizeHere, (s.b.read s.t.sizeHere).1⟩]⟩
/-- `!tracker.finished() && !handle.size(tracker.index())` -/
def canSendCond1 (h : Handle α) (s : St α) : Bool := !s.t.finished && decide (h.size s.t.cur = 0)
def canSendBody1 (s : St α) : St α := ⟨s.t.moveToNextIndex, s.b, s.acc, s.calls⟩

attribute [local simp] canPackBody1 canPackCond2 canPackBody2 canUnpackBody1 canUnpackCond2 canUnpackBody2 canSendCond1
  canSendBody1

/-- side goals of `loopG_congr` at a state `s` with `hs : I s`: the generated condition / body is the canonical one, the
    canonical body keeps `I` -/
macro "src_step" : tactic =>
  `(tactic| (intro s hs; intros; simp [hs] <;>
             first | omega | (simp [Nat.add_comm]; done) | (cases s.t.finished <;> simp <;> omega)))

theorem loopG_packFixed (h : Handle α) : ∀ (n : Nat) (s : St α),
    loopG St.okIface (fun _ => true) (canPackBody1 h) n s =
      ⟨(packFixedLoop h n s.t s.b).1, (packFixedLoop h n s.t s.b).2, s.acc, s.calls⟩ :=
  loopG_eq _ _ _ id _ (fun _ => rfl) fun n s => by
    cases hi : s.t.iface <;> simp [packFixedLoop, St.okIface, Tracker.cur, hi]

theorem loopG_packVar (h : Handle α) : ∀ (fuel : Nat) (s : St α),
    loopG St.okIface (canPackCond2 h) (canPackBody2 h) fuel s =
      ⟨(packVarLoop h fuel s.t s.b s.acc).2.1, (packVarLoop h fuel s.t s.b s.acc).2.2,
       (packVarLoop h fuel s.t s.b s.acc).1, s.calls⟩ :=
  loopG_eq _ _ _ id _ (fun _ => rfl) fun n s => by
    cases hi : s.t.iface <;> simp [packVarLoop, St.okIface, Tracker.finished, Tracker.cur, hi]
    split <;> rfl

theorem gen_packEntries (h : Handle α) (t : Tracker) (b : MessageBuffer α) :
    Gen.packEntries h t b = packEntries h t b := by
  unfold Gen.packEntries packEntries
  by_cases hf : t.fixedSize = 0
  · simp [hf, -Prod.mk.injEq]
    rw [loopG_congr (fun s : St α => s.t.fixedSize = t.fixedSize) _ _ (canPackCond2 h) _ (canPackBody2 h)]
    · simp [hf, loopG_packVar, Tracker.indicesLeft]
    · src_step
    · src_step
    · src_step
    · simp
  · simp [hf, -Prod.mk.injEq]
    rw [loopG_congr (fun s : St α => s.t.fixedSize = t.fixedSize) _ _ (fun _ => true) _ (canPackBody1 h)]
    · simp [hf, loopG_packFixed, packFixedLoop_fixedSize]
    · intros; rfl
    · src_step
    · src_step
    · simp

theorem loopG_unpackFixed : ∀ (n : Nat) (s : St α),
    loopG St.okIface (fun _ => true) canUnpackBody1 n s =
      ⟨(unpackFixedLoop n s.t s.b s.calls).1, (unpackFixedLoop n s.t s.b s.calls).2.1, s.acc,
       (unpackFixedLoop n s.t s.b s.calls).2.2⟩ :=
  loopG_eq _ _ _ id _ (fun _ => rfl) fun n s => by
    cases hi : s.t.iface <;> simp [unpackFixedLoop, St.okIface, Tracker.cur, hi]

theorem loopG_unpackVar (c : Nat) : ∀ (fuel : Nat) (s : St α),
    ((loopG St.okSizes (canUnpackCond2 c) canUnpackBody2 fuel s).t,
     (loopG St.okSizes (canUnpackCond2 c) canUnpackBody2 fuel s).b,
     (loopG St.okSizes (canUnpackCond2 c) canUnpackBody2 fuel s).calls) =
      unpackVarLoop c fuel s.acc s.t s.b s.calls :=
  loopG_eq _ _ _ (fun s : St α => (s.t, s.b, s.calls)) _ (fun _ => rfl) fun n s => by
    cases hi : s.t.iface <;> cases hs : s.t.sizes <;>
      simp [unpackVarLoop, St.okSizes, Tracker.cur, Tracker.sizeHere, hi, hs]

theorem gen_unpackEntries (t : Tracker) (b : MessageBuffer α) (count : Nat) (cs : List (Call α)) :
    Gen.unpackEntries t b count cs = unpackEntries t b count cs := by
  unfold Gen.unpackEntries unpackEntries
  by_cases hf : t.fixedSize = 0
  · simp [hf, -Prod.mk.injEq]
    rw [loopG_congr (fun s : St α => s.t.fixedSize = t.fixedSize) _ _ (canUnpackCond2 count) _ canUnpackBody2]
    · exact loopG_unpackVar count t.indicesLeft ⟨t, b, 0, cs⟩
    · src_step
    · src_step
    · src_step
    · simp
  · simp [hf, -Prod.mk.injEq]
    rw [loopG_congr (fun s : St α => s.t.fixedSize = t.fixedSize) _ _ (fun _ => true) _ canUnpackBody1]
    · simp [hf, loopG_unpackFixed]
    · intros; rfl
    · src_step
    · src_step
    · simp

theorem gen_unpackSizeEntries (t : Tracker) (b : MessageBuffer Nat) (dst : List Nat) :
    Gen.unpackSizeEntries t b dst = unpackSizeEntries t b dst := by
  simp [Gen.unpackSizeEntries, unpackSizeEntries, gen_offset]

theorem loopG_skipZeroSend (h : Handle α) : ∀ (fuel : Nat) (s : St α),
    loopG St.okIface (canSendCond1 h) canSendBody1 fuel s = ⟨skipZeroSend h fuel s.t, s.b, s.acc, s.calls⟩ :=
  loopG_eq _ _ _ id _ (fun _ => rfl) fun n s => by
    cases hi : s.t.iface <;> simp [skipZeroSend, St.okIface, Tracker.finished, Tracker.cur, hi]
    split <;> rfl

theorem gen_setupSend (h : Handle α) (t : Tracker) (b : MessageBuffer α) :
    Gen.setupSend h t b = setupSend h t b := by
  unfold Gen.setupSend setupSend
  simp only [gen_packEntries]
  rw [loopG_congr (fun _ : St α => True) _ _ (canSendCond1 h) _ canSendBody1]
  · simp [loopG_skipZeroSend, Tracker.indicesLeft]
    <;> (generalize (packEntries h t b.reset).1 = n; cases n <;> simp)
  · src_step
  · src_step
  · intros; trivial
  · trivial

theorem finished_eq_left (t : Tracker) : t.finished = decide (t.indicesLeft = 0) := by
  unfold Tracker.finished Tracker.indicesLeft; cases t.iface <;> simp

theorem gen_setupRecv {β : Type} (t : Tracker) (b : MessageBuffer β) :
    Gen.setupRecv t b = setupRecv true t b := by
  unfold Gen.setupRecv setupRecv
  simp only [gen_skipZeroIndices, gen_indicesLeft, gen_finished, finished_eq_left, if_true]
  <;> (refine Prod.ext rfl (Prod.ext rfl ?_) <;>
   (show _ = decide (t.skipZeroIndices.indicesLeft ≠ 0)
    generalize t.skipZeroIndices.indicesLeft = n
    apply Bool.eq_iff_iff.mpr; simp <;> omega))

theorem gen_recvCount (B : Nat) : Gen.recvCount B = B := by
  unfold Gen.recvCount; first | rfl | omega | simp

theorem gen_chooser (fwd : Bool) (e : IfaceEntry) :
    Gen.chooseSend fwd e.first e.second = e.send fwd ∧ Gen.chooseRecv fwd e.first e.second = e.recv fwd := by
  cases fwd <;> simp [Gen.chooseSend, Gen.chooseRecv, IfaceEntry.send, IfaceEntry.recv]

theorem gen_setupTrackers_init (h : Handle α) (fwd : Bool) (imap : List IfaceEntry) :
    setupInterfaceTrackers h fwd imap = setupTrackersLoop h fwd imap (Gen.trackersInitFixed h.fixed) := by
  cases hf : h.fixed <;> simp [setupInterfaceTrackers, Gen.trackersInitFixed, hf]

theorem gen_recvAlloc (n : Nat) : Gen.recvAllocSizes n = (n == 0) := by
  cases n <;> simp [Gen.recvAllocSizes]

theorem gen_sendAlloc (n : Nat) : Gen.sendAllocSizes n = false := by
  simp [Gen.sendAllocSizes]

theorem gen_setupTrackers_step (h : Handle α) (fwd : Bool) (e : IfaceEntry) (es : List IfaceEntry) (fs : Nat) :
    setupTrackersLoop h fwd (e :: es) fs =
      (Tracker.mk' e.rank (e.send fwd)
          (Gen.trackersStepFixed h.fixed fs (e.send fwd).length (e.recv fwd).length (h.size ((e.send fwd).headD 0)))
          (Gen.sendAllocSizes
            (Gen.trackersStepFixed h.fixed fs (e.send fwd).length (e.recv fwd).length (h.size ((e.send fwd).headD 0)))),
       Tracker.mk' e.rank (e.recv fwd)
          (Gen.trackersStepFixed h.fixed fs (e.send fwd).length (e.recv fwd).length (h.size ((e.send fwd).headD 0)))
          (Gen.recvAllocSizes
            (Gen.trackersStepFixed h.fixed fs (e.send fwd).length (e.recv fwd).length (h.size ((e.send fwd).headD 0)))))
        :: setupTrackersLoop h fwd es
          (Gen.trackersStepFixed h.fixed fs (e.send fwd).length (e.recv fwd).length (h.size ((e.send fwd).headD 0))) := by
  rw [setupTrackersLoop]
  cases hf : h.fixed <;> cases hs : e.send fwd <;>
    simp [Gen.trackersStepFixed, gen_sendAlloc, gen_recvAlloc, hf, hs]

/-! ### trackers in skipped position ("normal"): a second `skipZeroIndices` does nothing

Used so that the `checkAndContinue` theorems hold whether or not the source repeats `skipZeroIndices()` after
`comm_func` (both functors leave a skipped tracker skipped). -/

def Normal (t : Tracker) : Prop := t.skipZeroIndices = t

theorem normal_skip (t : Tracker) : Normal t.skipZeroIndices := skipZeroIndices_idem t

theorem normal_move (t : Tracker) : Normal t.moveToNextIndex := by
  unfold Tracker.moveToNextIndex; exact normal_skip _

theorem normal_packFixedLoop (h : Handle α) : ∀ (n : Nat) (t : Tracker) (b : MessageBuffer α), Normal t →
    Normal (packFixedLoop h n t b).1 := by
  intro n
  induction n with
  | zero => intro t b ht; exact ht
  | succ n ih =>
    intro t b ht
    unfold packFixedLoop
    split
    · exact ht
    · exact ih _ _ (normal_move t)

theorem normal_packVarLoop (h : Handle α) : ∀ (fuel : Nat) (t : Tracker) (b : MessageBuffer α) (p : Nat), Normal t →
    Normal (packVarLoop h fuel t b p).2.1 := by
  intro fuel
  induction fuel with
  | zero => intro t b p ht; exact ht
  | succ fuel ih =>
    intro t b p ht
    unfold packVarLoop
    split
    · exact ht
    · split
      · exact ih _ _ _ (normal_move t)
      · exact ht

theorem normal_skipZeroSend (h : Handle α) : ∀ (fuel : Nat) (t : Tracker), Normal t → Normal (skipZeroSend h fuel t) := by
  intro fuel
  induction fuel with
  | zero => intro t ht; exact ht
  | succ fuel ih =>
    intro t ht
    unfold skipZeroSend
    split
    · exact ht
    · split
      · exact ih _ (normal_move t)
      · exact ht

theorem normal_packEntries (h : Handle α) (t : Tracker) (b : MessageBuffer α) (ht : Normal t) :
    Normal (packEntries h t b).2.1 := by
  unfold packEntries
  split
  · exact normal_packFixedLoop h _ t b ht
  · exact normal_packVarLoop h _ _ b 0 (normal_skip t)

@[simp] theorem setupSend_skipped (h : Handle α) (t : Tracker) (b : MessageBuffer α) :
    (setupSend h t.skipZeroIndices b).tracker.skipZeroIndices = (setupSend h t.skipZeroIndices b).tracker := by
  unfold setupSend
  exact normal_skipZeroSend h _ _ (normal_packEntries h _ _ (normal_skip t))

@[simp] theorem setupRecv_skipped {β : Type} (rep : Bool) (t : Tracker) (b : MessageBuffer β) :
    (setupRecv rep t.skipZeroIndices b).1.skipZeroIndices = (setupRecv rep t.skipZeroIndices b).1 := by
  unfold setupRecv
  cases rep
  · exact normal_skip t
  · exact normal_skip _

theorem gen_ccDefaults : Gen.ccDefaults = (true, false) := by decide

/-- `--no_completed` happens exactly when a new communication was set up and `valid` is set -/
theorem gen_uncounted {σ β γ : Type} (gc valid : Bool)
    (bf : Tracker → MessageBuffer β → Nat → σ → Tracker × MessageBuffer β × σ)
    (cf : Tracker → MessageBuffer β → Tracker × MessageBuffer β × γ) (n : Nat) (t : Tracker) (b : MessageBuffer β) (a : σ) :
    (Gen.checkAndContinueBody gc valid bf cf n t b a).2.2.2.2 =
      (valid && (Gen.checkAndContinueBody gc valid bf cf n t b a).2.2.2.1.isSome) := by
  unfold Gen.checkAndContinueBody
  cases gc <;> simp only [if_true, if_false, Bool.false_eq_true] <;> split <;> simp

/-- the generated body is `ccBody`, whether or not the source repeats `skipZeroIndices()` after `comm_func` (`hcf`) -/
theorem gen_ccBody {σ β γ : Type} (gc valid : Bool)
    (bf : Tracker → MessageBuffer β → Nat → σ → Tracker × MessageBuffer β × σ)
    (cf : Tracker → MessageBuffer β → Tracker × MessageBuffer β × γ) (n : Nat) (t : Tracker) (b : MessageBuffer β) (a : σ)
    (hcf : ∀ (t : Tracker) b, (cf t.skipZeroIndices b).1.skipZeroIndices = (cf t.skipZeroIndices b).1) :
    Gen.checkAndContinueBody gc valid bf cf n t b a = ccBody gc valid bf cf n t b a := by
  unfold Gen.checkAndContinueBody ccBody
  simp only [gen_skipZeroIndices, gen_finished, hcf]
  cases gc <;> simp only [if_true, if_false, Bool.false_eq_true] <;> split <;> simp_all

theorem gen_recvDone {σ : Type} (c : PairCfg α σ) (s : Pair α σ) (m : List α) (h : s.rreq = .complete m) :
    Pair.step c s .recvDone =
      some (recvDoneResult s (Gen.checkAndContinueBody c.getCount true c.unpack (setupRecv c.repaired) m.length s.rt
                    (s.rb.received m) s.acc)) := by
  rw [gen_ccBody _ _ _ _ _ _ _ _ (setupRecv_skipped c.repaired)]
  exact recvDone_cc c s h

theorem gen_sendDone {σ : Type} (c : PairCfg α σ) (s : Pair α σ) (h : s.sreq = .complete) :
    Pair.step c s .sendDone =
      some (sendDoneResult s (Gen.checkAndContinueBody (σ := Unit) false true (fun t b _ a => (t, b, a))
                    (fun t b => ((setupSend c.handle t b).tracker, (setupSend c.handle t b).buffer,
                                 (setupSend c.handle t b).message)) 0 s.st s.sb ())) := by
  rw [gen_ccBody]
  · simp only [Pair.step, h, ccBody]
    cases s.st.skipZeroIndices.finished <;> rfl
  · exact setupSend_skipped c.handle

theorem gen_recvLoop {β σ : Type} (rep gc : Bool)
    (unpack : Tracker → MessageBuffer β → Nat → σ → Tracker × MessageBuffer β × σ)
    (m : List β) (ms : List (List β)) (t : Tracker) (b : MessageBuffer β) (posted : Nat) (acc : σ) :
    recvLoop rep gc unpack (m :: ms) t b posted acc =
      recvLoopResult rep gc unpack ms posted
        (Gen.checkAndContinueBody gc true unpack (setupRecv rep) m.length t (b.received m) acc) := by
  rw [gen_ccBody _ _ _ _ _ _ _ _ (setupRecv_skipped rep)]
  exact recvLoop_cc ..

end DV.C06
