/-
C15 — the pool invariant `free ⊎ live = all slots of all chunks, without duplicates` and its consequences.  The history
lemmas (`allocate_fresh'`, `refused_only_bad`, `reuse_after_free`) start from any state that satisfies `Inv`; the
theorems of `Props/C15.lean` with nearly the same names are their instances at the empty pool.  Core Lean only.
-/
import DuneVerif.Proofs.C15Geo

namespace DV.C15
open DV.C15.Gen

/-- what the state machine needs from the geometry (all three are consequences of `geometry_sound`) -/
structure GeoOK (g : Geo) : Prop where
  as_pos : 0 < g.alignedSize
  el_pos : 1 ≤ g.elements
  fit : g.elements * g.alignedSize ≤ g.chunkSize

/-- `GeoOK` of a geometry given by its three numbers: against `geoOf …` the fields unify without unfolding the
    generated formulas, which checking `⟨_, _, _⟩ : GeoOK (geoOf …)` directly does -/
theorem geoOK_of {a c e : Nat} (ha : 0 < a) (he : 1 ≤ e) (hf : e * a ≤ c) : GeoOK ⟨a, c, e⟩ := ⟨ha, he, hf⟩

/-- the pool invariant: the chunk list holds the creation numbers `n-1 … 0`; free list and live set together
    contain every slot `(c, i)`, `c < n`, `i < E`, exactly once -/
structure Inv (E : Nat) (p : Pool) : Prop where
  chunks : p.chunks = (List.range p.chunks.length).reverse
  nodup : (p.free ++ p.live).Nodup
  mem : ∀ b, b ∈ p.free ++ p.live ↔ (b.1 < p.chunks.length ∧ b.2 < E)
  count : p.free.length + p.live.length = p.chunks.length * E

theorem inv_empty (E : Nat) : Inv E Pool.empty :=
  ⟨rfl, List.nodup_nil, fun _ => ⟨(fun h => nomatch h), fun h => absurd h.1 (Nat.not_lt_zero _)⟩, (Nat.zero_mul E).symm⟩

theorem inv_disjoint {E : Nat} {p : Pool} (hi : Inv E p) {b : Block} (hf : b ∈ p.free) (hl : b ∈ p.live) : False :=
  (List.nodup_append.1 hi.nodup).2.2 b hf b hl rfl

theorem inv_of_perm {E : Nat} {p p' : Pool} (hi : Inv E p) (hc : p'.chunks = p.chunks)
    (hp : (p'.free ++ p'.live).Perm (p.free ++ p.live)) : Inv E p' := by
  refine ⟨by rw [hc]; exact hi.chunks, hp.nodup_iff.2 hi.nodup, fun b => by rw [hc]; exact hp.mem_iff.trans (hi.mem b), ?_⟩
  have := hp.length_eq
  rw [List.length_append, List.length_append] at this
  rw [this, hc]; exact hi.count

/-- `E - 1 + 1` and not `E`: `grow()` links slot 0 whatever `E` is -/
theorem slots_eq (E c : Nat) : (c, 0) :: growTail E c = (List.range (E - 1 + 1)).map (Prod.mk c) := by
  rw [List.range_eq_range']; rfl

theorem nodup_map_mk {α β : Type} (c : α) {l : List β} (h : l.Nodup) : (l.map (Prod.mk c)).Nodup :=
  List.Pairwise.map _ (fun _ _ h heq => h (Prod.mk.inj heq).2) h

theorem mem_map_mk {α β : Type} {c : α} {l : List β} {b : α × β} : b ∈ l.map (Prod.mk c) ↔ b.1 = c ∧ b.2 ∈ l := by
  rw [List.mem_map]
  constructor
  · rintro ⟨i, hi, rfl⟩
    exact ⟨rfl, hi⟩
  · rintro ⟨rfl, h⟩
    exact ⟨b.2, h, rfl⟩

theorem nodup_slots (E c : Nat) : ((c, 0) :: growTail E c).Nodup :=
  slots_eq E c ▸ nodup_map_mk c List.nodup_range

theorem allocate_pop {E : Nat} {p : Pool} {b : Block} {rest : List Block} (h : p.free = b :: rest) :
    allocate E p = (b, { p with free := rest, live := p.live ++ [b] }) := by
  unfold allocate; rw [h]

theorem allocate_grow {E : Nat} {p : Pool} (h : p.free = []) :
    allocate E p = ((p.chunks.length, 0),
      { chunks := p.chunks.length :: p.chunks, free := growTail E p.chunks.length,
        live := p.live ++ [(p.chunks.length, 0)] }) := by
  unfold allocate; rw [h]

theorem allocate_live (E : Nat) (p : Pool) : (allocate E p).2.live = p.live ++ [(allocate E p).1] := by
  unfold allocate; split <;> rfl

theorem inv_pop {E : Nat} {p : Pool} (hi : Inv E p) {b : Block} {rest : List Block} (hf : p.free = b :: rest) :
    Inv E { p with free := rest, live := p.live ++ [b] } :=
  inv_of_perm hi rfl (by rw [hf, ← List.append_assoc]; exact List.perm_append_singleton b _)

theorem inv_grow {E : Nat} (hE : 1 ≤ E) {p : Pool} (hi : Inv E p) :
    Inv E { p with chunks := p.chunks.length :: p.chunks,
                   free := (p.chunks.length, 0) :: growTail E p.chunks.length ++ p.free } := by
  rw [slots_eq, Nat.sub_add_cancel hE]
  refine ⟨?_, ?_, fun x => ?_, ?_⟩
  · rw [List.length_cons, List.range_succ, List.reverse_append]
    exact congrArg (p.chunks.length :: ·) hi.chunks
  · rw [List.append_assoc]
    refine List.nodup_append.2 ⟨nodup_map_mk _ List.nodup_range, hi.nodup, fun a ha b hb hab => ?_⟩
    -- `a` is a slot of the new chunk, `b` one of an old chunk
    have h := ((hi.mem b).1 hb).1
    rw [← hab, (mem_map_mk.1 ha).1] at h
    exact Nat.lt_irrefl _ h
  · rw [List.append_assoc, List.mem_append, mem_map_mk, List.mem_range, hi.mem x, List.length_cons, ← or_and_right,
      Nat.lt_succ_iff_lt_or_eq, or_comm]
  · rw [List.length_append, List.length_map, List.length_range, List.length_cons, Nat.add_one_mul,
      ← hi.count, Nat.add_assoc]
    exact Nat.add_comm _ _

theorem inv_allocate {E : Nat} (hE : 1 ≤ E) {p : Pool} (hi : Inv E p) : Inv E (allocate E p).2 := by
  cases hf : p.free with
  | cons b rest => rw [allocate_pop hf]; exact inv_pop hi hf
  | nil =>
    have hg := inv_grow hE hi
    rw [hf, List.append_nil] at hg
    rw [allocate_grow hf]
    exact inv_pop hg rfl

theorem allocate_fresh' {E : Nat} (hE : 1 ≤ E) {p : Pool} (hi : Inv E p) :
    (allocate E p).1 ∉ p.live ∧ (allocate E p).1.1 < (allocate E p).2.chunks.length ∧ (allocate E p).1.2 < E ∧
    (allocate E p).1 ∈ (allocate E p).2.live ∧ (allocate E p).1 ∉ (allocate E p).2.free := by
  have hi' := inv_allocate hE hi
  have hl := allocate_live E p
  have hb : (allocate E p).1 ∈ (allocate E p).2.live := by
    rw [hl]; exact List.mem_append_right _ (List.mem_singleton_self _)
  have hm := (hi'.mem _).1 (List.mem_append_right _ hb)
  have hnd := (List.nodup_append.1 hi'.nodup).2.1
  rw [hl] at hnd
  exact ⟨fun h => (List.nodup_append.1 hnd).2.2 _ h _ (List.mem_singleton_self _) rfl, hm.1, hm.2, hb,
    fun hf => inv_disjoint hi' hf hb⟩

theorem inSomeChunk_of_live {g : Geo} (hg : GeoOK g) {p : Pool} (hi : Inv g.elements p) {b : Block}
    (hb : b ∈ p.live) : inSomeChunk g p b = true := by
  obtain ⟨h1, h2⟩ := (hi.mem b).1 (List.mem_append_right _ hb)
  have hc : b.1 ∈ p.chunks := by rw [hi.chunks, List.mem_reverse, List.mem_range]; exact h1
  unfold inSomeChunk
  rw [Bool.and_eq_true, List.contains_iff_mem, decide_eq_true_eq]
  exact ⟨hc, Nat.lt_of_lt_of_le (Nat.lt_add_of_pos_right hg.as_pos) (slot_inside hg.fit h2)⟩

theorem free_live {g : Geo} (hg : GeoOK g) {p : Pool} (hi : Inv g.elements p) {b : Block} (hb : b ∈ p.live) :
    free g p (.blk b) = .ok { p with free := b :: p.free, live := p.live.erase b } :=
  if_pos (inSomeChunk_of_live hg hi hb)

theorem inv_free {E : Nat} {p : Pool} (hi : Inv E p) {b : Block} (hb : b ∈ p.live) :
    Inv E { p with free := b :: p.free, live := p.live.erase b } :=
  inv_of_perm hi rfl (List.perm_middle.symm.trans ((List.perm_cons_erase hb).symm.append_left p.free))

theorem step_alloc (g : Geo) (p : Pool) : step g p .alloc = ((allocate g.elements p).2, .ret (allocate g.elements p).1) := rfl

theorem step_free_live {g : Geo} (hg : GeoOK g) {p : Pool} (hi : Inv g.elements p) {b : Block} (hb : b ∈ p.live) :
    step g p (.free (.blk b)) = ({ p with free := b :: p.free, live := p.live.erase b }, .freed (.blk b)) := by
  simp only [step, free_live hg hi hb]

/-- a step of a valid history, read off its event: an allocation by the pool, the release of a live block, or a
    refused request that leaves the pool as it was -/
theorem step_spec {g : Geo} (hg : GeoOK g) {p : Pool} (hi : Inv g.elements p) {o : Op} (hv : okOp p o) :
    ∀ {e : Ev}, (step g p o).2 = e → match e with
    | .ret b => b = (allocate g.elements p).1 ∧ (step g p o).1 = (allocate g.elements p).2
    | .freed q => ∃ b, q = .blk b ∧ b ∈ p.live ∧
        (step g p o).1 = { p with free := b :: p.free, live := p.live.erase b }
    | .refused => o.isBad = true ∧ (step g p o).1 = p := by
  rintro _ rfl
  cases o with
  | alloc => exact ⟨rfl, rfl⟩
  | allocN n =>
    by_cases h : n = 1
    · subst h; exact ⟨rfl, rfl⟩
    · simp [step, paAllocate, paAccepts, h, Op.isBad]
  | allocOom =>
    cases hf : p.free with
    | nil => simp [step, allocateOS, hf, Op.isBad]
    | cons c rest => simp [step, allocateOS, hf]
  | free q =>
    cases q with
    | null | foreign => exact ⟨rfl, rfl⟩
    | blk b => rw [step_free_live hg hi hv]; exact ⟨b, rfl, hv, rfl⟩

theorem inv_step {g : Geo} (hg : GeoOK g) {p : Pool} (hi : Inv g.elements p) {o : Op} (hv : okOp p o) :
    Inv g.elements (step g p o).1 := by
  cases he : (step g p o).2 with
  | ret b => rw [(step_spec hg hi hv he).2]; exact inv_allocate hg.el_pos hi
  | freed q =>
    obtain ⟨b, _, hb, h⟩ := step_spec hg hi hv he
    rw [h]; exact inv_free hi hb
  | refused => rw [(step_spec hg hi hv he).2]; exact hi

theorem inv_run {g : Geo} (hg : GeoOK g) : ∀ (ops : List Op) (p : Pool), Inv g.elements p → Valid g p ops →
    Inv g.elements (run g p ops).1 := by
  intro ops
  induction ops with
  | nil => exact fun _ hi _ => hi
  | cons o os ih => exact fun _ hi hv => ih _ (inv_step hg hi hv.1) hv.2

theorem refused_only_bad {g : Geo} (hg : GeoOK g) (ops : List Op) (p : Pool) (hi : Inv g.elements p)
    (hv : Valid g p ops) (i : Nat) (h : (run g p ops).2[i]? = some Ev.refused) :
    ∃ o, ops[i]? = some o ∧ o.isBad = true := by
  induction ops generalizing p i with
  | nil => exact nomatch h
  | cons o os ih =>
    cases i with
    | succ i => exact ih _ (inv_step hg hi hv.1) hv.2 i h
    | zero => exact ⟨o, rfl, (step_spec hg hi hv.1 (Option.some.inj h)).1⟩

theorem freed_before_returned {g : Geo} (hg : GeoOK g) {b : Block} (ops : List Op) (p : Pool) (hi : Inv g.elements p)
    (hv : Valid g p ops) (hb : b ∈ p.live) (j : Nat) (h : (run g p ops).2[j]? = some (Ev.ret b)) :
    ∃ k, k < j ∧ (run g p ops).2[k]? = some (Ev.freed (.blk b)) := by
  induction ops generalizing p j with
  | nil => exact nomatch h
  | cons o os ih =>
    cases j with
    | zero =>
      -- `allocate` does not return a live block
      rw [(step_spec hg hi hv.1 (Option.some.inj h)).1] at hb
      exact absurd hb (allocate_fresh' hg.el_pos hi).1
    | succ j =>
      by_cases h0 : (step g p o).2 = .freed (.blk b)
      · exact ⟨0, Nat.succ_pos j, congrArg some h0⟩
      · -- `b` stays live over a step that does not give it back
        have hb' : b ∈ (step g p o).1.live := by
          cases he : (step g p o).2 with
          | ret c => rw [(step_spec hg hi hv.1 he).2, allocate_live]; exact List.mem_append_left _ hb
          | freed q =>
            obtain ⟨c, rfl, _, hs⟩ := step_spec hg hi hv.1 he
            rw [hs]
            exact (List.mem_erase_of_ne fun e => h0 (by rw [he, e])).2 hb
          | refused => rw [(step_spec hg hi hv.1 he).2]; exact hb
        obtain ⟨k, hk, hf⟩ := ih _ (inv_step hg hi hv.1) hv.2 hb' j h
        exact ⟨k + 1, Nat.succ_lt_succ hk, hf⟩

theorem reuse_after_free {g : Geo} (hg : GeoOK g) {b : Block} (ops : List Op) (p : Pool) (hi : Inv g.elements p)
    (hv : Valid g p ops) (i j : Nat) (hij : i < j) (h1 : (run g p ops).2[i]? = some (Ev.ret b))
    (h2 : (run g p ops).2[j]? = some (Ev.ret b)) :
    ∃ k : Nat, i < k ∧ k < j ∧ (run g p ops).2[k]? = some (Ev.freed (.blk b)) := by
  induction ops generalizing p i j with
  | nil => exact nomatch h1
  | cons o os ih =>
    cases j with
    | zero => exact absurd hij (Nat.not_lt_zero i)
    | succ j =>
      cases i with
      | succ i =>
        obtain ⟨k, hk1, hk2, hk3⟩ := ih _ (inv_step hg hi hv.1) hv.2 i j (Nat.lt_of_succ_lt_succ hij) h1 h2
        exact ⟨k + 1, Nat.succ_lt_succ hk1, Nat.succ_lt_succ hk2, hk3⟩
      | zero =>
        -- the first step returned b, so b is live afterwards
        have hlive : b ∈ (step g p o).1.live := by
          obtain ⟨hb, hp⟩ := step_spec hg hi hv.1 (Option.some.inj h1)
          rw [hb, hp]
          exact (allocate_fresh' hg.el_pos hi).2.2.2.1
        obtain ⟨k, hk, hf⟩ := freed_before_returned hg os _ (inv_step hg hi hv.1) hv.2 hlive j h2
        exact ⟨k + 1, Nat.succ_pos k, Nat.succ_lt_succ hk, hf⟩

theorem destroy_perm {E : Nat} {p : Pool} (hi : Inv E p) : (destroy p).Perm (List.range p.chunks.length) := by
  unfold destroy
  rw [hi.chunks]
  simp only [List.length_reverse, List.length_range]
  exact List.reverse_perm _

theorem allocate_chunks (E : Nat) (p : Pool) :
    (allocate E p).2.chunks.length = p.chunks.length + (if p.free = [] then 1 else 0) := by
  cases hf : p.free with
  | cons b rest => rw [allocate_pop hf]; simp
  | nil => rw [allocate_grow hf]; simp

theorem chunks_needed {E : Nat} {p : Pool} (hi : Inv E p) : p.free.length + p.live.length = p.chunks.length * E :=
  hi.count

end DV.C15
