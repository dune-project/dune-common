import Mathlib.Analysis.Matrix.Spectrum
import Mathlib.LinearAlgebra.Matrix.Notation
import Mathlib.Tactic.FinCases
import Mathlib.Tactic.Positivity
import DuneVerif.Proofs.C08Ev3Roots
/-!
# C08 — the 3x3 path: a real symmetric matrix has a real spectrum (Mathlib's spectral theorem), hence `|r| ≤ 1`
(discriminant of the depressed cubic) and the trigonometric values are the whole spectrum with multiplicity; the sign
of `r` tells which extreme eigenvalue is simple
-/
namespace DV.C08

theorem cubic_vieta (a b c u v w : ℝ)
    (h : ∀ t : ℝ, (t - a) * (t - b) * (t - c) = t ^ 3 - u * t ^ 2 + v * t - w) :
    a + b + c = u ∧ a * b + a * c + b * c = v ∧ a * b * c = w := by
  have h0 := h 0
  have h1 := h 1
  have h2 := h (-1)
  refine ⟨?_, ?_, ?_⟩
  · linear_combination (-1 / 2) * h1 + (-1 / 2) * h2 + h0
  · linear_combination (1 / 2) * h1 - (1 / 2) * h2
  · linear_combination (-1 : ℝ) * h0

/-- the discriminant of a depressed cubic with three real roots is non-negative -/
theorem disc_nonneg (a b c e2 e3 : ℝ) (h1 : a + b + c = 0) (h2 : a * b + a * c + b * c = e2)
    (h3 : a * b * c = e3) : 0 ≤ -4 * e2 ^ 3 - 27 * e3 ^ 2 := by
  have hc : c = -a - b := by linear_combination h1
  have key : -4 * e2 ^ 3 - 27 * e3 ^ 2 = ((a - b) * (b - c) * (c - a)) ^ 2 := by
    rw [← h2, ← h3, hc]
    ring
  rw [key]
  exact sq_nonneg _

/-- a depressed cubic `s³ - 3p²s - 2rp³`, `p > 0`, with three real roots has `|r| ≤ 1`: its discriminant is
`108 p⁶ (1 - r²)` -/
theorem cubic_r_bound (a b c p r : ℝ) (hp : 0 < p) (h1 : a + b + c = 0) (h2 : a * b + a * c + b * c = -(3 * p ^ 2))
    (h3 : a * b * c = 2 * r * p ^ 3) : -1 ≤ r ∧ r ≤ 1 := by
  have hdisc := disc_nonneg a b c _ _ h1 h2 h3
  have e : -4 * (-(3 * p ^ 2)) ^ 3 - 27 * (2 * r * p ^ 3) ^ 2 = 108 * p ^ 6 * (1 - r ^ 2) := by ring
  rw [e] at hdisc
  have hr2 : r ^ 2 ≤ 1 := sub_nonneg.mp (nonneg_of_mul_nonneg_right hdisc (mul_pos (by norm_num) (pow_pos hp 6)))
  exact abs_le.mp ((sq_le_one_iff_abs_le_one _).mp hr2)

theorem simple_extreme (a b c p r : ℝ) (hp : 0 < p) (hab : a ≤ b) (hbc : b ≤ c)
    (h1 : a + b + c = 0) (h2 : a * b + a * c + b * c = -(3 * p ^ 2)) (h3 : a * b * c = 2 * r * p ^ 3) :
    (¬ r < 0 → b < c) ∧ (r < 0 → a < b) := by
  -- `r` has the sign of `abc`, which for `a ≤ b ≤ c` of sum zero is the sign of `-b`
  have hr : 0 ≤ r ↔ 0 ≤ a * b * c :=
    h3 ▸ ((mul_nonneg_iff_of_pos_right (pow_pos hp 3)).trans (mul_nonneg_iff_of_pos_left two_pos)).symm
  have ha : 0 < b → a < 0 := fun hb =>
    (lt_add_of_pos_right a (add_pos hb (hb.trans_le hbc))).trans_eq ((add_assoc a b c).symm.trans h1)
  rw [← not_le (a := (0 : ℝ)), not_not, hr]
  constructor
  · intro hn
    have hb : b ≤ 0 := not_lt.mp fun hb =>
      (mul_neg_of_neg_of_pos (mul_neg_of_neg_of_pos (ha hb) hb) (hb.trans_le hbc)).not_ge hn
    -- were `c ≤ b`, all three roots would be `≤ 0` and their pairwise products could not sum to `-3p²`
    by_contra hcb
    have hc : c ≤ 0 := (not_lt.mp hcb).trans hb
    have ha : a ≤ 0 := hab.trans hb
    have h := add_nonneg (add_nonneg (mul_nonneg_of_nonpos_of_nonpos ha hb) (mul_nonneg_of_nonpos_of_nonpos ha hc))
      (mul_nonneg_of_nonpos_of_nonpos hb hc)
    rw [h2] at h
    exact (mul_pos three_pos (pow_pos hp 2)).not_ge (neg_nonneg.mp h)
  · intro hn
    have hb : 0 < b := not_le.mp fun hb =>
      hn (mul_nonneg (mul_nonneg_of_nonpos_of_nonpos (hab.trans hb) hb)
        (eq_neg_of_add_eq_zero_right h1 ▸ neg_nonneg.mpr (add_nonpos (hab.trans hb) hb)))
    exact (ha hb).trans hb

def toMat (A : M3 ℝ) : Matrix (Fin 3) (Fin 3) ℝ :=
  !![A.a00, A.a01, A.a02; A.a10, A.a11, A.a12; A.a20, A.a21, A.a22]

theorem toMat_isHermitian (A : M3 ℝ) (hs : Sym3 A) : (toMat A).IsHermitian := by
  obtain ⟨h1, h2, h3⟩ := hs
  unfold Matrix.IsHermitian
  rw [Matrix.eta_fin_three (toMat A).conjTranspose]
  unfold toMat
  rw [h1, h2, h3]
  rfl

theorem det3_eq_det (A : M3 ℝ) : det3 A = (toMat A).det := by
  rw [Matrix.det_fin_three]
  unfold det3 toMat
  simp only [Matrix.of_apply, Matrix.cons_val', Matrix.cons_val_zero, Matrix.cons_val_one, Matrix.cons_val]
  ring

theorem toMat_shift3 (A : M3 ℝ) (t : ℝ) : toMat (shift3 A t) = toMat A - Matrix.scalar (Fin 3) t := by
  unfold toMat shift3
  rw [Matrix.scalar_apply, Matrix.diagonal_fin_three]
  simp only [Matrix.of_sub_of, Matrix.cons_sub_cons, Matrix.empty_sub_empty, sub_zero]

theorem charPoly3_eq_eval (A : M3 ℝ) (t : ℝ) : charPoly3 A t = (toMat A).charpoly.eval t := by
  unfold charPoly3
  rw [Matrix.eval_charpoly, det3_eq_det, toMat_shift3, ← neg_sub (toMat A), Matrix.det_neg, Fintype.card_fin]
  ring

theorem sym3_real_spectrum (A : M3 ℝ) (hs : Sym3 A) :
    ∃ x y z : ℝ, ∀ t : ℝ, charPoly3 A t = (t - x) * (t - y) * (t - z) := by
  have hA := toMat_isHermitian A hs
  refine ⟨hA.eigenvalues 0, hA.eigenvalues 1, hA.eigenvalues 2, ?_⟩
  intro t
  rw [charPoly3_eq_eval, hA.charpoly_eq, Polynomial.eval_prod, Fin.prod_univ_three]
  simp

theorem vieta3_of_factor (A : M3 ℝ) (x y z : ℝ)
    (h : ∀ t, charPoly3 A t = (t - x) * (t - y) * (t - z)) :
    x + y + z = A.a00 + A.a11 + A.a22 ∧
    x * y + x * z + y * z = (A.a00 * A.a11 - A.a01 * A.a10) + (A.a00 * A.a22 - A.a02 * A.a20)
      + (A.a11 * A.a22 - A.a12 * A.a21) ∧
    x * y * z = det3 A := by
  apply cubic_vieta
  intro t
  rw [← h t]
  unfold charPoly3 det3 shift3
  ring

theorem shifted_vieta (S : M3 ℝ) (hs : Sym3 S) (hp1 : 0 < p1Of S) (a b c : ℝ)
    (hf : ∀ t, charPoly3 S t = (t - a) * (t - b) * (t - c)) :
    (a - qOf S) + (b - qOf S) + (c - qOf S) = 0 ∧
    (a - qOf S) * (b - qOf S) + (a - qOf S) * (c - qOf S) + (b - qOf S) * (c - qOf S) = -(3 * pOf S ^ 2) ∧
    (a - qOf S) * (b - qOf S) * (c - qOf S) = 2 * rawR S * pOf S ^ 3 := by
  apply cubic_vieta
  intro s
  have h1 := hf (qOf S + s)
  rw [charPoly3_trig S hs hp1] at h1
  linear_combination (-1 : ℝ) * h1

theorem rawR_abs_le_one (S : M3 ℝ) (hs : Sym3 S) (hp1 : 0 < p1Of S) : -1 ≤ rawR S ∧ rawR S ≤ 1 := by
  obtain ⟨x, y, z, hf⟩ := sym3_real_spectrum S hs
  obtain ⟨v1, v2, v3⟩ := shifted_vieta S hs hp1 x y z hf
  exact cubic_r_bound _ _ _ _ _ (pOf_pos S hp1) v1 v2 v3

/-- In the trigonometric branch the three returned values are all the roots of the characteristic polynomial,
with multiplicity — no hypothesis on `r`. -/
theorem trig_factor (eps : ℝ) (he : 0 ≤ eps) (S : M3 ℝ) (hs : Sym3 S) (hb : ¬ DiagBranch eps S) :
    ∀ t : ℝ, charPoly3 S t =
      (t - (eigenValues3dImpl Real.sqrt Real.arccos Real.cos Real.pi eps S).1.1)
        * (t - (eigenValues3dImpl Real.sqrt Real.arccos Real.cos Real.pi eps S).1.2.1)
        * (t - (eigenValues3dImpl Real.sqrt Real.arccos Real.cos Real.pi eps S).1.2.2) :=
  trig_factor_of_r eps he S hs hb (rawR_abs_le_one S hs (p1Of_pos_of_not_diag eps he S hb))

theorem simple_of_r_sign (S : M3 ℝ) (hs : Sym3 S) (hp1 : 0 < p1Of S) (l0 l1 l2 : ℝ) (h01 : l0 ≤ l1) (h12 : l1 ≤ l2)
    (hf : ∀ t, charPoly3 S t = (t - l0) * (t - l1) * (t - l2)) :
    (¬ rawR S < 0 → l1 < l2) ∧ (rawR S < 0 → l0 < l1) := by
  obtain ⟨v1, v2, v3⟩ := shifted_vieta S hs hp1 l0 l1 l2 hf
  obtain ⟨g1, g2⟩ := simple_extreme (l0 - qOf S) (l1 - qOf S) (l2 - qOf S) (pOf S) (rawR S) (pOf_pos S hp1)
    (sub_le_sub_right h01 _) (sub_le_sub_right h12 _) v1 v2 v3
  exact ⟨fun h => (sub_lt_sub_iff_right _).mp (g1 h), fun h => (sub_lt_sub_iff_right _).mp (g2 h)⟩

/-- In the trigonometric branch: if the returned `r` is not negative the largest returned eigenvalue is simple,
if it is negative the smallest one is. -/
theorem trig_r_sign (eps : ℝ) (he : 0 ≤ eps) (S : M3 ℝ) (hs : Sym3 S) (hb : ¬ DiagBranch eps S) :
    (¬ ((eigenValues3dImpl Real.sqrt Real.arccos Real.cos Real.pi eps S).2 < 0) →
        (eigenValues3dImpl Real.sqrt Real.arccos Real.cos Real.pi eps S).1.2.1
          < (eigenValues3dImpl Real.sqrt Real.arccos Real.cos Real.pi eps S).1.2.2) ∧
    ((eigenValues3dImpl Real.sqrt Real.arccos Real.cos Real.pi eps S).2 < 0 →
        (eigenValues3dImpl Real.sqrt Real.arccos Real.cos Real.pi eps S).1.1
          < (eigenValues3dImpl Real.sqrt Real.arccos Real.cos Real.pi eps S).1.2.1) := by
  have hp1 := p1Of_pos_of_not_diag eps he S hb
  have hasc := impl_asc Real.sqrt Real.arccos Real.cos Real.pi eps S
  have hr : (eigenValues3dImpl Real.sqrt Real.arccos Real.cos Real.pi eps S).2 = rawR S :=
    (congrArg Prod.snd (impl_trig eps S hb)).trans (clamp_rawR S (rawR_abs_le_one S hs hp1))
  rw [hr]
  exact simple_of_r_sign S hs hp1 _ _ _ hasc.1 hasc.2 (trig_factor eps he S hs hb)

end DV.C08
