import DuneVerif.Model.C09
/-!
# C09 — the translated per-lane loops are lane-wise maps (core Lean only).
`Gen/C09Lanes.lean`, generated on every run and imported by `Props/C09.lean`, calls the `lanewise_*` lemmas of this module by name.

`Model/C09.lean` executes a per-lane loop from the shape (`Gen.Loop`) the translator reads off the macro body.  A loop of the
canonical shape (`Loop.canonical`: `i = 0 … S-1`, entry `i` written) whose statement reads its operands at `i` returns
`allSome` of a `map` / `zipWith` (`loopOut_canonical`, `loopIP_canonical`); `LanewiseUn` … `LanewisePostfix` name that form of
result.  Every operator family of loop.hh has such a loop (`lanewise_*`, one lemma per macro overload).
-/
namespace DV.C09
open Gen

section AllSome
variable {β : Type} {S : Nat}

theorem allSome_eq_some_iff (v : Vector (Option β) S) (r : Vec β S) :
    allSome v = some r ↔ ∀ i (h : i < S), v[i] = some r[i] := by
  unfold allSome
  split
  · rw [Option.some.injEq]
    constructor
    · rintro rfl i hi
      simp [Vector.getElem_ofFn]
    · intro h
      apply Vector.ext
      intro i hi
      simp [Vector.getElem_ofFn, h i hi]
  · rename_i hall
    exact ⟨fun h => (nomatch h), fun h => absurd (fun i => by simp [h i.val i.isLt]) hall⟩

theorem allSome_defined (v : Vector (Option β) S) (h : ∀ i (hi : i < S), (v[i]).isSome = true) : ∃ r, allSome v = some r := by
  unfold allSome
  exact ⟨_, dif_pos fun i : Fin S => h i.val i.isLt⟩

theorem allSome_eq_none_iff (v : Vector (Option β) S) :
    allSome v = none ↔ ∃ i, ∃ h : i < S, v[i] = none := by
  constructor
  · intro h
    refine Classical.byContradiction fun hne => ?_
    obtain ⟨r, hr⟩ := allSome_defined v fun i hi => Option.isSome_iff_ne_none.mpr fun hn => hne ⟨i, hi, hn⟩
    exact nomatch h.symm.trans hr
  · rintro ⟨i, hi, hn⟩
    cases h : allSome v with
    | none => rfl
    | some r => exact nomatch hn.symm.trans ((allSome_eq_some_iff v r).mp h i hi)

theorem allSome_ofFn_some (f : Fin S → β) : allSome (Vector.ofFn fun i => some (f i)) = some (Vector.ofFn f) := by
  rw [allSome_eq_some_iff]
  intro i hi
  simp [Vector.getElem_ofFn]

end AllSome

theorem allSome_map_some {α β : Type} {S : Nat} (f : α → β) (a : Vec α S) :
    allSome (a.map fun x => some (f x)) = some (a.map f) := by
  rw [allSome_eq_some_iff]
  intro i hi
  simp
theorem allSome_zipWith_some {α β γ : Type} {S : Nat} (f : α → β → γ) (a : Vec α S) (b : Vec β S) :
    allSome (Vector.zipWith (fun x y => some (f x y)) a b) = some (Vector.zipWith f a b) := by
  rw [allSome_eq_some_iff]
  intro i hi
  simp

/-- the shape every loop of loop.hh has: `for (i = 0; i < S; i++) dst[i] = …` -/
def Gen.Loop.canonical (L : Loop) : Prop := L.lo = 0 ∧ L.hiMinus = 0 ∧ L.dst = .i
instance (L : Loop) : Decidable L.canonical := by unfold Gen.Loop.canonical; infer_instance

theorem loopRange_canonical {L : Loop} (S : Nat) (h : L.canonical) : loopRange S L = List.range' 0 S := by
  obtain ⟨h1, h2, _⟩ := h
  simp [loopRange, h1, h2]

section Loops
variable {α β : Type} {S : Nat}

private theorem foldl_stepIP_none (L : Loop) (val : Nat → Vec α S → Option α) (l : List Nat) :
    l.foldl (stepIP L val) none = none := by
  induction l with
  | nil => rfl
  | cons _ _ ih => exact ih

/-- The loop started at `s` from `cur`, for a statement that at `i` only reads entry `i`: `v` is what the loop will compute in the
    entries still to be visited and what stands in those already visited. -/
private theorem foldl_stepIP (L : Loop) (hL : L.dst = .i) (val : Nat → Vec α S → Option α) (g : Nat → α → Option α)
    (hval : ∀ i (hi : i < S) (cur : Vec α S), val i cur = g i cur[i]) (v : Vector (Option α) S) (k : Nat) :
    ∀ (s : Nat) (cur : Vec α S), s + k = S → (∀ i (hi : i < S), s ≤ i → g i cur[i] = v[i]) →
      (∀ i (hi : i < S), i < s → v[i] = some cur[i]) →
      (List.range' s k).foldl (stepIP L val) (some cur) = allSome v := by
  induction k with
  | zero =>
    intro s cur hs _ hdone
    exact ((allSome_eq_some_iff v cur).mpr fun i hi => hdone i hi (Nat.lt_of_lt_of_eq hi hs.symm)).symm
  | succ k ih =>
    intro s cur hs htodo hdone
    have hsS : s < S := hs ▸ Nat.lt_add_of_pos_right (Nat.succ_pos k)
    have hstep : stepIP L val (some cur) s = (v[s]).bind fun x => some (cur.set s x hsS) := by
      simp only [stepIP, hL, ixEval, Option.bind_some, hval s hsS, htodo s hsS (Nat.le_refl s), dif_pos hsS]
    rw [List.range'_succ, List.foldl_cons, hstep]
    cases hvs : v[s] with
    | none =>
      rw [Option.bind_none, foldl_stepIP_none]
      exact ((allSome_eq_none_iff v).mpr ⟨s, hsS, hvs⟩).symm
    | some x =>
      refine ih (s + 1) _ ((Nat.succ_add_eq_add_succ s k).trans hs) (fun i hi hsi => ?_) fun i hi his => ?_
      · rw [Vector.getElem_set_ne hsS hi (Nat.ne_of_lt hsi)]
        exact htodo i hi (Nat.le_of_lt hsi)
      · rcases Nat.lt_succ_iff_lt_or_eq.mp his with h | rfl
        · rw [Vector.getElem_set_ne hsS hi (Nat.ne_of_gt h)]
          exact hdone i hi h
        · rw [Vector.getElem_set_self]
          exact hvs

theorem loopIP_canonical (L : Loop) (hL : L.canonical) (hip : L.inPlace = true) (val : Nat → Vec α S → Option α)
    (g : Nat → α → Option α) (hval : ∀ i (hi : i < S) (cur : Vec α S), val i cur = g i cur[i]) (self : Vec α S)
    (v : Vector (Option α) S) (hv : ∀ i (hi : i < S), g i self[i] = v[i]) :
    loopIP S L val self = allSome v := by
  unfold loopIP
  rw [loopRange_canonical S hL, if_pos hip]
  exact foldl_stepIP L hL.2.2 val g hval v S 0 self (Nat.zero_add S) (fun i hi _ => hv i hi) fun _ _ h => absurd h (Nat.not_lt_zero _)

theorem stepOut_eq_stepIP (L : Loop) (val : Nat → Option β) :
    stepOut (S := S) L val = stepIP L fun i _ => (val i).map some := by
  funext st i
  simp only [stepOut, stepIP, Option.bind_map, Function.comp_def]

/-- an out-of-place loop is an in-place loop over optional entries (`stepOut_eq_stepIP`) followed by the test that every entry
    was written: the two `allSome` are one -/
theorem allSome_map_some_bind (v : Vector (Option β) S) : (allSome (v.map (Option.map some))).bind allSome = allSome v := by
  cases h : allSome v with
  | none =>
    obtain ⟨i, hi, hn⟩ := (allSome_eq_none_iff v).mp h
    rw [(allSome_eq_none_iff _).mpr ⟨i, hi, by simp [hn]⟩]
    rfl
  | some r =>
    rw [allSome_eq_some_iff] at h
    rw [(allSome_eq_some_iff _ (r.map some)).mpr fun i hi => by simp [h i hi]]
    exact (allSome_eq_some_iff _ r).mpr fun i hi => by simp

theorem loopOut_canonical (L : Loop) (hL : L.canonical) (hip : L.inPlace = false) (val : Nat → Option β)
    (v : Vector (Option β) S) (hv : ∀ i (hi : i < S), val i = v[i]) :
    loopOut S L val = allSome v := by
  unfold loopOut
  rw [stepOut_eq_stepIP, loopRange_canonical S hL, if_neg (by simp [hip]), ← allSome_map_some_bind v]
  congr 1
  exact foldl_stepIP L hL.2.2 _ (fun i _ => (val i).map some) (fun _ _ _ => rfl) _ S 0 _ (Nat.zero_add S)
    (fun i hi _ => by simp [hv i hi]) fun _ _ h => absurd h (Nat.not_lt_zero _)

end Loops

theorem rd_i {α : Type} {S : Nat} (v : Vec α S) (i : Nat) (hi : i < S) : rd v .i i = some v[i] :=
  Vector.getElem?_eq_getElem hi

section Lanewise
variable {α β γ μ : Type} {S : Nat}

/-- unary: lane `l` of the result is `f (lane l a)`; the result exists iff `f` is defined in every lane -/
def LanewiseUn (r : Option (Vec β S)) (f : α → Option β) (a : Vec α S) : Prop :=
  r = allSome (a.map f)
def LanewiseBin (r : Option (Vec γ S)) (f : α → β → Option γ) (a : Vec α S) (b : Vec β S) : Prop :=
  r = allSome (Vector.zipWith f a b)
def LanewiseBinVS (r : Option (Vec γ S)) (f : α → β → Option γ) (a : Vec α S) (s : β) : Prop :=
  r = allSome (a.map fun x => f x s)
def LanewiseBinSV (r : Option (Vec γ S)) (f : α → β → Option γ) (s : α) (b : Vec β S) : Prop :=
  r = allSome (b.map fun y => f s y)
/-- postfix: the returned value is the old object, the object afterwards is lane-wise `f` -/
def LanewisePostfix (r : Option (Vec α S × Vec α S)) (f : α → Option α) (a : Vec α S) : Prop :=
  r = (allSome (a.map f)).map fun a' => (a, a')

theorem LanewiseUn.lane {r : Option (Vec β S)} {f : α → Option β} {a : Vec α S} (h : LanewiseUn r f a)
    {v : Vec β S} (hv : r = some v) (l : Nat) (hl : l < S) : f a[l] = some v[l] := by
  rw [h, allSome_eq_some_iff] at hv
  simpa using hv l hl
theorem LanewiseUn.defined {r : Option (Vec β S)} {f : α → Option β} {a : Vec α S} (h : LanewiseUn r f a)
    (hd : ∀ l (hl : l < S), (f a[l]).isSome = true) : ∃ v, r = some v := by
  rw [h]
  exact allSome_defined _ fun l hl => by simpa using hd l hl
theorem LanewiseBin.lane {r : Option (Vec γ S)} {f : α → β → Option γ} {a : Vec α S} {b : Vec β S}
    (h : LanewiseBin r f a b) {v : Vec γ S} (hv : r = some v) (l : Nat) (hl : l < S) : f a[l] b[l] = some v[l] := by
  rw [h, allSome_eq_some_iff] at hv
  simpa using hv l hl
theorem LanewiseBin.defined {r : Option (Vec γ S)} {f : α → β → Option γ} {a : Vec α S} {b : Vec β S}
    (h : LanewiseBin r f a b) (hd : ∀ l (hl : l < S), (f a[l] b[l]).isSome = true) : ∃ v, r = some v := by
  rw [h]
  exact allSome_defined _ fun l hl => by simpa using hd l hl
theorem LanewiseBinVS.lane {r : Option (Vec γ S)} {f : α → β → Option γ} {a : Vec α S} {s : β}
    (h : LanewiseBinVS r f a s) {v : Vec γ S} (hv : r = some v) (l : Nat) (hl : l < S) : f a[l] s = some v[l] :=
  LanewiseUn.lane (f := fun x => f x s) h hv l hl
theorem LanewiseBinSV.lane {r : Option (Vec γ S)} {f : α → β → Option γ} {s : α} {b : Vec β S}
    (h : LanewiseBinSV r f s b) {v : Vec γ S} (hv : r = some v) (l : Nat) (hl : l < S) : f s b[l] = some v[l] :=
  LanewiseUn.lane (f := f s) h hv l hl

theorem un_canonical (L : Loop) (hL : L.canonical) (hip : L.inPlace = false) (hargs : L.args = [.vec 0 .i])
    (f : α → Option β) (a : Vec α S) : LanewiseUn (Simd.un L f a) f a := by
  unfold LanewiseUn Simd.un
  rw [hargs]
  exact loopOut_canonical L hL hip _ _ fun i hi => by simp [rd_i a i hi]

theorem binVV_canonical (L : Loop) (hL : L.canonical) (hip : L.inPlace = false) (hargs : L.args = [.vec 0 .i, .vec 1 .i])
    (f : α → β → Option γ) (a : Vec α S) (b : Vec β S) : LanewiseBin (Simd.binVV L f a b) f a b := by
  unfold LanewiseBin Simd.binVV
  rw [hargs]
  exact loopOut_canonical L hL hip _ _ fun i hi => by simp [rd_i a i hi, rd_i b i hi]

theorem binVS_canonical (L : Loop) (hL : L.canonical) (hip : L.inPlace = false) (hargs : L.args = [.vec 0 .i, .scalar])
    (f : α → β → Option γ) (a : Vec α S) (s : β) : LanewiseBinVS (Simd.binVS L f a s) f a s := by
  unfold LanewiseBinVS Simd.binVS
  rw [hargs]
  exact loopOut_canonical L hL hip _ _ fun i hi => by simp [rd_i a i hi]

theorem binSV_canonical (L : Loop) (hL : L.canonical) (hip : L.inPlace = false) (hargs : L.args = [.scalar, .vec 0 .i])
    (f : α → β → Option γ) (s : α) (b : Vec β S) : LanewiseBinSV (Simd.binSV L f s b) f s b := by
  unfold LanewiseBinSV Simd.binSV
  rw [hargs]
  exact loopOut_canonical L hL hip _ _ fun i hi => by simp [rd_i b i hi]

theorem ipVV_canonical (L : Loop) (hL : L.canonical) (hip : L.inPlace = true) (hargs : L.args = [.vec 0 .i, .vec 1 .i])
    (f : α → β → Option α) (a : Vec α S) (b : Vec β S) : LanewiseBin (Simd.ipVV L f a b) f a b := by
  unfold LanewiseBin Simd.ipVV
  rw [hargs]
  exact loopIP_canonical L hL hip _ (fun i x => (rd b .i i).bind fun y => f x y)
    (fun i hi cur => by simp [rd_i cur i hi]) a _ fun i hi => by simp [rd_i b i hi]

theorem ipVS_canonical (L : Loop) (hL : L.canonical) (hip : L.inPlace = true) (hargs : L.args = [.vec 0 .i, .scalar])
    (f : α → β → Option α) (a : Vec α S) (s : β) : LanewiseBinVS (Simd.ipVS L f a s) f a s := by
  unfold LanewiseBinVS Simd.ipVS
  rw [hargs]
  exact loopIP_canonical L hL hip _ (fun _ x => f x s) (fun i hi cur => by simp [rd_i cur i hi]) a _ fun i hi => by simp

theorem ipUn_canonical (L : Loop) (hL : L.canonical) (hip : L.inPlace = true) (hargs : L.args = [.vec 0 .i])
    (f : α → Option α) (a : Vec α S) : LanewiseUn (Simd.ipUn L f a) f a := by
  unfold LanewiseUn Simd.ipUn
  rw [hargs]
  exact loopIP_canonical L hL hip _ (fun _ x => f x) (fun i hi cur => by simp [rd_i cur i hi]) a _ fun i hi => by simp

/-- whatever the declared parameter type: the conversion happens once (at the call), all lanes see the same argument -/
theorem binVSx_spec {σ : Type} (L : Loop) (hL : L.canonical) (hip : L.inPlace = false) (hargs : L.args = [.vec 0 .i, .scalar])
    (f : α → Simd.Arg σ α → Option γ) (toLane : σ → Option α) (truth : σ → Option Bool) (a : Vec α S) (s : σ) :
    Simd.binVSx L f toLane truth a s =
      (Simd.passScalar L.scalarTy toLane truth s).bind fun arg => allSome (a.map fun x => f x arg) := by
  unfold Simd.binVSx
  exact congrArg _ (funext fun arg => binVS_canonical L hL hip hargs f a arg)

theorem binSVx_spec {σ : Type} (L : Loop) (hL : L.canonical) (hip : L.inPlace = false) (hargs : L.args = [.scalar, .vec 0 .i])
    (f : Simd.Arg σ α → α → Option γ) (toLane : σ → Option α) (truth : σ → Option Bool) (s : σ) (b : Vec α S) :
    Simd.binSVx L f toLane truth s b =
      (Simd.passScalar L.scalarTy toLane truth s).bind fun arg => allSome (b.map fun y => f arg y) := by
  unfold Simd.binSVx
  exact congrArg _ (funext fun arg => binSV_canonical L hL hip hargs f arg b)

/-- an overload that is generic in the type of its scalar operand applies the mixed-type scalar operation in every lane -/
theorem binVSx_own {σ : Type} (L : Loop) (hL : L.canonical) (hip : L.inPlace = false) (hargs : L.args = [.vec 0 .i, .scalar])
    (hown : L.scalarTy = .own) (f : α → Simd.Arg σ α → Option γ) (toLane : σ → Option α) (truth : σ → Option Bool)
    (a : Vec α S) (s : σ) : LanewiseBinVS (Simd.binVSx L f toLane truth a s) (fun x t => f x (.own t)) a s := by
  unfold LanewiseBinVS
  rw [binVSx_spec L hL hip hargs, hown]
  rfl

theorem binSVx_own {σ : Type} (L : Loop) (hL : L.canonical) (hip : L.inPlace = false) (hargs : L.args = [.scalar, .vec 0 .i])
    (hown : L.scalarTy = .own) (f : Simd.Arg σ α → α → Option γ) (toLane : σ → Option α) (truth : σ → Option Bool)
    (s : σ) (b : Vec α S) : LanewiseBinSV (Simd.binSVx L f toLane truth s b) (fun t y => f (.own t) y) s b := by
  unfold LanewiseBinSV
  rw [binSVx_spec L hL hip hargs, hown]
  rfl

/-- a scalar operand declared `Simd::Mask<T>` reaches every lane as its truth value -/
theorem binSVx_mask {σ : Type} (L : Loop) (hL : L.canonical) (hip : L.inPlace = false) (hargs : L.args = [.scalar, .vec 0 .i])
    (hm : L.scalarTy = .laneMask) (f : Simd.Arg σ α → α → Option γ) (toLane : σ → Option α) (truth : σ → Option Bool)
    (s : σ) (b : Vec α S) :
    Simd.binSVx L f toLane truth s b = (truth s).bind fun m => allSome (b.map fun y => f (.mask m) y) := by
  rw [binSVx_spec L hL hip hargs, hm]
  exact Option.bind_map

end Lanewise

section Operators
variable {α β : Type} {S : Nat}

theorem lanewise_unary (sem : UnOp → α → Option α) (op : UnOp) (a : Vec α S) :
    LanewiseUn (Simd.unary sem op a) (sem op) a :=
  un_canonical loop_UNARY_OP_v ⟨rfl, rfl, rfl⟩ rfl rfl _ a
theorem lanewise_lnot (truth : α → Option Bool) (a : Vec α S) :
    LanewiseUn (Simd.lnot truth a) (fun x => (truth x).map (!·)) a :=
  un_canonical loop_lnot ⟨rfl, rfl, rfl⟩ rfl rfl _ a
theorem lanewise_prefix (sem : IncOp → α → Option α) (op : IncOp) (a : Vec α S) :
    LanewiseUn (Simd.prefix sem op a) (sem op) a :=
  ipUn_canonical loop_PREFIX_OP_v ⟨rfl, rfl, rfl⟩ rfl rfl _ a
theorem lanewise_postfix (sem : IncOp → α → Option α) (op : IncOp) (a : Vec α S) :
    LanewisePostfix (Simd.postfix sem op a) (sem op) a := by
  unfold LanewisePostfix Simd.postfix
  rw [lanewise_prefix sem op a]
theorem lanewise_binaryVV (sem : BinOp → α → α → Option α) (op : BinOp) (a b : Vec α S) :
    LanewiseBin (Simd.binaryVV sem op a b) (sem op) a b :=
  binVV_canonical loop_BINARY_OP_vv ⟨rfl, rfl, rfl⟩ rfl rfl _ a b
theorem lanewise_binaryVS (sem : BinOp → α → α → Option α) (op : BinOp) (a : Vec α S) (s : α) :
    LanewiseBinVS (Simd.binaryVS sem op a s) (sem op) a s :=
  binVS_canonical loop_BINARY_OP_vs ⟨rfl, rfl, rfl⟩ rfl rfl _ a s
theorem lanewise_binarySV (sem : BinOp → α → α → Option α) (op : BinOp) (s : α) (b : Vec α S) :
    LanewiseBinSV (Simd.binarySV sem op s b) (sem op) s b :=
  binSV_canonical loop_BINARY_OP_sv ⟨rfl, rfl, rfl⟩ rfl rfl _ s b
theorem lanewise_shiftVV (sem : ShiftOp → α → β → Option α) (op : ShiftOp) (a : Vec α S) (b : Vec β S) :
    LanewiseBin (Simd.shiftVV sem op a b) (sem op) a b :=
  binVV_canonical loop_BITSHIFT_OP_vv ⟨rfl, rfl, rfl⟩ rfl rfl _ a b
theorem lanewise_shiftVS (sem : ShiftOp → α → β → Option α) (op : ShiftOp) (a : Vec α S) (s : β) :
    LanewiseBinVS (Simd.shiftVS sem op a s) (sem op) a s :=
  binVS_canonical loop_BITSHIFT_OP_vs ⟨rfl, rfl, rfl⟩ rfl rfl _ a s
theorem lanewise_assignVV (sem : AssignOp → α → α → Option α) (op : AssignOp) (a b : Vec α S) :
    LanewiseBin (Simd.assignVV sem op a b) (sem op) a b :=
  ipVV_canonical loop_ASSIGNMENT_OP_vv ⟨rfl, rfl, rfl⟩ rfl rfl _ a b
theorem lanewise_assignVS (sem : AssignOp → α → α → Option α) (op : AssignOp) (a : Vec α S) (s : α) :
    LanewiseBinVS (Simd.assignVS sem op a s) (sem op) a s :=
  ipVS_canonical loop_ASSIGNMENT_OP_vs ⟨rfl, rfl, rfl⟩ rfl rfl _ a s
theorem lanewise_compareVV (sem : CmpOp → α → α → Option Bool) (op : CmpOp) (a b : Vec α S) :
    LanewiseBin (Simd.compareVV sem op a b) (sem op) a b :=
  binVV_canonical loop_COMPARISON_OP_vv ⟨rfl, rfl, rfl⟩ rfl rfl _ a b
theorem lanewise_compareVS (sem : CmpOp → α → α → Option Bool) (op : CmpOp) (a : Vec α S) (s : α) :
    LanewiseBinVS (Simd.compareVS sem op a s) (sem op) a s :=
  binVS_canonical loop_COMPARISON_OP_vs ⟨rfl, rfl, rfl⟩ rfl rfl _ a s
theorem lanewise_compareSV (sem : CmpOp → α → α → Option Bool) (op : CmpOp) (s : α) (b : Vec α S) :
    LanewiseBinSV (Simd.compareSV sem op s b) (sem op) s b :=
  binSV_canonical loop_COMPARISON_OP_sv ⟨rfl, rfl, rfl⟩ rfl rfl _ s b
theorem lanewise_logicVV (sem : BoolOp → α → α → Option Bool) (op : BoolOp) (a b : Vec α S) :
    LanewiseBin (Simd.logicVV sem op a b) (sem op) a b :=
  binVV_canonical loop_BOOLEAN_OP_vv ⟨rfl, rfl, rfl⟩ rfl rfl _ a b
theorem lanewise_logicVS (sem : BoolOp → α → α → Option Bool) (op : BoolOp) (a : Vec α S) (s : α) :
    LanewiseBinVS (Simd.logicVS sem op a s) (sem op) a s :=
  binVS_canonical loop_BOOLEAN_OP_vs ⟨rfl, rfl, rfl⟩ rfl rfl _ a s
theorem lanewise_logicSV (sem : BoolOp → α → α → Option Bool) (op : BoolOp) (s : α) (b : Vec α S) :
    LanewiseBinSV (Simd.logicSV sem op s b) (sem op) s b :=
  binSV_canonical loop_BOOLEAN_OP_sv ⟨rfl, rfl, rfl⟩ rfl rfl _ s b
theorem lanewise_compareVSx {σ : Type} (sem : CmpOp → α → Simd.Arg σ α → Option Bool) (toLane : σ → Option α)
    (truth : σ → Option Bool) (op : CmpOp) (a : Vec α S) (s : σ) :
    LanewiseBinVS (Simd.compareVSx sem toLane truth op a s) (fun x t => sem op x (.own t)) a s :=
  binVSx_own loop_COMPARISON_OP_vs ⟨rfl, rfl, rfl⟩ rfl rfl rfl _ toLane truth a s
theorem lanewise_compareSVx {σ : Type} (sem : CmpOp → Simd.Arg σ α → α → Option Bool) (toLane : σ → Option α)
    (truth : σ → Option Bool) (op : CmpOp) (s : σ) (b : Vec α S) :
    LanewiseBinSV (Simd.compareSVx sem toLane truth op s b) (fun t y => sem op (.own t) y) s b :=
  binSVx_own loop_COMPARISON_OP_sv ⟨rfl, rfl, rfl⟩ rfl rfl rfl _ toLane truth s b
theorem lanewise_logicVSx {σ : Type} (sem : BoolOp → α → Simd.Arg σ α → Option Bool) (toLane : σ → Option α)
    (truth : σ → Option Bool) (op : BoolOp) (a : Vec α S) (s : σ) :
    LanewiseBinVS (Simd.logicVSx sem toLane truth op a s) (fun x t => sem op x (.own t)) a s :=
  binVSx_own loop_BOOLEAN_OP_vs ⟨rfl, rfl, rfl⟩ rfl rfl rfl _ toLane truth a s
theorem lanewise_logicSVx {σ : Type} (sem : BoolOp → Simd.Arg σ α → α → Option Bool) (toLane : σ → Option α)
    (truth : σ → Option Bool) (op : BoolOp) (s : σ) (b : Vec α S) :
    Simd.logicSVx sem toLane truth op s b = (truth s).bind fun m => allSome (b.map fun y => sem op (.mask m) y) :=
  binSVx_mask loop_BOOLEAN_OP_sv ⟨rfl, rfl, rfl⟩ rfl rfl rfl _ toLane truth s b
theorem lanewise_shiftVSx {σ : Type} (sem : ShiftOp → α → Simd.Arg σ α → Option α) (toLane : σ → Option α)
    (truth : σ → Option Bool) (op : ShiftOp) (a : Vec α S) (s : σ) :
    LanewiseBinVS (Simd.shiftVSx sem toLane truth op a s) (fun x t => sem op x (.own t)) a s :=
  binVSx_own loop_BITSHIFT_OP_vs ⟨rfl, rfl, rfl⟩ rfl rfl rfl _ toLane truth a s
theorem lanewise_math (sem : MathOp → α → Option α) (op : MathOp) (a : Vec α S) :
    LanewiseUn (Simd.math sem op a) (sem op) a :=
  un_canonical loop_CMATH_UNARY_OP_v ⟨rfl, rfl, rfl⟩ rfl rfl _ a
theorem lanewise_mathRet (sem : MathRetOp → α → Option β) (op : MathRetOp) (a : Vec α S) :
    LanewiseUn (Simd.mathRet sem op a) (sem op) a :=
  un_canonical loop_CMATH_UNARY_OP_WITH_RETURN_v ⟨rfl, rfl, rfl⟩ rfl rfl _ a
theorem lanewise_stdUn (sem : StdUnOp → α → Option β) (op : StdUnOp) (a : Vec α S) :
    LanewiseUn (Simd.stdUn sem op a) (sem op) a :=
  un_canonical loop_STD_UNARY_OP_v ⟨rfl, rfl, rfl⟩ rfl rfl _ a
theorem lanewise_stdBin (sem : StdBinOp → α → α → Option α) (op : StdBinOp) (a b : Vec α S) :
    LanewiseBin (Simd.stdBin sem op a b) (sem op) a b :=
  binVV_canonical loop_STD_BINARY_OP_vv ⟨rfl, rfl, rfl⟩ rfl rfl _ a b
end Operators

end DV.C09
