/-
C10: facts about the generated constants, `val`, `Wf`, `zeros`, `take/drop`, `ofNat`, induction over two values of
one width, injectivity of `val`, and representatives modulo `W n` with the step all carry loops use.  Core Lean only.
-/
import DuneVerif.Model.C10

namespace DV.C10
open DV.C10.Gen

/-! ### obligations on the generated constants (fail when a mask in the header changes) -/

theorem bits_eq : bits = 16 := by decide
theorem bits_pos : 0 < bits := by decide
theorem bitmask_eq : bitmask = 2 ^ bits - 1 := by decide
/-- what the carry loops need of `overflowmask`: it keeps a carry of 0 or 1 (any odd mask does) -/
theorem overflowmask_odd : overflowmask % 2 = 1 := by decide
/-- what `operator>>` needs of `compbitmask`: it keeps the whole digit above the low `bits` bits -/
theorem compbitmask_keeps : (compbitmask >>> bits) &&& bitmask = bitmask := by decide
theorem hexdigits_eq : hexdigits * 4 = bits := by decide
theorem hexdigits_pow : 16 ^ hexdigits = B := by decide
theorem B_eq : B = 65536 := by decide
theorem B_def : B = 2 ^ bits := rfl
theorem B_pos : 0 < B := by decide
theorem bitmask_succ : bitmask + 1 = B := by decide
theorem representableDigits_pos : 0 < representableDigits := by decide
/-- the digits kept by `todouble` fit a double's mantissa -/
theorem representable_fit : B ^ representableDigits ≤ 2 ^ 53 := by decide
/-- below the kept digits there are at least 32 bits less than the leading digit's weight -/
theorem representable_margin : 2 ^ 32 ≤ B ^ (representableDigits - 1) := by decide
theorem two_digits : B * B = 2 ^ 32 := by decide
theorem assign_width : B ^ (64 / bits) = 2 ^ 64 := by decide

theorem W_eq (n : Nat) : W n = 2 ^ (bits * n) := (Nat.pow_mul 2 bits n).symm

theorem W_pos (n : Nat) : 0 < W n := Nat.pow_pos B_pos

theorem W_succ (n : Nat) : W (n + 1) = B * W n := Nat.pow_succ'

theorem W_zero : W 0 = 1 := rfl

theorem W_add (m n : Nat) : W (m + n) = W m * W n := Nat.pow_add B m n

theorem W_dvd {m n : Nat} (h : m ≤ n) : W m ∣ W n := Nat.pow_dvd_pow B h

theorem W_le {m n : Nat} (h : m ≤ n) : W m ≤ W n := Nat.le_of_dvd (W_pos n) (W_dvd h)

/-- storage width: the least multiple of `bits` that is ≥ k -/
theorem ndigits_spec (k : Nat) : k ≤ bits * ndigits k ∧ bits * ndigits k < k + bits := by
  simp only [ndigits, bits_eq]
  -- robust against the equivalent spelling `(k + bits - 1) / bits` of the digit count
  first
    | omega
    | (split <;> rename_i h <;> simp at h <;> omega)

theorem ndigits_pos {k : Nat} (h : 0 < k) : 0 < ndigits k :=
  Nat.pos_of_ne_zero fun h0 => by
    have := (ndigits_spec k).1
    rw [h0, Nat.mul_zero] at this
    exact Nat.lt_irrefl 0 (Nat.lt_of_lt_of_le h this)

/-- the double-width temporary of `operator*=` has room for every `digit[i+m]` written (i, m < n) -/
theorem ndigits_double (k : Nat) : 2 * ndigits k - 1 ≤ ndigits (2 * k) ∧ ndigits k ≤ ndigits (2 * k) := by
  have h1 := (ndigits_spec k).2
  have h2 := (ndigits_spec (2 * k)).1
  rw [bits_eq] at h1 h2
  omega

theorem and_bitmask (x : Nat) : x &&& bitmask = x % B := by
  rw [bitmask_eq, Nat.and_two_pow_sub_one_eq_mod, B_def]

theorem le_bitmask {a : Nat} : a ≤ bitmask ↔ a < B := by
  rw [← bitmask_succ]; exact Nat.lt_succ_iff.symm

theorem shr_bits (x : Nat) : x >>> bits = x / B := by
  rw [Nat.shiftRight_eq_div_pow, B_def]

theorem and_overflowmask {c : Nat} (hc : c ≤ 1) : c &&& overflowmask = c := by
  rcases Nat.le_one_iff_eq_zero_or_eq_one.1 hc with rfl | rfl
  · exact Nat.zero_and _
  · rw [Nat.and_comm, Nat.and_one_is_mod]; exact overflowmask_odd

theorem and_compbitmask_shr {t : Nat} (ht : t >>> bits < B) : (t &&& compbitmask) >>> bits = t >>> bits := by
  rw [Nat.shiftRight_and_distrib]
  have h1 : t >>> bits = (t >>> bits) &&& bitmask := by
    rw [and_bitmask, Nat.mod_eq_of_lt ht]
  rw [h1, Nat.and_assoc, Nat.and_comm bitmask, compbitmask_keeps]

@[simp] theorem val_nil : val [] = 0 := rfl
@[simp] theorem val_cons (d : Nat) (ds : List Nat) : val (d :: ds) = d + B * val ds := rfl

/-- the digit half of `Wf`: lemmas about lists whose length is not a fixed width (prefixes, suffixes, rows of a product)
    take `Digs`, lemmas about an `n`-digit value take `Wf n` -/
def Digs (a : List Nat) : Prop := ∀ d ∈ a, d < B

@[simp] theorem digs_nil : Digs [] := List.forall_mem_nil _
@[simp] theorem digs_cons {d : Nat} {ds : List Nat} : Digs (d :: ds) ↔ d < B ∧ Digs ds := List.forall_mem_cons

theorem digs_append {a b : List Nat} : Digs (a ++ b) ↔ Digs a ∧ Digs b := List.forall_mem_append

theorem digs_take {a : List Nat} (h : Digs a) (m : Nat) : Digs (a.take m) :=
  fun d hd => h d (List.mem_of_mem_take hd)

theorem digs_drop {a : List Nat} (h : Digs a) (m : Nat) : Digs (a.drop m) :=
  fun d hd => h d (List.mem_of_mem_drop hd)

theorem digs_zeros (n : Nat) : Digs (zeros n) := fun _ hd => (List.mem_replicate.1 hd).2 ▸ B_pos

instance (n : Nat) (a : List Nat) : Decidable (Wf n a) := by unfold Wf; exact inferInstance

theorem wf_iff {n : Nat} {a : List Nat} : Wf n a ↔ a.length = n ∧ Digs a := Iff.rfl

theorem wf_nil : Wf 0 [] := ⟨rfl, digs_nil⟩

theorem wf_cons {n d : Nat} {ds : List Nat} : Wf (n + 1) (d :: ds) ↔ d < B ∧ Wf n ds := by
  simp only [wf_iff, List.length_cons, digs_cons, Nat.add_right_cancel_iff]
  exact and_left_comm

theorem wf_zero_iff {a : List Nat} : Wf 0 a ↔ a = [] := by
  constructor
  · rintro ⟨h, -⟩; exact List.eq_nil_of_length_eq_zero h
  · rintro rfl; exact wf_nil

theorem wf_zeros (n : Nat) : Wf n (zeros n) := ⟨by simp [zeros], digs_zeros n⟩

theorem radix_lt {M P a r : Nat} (ha : a < M) (hr : r < P) : a + M * r < M * P :=
  calc a + M * r < M + M * r := Nat.add_lt_add_right ha _
    _ = M * (r + 1) := by rw [Nat.mul_succ, Nat.add_comm]
    _ ≤ M * P := Nat.mul_le_mul_left M hr

/-- the higher digits decide, whatever the lowest digit is -/
theorem digit_lt {a va vx : Nat} (x : Nat) (ha : a < B) (h : va < vx) : a + B * va < x + B * vx :=
  Nat.lt_of_lt_of_le (radix_lt ha h) (Nat.le_add_left _ _)

theorem val_lt_of_digs : ∀ {a : List Nat}, Digs a → val a < W a.length
  | [], _ => Nat.one_pos
  | _ :: _, h => W_succ _ ▸ radix_lt (digs_cons.1 h).1 (val_lt_of_digs (digs_cons.1 h).2)

theorem val_lt {n : Nat} {a : List Nat} (h : Wf n a) : val a < W n := by
  have := val_lt_of_digs h.2
  rwa [h.1] at this

@[simp] theorem val_zeros (n : Nat) : val (zeros n) = 0 := by
  induction n with
  | zero => rfl
  | succ n ih =>
    show val (0 :: zeros n) = 0
    simp [ih]

theorem val_take_add_drop (a : List Nat) (m : Nat) : val a = val (a.take m) + W m * val (a.drop m) := by
  induction m generalizing a with
  | zero => rw [List.take_zero, List.drop_zero, val_nil, W_zero, Nat.zero_add, Nat.one_mul]
  | succ m ih =>
    cases a with
    | nil => rw [List.take_nil, List.drop_nil, val_nil, Nat.mul_zero]
    | cons d ds =>
      rw [List.take_succ_cons, List.drop_succ_cons, val_cons, val_cons, ih ds, W_succ,
        Nat.mul_add, Nat.mul_assoc, Nat.add_assoc]

theorem val_append (a b : List Nat) : val (a ++ b) = val a + W a.length * val b := by
  rw [val_take_add_drop (a ++ b) a.length, List.take_left, List.drop_left]

theorem val_take_lt {a : List Nat} (h : Digs a) (m : Nat) : val (a.take m) < W m :=
  Nat.lt_of_lt_of_le (val_lt_of_digs (digs_take h m)) (W_le (List.length_take_le m a))

theorem val_take {a : List Nat} (h : Digs a) (m : Nat) : val (a.take m) = val a % W m := by
  rw [val_take_add_drop a m, Nat.add_mul_mod_self_left, Nat.mod_eq_of_lt (val_take_lt h m)]

theorem val_drop {a : List Nat} (h : Digs a) (m : Nat) : val (a.drop m) = val a / W m := by
  rw [val_take_add_drop a m, Nat.add_mul_div_left _ _ (W_pos m), Nat.div_eq_of_lt (val_take_lt h m), Nat.zero_add]

@[elab_as_elim]
theorem wf_ind₂ {P : Nat → List Nat → List Nat → Prop} (nil : P 0 [] [])
    (cons : ∀ {n a x as xs}, a < B → x < B → Wf n as → Wf n xs → P n as xs → P (n + 1) (a :: as) (x :: xs)) :
    ∀ {n a x}, Wf n a → Wf n x → P n a x := by
  intro n
  induction n with
  | zero =>
    intro a x ha hx
    rw [wf_zero_iff.1 ha, wf_zero_iff.1 hx]
    exact nil
  | succ n ih =>
    intro a x ha hx
    match a, x, ha, hx with
    | [], _, ha, _ => nomatch ha.1
    | _ :: _, [], _, hx => nomatch hx.1
    | _ :: _, _ :: _, ha, hx =>
      have ha := wf_cons.1 ha
      have hx := wf_cons.1 hx
      exact cons ha.1 hx.1 ha.2 hx.2 (ih ha.2 hx.2)

theorem val_inj {n : Nat} {a b : List Nat} (ha : Wf n a) (hb : Wf n b) : val a = val b → a = b := by
  refine wf_ind₂ (fun _ => rfl) ?_ ha hb
  intro _ d e ds es hd he _ _ ih h
  have h1 : d = e := by
    have := congrArg (· % B) h
    simp only [val_cons, Nat.add_mul_mod_self_left] at this
    rwa [Nat.mod_eq_of_lt hd, Nat.mod_eq_of_lt he] at this
  subst h1
  rw [ih (Nat.eq_of_mul_eq_mul_left B_pos (Nat.add_left_cancel h))]

/-! ### representatives

`Rep n a e`: the digit list `a` stands for the number `e` modulo `W n`.  The proof modules state the value theorems of
`+ ++ - *` with it; the property theorems write it out as `Wf n (op a x) ∧ val (op a x) = … % W n`. -/

def Rep (n : Nat) (a : List Nat) (e : Nat) : Prop := Wf n a ∧ val a = e % W n

theorem Rep.of_wf {n : Nat} {a : List Nat} (ha : Wf n a) : Rep n a (val a) :=
  ⟨ha, (Nat.mod_eq_of_lt (val_lt ha)).symm⟩

theorem Rep.ext {n s t : Nat} {a b : List Nat} (ha : Rep n a s) (hb : Rep n b t) (h : s % W n = t % W n) : a = b :=
  val_inj ha.1 hb.1 (by rw [ha.2, hb.2, h])

theorem take_rep {w : Nat} {a : List Nat} (ha : Digs a) (hw : w ≤ a.length) : Rep w (a.take w) (val a) :=
  ⟨⟨List.length_take.trans (Nat.min_eq_left hw), digs_take ha w⟩, val_take ha w⟩

theorem Rep.nil (e : Nat) : Rep 0 [] e := ⟨wf_nil, (Nat.mod_one e).symm⟩

/-- the step of every carry loop: write the low digit of `s`, carry `s / B` into the rest -/
theorem Rep.cons {n s e : Nat} {t : List Nat} (h : Rep n t (e + s / B)) : Rep (n + 1) (s % B :: t) (s + B * e) :=
  ⟨wf_cons.2 ⟨Nat.mod_lt _ B_pos, h.1⟩, by
    rw [val_cons, h.2, W_succ, Nat.mod_mul, Nat.add_mul_mod_self_left, Nat.add_mul_div_left _ _ B_pos, Nat.add_comm e]⟩

theorem ofNat_rep (n v : Nat) : Rep n (ofNat n v) v := by
  induction n generalizing v with
  | zero => exact Rep.nil v
  | succ n ih =>
    have h : Rep (n + 1) (v % B :: ofNat n (v / B)) (v + B * 0) := Rep.cons ((Nat.zero_add _).symm ▸ ih (v / B))
    rwa [Nat.mul_zero, Nat.add_zero] at h

end DV.C10
