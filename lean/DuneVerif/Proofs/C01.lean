import Mathlib.Algebra.BigOperators.Group.Finset.Basic
import Mathlib.Algebra.BigOperators.Ring.Finset
import DuneVerif.Model.C01
/-! What the counting loops of the model compute, and with them the operations of `Model/C01.lean`.

A loop is followed through one observation `φ : σ → ν` of its state (an entry of a vector or of a matrix).  Two facts about
`forN` carry every loop of the model: `forN_once` (only iteration `j` changes what `φ` sees, so the loop has changed it once
`j` has run; `forN_once₂` says the same of two loops around one body) and `forN_acc` (every iteration accumulates into what
`φ` sees, so the loop accumulates the sum).  From them follow the loop nests of the interpreters, and one theorem per
interpreter that holds for every signature table of the shape the generated ones have; from those, the entries of the vector
and matrix operations on their generated tables.  Last come the shape of `Rep.toFull` and `assignFrom` and the row and column
sums of a diagonal matrix. -/
open Finset

namespace DV.C01

@[simp] theorem forN_zero {σ : Type*} (f : Nat → σ → σ) (s : σ) : forN 0 f s = s := rfl

theorem forN_succ {σ : Type*} (n : Nat) (f : Nat → σ → σ) (s : σ) : forN (n+1) f s = f n (forN n f s) := rfl

section loops
variable {σ : Type*} {ν : Type*} (φ : σ → ν) (n : Nat) (f : Nat → σ → σ)

/-- Where a caller leaves the loop body `f` to unification, `hf` has to be given as `fun _ _ => by rfl`: a bare `rfl` is
elaborated before `f` is known and makes `f` the identity. -/
theorem forN_preserves (hf : ∀ i s, φ (f i s) = φ s) (s : σ) : φ (forN n f s) = φ s := by
  induction n with
  | zero => rfl
  | succ n ih => exact (hf n _).trans ih

theorem forN_once (j : Nat) (g : Nat → ν → ν) (hf : ∀ i s, φ (f i s) = if j = i then g i (φ s) else φ s) (s : σ) :
    φ (forN n f s) = if j < n then g j (φ s) else φ s := by
  induction n with
  | zero => rfl
  | succ n ih =>
    rw [forN_succ, hf, ih]
    obtain rfl | h := eq_or_ne j n
    · rw [if_pos rfl, if_neg (Nat.lt_irrefl j), if_pos j.lt_succ_self]
    · simp only [h, Nat.lt_succ_iff_lt_or_eq, or_false, if_false]

theorem forN_once₂ (O N : Nat) (f : Nat → Nat → σ → σ) (jo jn : Nat) (g : Nat → Nat → ν → ν)
    (hf : ∀ o n s, φ (f o n s) = if jo = o ∧ jn = n then g o n (φ s) else φ s) (s : σ) :
    φ (forN O (fun o s => forN N (f o) s) s) = if jo < O ∧ jn < N then g jo jn (φ s) else φ s := by
  refine (forN_once φ O _ jo (fun o v => if jn < N then g o jn v else v) (fun o s => ?_) s).trans (ite_and ..).symm
  by_cases h : jo = o
  · rw [if_pos h]
    exact forN_once φ N (f o) jn (g o) (fun n s => (hf o n s).trans (if_congr (and_iff_right h) rfl rfl)) s
  · rw [if_neg h]
    exact forN_preserves φ N (f o) (fun n s => (hf o n s).trans (if_neg fun c => h c.1)) s

/-- `p`: the slot `φ` looks at is the one the loop accumulates into.  The loop starts from `s'`, where that slot holds `c` and
every other slot what it holds in `s` (`s' = s`, or `s` with the slot reset).  `hop`: `op` is a right action of `(ν, +)` with
`op a 0 = a`, so that `+=` (`op = +`) and `-=` (`op = -`) are one lemma. -/
theorem forN_acc [AddCommMonoid ν] (p : Prop) [Decidable p] (op : ν → ν → ν)
    (hop : (∀ a b c, op (op a b) c = op a (b + c)) ∧ ∀ a, op a 0 = a) (t : Nat → ν)
    (hf : ∀ i s, φ (f i s) = if p then op (φ s) (t i) else φ s) (c : ν) (s s' : σ) (h₀ : φ s' = if p then c else φ s) :
    φ (forN n f s') = if p then op c (∑ i ∈ range n, t i) else φ s := by
  induction n with
  | zero => rw [sum_range_zero, hop.2]; exact h₀
  | succ n ih =>
    rw [forN_succ, hf, ih, sum_range_succ]
    by_cases h : p
    · simp only [if_pos h, hop.1]
    · simp only [if_neg h]

end loops

variable {R : Type*}

@[simp] theorem Vec.upd_get (y : Vec R) (t : Nat) (v : R) (k : Nat) :
    (y.upd t v).get k = if k = t then v else y.get k := rfl
@[simp] theorem Vec.upd_n (y : Vec R) (t : Nat) (v : R) : (y.upd t v).n = y.n := rfl

@[simp] theorem Mat.upd_e (M : Mat R) (a b : Nat) (v : R) (r c : Nat) :
    (M.upd a b v).e r c = if r = a ∧ c = b then v else M.e r c := rfl

/-- `for i < n: y[i] = g i (y[i])`, the form of every elementwise loop: iteration `i` writes entry `i` only -/
theorem diag_loop (n : Nat) (g : Nat → R → R) (y : Vec R) (k : Nat) :
    (forN n (fun i y => y.upd i (g i (y.get i))) y).get k = if k < n then g k (y.get k) else y.get k := by
  refine forN_once (Vec.get · k) n _ k g (fun i y => ?_) y
  rw [Vec.upd_get]
  exact if_ctx_congr Iff.rfl (fun h => by rw [h]) fun _ => rfl

theorem loop_shape (n : Nat) (f : Nat → Mat R → Mat R)
    (hf : ∀ i T, (f i T).rows = T.rows ∧ (f i T).cols = T.cols) (T : Mat R) :
    (forN n f T).rows = T.rows ∧ (forN n f T).cols = T.cols :=
  ⟨forN_preserves Mat.rows n f (fun i T => (hf i T).1) T, forN_preserves Mat.cols n f (fun i T => (hf i T).2) T⟩

/-- `for i < n: dense[i][i] = d i` -/
theorem diag_assign_loop (n : Nat) (d : Nat → R) (T : Mat R) (a b : Nat) :
    (forN n (fun i (M : Mat R) => M.upd i i (d i)) T).e a b = if a < n ∧ a = b then d a else T.e a b :=
  (forN_once (Mat.e · a b) n _ a (fun i v => if a = b then d i else v) (fun i T => by
    rw [Mat.upd_e, ← ite_and]; exact if_congr (and_congr_right fun h => by rw [h, eq_comm]) rfl rfl) T).trans (ite_and ..).symm

section
variable [Add R] [Sub R] [Mul R] [Neg R] [Div R]

theorem elemSem_get [Zero R] (s : ElemSig) (n : Nat) (self : Nat → R) (k : R) (x : Nat → R) (t : Vec R) (i : Nat) :
    (elemSem s n self k x t).get i
      = if i < n then applyE s.op (t.get i) (erhs s.rhs (self i) k (x i)) else t.get i :=
  diag_loop n (fun i v => applyE s.op v (erhs s.rhs (self i) k (x i))) t i

theorem elemSem_n [Zero R] (s : ElemSig) (n : Nat) (self : Nat → R) (k : R) (x : Nat → R) (t : Vec R) :
    (elemSem s n self k x t).n = t.n :=
  forN_preserves Vec.n n _ (fun _ _ => by rfl) t

theorem ewSemVec_get (s : EwSig) (n : Nat) (a b : Nat → R) (k : R) (t : Vec R) (i : Nat) :
    (ewSemVec s n a b k t).get i = if i < n then ewVal s (a i) (b i) k else t.get i :=
  diag_loop n (fun i _ => ewVal s (a i) (b i) k) t i

theorem ewSemMat_e (s : EwSig) (rows cols : Nat) (A B : Nat → Nat → R) (k : R) (T : Mat R) (i j : Nat) :
    (ewSemMat s rows cols A B k T).e i j = if i < rows ∧ j < cols then ewVal s (A i j) (B i j) k else T.e i j :=
  forN_once₂ (Mat.e · i j) rows cols _ i j (fun i j _ => ewVal s (A i j) (B i j) k) (fun _ _ _ => rfl) T

theorem ewSemMat_shape (s : EwSig) (rows cols : Nat) (A B : Nat → Nat → R) (k : R) (T : Mat R) :
    (ewSemMat s rows cols A B k T).rows = T.rows ∧ (ewSemMat s rows cols A B k T).cols = T.cols :=
  loop_shape rows _ (fun _ T => loop_shape cols _ (fun _ _ => by exact ⟨rfl, rfl⟩) T) T

end

theorem allN_iff (n : Nat) (p : Nat → Bool) : allN n p = true ↔ ∀ i, i < n → p i = true := by
  induction n with
  | zero => exact ⟨fun _ i hi => absurd hi (Nat.not_lt_zero i), fun _ => rfl⟩
  | succ n ih =>
    rw [show allN (n+1) p = (allN n p && p n) from rfl, Bool.and_eq_true, ih, Nat.forall_lt_succ_right]

variable [CommRing R]

omit [CommRing R] in
@[simp] theorem Mat.upd_rows (M : Mat R) (a b : Nat) (v : R) : (M.upd a b v).rows = M.rows := rfl
omit [CommRing R] in
@[simp] theorem Mat.upd_cols (M : Mat R) (a b : Nat) (v : R) : (M.upd a b v).cols = M.cols := rfl

omit [CommRing R] in
theorem ewSemVec_n [Add R] [Sub R] [Mul R] [Neg R] [Div R]
    (s : EwSig) (n : Nat) (a b : Nat → R) (k : R) (t : Vec R) : (ewSemVec s n a b k t).n = t.n :=
  forN_preserves Vec.n n _ (fun _ _ => by rfl) t

/-- the two ways to write the transposition nest `AT[j][i] = (*this)[i][j]`: rows in the outer or in the inner loop -/
def TransSig.rowsOuter : TransSig :=
  { extO := .rows, extI := .cols, tr := .inner, tc := .outer, sr := .outer, sc := .inner }
def TransSig.colsOuter : TransSig :=
  { extO := .cols, extI := .rows, tr := .outer, tc := .inner, sr := .inner, sc := .outer }

omit [CommRing R] in
theorem transSem_spec (s : TransSig) (hs : s = TransSig.rowsOuter ∨ s = TransSig.colsOuter) (A T : Mat R) (i j : Nat) :
    (transSem s A T).e i j = (if i < A.cols ∧ j < A.rows then A.e j i else T.e i j)
    ∧ (transSem s A T).rows = T.rows ∧ (transSem s A T).cols = T.cols := by
  refine ⟨?_, loop_shape _ _ (fun _ T => loop_shape _ _ (fun _ _ => by exact ⟨rfl, rfl⟩) T) T⟩
  rcases hs with rfl | rfl
  · exact (forN_once₂ (Mat.e · i j) A.rows A.cols (fun o n T => T.upd n o (A.e o n)) j i (fun o n _ => A.e o n)
      (fun _ _ _ => if_congr and_comm rfl rfl) T).trans (if_congr and_comm rfl rfl)
  · exact forN_once₂ (Mat.e · i j) A.cols A.rows (fun o n T => T.upd o n (A.e n o)) i j (fun o n _ => A.e n o) (fun _ _ _ => rfl) T

theorem sumLoop_eq (n : Nat) (f : Nat → R) : sumLoop n f = ∑ k ∈ range n, f k := by
  induction n with
  | zero => rfl
  | succ n ih => rw [sum_range_succ, ← ih]; rfl

theorem applyUpd_acts {u : Upd} (hu : u ≠ .assign) :
    (∀ a b c : R, applyUpd u (applyUpd u a b) c = applyUpd u a (b + c)) ∧ ∀ a : R, applyUpd u a 0 = a := by
  cases u
  · exact absurd rfl hu
  · exact ⟨add_assoc, add_zero⟩
  · exact ⟨sub_sub, sub_zero⟩

theorem inner_fixed_n (t N : Nat) (T : Nat → R) (y : Vec R) :
    (forN N (fun n y => y.upd t (y.get t + T n)) y).n = y.n :=
  forN_preserves Vec.n N (fun n y => y.upd t (y.get t + T n)) (fun _ _ => rfl) y

/-- loop nest writing to the outer index: `for o < O: [y[o] = 0;] for n < N: y[o] (+= or -=) T o n` -/
theorem outer_fixed {u : Upd} (hu : u ≠ .assign) (O N : Nat) (T : Nat → Nat → R) (z : Bool) (y : Vec R) (k : Nat) :
    (forN O (fun o y => forN N (fun n y => y.upd o (applyUpd u (y.get o) (T o n))) (if z then y.upd o 0 else y)) y).get k
      = if k < O then applyUpd u (if z then 0 else y.get k) (∑ n ∈ range N, T k n) else y.get k := by
  -- iteration `o` owns entry `o`, into which its inner loop accumulates
  refine forN_once (Vec.get · k) O _ k (fun o v => applyUpd u (if z then 0 else v) (∑ n ∈ range N, T o n)) (fun o y => ?_) y
  refine forN_acc (Vec.get · k) N _ (k = o) (applyUpd u) (applyUpd_acts hu) (T o) (fun n y => ?_)
    (if z then 0 else y.get k) y _ (by cases z; exacts [(ite_self _).symm, rfl])
  rw [Vec.upd_get]
  exact if_ctx_congr Iff.rfl (fun h => by rw [h]) fun _ => rfl

/-- loop nest writing to the inner index: `for o < O: for n < N: y[n] (+= or -=) T o n` -/
theorem outer_moving {u : Upd} (hu : u ≠ .assign) (O N : Nat) (T : Nat → Nat → R) (y : Vec R) (k : Nat) :
    (forN O (fun o y => forN N (fun n y => y.upd n (applyUpd u (y.get n) (T o n))) y) y).get k
      = if k < N then applyUpd u (y.get k) (∑ o ∈ range O, T o k) else y.get k :=
  forN_acc (Vec.get · k) O _ (k < N) (applyUpd u) (applyUpd_acts hu) (T · k)
    (fun o y => diag_loop N (fun n v => applyUpd u v (T o n)) y k) _ y y (ite_self _).symm

/-- the product loop nest with target `T[i][j]`:
`for i < I: for j < J: { [T[i][j] = 0;] for k < N: T[i][j] += t i j k }` -/
theorem nest_ij (I J N : Nat) (t : Nat → Nat → Nat → R) (z : Bool) (T : Mat R) (a b : Nat) :
    (forN I (fun i T => forN J (fun j T => forN N (fun k T => T.upd i j (T.e i j + t i j k))
        (if z then T.upd i j 0 else T)) T) T).e a b
      = if a < I ∧ b < J then (if z then 0 else T.e a b) + ∑ k ∈ range N, t a b k else T.e a b := by
  -- iteration `(i, j)` owns the entry `(i, j)`, into which the innermost loop accumulates
  refine forN_once₂ (Mat.e · a b) I J _ a b (fun i j v => (if z then 0 else v) + ∑ k ∈ range N, t i j k) (fun i j T => ?_) T
  refine forN_acc (Mat.e · a b) N _ (a = i ∧ b = j) (· + ·) ⟨add_assoc, add_zero⟩ (t i j) (fun k T => ?_)
    (if z then 0 else T.e a b) T _ (by cases z; exacts [(ite_self _).symm, rfl])
  rw [Mat.upd_e]
  exact if_ctx_congr Iff.rfl (fun h => by rw [h.1, h.2]) fun _ => rfl

/-- `[alpha *] v`.  On a generated table the flag is a literal, and `scaled` (like `conjIf` below) reduces by `rfl`: the kernel
theorems of `Props/C01.lean` are stated without the two. -/
def scaled (hasAlpha : Bool) (alpha v : R) : R := if hasAlpha then alpha * v else v

/-- `[conjugateComplex] a` -/
def conjIf (hasConj : Bool) (conj : R → R) (a : R) : R := if hasConj then conj a else a

theorem rhs_eq (hasAlpha hasConj : Bool) (conj : R → R) (alpha a xv : R) :
    rhs hasAlpha hasConj conj alpha a xv = scaled hasAlpha alpha (conjIf hasConj conj a * xv) := by
  cases hasAlpha
  · rfl
  · exact mul_assoc alpha _ xv

theorem sum_scaled (hasAlpha : Bool) (alpha : R) (n : Nat) (f : Nat → R) :
    ∑ k ∈ range n, scaled hasAlpha alpha (f k) = scaled hasAlpha alpha (∑ k ∈ range n, f k) := by
  cases hasAlpha
  · rfl
  · exact (mul_sum (range n) f alpha).symm

section kernels
variable (s : KernelSig) (conj : R → R) (rows cols : Nat) (A : Nat → Nat → R) (alpha : R) (x : Nat → R) (y : Vec R)

/-- a kernel whose target is the outer index (`mv`, `mtv`, `umv`, `mmv`, `usmv`): entry `i` accumulates row `i` of the nest -/
theorem kernelSem_outer (ht : s.tgt = .outer) (hu : s.upd ≠ .assign) (i : Nat) :
    (kernelSem s conj rows cols A alpha x y).get i
      = if i < bound s.outerBound rows cols then
          applyUpd s.upd (if s.zeroInit then 0 else y.get i) (scaled s.alpha alpha
            (∑ n ∈ range (bound s.innerBound rows cols), conjIf s.conj conj (A (sel s.row i n) (sel s.col i n)) * x (sel s.xix i n)))
        else y.get i := by
  unfold kernelSem
  rw [ht]
  refine (outer_fixed hu _ _ _ s.zeroInit y i).trans ?_
  simp only [rhs_eq, sum_scaled]

theorem kernelSem_outer_init (ht : s.tgt = .outer) (hu : s.upd = .add) (hz : s.zeroInit = true) (i : Nat) :
    (kernelSem s conj rows cols A alpha x y).get i
      = if i < bound s.outerBound rows cols then
          scaled s.alpha alpha
            (∑ n ∈ range (bound s.innerBound rows cols), conjIf s.conj conj (A (sel s.row i n) (sel s.col i n)) * x (sel s.xix i n))
        else y.get i := by
  rw [kernelSem_outer s conj rows cols A alpha x y ht (by rw [hu]; decide), hu, hz, if_pos rfl]
  exact if_congr Iff.rfl (zero_add _) rfl

/-- a kernel whose target is the inner index (`umtv`, `umhv`, `mmtv`, ...): entry `i` accumulates column `i` of the nest.  `hz`: the
reset `y[o] = 0` at the head of outer iteration `o` would wipe an entry that accumulates across the outer iterations. -/
theorem kernelSem_inner (ht : s.tgt = .inner) (hu : s.upd ≠ .assign) (hz : s.zeroInit = false) (i : Nat) :
    (kernelSem s conj rows cols A alpha x y).get i
      = if i < bound s.innerBound rows cols then
          applyUpd s.upd (y.get i) (scaled s.alpha alpha
            (∑ o ∈ range (bound s.outerBound rows cols), conjIf s.conj conj (A (sel s.row o i) (sel s.col o i)) * x (sel s.xix o i)))
        else y.get i := by
  unfold kernelSem
  rw [ht, hz]
  refine (outer_moving hu _ _ _ y i).trans ?_
  simp only [rhs_eq, sum_scaled]

end kernels

theorem diagKernelSem_get (s : DiagSig) (conj : R → R) (n : Nat) (d : Nat → R) (alpha : R) (x : Nat → R) (y : Vec R) (i : Nat) :
    (diagKernelSem s conj n d alpha x y).get i
      = if i < n then applyUpd s.upd (y.get i) (scaled s.alpha alpha (conjIf s.conj conj (d i) * x i)) else y.get i := by
  unfold diagKernelSem
  simp only [rhs_eq]
  exact diag_loop n (fun i v => applyUpd s.upd v (scaled s.alpha alpha (conjIf s.conj conj (d i) * x i))) y i

section products
variable (s : ProdSig) (A B T : Mat R)

/-- a product nest whose target is `T[i][j]` (every nest of fmatrix.hh / densematrix.hh) -/
theorem prodSem_ij (htr : s.tr = .i) (htc : s.tc = .j) (a b : Nat) :
    (prodSem s A B T).e a b
      = if a < pext s.extI A B ∧ b < pext s.extJ A B then
          (if s.init then 0 else T.e a b) + ∑ k ∈ range (pext s.extK A B), pfac s.f1 A B a b k * pfac s.f2 A B a b k
        else T.e a b := by
  unfold prodSem
  rw [htr, htc]
  exact nest_ij _ _ _ (fun i j k => pfac s.f1 A B i j k * pfac s.f2 A B i j k) s.init T a b

theorem prodSem_init (htr : s.tr = .i) (htc : s.tc = .j) (hin : s.init = true) (a b : Nat) :
    (prodSem s A B T).e a b
      = if a < pext s.extI A B ∧ b < pext s.extJ A B then
          ∑ k ∈ range (pext s.extK A B), pfac s.f1 A B a b k * pfac s.f2 A B a b k
        else T.e a b := by
  rw [prodSem_ij s A B T htr htc, hin, if_pos rfl]
  exact if_congr Iff.rfl (zero_add _) rfl

theorem prodSem_shape : (prodSem s A B T).rows = T.rows ∧ (prodSem s A B T).cols = T.cols := by
  refine loop_shape _ _ (fun i T => loop_shape _ _ (fun j T => ?_) T) T
  cases s.init <;> exact loop_shape _ _ (fun _ _ => by exact ⟨rfl, rfl⟩) _

end products

section
variable [Div R] (t : Vec R) (x : Nat → R) (k : R) (i : Nat)

theorem vPlusAssign_get : (vPlusAssign t x).get i = if i < t.n then t.get i + x i else t.get i :=
  elemSem_get Gen.vsig_plusAssign t.n t.get 0 x t i

theorem vMinusAssign_get : (vMinusAssign t x).get i = if i < t.n then t.get i - x i else t.get i :=
  elemSem_get Gen.vsig_minusAssign t.n t.get 0 x t i

theorem vPlusAssignScalar_get : (vPlusAssignScalar t k).get i = if i < t.n then t.get i + k else t.get i :=
  elemSem_get Gen.vsig_plusAssignScalar t.n t.get k (fun _ => 0) t i

theorem vMinusAssignScalar_get : (vMinusAssignScalar t k).get i = if i < t.n then t.get i - k else t.get i :=
  elemSem_get Gen.vsig_minusAssignScalar t.n t.get k (fun _ => 0) t i

theorem vTimesAssign_get : (vTimesAssign t k).get i = if i < t.n then k * t.get i else t.get i :=
  (elemSem_get Gen.vsig_timesAssign t.n t.get k (fun _ => 0) t i).trans (if_congr Iff.rfl (mul_comm _ _) rfl)

theorem vDivAssign_get : (vDivAssign t k).get i = if i < t.n then t.get i / k else t.get i :=
  elemSem_get Gen.vsig_divAssign t.n t.get k (fun _ => 0) t i

theorem vAxpy_get : (vAxpy t k x).get i = if i < t.n then t.get i + k * x i else t.get i :=
  elemSem_get Gen.vsig_axpy t.n t.get k x t i

theorem vNeg_get : (vNeg t).get i = if i < t.n then - t.get i else t.get i :=
  elemSem_get Gen.vsig_neg t.n t.get 0 (fun _ => 0) t i

end

section
variable [Div R] (A B : Mat R) (k : R) (i j : Nat)

theorem madd_e : (madd A B).e i j = if j < A.cols then A.e i j + B.e i j else A.e i j :=
  vPlusAssign_get (A.row i) (B.e i) j

theorem msub_e : (msub A B).e i j = if j < A.cols then A.e i j - B.e i j else A.e i j :=
  vMinusAssign_get (A.row i) (B.e i) j

theorem mscale_e : (mscale A k).e i j = if j < A.cols then k * A.e i j else A.e i j :=
  vTimesAssign_get (A.row i) k j

theorem mdiv_e : (mdiv A k).e i j = if j < A.cols then A.e i j / k else A.e i j :=
  vDivAssign_get (A.row i) k j

theorem maxpy_e : (maxpy A k B).e i j = if j < A.cols then A.e i j + k * B.e i j else A.e i j :=
  vAxpy_get (A.row i) (B.e i) k j

theorem mneg_e : (mneg A).e i j = if i < A.rows ∧ j < A.cols then - A.e i j else A.e i j :=
  ewSemMat_e Gen.msig_neg A.rows A.cols A.e A.e 0 A i j

end

theorem shape_toFull (r : Rep R) : r.toFull.rows = r.rows ∧ r.toFull.cols = r.cols := by
  induction r with
  | transposed r ih => exact ⟨ih.2, ih.1⟩
  | _ => exact ⟨rfl, rfl⟩

theorem toFull_rows (r : Rep R) : r.toFull.rows = r.rows := (shape_toFull r).1
theorem toFull_cols (r : Rep R) : r.toFull.cols = r.cols := (shape_toFull r).2

theorem assignFrom_shape (r : Rep R) : (assignFrom r).rows = r.rows ∧ (assignFrom r).cols = r.cols := by
  cases r with
  | diag n d => exact loop_shape n _ (fun _ _ => by exact ⟨rfl, rfl⟩) _
  | _ => exact shape_toFull _

/-- row `i` and column `i` of the full matrix of a diagonal matrix have the one entry `d i` -/
theorem sum_diag_row (n : Nat) (d x : Nat → R) (i : Nat) (hi : i < n) :
    ∑ j ∈ range (Rep.diag n d).toFull.cols, (Rep.diag n d).toFull.e i j * x j = d i * x i := by
  simp [Rep.toFull, ite_mul, Finset.sum_ite_eq, hi]

theorem sum_diag_col (f : R → R) (hf : f 0 = 0) (n : Nat) (d x : Nat → R) (i : Nat) (hi : i < n) :
    ∑ l ∈ range (Rep.diag n d).toFull.rows, f ((Rep.diag n d).toFull.e l i) * x l = f (d i) * x i := by
  show ∑ l ∈ range n, f (if l = i then d l else 0) * x l = f (d i) * x i
  rw [sum_eq_single i (fun l _ hl => by rw [if_neg hl, hf, zero_mul]) (fun h => absurd (mem_range.mpr hi) h), if_pos rfl]

end DV.C01
