/-
C19 — the definitions regenerated from the source (Gen/C19.lean) are the hand-written model, for all states.
The guard's member functions arrive as `Prog` terms and are compared without looking at their shape (renamed locals,
commuted conditions, `!= 0` for `> 0` give other terms with the same proofs); the members of the future classes arrive
as lists of statements, interpreted by `Interp` (`genFut`, `genFutRef`, `genVoid`, `genErased`, `genStep2`, `genRun2` run
the generated bodies) and compared with the model's step functions state by state.
-/
import DuneVerif.Model.C19
import DuneVerif.Gen.C19

namespace DV.C19

theorem Prog.sum_ext {α : Type} {c c' : Nat} {k k' : Nat → Prog α} (hc : c = c') (h0 : k 0 = k' 0)
    (hS : ∀ n, k (n + 1) = k' (n + 1)) : Prog.sum c k = Prog.sum c' k' := by
  subst hc
  have : k = k' := by
    funext t
    cases t with
    | zero => exact h0
    | succ n => exact hS n
  rw [this]

/-! Both sides issue one `sum`; the contributions agree, and so do the continuations for the sum 0 and for every positive
sum, where `simp` can evaluate whichever test of the sum the source uses and `omega` settles what arithmetic is left. -/

theorem gen_finalize (g : Guard) (s : Bool) : Gen.Guard.finalize g s = finalize g s := by
  cases g with | mk a =>
  cases a <;> cases s <;> refine Prog.sum_ext ?_ ?_ (fun n => ?_) <;> simp <;> omega

theorem gen_reactivate (g : Guard) : Gen.Guard.reactivate g = reactivate g := by
  cases g with | mk a =>
  cases a
  · rfl
  · refine Prog.sum_ext ?_ ?_ (fun n => ?_) <;> simp [Prog.bind] <;> omega

-- the generated destructor returns the guard together with the flag "an exception escaped", the model's only the flag
theorem gen_destroy (g : Guard) : (Gen.Guard.destroy g).bind (fun r => Prog.ret r.2) = destroy g := by
  cases g with | mk a =>
  cases a
  · rfl
  · refine Prog.sum_ext ?_ ?_ (fun n => ?_) <;> simp [Prog.bind] <;> omega

open Interp

/-- the generated member `body` of `MPIFuture<R,S>` on value buffers (`impl::Buffer<T>`) -/
def genFut (body : List Micro) (f : MpiFut2) : Option (FObs × MpiFut2) :=
  futRun Gen.MpiFuture.bufferValueGet Gen.MpiFuture.bufferValueBool Gen.MpiFuture.valid Gen.MpiFuture.wait body f

/-- the generated member `body` of `MPIFuture<R,S>` on reference buffers (`impl::Buffer<T&>`) -/
def genFutRef (body : List Micro) (f : MpiFut2) : Option (FObs × MpiFut2) :=
  futRun Gen.MpiFuture.bufferRefGet Gen.MpiFuture.bufferRefBool Gen.MpiFuture.valid Gen.MpiFuture.wait body f

/-- the generated member `body` of `MPIFuture<void>` (`impl::Buffer<void>`) -/
def genVoid (body : List Micro) (f : MpiVoid) : Option (FObs × MpiVoid) :=
  voidRun Gen.MpiFuture.bufferVoidGet Gen.MpiFuture.bufferVoidBool Gen.MpiFuture.valid Gen.MpiFuture.wait body f

-- the generated members against the model: a finite table over flag × request × send object
macro "fut_cases" f:ident : tactic =>
  `(tactic| (rcases $f:ident with ⟨⟨v, r, buf, inc⟩, snd⟩
             cases v <;> cases r <;> cases snd <;> first | rfl | simp_all [genFut, genFutRef, futRun, futBasic]))

theorem gen_buffers (v : List Int) (o : Option (List Int)) (b : Bool) :
    bufGet Gen.MpiFuture.bufferValueGet (some v) none = some (v, none) ∧
    bufGet Gen.MpiFuture.bufferRefGet (some v) none = some (v, none) ∧
    bufGet Gen.MpiFuture.bufferValueGet none none = none ∧
    bufGet Gen.MpiFuture.bufferRefGet none none = none ∧
    bufVoidGet Gen.MpiFuture.bufferVoidGet b = some false ∧
    bufBool Gen.MpiFuture.bufferValueBool o = some o.isSome ∧
    bufBool Gen.MpiFuture.bufferRefBool o = some o.isSome ∧
    bufVoidBool Gen.MpiFuture.bufferVoidBool b = some b :=
  ⟨rfl, rfl, rfl, rfl, rfl, rfl, rfl, rfl⟩

theorem gen_futref_valid (f : MpiFut2) : genFutRef Gen.MpiFuture.valid f = MpiFut2.step f (.call .valid) := by
  fut_cases f
theorem gen_futref_wait (f : MpiFut2) : genFutRef Gen.MpiFuture.wait f = MpiFut2.step f (.call .wait) := by
  fut_cases f
theorem gen_futref_ready (f : MpiFut2) : genFutRef Gen.MpiFuture.ready f = MpiFut2.step f (.call .ready) := by
  fut_cases f
theorem gen_futref_get (f : MpiFut2) : genFutRef Gen.MpiFuture.get f = MpiFut2.step f (.call .get) := by
  fut_cases f
theorem gen_futref_send (f : MpiFut2) : genFutRef Gen.MpiFuture.getSendData f = MpiFut2.sendData f := by
  fut_cases f

theorem gen_void (f : MpiVoid) :
    genVoid Gen.MpiFuture.valid f = some (MpiVoid.step f .valid) ∧
    genVoid Gen.MpiFuture.wait f = some (MpiVoid.step f .wait) ∧
    genVoid Gen.MpiFuture.ready f = some (MpiVoid.step f .ready) ∧
    genVoid Gen.MpiFuture.get f = some (MpiVoid.step f .get) := by
  rcases f with ⟨v, r⟩
  cases v <;> exact ⟨rfl, rfl, rfl, rfl⟩

theorem gen_move_assign (t s : MpiFut2) :
    moveAssignBy Gen.MpiFuture.assignSwaps t s = MpiFut2.moveAssign t s := rfl

theorem gen_move_construct (s : MpiFut2) :
    moveConstructBy Gen.MpiFuture.ctorMoved Gen.MpiFuture.ctorNulled Gen.MpiFuture.ctorSwaps s = MpiFut2.moveConstruct s := rfl

theorem gen_pseudo (f : PseudoFut) :
    pseudoRun Gen.PseudoT.valid f = some (PseudoFut.step f .valid) ∧
    pseudoRun Gen.PseudoT.wait f = some (PseudoFut.step f .wait) ∧
    pseudoRun Gen.PseudoT.ready f = some (PseudoFut.step f .ready) ∧
    pseudoRun Gen.PseudoT.get f = some (PseudoFut.step f .get) := by
  rcases f with ⟨v, d⟩
  cases v <;> exact ⟨rfl, rfl, rfl, rfl⟩

theorem gen_pseudo_void (f : PseudoVoid) :
    pseudoVoidRun Gen.PseudoV.valid f = some (PseudoVoid.step f .valid) ∧
    pseudoVoidRun Gen.PseudoV.wait f = some (PseudoVoid.step f .wait) ∧
    pseudoVoidRun Gen.PseudoV.ready f = some (PseudoVoid.step f .ready) ∧
    pseudoVoidRun Gen.PseudoV.get f = some (PseudoVoid.step f .get) := by
  rcases f with ⟨v⟩
  cases v <;> exact ⟨rfl, rfl, rfl, rfl⟩

/-- the generated `Future<T>` member `body` around a future with step function `inner` -/
def genErased {σ : Type} (inner : σ → FOp → FObs × σ) (body : List Micro) (s : Option σ) : Option (FObs × Option σ) :=
  erasedRun inner Gen.ErasedModel.wait Gen.ErasedModel.get Gen.ErasedModel.ready Gen.ErasedModel.valid body s

theorem gen_erased {σ : Type} (inner : σ → FOp → FObs × σ) (s : Option σ) :
    genErased inner Gen.Erased.valid s = some (erasedStep inner s .valid) ∧
    genErased inner Gen.Erased.wait s = some (erasedStep inner s .wait) ∧
    genErased inner Gen.Erased.ready s = some (erasedStep inner s .ready) ∧
    genErased inner Gen.Erased.get s = some (erasedStep inner s .get) := by
  cases s <;> exact ⟨rfl, rfl, rfl, rfl⟩

/-- one call on `MPIFuture<R,S>` executed by the generated member bodies (`complete` and the completion inside `spin`
are the environment, not code) -/
def genStep2 (f : MpiFut2) : FOp2 → Option (FObs × MpiFut2)
  | .call .valid => genFut Gen.MpiFuture.valid f
  | .call .ready => genFut Gen.MpiFuture.ready f
  | .call .wait => genFut Gen.MpiFuture.wait f
  | .call .get => genFut Gen.MpiFuture.get f
  | .call .complete => some (.env, { f with base := f.base.envComplete })
  | .call .spin => genFut Gen.MpiFuture.ready { f with base := f.base.envComplete }
  | .sendData => genFut Gen.MpiFuture.getSendData f

def genRun2 : MpiFut2 → List FOp2 → Option (List FObs × MpiFut2)
  | s, [] => some ([], s)
  | s, o :: os =>
    match genStep2 s o with
    | none => none
    | some r =>
      match genRun2 r.2 os with
      | none => none
      | some rest => some (r.1 :: rest.1, rest.2)

theorem genStep2_eq (f : MpiFut2) (o : FOp2) : genStep2 f o = MpiFut2.step f o := by
  -- `impl::Buffer<T>` has the member bodies of `impl::Buffer<T&>`: `genFut` unfolds to the same term as `genFutRef`
  cases o with
  | sendData => exact gen_futref_send f
  | call c =>
    cases c with
    | valid => exact gen_futref_valid f
    | ready => exact gen_futref_ready f
    | wait => exact gen_futref_wait f
    | get => exact gen_futref_get f
    | complete => rfl
    | spin => exact gen_futref_ready _

end DV.C19
