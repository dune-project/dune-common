import Mathlib.Tactic.Ring
import Mathlib.Tactic.Linarith
import Mathlib.Data.Real.Basic
import DuneVerif.Model.C08T
/-!
# C08 — the table-driven definitions of `Model/C08T.lean` coincide with the hand-written control flow of `Model/C08.lean`;
the maximum search of the hand-written `eig0` as a decision tree (`eig0_eq_tree`, which `C08Ev3` reasons through)

Over ℝ (the instance of the property theorems).  The translated *expressions* (rows of `A - λI`, the 2-vectors and `u`
of `orthoComp`, the reduced matrix and the four normalisation sequences of `eig1`) are identified with the hand-written
ones up to ring identities (`leaf_eq`: `rfl`, else `ring_nf`, also inside `sqrt`), so commuted factors or re-associated
sums in the source do not matter; the translated *index tables* are evaluated (`rfl`).  Re-checked against what the
translator extracts from the current source on every run: a change of an index, of the update of the running maximum,
of a coefficient or of the swap network breaks them.
-/
namespace DV.C08

/-- closes `translated leaf = hand-written leaf` up to ring identities (also inside the arguments of `sqrt`) -/
macro "leaf_eq" : tactic =>
  `(tactic| first | rfl | (simp only [Nat.cast_zero, Nat.cast_one, Nat.cast_ofNat, Prod.mk.injEq] <;> (try constructor) <;> ring_nf) | ring_nf)

section leaves
variable (sqrt : ℝ → ℝ)

theorem eig0_row0_eq (m00 m01 m02 m10 m11 m12 m20 m21 m22 ev : ℝ) :
    Gen.eig0_row0 m00 m01 m02 m10 m11 m12 m20 m21 m22 ev = (m00 - ev, m01, m02) := by
  unfold Gen.eig0_row0; leaf_eq

theorem eig0_row1_eq (m00 m01 m02 m10 m11 m12 m20 m21 m22 ev : ℝ) :
    Gen.eig0_row1 m00 m01 m02 m10 m11 m12 m20 m21 m22 ev = (m10, m11 - ev, m12) := by
  unfold Gen.eig0_row1; leaf_eq

theorem eig0_row2_eq (m00 m01 m02 m10 m11 m12 m20 m21 m22 ev : ℝ) :
    Gen.eig0_row2 m00 m01 m02 m10 m11 m12 m20 m21 m22 ev = (m20, m21, m22 - ev) := by
  unfold Gen.eig0_row2; leaf_eq

theorem orthoComp_tempA_eq (e0 e1 e2 : ℝ) : Gen.orthoComp_tempA e0 e1 e2 = (e0, e2) := by
  unfold Gen.orthoComp_tempA; leaf_eq

theorem orthoComp_uA_eq (e0 e1 e2 : ℝ) : Gen.orthoComp_uA e0 e1 e2 = (-e2, (zero : ℝ), e0) := by
  unfold Gen.orthoComp_uA zero; leaf_eq

theorem orthoComp_tempB_eq (e0 e1 e2 : ℝ) : Gen.orthoComp_tempB e0 e1 e2 = (e1, e2) := by
  unfold Gen.orthoComp_tempB; leaf_eq

theorem orthoComp_uB_eq (e0 e1 e2 : ℝ) : Gen.orthoComp_uB e0 e1 e2 = ((zero : ℝ), e2, -e1) := by
  unfold Gen.orthoComp_uB zero; leaf_eq

theorem eig1_m00_eq (a b c ev : ℝ) : Gen.eig1_m00 a b c ev = a - ev := by unfold Gen.eig1_m00; leaf_eq
theorem eig1_m01_eq (a b c ev : ℝ) : Gen.eig1_m01 a b c ev = b := by unfold Gen.eig1_m01; leaf_eq
theorem eig1_m11_eq (a b c ev : ℝ) : Gen.eig1_m11 a b c ev = c - ev := by unfold Gen.eig1_m11; leaf_eq

theorem eig1_leaf0a_eq (m00 m01 m11 : ℝ) :
    Gen.eig1_leaf0a sqrt m00 m01 m11 =
      (m01 / m00 * ((one : ℝ) / sqrt ((one : ℝ) + m01 / m00 * (m01 / m00))), (one : ℝ) / sqrt ((one : ℝ) + m01 / m00 * (m01 / m00))) := by
  unfold Gen.eig1_leaf0a one; leaf_eq

theorem eig1_leaf0b_eq (m00 m01 m11 : ℝ) :
    Gen.eig1_leaf0b sqrt m00 m01 m11 =
      ((one : ℝ) / sqrt ((one : ℝ) + m00 / m01 * (m00 / m01)), m00 / m01 * ((one : ℝ) / sqrt ((one : ℝ) + m00 / m01 * (m00 / m01)))) := by
  unfold Gen.eig1_leaf0b one; leaf_eq

theorem eig1_leaf1a_eq (m00 m01 m11 : ℝ) :
    Gen.eig1_leaf1a sqrt m00 m01 m11 =
      ((one : ℝ) / sqrt ((one : ℝ) + m01 / m11 * (m01 / m11)), m01 / m11 * ((one : ℝ) / sqrt ((one : ℝ) + m01 / m11 * (m01 / m11)))) := by
  unfold Gen.eig1_leaf1a one; leaf_eq

theorem eig1_leaf1b_eq (m00 m01 m11 : ℝ) :
    Gen.eig1_leaf1b sqrt m00 m01 m11 =
      (m11 / m01 * ((one : ℝ) / sqrt ((one : ℝ) + m11 / m01 * (m11 / m01))), (one : ℝ) / sqrt ((one : ℝ) + m11 / m01 * (m11 / m01))) := by
  unfold Gen.eig1_leaf1b one; leaf_eq

end leaves

section
variable (sqrt : ℝ → ℝ)

/-- the hand-written `eig0` with its maximum search (`dmax`, `imax`) written as a decision tree -/
def eig0Tree {K : Type} [Add K] [Sub K] [Mul K] [Div K] [LT K] [DecidableLT K] [NatCast K]
    (sqrt : K → K) (A : M3 K) (ev : K) : V3 K :=
  let S := shift3 A ev
  let r0 : V3 K := ⟨S.a00, S.a01, S.a02⟩
  let r1 : V3 K := ⟨S.a10, S.a11, S.a12⟩
  let r2 : V3 K := ⟨S.a20, S.a21, S.a22⟩
  let c01 := cross r0 r1
  let c02 := cross r0 r2
  let c12 := cross r1 r2
  let d0 := sqrt (norm2_3 c01)
  let d1 := sqrt (norm2_3 c02)
  let d2 := sqrt (norm2_3 c12)
  if d0 < d1 then
    (if d1 < d2 then ⟨c12.x / d2, c12.y / d2, c12.z / d2⟩ else ⟨c02.x / d1, c02.y / d1, c02.z / d1⟩)
  else
    (if d0 < d2 then ⟨c12.x / d2, c12.y / d2, c12.z / d2⟩ else ⟨c01.x / d0, c01.y / d0, c01.z / d0⟩)

/-- the search `dmax = d0; imax = 0; if (d1 > dmax) { dmax = d1; imax = 1; } if (d2 > dmax) imax = 2;` followed by the
switch on `imax`, as a decision tree on the three lengths (any result type, any order) -/
theorem imax_select {K β : Type} [LT K] [DecidableLT K] (x0 x1 x2 : β) (d0 d1 d2 : K) :
    (let sel : K × Nat := if d0 < d1 then (d1, 1) else (d0, 0)
     let imax : Nat := if sel.1 < d2 then 2 else sel.2
     if imax = 0 then x0 else if imax = 1 then x1 else x2)
      = if d0 < d1 then (if d1 < d2 then x2 else x1) else (if d0 < d2 then x2 else x0) := by
  by_cases h1 : d0 < d1
  · by_cases h2 : d1 < d2 <;> simp [h1, h2]
  · by_cases h3 : d0 < d2 <;> simp [h1, h3]

/-- independent of the translated tables: running maximum + index = decision tree (purely propositional) -/
theorem eig0_eq_tree (A : M3 ℝ) (ev : ℝ) : eig0 sqrt A ev = eig0Tree sqrt A ev := by
  unfold eig0 eig0Tree
  exact imax_select _ _ _ _ _ _

/-- for all lengths `d` (over ℝ) and all candidates, the decision tree read off the current source selects what the
hand-written maximum search selects.  `rfl` when the trees coincide; otherwise every
combination of comparison outcomes is checked (contradictory combinations by `linarith`), so a differently shaped but
equivalent search (other order of the tests, `<=` with exchanged branches) is accepted and a different choice is not. -/
theorem eig0_select_sem {β : Type} (d : Nat → ℝ) (leaf : Nat → Nat → β) :
    evalSel d leaf Gen.eig0_select = evalSel d leaf eig0_handTree := by
  first
    | rfl
    | (simp only [Gen.eig0_select, eig0_handTree, evalSel]; split_ifs <;> first | rfl | (exfalso; linarith))

theorem eig0T_eq (A : M3 ℝ) (ev : ℝ) : eig0T sqrt A ev = eig0 sqrt A ev := by
  rw [eig0_eq_tree]
  unfold eig0T
  simp only [eig0_row0_eq, eig0_row1_eq, eig0_row2_eq, eig0_select_sem]
  -- evaluates `Gen.eig0_crossPairs` / `Gen.eig0_normOf` and identifies `evalSel … eig0_handTree` with `eig0Tree`: a wrong
  -- pair table fails here
  rfl

theorem orthoCompT_eq (e : V3 ℝ) : orthoCompT sqrt e = orthoComp sqrt e := by
  unfold orthoCompT
  simp only [orthoComp_tempA_eq, orthoComp_uA_eq, orthoComp_tempB_eq, orthoComp_uB_eq]
  rfl

theorem eig1CoeffsT_eq (m00 m01 m11 : ℝ) : eig1CoeffsT sqrt m00 m01 m11 = eig1Coeffs sqrt m00 m01 m11 := by
  unfold eig1CoeffsT
  simp only [eig1_leaf0a_eq, eig1_leaf0b_eq, eig1_leaf1a_eq, eig1_leaf1b_eq]
  rfl

theorem eig1T_eq (A : M3 ℝ) (e0 : V3 ℝ) (ev1 : ℝ) : eig1T sqrt A e0 ev1 = eig1 sqrt A e0 ev1 := by
  unfold eig1T
  simp only [eig1_m00_eq, eig1_m01_eq, eig1_m11_eq, orthoCompT_eq, eig1CoeffsT_eq]
  rfl

theorem trigVectorsT_eq (S : M3 ℝ) (l : ℝ × ℝ × ℝ) (r : ℝ) :
    trigVectorsT sqrt S l r = trigVectors sqrt S l r := by
  unfold trigVectorsT trigVectors assemble3
  simp only [eig0T_eq, eig1T_eq]
  split <;> rfl

theorem eigenValuesVectors3dT_eq (acos cos : ℝ → ℝ) (pi eps : ℝ) (A : M3 ℝ) :
    eigenValuesVectors3dT sqrt acos cos pi eps A = eigenValuesVectors3d sqrt acos cos pi eps A := by
  unfold eigenValuesVectors3dT eigenValuesVectors3d
  simp only [trigVectorsT_eq]

end

/-- the diagonal special case in the source is the network the hand-written model implements: start from the diagonal
entries and the coordinate vectors; compare (0,1), (1,2), (0,1); each step swaps the compared values and the vectors
with the same indices -/
theorem ev3_diag_tables :
    Gen.ev3_diagInit = [(0, 0), (1, 1), (2, 2)] ∧ Gen.ev3_diagVecs = [[1, 0, 0], [0, 1, 0], [0, 0, 1]] ∧
    Gen.ev3_diagSwaps = [(0, 1, 0, 1, 0, 1), (1, 2, 1, 2, 1, 2), (0, 1, 0, 1, 0, 1)] := ⟨rfl, rfl, rfl⟩

theorem lapackSeesSymT_eq {K : Type} (n : Nat) (A : Nat → Nat → K) : lapackSeesSymT n A = lapackSeesSym n A := by
  unfold lapackSeesSymT lapackSeesSym triCompletion packT
  simp [Gen.lapSym_uplo, Gen.lapSym_packTransposed]

theorem lapackSeesNonSymFT_eq {K : Type} (n : Nat) (A : Nat → Nat → K) : lapackSeesNonSymFT n A = lapackSeesNonSymF n A := by
  unfold lapackSeesNonSymFT lapackSeesNonSymF packT
  simp [Gen.lapNsF_packTransposed]

theorem lapackSeesNonSymDT_eq {K : Type} (n : Nat) (A : Nat → Nat → K) : lapackSeesNonSymDT n A = lapackSeesNonSymD n A := by
  unfold lapackSeesNonSymDT lapackSeesNonSymD packT
  simp [Gen.lapNsD_packTransposed]

theorem copyBackSymT_eq {K : Type} (n : Nat) (Z : Nat → Nat → K) : copyBackSymT n Z = copyBack n Z := by
  unfold copyBackSymT
  simp [Gen.lapSym_copyBackTransposed]

end DV.C08
