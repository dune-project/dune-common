import DuneVerif.Proofs.C09Lawful
/-!
# C09 — the LU decomposition and `determinant`, `solve`, `invert` commute with taking a lane (no Mathlib, no Std)

For every *lawful* `SimdLike` (`Proofs/C09Lawful.lean`) the generic `luDecomp`/`determinant`/`solve`/`invert` return in lane `l`
what the same functions return at the scalar instance on lane `l` of the data.  Where a call can throw, the statement is
`ThrowsLanewise`: it throws exactly if the scalar call throws for some lane; it carries over to the checked configuration
(`solveC`, `invertC`) at the end of the file.
-/
namespace DV.C09
open Gen

theorem foldl_invariant {σ τ ι : Type} (p : σ → τ) {g : σ → ι → σ} (h : ∀ s x, p (g s x) = p s) (l : List ι) (s : σ) :
    p (l.foldl g s) = p s :=
  List.foldlRecOn l g (motive := fun s' => p s' = p s) rfl fun s' hs x _ => (h s' x).trans hs

/-- a loop over all `L` lanes whose iteration `l'` touches lane `l'` only, projected to lane `l`, is the one-lane loop of the scalar -/
theorem foldl_lanes {σ τ : Type} {L : Nat} (p : σ → τ) {g : σ → Fin L → σ} {gs : τ → Fin 1 → τ} (l : Fin L)
    (hne : ∀ s l', l' ≠ l → p (g s l') = p s) (heq : ∀ s, p (g s l) = gs (p s) 0) (s : σ) :
    p ((List.finRange L).foldl g s) = (List.finRange 1).foldl gs (p s) := by
  -- seen through `p` the loop runs over the lanes equal to `l` only, and `finRange L` holds `l` once
  rw [foldl_hom p (gs := fun t l' => if l' = l then gs t 0 else t) (fun s l' => ?_) _ rfl,
    List.foldl_ite_left, List.filter_eq, (List.nodup_finRange L).count, if_pos (List.mem_finRange l)]
  · rfl
  · split
    · subst l'
      exact heq s
    · exact hne s l' ‹_›

/-- the result of a SIMD call that may throw (`none`), against the scalar calls lane by lane: it throws exactly if the scalar
    call `rs l` throws for some lane `l`, and if it returns `x`, every scalar call returns its lane `p l x` of `x` -/
structure ThrowsLanewise {α β : Type} {L : Nat} (p : Fin L → α → β) (r : Option α) (rs : Fin L → Option β) : Prop where
  returns : ∀ x, r = some x → ∀ l, rs l = some (p l x)
  throws : r = none → ∃ l, rs l = none

namespace ThrowsLanewise
variable {α β γ δ : Type} {L : Nat} {p : Fin L → α → β} {r : Option α} {rs : Fin L → Option β}

theorem none_iff (h : ThrowsLanewise p r rs) : r = none ↔ ∃ l, rs l = none := by
  refine ⟨h.throws, ?_⟩
  rintro ⟨l, hl⟩
  cases hr : r with
  | none => rfl
  | some x =>
    rw [h.returns x hr l] at hl
    cases hl

theorem of_some {x : α} (h : ∀ l, rs l = some (p l x)) : ThrowsLanewise p (some x) rs :=
  ⟨fun _ hy l => Option.some.inj hy ▸ h l, fun hn => (nomatch hn)⟩

theorem of_none (h : ∃ l, rs l = none) : ThrowsLanewise p none rs :=
  ⟨fun _ hy => (nomatch hy), fun _ => h⟩

theorem map {q : Fin L → γ → δ} {f : α → γ} {fs : Fin L → β → δ} (hf : ∀ l x, q l (f x) = fs l (p l x))
    (h : ThrowsLanewise p r rs) : ThrowsLanewise q (r.map f) (fun l => (rs l).map (fs l)) := by
  cases hr : r with
  | none =>
    obtain ⟨l, hl⟩ := h.throws hr
    exact of_none ⟨l, by rw [hl]; rfl⟩
  | some x => exact of_some fun l => by rw [h.returns x hr l, hf]; rfl

/-- a test in front of the call that throws if the test holds in some lane -/
theorem guard {c : Bool} {cs : Fin L → Bool} (hc : c = true ↔ ∃ l, cs l = true) (h : ThrowsLanewise p r rs) :
    ThrowsLanewise p (if c = true then none else r) (fun l => if cs l = true then none else rs l) := by
  by_cases hct : c = true
  · obtain ⟨l, hl⟩ := hc.mp hct
    rw [if_pos hct]
    exact of_none ⟨l, if_pos hl⟩
  · -- the test fails in every lane: both sides are the unguarded calls
    simp only [if_neg hct, if_neg fun hl => hct (hc.mpr ⟨_, hl⟩)]
    exact h

end ThrowsLanewise

section Hom
variable {V : Type → Type} {L : Nat} (X : SimdLike V L) (hX : X.Lawful) {K : Type} (R : Arith K) {n : Nat} (l : Fin L)

include hX in
theorem not_allTrue_iff (m : V Bool) : (!X.allTrue m) = true ↔ ∃ l, (!X.lane l m) = true := by
  simp only [Bool.not_eq_eq_eq_not, Bool.not_true, ← Bool.not_eq_true, hX.allTrue_iff, Classical.not_forall]

include hX in
theorem lane_pivotSearch (A : Mat (V K) n) (i : Fin n) :
    (X.lane l (pivotSearch X R A i).1, X.lane l (pivotSearch X R A i).2) =
      pivotSearch Xs R (laneMat X l A) i := by
  unfold pivotSearch
  refine foldl_hom (fun p : V K × V (Fin n) => (X.lane l p.1, X.lane l p.2)) (fun p k => ?_) _ ?_
  · by_cases hik : i < k
    · simp only [lane_laws, hX, hik, if_true, laneMat_get]
    · simp only [hik, if_false]
  · simp only [lane_laws, hX, laneMat_get]

include hX in
/-- `Simd::lane(l, A[i][j]) = y` changes lane `l` of entry `(i, j)` and nothing else -/
theorem laneMat_setLane (A : Mat (V K) n) (i j : Fin n) (l' : Fin L) (y : K) :
    laneMat X l' (A.set i j (X.setLane l y (A.get i j))) =
      if l = l' then (laneMat X l' A).set i j y else laneMat X l' A := by
  rw [laneMat_set, hX.lane_setLane]
  split
  · rfl
  · rw [← laneMat_get, Mat.set_get_self]

include hX in
theorem laneVec_setLane (v : Vector (V K) n) (i : Nat) (hi : i < n) (l' : Fin L) (y : K) :
    laneVec X l' (v.set i (X.setLane l y v[i]) hi) =
      if l = l' then (laneVec X l' v).set i y hi else laneVec X l' v := by
  rw [laneVec_set, hX.lane_setLane]
  split
  · rfl
  · rw [← laneVec_get, Vector.set_getElem_self]

-- a lane-wise swap is two such assignments
include hX in
theorem laneMat_swapLaneEntries_ne (A : Mat (V K) n) (i₁ j₁ i₂ j₂ : Fin n) (l' : Fin L) (h : l' ≠ l) :
    laneMat X l (swapLaneEntries X A i₁ j₁ i₂ j₂ l') = laneMat X l A := by
  simp only [swapLaneEntries, laneMat_setLane X hX, if_neg h]

include hX in
theorem laneMat_swapLaneEntries_eq (A : Mat (V K) n) (i₁ j₁ i₂ j₂ : Fin n) :
    laneMat X l (swapLaneEntries X A i₁ j₁ i₂ j₂ l) =
      swapLaneEntries Xs (laneMat X l A) i₁ j₁ i₂ j₂ 0 := by
  simp only [swapLaneEntries, laneMat_setLane X hX, if_true, SimdLike.scalar, laneMat_get]

include hX in
theorem laneMat_swapRows (A : Mat (V K) n) (i : Fin n) (imax : V (Fin n)) :
    laneMat X l (swapRows X A i imax) = swapRows Xs (laneMat X l A) i (X.lane l imax) := by
  unfold swapRows
  refine foldl_hom (laneMat X l) (fun A j => ?_) _ rfl
  exact foldl_lanes (laneMat X l) l (fun s l' h => laneMat_swapLaneEntries_ne X hX l s i j _ j l' h)
    (fun s => laneMat_swapLaneEntries_eq X hX l s i j _ j) A

include hX in
theorem laneVec_swapLaneVec_ne (v : Vector (V K) n) (i r : Fin n) (l' : Fin L) (h : l' ≠ l) :
    laneVec X l (swapLaneVec X v i r l') = laneVec X l v := by
  simp only [swapLaneVec, Fin.getElem_fin, laneVec_setLane X hX, if_neg h]

include hX in
theorem laneVec_swapLaneVec_eq (v : Vector (V K) n) (i r : Fin n) :
    laneVec X l (swapLaneVec X v i r l) = swapLaneVec Xs (laneVec X l v) i r 0 := by
  simp only [swapLaneVec, Fin.getElem_fin, laneVec_setLane X hX, if_true, SimdLike.scalar, laneVec_get]

/-- the functor of the SIMD run and the functor of the scalar run correspond through the projection `pa`
    of their states to lane `l` -/
structure ElimHom {Aux AuxS : Type} (F : ElimFunc (V := V) (K := K) (n := n) Aux)
    (Fs : ElimFunc (V := fun α => α) (K := K) (n := n) AuxS) (pa : Aux → AuxS) : Prop where
  swap : ∀ (i : Fin n) (j : V (Fin n)) (aux : Aux), pa (F.swap i j aux) = Fs.swap i (X.lane l j) (pa aux)
  elim : ∀ (f : V K) (k i : Fin n) (aux : Aux), pa (F.elim f k i aux) = Fs.elim (X.lane l f) k i (pa aux)

variable {Aux AuxS : Type} (F : ElimFunc (V := V) (K := K) (n := n) Aux)
  (Fs : ElimFunc (V := fun α => α) (K := K) (n := n) AuxS) (pa : Aux → AuxS)

def projState (st : LUState (V := V) (K := K) (n := n) Aux) : LUState (V := fun α => α) (K := K) (n := n) AuxS :=
  { A := laneMat X l st.A, aux := pa st.aux, ns := X.lane l st.ns }

include hX in
theorem projState_init (A : Mat (V K) n) (aux : Aux) :
    projState X l pa ({ A := A, aux := aux, ns := X.bcast true } : LUState (V := V) (K := K) (n := n) Aux) =
      { A := laneMat X l A, aux := pa aux, ns := Xs.bcast true } := by
  simp only [lane_laws, hX, projState]

include hX in
theorem lane_eliminate (hF : ElimHom X l F Fs pa) (A : Mat (V K) n) (aux : Aux) (i : Fin n) :
    (laneMat X l (eliminate X R F A aux i).1, pa (eliminate X R F A aux i).2) =
      eliminate Xs R Fs (laneMat X l A) (pa aux) i := by
  unfold eliminate
  refine foldl_hom (fun st : Mat (V K) n × Aux => (laneMat X l st.1, pa st.2)) (fun st k => ?_) _ rfl
  by_cases hik : i < k
  · simp only [lane_laws, hX, hik, if_true, hF.elim, laneMat_get]
    congr 1
    refine foldl_hom (laneMat X l) (fun B j => ?_) _ ?_
    · simp only [apply_ite (laneMat X l), lane_laws, hX, laneMat_set, laneMat_get]
    · simp only [lane_laws, hX, laneMat_set]
  · simp only [hik, if_false]

include hX in
theorem proj_luPre (hF : ElimHom X l F Fs pa) (piv : Bool) (st : LUState (V := V) (K := K) (n := n) Aux) (i : Fin n) :
    projState X l pa (luPre X R F piv st i) = luPre Xs R Fs piv (projState X l pa st) i := by
  have hp := lane_pivotSearch X hX R l st.A i
  cases piv with
  | false =>
    simp only [lane_laws, hX, luPre, projState, Bool.false_eq_true, if_false, laneMat_get]
  | true =>
    simp only [lane_laws, hX, luPre, projState, if_true, laneMat_swapRows X hX, hF.swap]
    rw [← hp]

include hX in
theorem proj_luElim (hF : ElimHom X l F Fs pa) (st : LUState (V := V) (K := K) (n := n) Aux) (i : Fin n) :
    projState X l pa (luElim X R F st i) = luElim Xs R Fs (projState X l pa st) i := by
  have he := lane_eliminate X hX R l F Fs pa hF st.A st.aux i
  simp only [luElim, projState, ← he]

theorem luLoop_cons_noThrow (piv : Bool) (i : Fin n) (is : List (Fin n)) (st : LUState (V := V) (K := K) (n := n) Aux) :
    luLoop X R F false piv (i :: is) st =
      if X.anyTrue (luPre X R F piv st i).ns = true then luLoop X R F false piv is (luElim X R F (luPre X R F piv st i) i)
      else some (luPre X R F piv st i) := by
  cases h : X.anyTrue (luPre X R F piv st i).ns <;> simp [luLoop, h]

include hX in
/-- the scalar run of lane `l`, in the states of the SIMD run: the equation of `luLoop` with the lane's flag for both reductions -/
theorem luLoop_proj_cons (hF : ElimHom X l F Fs pa) (te piv : Bool) (i : Fin n) (is : List (Fin n))
    (st : LUState (V := V) (K := K) (n := n) Aux) :
    luLoop Xs R Fs te piv (i :: is) (projState X l pa st) =
      if (te && !X.lane l (luPre X R F piv st i).ns) = true then none
      else if (!te && !X.lane l (luPre X R F piv st i).ns) = true then some (projState X l pa (luPre X R F piv st i))
      else luLoop Xs R Fs te piv is (projState X l pa (luElim X R F (luPre X R F piv st i) i)) := by
  rw [luLoop, ← proj_luPre X hX R l F Fs pa hF, ← proj_luElim X hX R l F Fs pa hF]
  rfl

/-- `luDecomposition(…, throwEarly = false, …)` always returns (the `none` branch of `determinant` is dead) -/
theorem luLoop_false_isSome (piv : Bool) : ∀ (is : List (Fin n)) (st : LUState (V := V) (K := K) (n := n) Aux),
    (luLoop X R F false piv is st).isSome = true
  | [], _ => rfl
  | i :: is, st => by
    rw [luLoop_cons_noThrow]
    split
    · exact luLoop_false_isSome piv is _
    · rfl

theorem luDecomp_false_isSome (piv : Bool) (A : Mat (V K) n) (aux : Aux) :
    (luDecomp X R F false piv A aux).isSome = true := luLoop_false_isSome X R F piv _ _

include hX in
/-- without `throwEarly` a lane that the test of step `i` marks singular stays so, and the loop returns -/
theorem luLoop_dead (piv : Bool) : ∀ (is : List (Fin n)) (i : Fin n) (st : LUState (V := V) (K := K) (n := n) Aux),
    X.lane l (luPre X R F piv st i).ns = false →
      ∃ st', luLoop X R F false piv (i :: is) st = some st' ∧ X.lane l st'.ns = false
  | is, i, st, h => by
    rw [luLoop_cons_noThrow]
    split
    · match is with
      | [] => exact ⟨_, rfl, h⟩
      | i' :: is =>
        refine luLoop_dead piv is i' _ ?_
        show X.lane l (X.map2 _ (luPre X R F piv st i).ns _) = false
        rw [hX.lane_map2, h, Bool.false_and]
    · exact ⟨_, rfl, h⟩

include hX in
/-- **decomposition without `throwEarly`, lane by lane**: both runs return; lane `l` of the final mask is the
    scalar run's flag, and if lane `l` is nonsingular, lane `l` of the decomposed matrix and of the functor
    state are the scalar run's -/
theorem luLoop_noThrow (hF : ElimHom X l F Fs pa) (piv : Bool) :
    ∀ (is : List (Fin n)) (st : LUState (V := V) (K := K) (n := n) Aux),
    ∃ st' sts', luLoop X R F false piv is st = some st' ∧
      luLoop Xs R Fs false piv is (projState X l pa st) = some sts' ∧
      X.lane l st'.ns = sts'.ns ∧
      (sts'.ns = true → laneMat X l st'.A = sts'.A ∧ pa st'.aux = sts'.aux)
  | [], st => ⟨st, projState X l pa st, rfl, rfl, rfl, fun _ => ⟨rfl, rfl⟩⟩
  | i :: is, st => by
    rw [luLoop_proj_cons X hX R l F Fs pa hF]
    cases hl : X.lane l (luPre X R F piv st i).ns with
    | true =>
      rw [luLoop_cons_noThrow, if_pos ((hX.anyTrue_iff _).mpr ⟨l, hl⟩)]
      exact luLoop_noThrow hF piv is _
    | false =>
      -- the scalar run stops here; the SIMD run goes on as long as some other lane is nonsingular
      obtain ⟨st', h1, h2⟩ := luLoop_dead X hX R l F piv is i st hl
      exact ⟨st', projState X l pa (luPre X R F piv st i), h1, rfl, h2.trans hl.symm,
        fun h => absurd (hl.symm.trans h) Bool.false_ne_true⟩

include hX in
theorem luDecomp_noThrow (hF : ElimHom X l F Fs pa) (piv : Bool) (A : Mat (V K) n) (aux : Aux) :
    ∃ st sts, luDecomp X R F false piv A aux = some st ∧
      luDecomp Xs R Fs false piv (laneMat X l A) (pa aux) = some sts ∧
      X.lane l st.ns = sts.ns ∧ (sts.ns = true → laneMat X l st.A = sts.A ∧ pa st.aux = sts.aux) := by
  have h := luLoop_noThrow X hX R l F Fs pa hF piv (List.finRange n) { A := A, aux := aux, ns := X.bcast true }
  rw [projState_init X hX] at h
  exact h

end Hom

section Throw
variable {V : Type → Type} {L : Nat} (X : SimdLike V L) (hX : X.Lawful) {K : Type} (R : Arith K) {n : Nat}
variable {Aux AuxS : Type} (F : ElimFunc (V := V) (K := K) (n := n) Aux)
  (Fs : ElimFunc (V := fun α => α) (K := K) (n := n) AuxS) (pa : Fin L → Aux → AuxS)

include hX in
/-- **decomposition with `throwEarly`**: the SIMD run throws `FMatrixError` exactly if the scalar run throws for some lane (at the
    first step whose mask is not all true, the scalar run of a lane that is false there throws at that very step), and otherwise
    the scalar run of every lane returns that lane of the SIMD result -/
theorem luLoop_throwEarly (hF : ∀ l, ElimHom X l F Fs (pa l)) (piv : Bool) :
    ∀ (is : List (Fin n)) (st : LUState (V := V) (K := K) (n := n) Aux),
    ThrowsLanewise (fun l => projState X l (pa l)) (luLoop X R F true piv is st)
      (fun l => luLoop Xs R Fs true piv is (projState X l (pa l) st))
  | [], _ => .of_some fun _ => rfl
  | i :: is, st => by
    -- `luLoop … true … (i :: is) st` unfolds to `if !allTrue … then none else luLoop … true … is …`: the test is a guard in
    -- front of the rest of the loop, and so it is in every lane's run, with the lane's flag
    simp only [fun l => luLoop_proj_cons X hX R l F Fs (pa l) (hF l)]
    exact (luLoop_throwEarly hF piv is _).guard (not_allTrue_iff X hX _)

include hX in
theorem luDecomp_throwEarly (hF : ∀ l, ElimHom X l F Fs (pa l)) (piv : Bool) (A : Mat (V K) n) (aux : Aux) :
    ThrowsLanewise (fun l => projState X l (pa l)) (luDecomp X R F true piv A aux)
      (fun l => luDecomp Xs R Fs true piv (laneMat X l A) (pa l aux)) := by
  have h := luLoop_throwEarly X hX R F Fs pa hF piv (List.finRange n) { A := A, aux := aux, ns := X.bcast true }
  simp only [projState_init X hX] at h
  exact h

end Throw

section Algorithms
variable {V : Type → Type} {L : Nat} (X : SimdLike V L) (hX : X.Lawful) {K : Type} (R : Arith K) {n : Nat}

include hX in
theorem elimDet_hom (l : Fin L) :
    ElimHom X l (elimDet X R (n := n)) (elimDet Xs R (n := n)) (X.lane l) where
  swap := by
    intro i j sign
    simp only [lane_laws, hX, elimDet, hX.lane_map2]
    rfl
  elim := by intro f k i aux; rfl

include hX in
theorem elimRhs_hom (l : Fin L) :
    ElimHom X l (elimRhs X R (n := n)) (elimRhs Xs R (n := n)) (laneVec X l) where
  swap := by
    intro i j rhs
    simp only [elimRhs]
    exact foldl_lanes (laneVec X l) l (fun s l' h => laneVec_swapLaneVec_ne X hX l s i _ l' h)
      (fun s => laneVec_swapLaneVec_eq X hX l s i _) rhs
  elim := by
    intro f k i rhs
    simp only [lane_laws, hX, elimRhs, laneVec_set, laneVec_get, Fin.getElem_fin]

include hX in
theorem elimPivot_hom (l : Fin L) :
    ElimHom X l (elimPivot X (K := K) (n := n)) (elimPivot Xs (K := K) (n := n))
      (fun p => p.map (X.lane l)) where
  swap := by
    intro i j pivot
    simp only [lane_laws, hX, elimPivot, Vector.map_set, hX.lane_map2]
    simp [SimdLike.scalar]
  elim := by intro f k i aux; rfl

include hX in
/-- `luDecomposition(A, ElimDet(sign), …, throwEarly = false, …)` (the mode of `determinant`): both runs return; lane `l` of the
    final mask is the scalar run's flag — **whatever happens in the other lanes** — and in every lane that stays nonsingular the
    factors and the sign are the scalar run's -/
theorem luFactors_noThrow (piv : Bool) (A : Mat (V K) n) (l : Fin L) :
    ∃ st sts, luDecomp X R (elimDet X R) false piv A (X.bcast R.one) = some st ∧
      luDecomp Xs R (elimDet Xs R) false piv (laneMat X l A) R.one = some sts ∧
      X.lane l st.ns = sts.ns ∧ (sts.ns = true → laneMat X l st.A = sts.A ∧ X.lane l st.aux = sts.aux) := by
  have h := luDecomp_noThrow X hX R l (elimDet X R) (elimDet Xs R) (X.lane l) (elimDet_hom X hX R l) piv A
    (X.bcast R.one)
  rw [hX.lane_bcast] at h
  exact h

include hX in
/-- `luDecomposition(A, ElimPivot(pivot), …, throwEarly = true, …)` (the mode of `invert`): it throws exactly if the scalar
    decomposition of some lane's matrix throws; otherwise the scalar decomposition of every lane's matrix succeeds and its factors
    `L\U`, its recorded pivot rows and its flag are that lane of the SIMD factors, pivot rows and mask -/
theorem luFactors_throwEarly (piv : Bool) (A : Mat (V K) n) :
    ThrowsLanewise (fun l => projState X l (Vector.map (X.lane l)))
      (luDecomp X R (elimPivot X (K := K)) true piv A (Vector.ofFn fun i => X.bcast i))
      (fun l => luDecomp Xs R (elimPivot Xs (K := K)) true piv (laneMat X l A)
        (Vector.ofFn fun i => i)) := by
  have h := luDecomp_throwEarly X hX R (elimPivot X (K := K)) (elimPivot Xs (K := K))
    (fun l p => p.map (X.lane l)) (fun l => elimPivot_hom X hX l) piv A (Vector.ofFn fun i => X.bcast i)
  have e : ∀ l, (Vector.ofFn fun i : Fin n => X.bcast i).map (X.lane l) = Vector.ofFn fun i => i := fun l => by
    ext i hi
    simp [hX.lane_bcast]
  simp only [e] at h
  exact h

theorem determinant_lu (h1 : n ≠ 1) (h2 : n ≠ 2) (h3 : n ≠ 3) {piv : Bool} {A : Mat (V K) n}
    {st : LUState (V := V) (K := K) (n := n) (V K)}
    (h : luDecomp X R (elimDet X R) false piv A (X.bcast R.one) = some st) :
    determinant X R piv A =
      X.cond st.ns ((List.finRange n).foldl (fun d i => vmul X R d (st.A.get i i)) st.aux) (X.bcast R.zero) := by
  unfold determinant
  rw [dif_neg h1, dif_neg h2, dif_neg h3, h]

include hX in
/-- **lu_lanewise**: every lane of the SIMD determinant — regular or singular, whatever the other lanes are —
    is the determinant the scalar algorithm computes for that lane's matrix -/
theorem determinant_lanewise (piv : Bool) (A : Mat (V K) n) (l : Fin L) :
    X.lane l (determinant X R piv A) = determinant Xs R piv (laneMat X l A) := by
  -- for a numeral `n` the definition reduces to its closed form, which `show` finds by unification
  by_cases h1 : n = 1
  · subst h1
    exact (laneMat_get X l A _ _).symm
  by_cases h2 : n = 2
  · subst h2
    show X.lane l (vsub X R _ _) = vsub Xs R _ _
    simp only [lane_laws, hX, laneMat_get]
  by_cases h3 : n = 3
  · subst h3
    show X.lane l (det3 X R _) = det3 Xs R _
    simp only [lane_laws, hX, det3, laneMat_get]
  obtain ⟨st, sts, e1, e2, hns, hrest⟩ := luFactors_noThrow X hX R piv A l
  rw [determinant_lu X R h1 h2 h3 e1, determinant_lu Xs R h1 h2 h3 e2, lane_cond' X hX, hns,
    lane_bcast' X hX]
  cases hs : sts.ns with
  | false => rfl
  | true =>
    obtain ⟨hA, haux⟩ := hrest hs
    rw [← hA, ← haux]
    congr 1
    exact foldl_hom (X.lane l) (fun d i => by simp only [lane_laws, hX, laneMat_get]) _ rfl

include hX in
theorem laneVec_backsolve (A : Mat (V K) n) (rhs : Vector (V K) n) (l : Fin L) :
    laneVec X l (backsolve X R A rhs) = backsolve Xs R (laneMat X l A) (laneVec X l rhs) := by
  unfold backsolve
  refine foldl_hom (laneVec X l) (fun x i => ?_) _ rfl
  simp only [lane_laws, hX, laneVec_set, laneMat_get, Fin.getElem_fin, laneVec_get]
  congr 2
  refine foldl_hom (X.lane l) (fun acc j => ?_) _ rfl
  simp only [apply_ite (X.lane l), lane_laws, hX]

theorem solve_lu (h1 : n ≠ 1) (h2 : n ≠ 2) (h3 : n ≠ 3) (piv : Bool) (A : Mat (V K) n) (b : Vector (V K) n) :
    solve X R piv A b =
      (luDecomp X R (elimRhs X R) true piv A b).map fun st => backsolve X R st.A st.aux := by
  unfold solve
  rw [dif_neg h1, dif_neg h2, dif_neg h3]
  cases luDecomp X R (elimRhs X R) true piv A b <;> rfl

include hX in
/-- **solve_lanewise**: the SIMD solve throws `FMatrixError` exactly if the scalar solve throws for some lane; if it returns,
    the scalar solve returns for every lane, with that lane of the SIMD solution -/
theorem solve_throwsLanewise (piv : Bool) (A : Mat (V K) n) (b : Vector (V K) n) :
    ThrowsLanewise (laneVec X) (solve X R piv A b)
      (fun l => solve Xs R piv (laneMat X l A) (laneVec X l b)) := by
  -- for a numeral `n` the definition reduces to its closed form `some …`: unification finds it, nothing has to be rewritten
  by_cases h1 : n = 1
  · subst h1
    exact .of_some fun l => by
      show some _ = some _
      simp only [lane_laws, hX, laneVec_set, laneVec_get, laneMat_get, Fin.getElem_fin]
  by_cases h2 : n = 2
  · subst h2
    exact .of_some fun l => by
      show some _ = some _
      simp only [lane_laws, hX, laneVec_set, laneVec_get, laneMat_get, Fin.getElem_fin]
  by_cases h3 : n = 3
  · subst h3
    exact .of_some fun l => by
      show some _ = some _
      simp only [lane_laws, hX, laneVec_set, laneVec_get, det3, laneMat_get, Fin.getElem_fin]
  rw [solve_lu X R h1 h2 h3]
  simp only [solve_lu Xs R h1 h2 h3]
  -- `by exact`: as a plain term the last argument is elaborated before `f`, `fs` of `map` are known from the goal, and times out
  exact (luDecomp_throwEarly X hX R (elimRhs X R) (elimRhs Xs R) (laneVec X)
    (elimRhs_hom X hX R) piv A b).map fun l st => by exact laneVec_backsolve X hX R st.A st.aux l

include hX in
theorem laneMat_identity (l : Fin L) : laneMat X l (identity X R (n := n)) = identity Xs R := by
  apply Mat.ext
  intro i j
  rw [laneMat_get, identity, identity, Mat.get_ofFn, Mat.get_ofFn, apply_ite (X.lane l), hX.lane_bcast, hX.lane_bcast]
  rfl

include hX in
theorem laneMat_invForward (LU Y : Mat (V K) n) (l : Fin L) :
    laneMat X l (invForward X R LU Y) = invForward Xs R (laneMat X l LU) (laneMat X l Y) := by
  unfold invForward
  refine foldl_hom (laneMat X l) (fun Y i => ?_) _ rfl
  refine foldl_hom (laneMat X l) (fun Y j => ?_) _ rfl
  by_cases hji : j < i
  · simp only [hji, if_true]
    refine foldl_hom (laneMat X l) (fun Y k => ?_) _ rfl
    simp only [lane_laws, hX, laneMat_set, laneMat_get]
  · simp only [hji, if_false]

include hX in
theorem laneMat_invBackward (LU Z : Mat (V K) n) (l : Fin L) :
    laneMat X l (invBackward X R LU Z) = invBackward Xs R (laneMat X l LU) (laneMat X l Z) := by
  unfold invBackward
  refine foldl_hom (laneMat X l) (fun Z i => ?_) _ rfl
  refine foldl_hom (laneMat X l) (fun Z k => ?_) _ rfl
  simp only [lane_laws, hX, laneMat_set, ← laneMat_get]
  rw [foldl_hom (laneMat X l) (gs := fun Z j => if i < j then Z.set i k (vsub Xs R (Z.get i k)
    (vmul Xs R ((laneMat X l LU).get i j) (Z.get j k))) else Z) (fun Z j => ?_) _ rfl]
  simp only [apply_ite (laneMat X l), lane_laws, hX, laneMat_set, laneMat_get]

include hX in
theorem laneMat_invUnpermute (pivot : Vector (V (Fin n)) n) (Z : Mat (V K) n) (l : Fin L) :
    laneMat X l (invUnpermute X pivot Z) =
      invUnpermute Xs (pivot.map (X.lane l)) (laneMat X l Z) := by
  unfold invUnpermute
  refine foldl_hom (laneMat X l) (fun Z i => ?_) _ rfl
  simp only [Fin.getElem_fin, Vector.getElem_map, lane_scalar]
  refine foldl_lanes (laneMat X l) l (fun s l' h => ?_) (fun s => ?_) Z
  · split
    · exact foldl_invariant (laneMat X l) (fun Z j => laneMat_swapLaneEntries_ne X hX l Z j _ j i l' h) _ s
    · rfl
  · split
    · refine foldl_hom (laneMat X l) (fun Z j => ?_) _ rfl
      exact laneMat_swapLaneEntries_eq X hX l Z j _ j i
    · rfl

theorem invert_lu (h1 : n ≠ 1) (h2 : n ≠ 2) (h3 : n ≠ 3) (piv : Bool) (A : Mat (V K) n) :
    invert X R piv A =
      (luDecomp X R (elimPivot X (K := K)) true piv A (Vector.ofFn fun i => X.bcast i)).map fun st =>
        invUnpermute X st.aux (invBackward X R st.A (invForward X R st.A (identity X R))) := by
  unfold invert
  rw [dif_neg h1, dif_neg h2, dif_neg h3]
  cases luDecomp X R (elimPivot X (K := K)) true piv A (Vector.ofFn fun i => X.bcast i) <;> rfl

include hX in
/-- **invert_lanewise**: the SIMD invert throws `FMatrixError` exactly if the scalar invert throws for some lane; if it returns,
    the scalar invert returns for every lane, with that lane of the SIMD inverse -/
theorem invert_throwsLanewise (piv : Bool) (A : Mat (V K) n) :
    ThrowsLanewise (laneMat X) (invert X R piv A) (fun l => invert Xs R piv (laneMat X l A)) := by
  by_cases h1 : n = 1
  · subst h1
    exact .of_some fun l => by
      show some _ = some _
      simp only [lane_laws, hX, laneMat_set, ← laneMat_get]
  by_cases h2 : n = 2
  · subst h2
    exact .of_some fun l => by
      show some _ = some _
      simp only [lane_laws, hX, laneMat_set, ← laneMat_get]
  by_cases h3 : n = 3
  · subst h3
    exact .of_some fun l => by
      show some _ = some _
      simp only [lane_laws, hX, laneMat_set, ← laneMat_get]
  rw [invert_lu X R h1 h2 h3]
  simp only [invert_lu Xs R h1 h2 h3]
  exact (luFactors_throwEarly X hX R piv A).map fun l st => by
    rw [laneMat_invUnpermute X hX, laneMat_invBackward X hX R, laneMat_invForward X hX R, laneMat_identity X hX R]
    rfl

end Algorithms

/-! The configuration `DUNE_FMatrix_WITH_CHECKING`: `solveC` / `invertC` put the singularity test of the checked configuration in front of the closed forms; which reduction and
comparison the test uses is read off densematrix.hh by the translator (`Gen.chkSolve`, `Gen.chkInvert`).  As long as every test
reduces its lane mask with `anyTrue`, the SIMD call throws exactly if the scalar call throws for some lane. -/

section Checked
variable {V : Type → Type} {L : Nat} (X : SimdLike V L) (hX : X.Lawful) {K : Type} (R : Arith K) {n : Nat}

/-- every test of the table reduces with `anyTrue` -/
def AllAny (tests : List (Nat × RedKind × CmpOpName)) : Prop := ∀ e ∈ tests, e.2.1 = RedKind.anyTrue
instance (tests : List (Nat × RedKind × CmpOpName)) : Decidable (AllAny tests) := by unfold AllAny; infer_instance

theorem lookup_anyTrue {tests : List (Nat × RedKind × CmpOpName)} (h : AllAny tests) {m : Nat} {k : RedKind} {c : CmpOpName}
    (hl : tests.lookup m = some (k, c)) : k = .anyTrue := by
  obtain ⟨l₁, l₂, rfl, -⟩ := List.lookup_eq_some_iff.mp hl
  exact h (m, k, c) (by simp)

include hX in
theorem singularChecked_iff (tests : List (Nat × RedKind × CmpOpName)) (h : AllAny tests)
    (chk : Option (CmpOpName → K → Bool)) (m : Nat) (d : V K) :
    singularChecked X tests chk m d = true ↔ ∃ l, singularChecked Xs tests chk m (X.lane l d) = true := by
  unfold singularChecked
  cases chk with
  | none => simp
  | some below =>
    cases hl : tests.lookup m with
    | none => simp
    | some kc =>
      obtain ⟨k, c⟩ := kc
      have hk := lookup_anyTrue h hl
      subst hk
      simp only [reduceMask, hX.anyTrue_iff, hX.lane_map]
      exact Iff.rfl

include hX in
/-- the checked `solve`: the test in front throws exactly if it holds for some lane's determinant, which is that lane of the
    determinant -/
theorem solveC_throwsLanewise (hs : AllAny chkSolve) (chk : Option (CmpOpName → K → Bool)) (piv : Bool) (A : Mat (V K) n)
    (b : Vector (V K) n) :
    ThrowsLanewise (laneVec X) (solveC X R chk piv A b)
      (fun l => solveC Xs R chk piv (laneMat X l A) (laneVec X l b)) := by
  unfold solveC
  simp only [← determinant_lanewise X hX R piv A]
  exact (solve_throwsLanewise X hX R piv A b).guard (singularChecked_iff X hX chkSolve hs chk n _)

include hX in
theorem invertC_throwsLanewise (hs : AllAny chkInvert) (chk : Option (CmpOpName → K → Bool)) (piv : Bool) (A : Mat (V K) n) :
    ThrowsLanewise (laneMat X) (invertC X R chk piv A)
      (fun l => invertC Xs R chk piv (laneMat X l A)) := by
  unfold invertC
  simp only [← determinant_lanewise X hX R piv A]
  exact (invert_throwsLanewise X hX R piv A).guard (singularChecked_iff X hX chkInvert hs chk n _)

end Checked
end DV.C09
