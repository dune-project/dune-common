import DuneVerif.Model.C06Life
/-!
C06 — object histories: the invariant behind `object_histories` (Props/C06.lean).

`CommInv slots live users next`: the communicator handles held by the live objects are exactly the live handles of the
MPI table, pairwise different, none of them is a user communicator (`< users`), and all are older than the next fresh
handle.
-/
namespace DV.C06

theorem setSlot_same {β : Type} (f : Nat → Option β) (s : Nat) (v : Option β) : setSlot f s v s = v := by
  simp [setSlot]

theorem setSlot_other {β : Type} {f : Nat → Option β} {s i : Nat} {v : Option β} (h : i ≠ s) : setSlot f s v i = f i := by
  simp [setSlot, h]

theorem setSlot_eq_some {β : Type} {f : Nat → Option β} {s i : Nat} {v : Option β} {o : β} :
    setSlot f s v i = some o ↔ i = s ∧ v = some o ∨ i ≠ s ∧ f i = some o := by
  by_cases h : i = s <;> simp [setSlot, h]

theorem setSlot_setSlot {β : Type} (f : Nat → Option β) (s : Nat) (a b : Option β) :
    setSlot (setSlot f s a) s b = setSlot f s b := by
  funext i
  by_cases h : i = s <;> simp [setSlot, h]

theorem setSlot_eq_self {β : Type} {f : Nat → Option β} {s : Nat} {v : Option β} (h : f s = v) : setSlot f s v = f := by
  funext i
  by_cases hi : i = s <;> simp [setSlot, hi, h]

structure CommInv (slots : Nat → Option VscObj) (live : List Nat) (users next : Nat) : Prop where
  alive : ∀ s o, slots s = some o → o.comm ∈ live
  priv : ∀ s t o o', slots s = some o → slots t = some o' → o.comm = o'.comm → s = t
  noleak : ∀ c ∈ live, ∃ s o, slots s = some o ∧ o.comm = c
  nodup : live.Nodup
  fresh : ∀ c ∈ live, users ≤ c ∧ c < next
  le : users ≤ next

theorem CommInv.init (users : Nat) : CommInv (fun _ => none) [] users users :=
  ⟨(by intro s o h; cases h), (by intro s t o o' h; cases h), (by intro c h; cases h), List.nodup_nil,
    (by intro c h; cases h), Nat.le_refl _⟩

/-- the destructor's part: the object of slot `s` goes, its communicator is freed -/
theorem CommInv.release {slots : Nat → Option VscObj} {live : List Nat} {users next : Nat}
    (h : CommInv slots live users next) (s : Nat) (me : VscObj) (hs : slots s = some me) :
    CommInv (setSlot slots s none) (live.erase me.comm) users next := by
  refine ⟨?_, ?_, ?_, h.nodup.erase _, fun c hc => h.fresh c (List.mem_of_mem_erase hc), h.le⟩
  · intro i o hi
    obtain ⟨_, ⟨⟩⟩ | ⟨his, hi⟩ := setSlot_eq_some.1 hi
    exact (List.mem_erase_of_ne fun e => his (h.priv i s o me hi hs e)).2 (h.alive i o hi)
  · intro i j o o' hi hj
    obtain ⟨_, ⟨⟩⟩ | ⟨_, hi⟩ := setSlot_eq_some.1 hi
    obtain ⟨_, ⟨⟩⟩ | ⟨_, hj⟩ := setSlot_eq_some.1 hj
    exact h.priv i j o o' hi hj
  · intro c hc
    obtain ⟨hne, hc⟩ := h.nodup.mem_erase_iff.1 hc
    obtain ⟨i, o, hi, ho⟩ := h.noleak c hc
    refine ⟨i, o, setSlot_eq_some.2 (.inr ⟨?_, hi⟩), ho⟩
    rintro rfl
    rw [hs] at hi
    cases hi
    exact hne ho.symm

/-- the `MPI_Comm_dup` part of a constructor: a new object with the fresh handle appears in the empty slot `s` -/
theorem CommInv.acquire {slots : Nat → Option VscObj} {live : List Nat} {users next : Nat}
    (h : CommInv slots live users next) (s : Nat) (hs : slots s = none) (b m : Nat) :
    CommInv (setSlot slots s (some ⟨b, m, next⟩)) (next :: live) users (next + 1) := by
  have hnew : next ∉ live := fun hm => Nat.lt_irrefl _ (h.fresh next hm).2
  have hold : ∀ i o, slots i = some o → o.comm ≠ next := fun i o hi e => hnew (e ▸ h.alive i o hi)
  refine ⟨?_, ?_, ?_, List.nodup_cons.2 ⟨hnew, h.nodup⟩, ?_, Nat.le_succ_of_le h.le⟩
  · intro i o hi
    obtain ⟨_, ⟨⟩⟩ | ⟨_, hi⟩ := setSlot_eq_some.1 hi
    · exact List.mem_cons_self
    · exact List.mem_cons_of_mem _ (h.alive i o hi)
  · intro i j o o' hi hj e
    obtain ⟨his, ⟨⟩⟩ | ⟨_, hi⟩ := setSlot_eq_some.1 hi <;> obtain ⟨hjs, ⟨⟩⟩ | ⟨_, hj⟩ := setSlot_eq_some.1 hj
    · rw [his, hjs]
    · exact absurd e.symm (hold j o' hj)
    · exact absurd e (hold i o hi)
    · exact h.priv i j o o' hi hj e
  · intro c hc
    rcases List.mem_cons.1 hc with e | hc
    · exact ⟨s, _, setSlot_same _ _ _, e.symm⟩
    · obtain ⟨i, o, hi, ho⟩ := h.noleak c hc
      refine ⟨i, o, setSlot_eq_some.2 (.inr ⟨?_, hi⟩), ho⟩
      rintro rfl
      rw [hs] at hi
      cases hi
  · intro c hc
    rcases List.mem_cons.1 hc with rfl | hc
    · exact ⟨h.le, Nat.lt_succ_self _⟩
    · exact ⟨(h.fresh c hc).1, Nat.lt_succ_of_lt (h.fresh c hc).2⟩

/-- the whole invariant: configuration = value semantics, no MPI call on a dead handle so far, `CommInv`, and the user
    communicators are their own origin -/
structure LifeInv (w : World) (σ : SpecWorld) : Prop where
  cfg : ∀ s, (w.slots s).map (objCfg w.origin) = σ s
  nofault : w.fault = false
  comm : CommInv w.slots w.liveComms w.users w.nextComm
  userOrigin : ∀ u, u < w.users → w.origin u = u

theorem LifeInv.init (users : Nat) : LifeInv (World.init users) (fun _ => none) :=
  ⟨fun _ => rfl, rfl, CommInv.init users, fun _ _ => rfl⟩

theorem valid_of_mem (w : World) (c : Nat) (h : c ∈ w.liveComms) : w.valid c = true := by
  simp [World.valid, h]

theorem valid_of_user (w : World) (c : Nat) (h : c < w.users) : w.valid c = true := by
  simp [World.valid, h]

/-- a new object with a private duplicate of `c` appears in slot `s`: the constructors, and the second half of `operator=` -/
abbrev World.place (w : World) (s b m c : Nat) : World :=
  { (w.dup c).2 with slots := setSlot w.slots s (some ⟨b, m, w.nextComm⟩) }

/-- the object `me` of slot `s` goes and its communicator is freed: the destructor, and the first half of `operator=` -/
abbrev World.remove (w : World) (s : Nat) (me : VscObj) : World :=
  { w.free me.comm with slots := setSlot w.slots s none }

/-- the objects that exist keep their configuration (their handles are older than the fresh one), the new one has the
    origin of `c` -/
theorem LifeInv.place {w : World} {σ : SpecWorld} (h : LifeInv w σ) {s : Nat} (hs : w.slots s = none) (b m : Nat) {c : Nat}
    (hc : w.valid c = true) : LifeInv (w.place s b m c) (setSlot σ s (some (b, m, w.origin c))) := by
  refine ⟨fun i => ?_, by simp [World.dup, h.nofault, hc], h.comm.acquire s hs b m, fun u hu => ?_⟩
  · show (setSlot w.slots s (some ⟨b, m, w.nextComm⟩) i).map (objCfg (w.dup c).2.origin) = _
    by_cases his : i = s
    · subst his; simp [setSlot, objCfg, World.dup]
    · rw [setSlot_other his, setSlot_other his, ← h.cfg i]
      cases hi : w.slots i with
      | none => rfl
      | some o =>
        have hne : o.comm ≠ w.nextComm := Nat.ne_of_lt (h.comm.fresh _ (h.comm.alive i o hi)).2
        simp [objCfg, World.dup, hne]
  · have : u ≠ w.nextComm := Nat.ne_of_lt (Nat.lt_of_lt_of_le hu h.comm.le)
    simp [World.dup, this, h.userOrigin u hu]

theorem LifeInv.remove {w : World} {σ : SpecWorld} (h : LifeInv w σ) {s : Nat} {me : VscObj} (hs : w.slots s = some me) :
    LifeInv (w.remove s me) (setSlot σ s none) := by
  refine ⟨fun i => ?_, by simp [World.free, h.nofault, h.comm.alive s me hs], h.comm.release s me hs, h.userOrigin⟩
  by_cases his : i = s
  · subst his; simp [setSlot]
  · simp [setSlot, his, World.free, h.cfg i]

/-- **one statement.**  Code level and value semantics accept the same statements, and the invariant is kept. -/
theorem lifeStep_inv (dflt : Nat) (w : World) (σ : SpecWorld) (h : LifeInv w σ) (op : LifeOp) :
    match lifeStep dflt w op, specStep w.users dflt σ op with
    | some w', some σ' => LifeInv w' σ' ∧ w'.users = w.users
    | none, none => True
    | _, _ => False := by
  -- `σ` is what `w` holds, so once a slot is looked up both sides compute
  obtain rfl : σ = fun s => (w.slots s).map (objCfg w.origin) := funext fun s => (h.cfg s).symm
  cases op with
  | construct s size iface user =>
    dsimp only [lifeStep, specStep]
    cases hs : w.slots s with
    | some o => trivial
    | none =>
      by_cases hu : user < w.users
      · rw [if_pos hu, if_pos hu]
        have := h.place hs (size.getD dflt) iface (valid_of_user w user hu)
        rw [h.userOrigin user hu] at this
        exact ⟨this, rfl⟩
      · rw [if_neg hu, if_neg hu]
        trivial
  | copy s t =>
    dsimp only [lifeStep, specStep]
    cases hs : w.slots s with
    | some o => trivial
    | none =>
      cases ht : w.slots t with
      | none => trivial
      | some o => exact ⟨h.place hs o.maxBufferSize o.interface (valid_of_mem w _ (h.comm.alive t o ht)), rfl⟩
  | assign s t =>
    dsimp only [lifeStep, specStep]
    cases hs : w.slots s with
    | none => trivial
    | some me =>
      cases ht : w.slots t with
      | none => trivial
      | some o =>
        dsimp only
        by_cases hst : s = t
        · subst hst
          rw [if_pos rfl]
          refine ⟨?_, rfl⟩
          rw [setSlot_eq_self]
          · exact h
          · exact congrArg _ ht
        · -- the old object goes, then the copy of `o` (still there: `o.comm ≠ me.comm`) is placed
          rw [if_neg hst]
          have hne : o.comm ≠ me.comm := fun e => hst (h.comm.priv t s o me ht hs e).symm
          have := (h.remove hs).place (setSlot_same _ _ _) o.maxBufferSize o.interface
            (valid_of_mem (w.remove s me) o.comm ((List.mem_erase_of_ne hne).2 (h.comm.alive t o ht)))
          simp only [World.place, World.remove, setSlot_setSlot] at this
          exact ⟨this, rfl⟩
  | destroy s =>
    dsimp only [lifeStep, specStep]
    cases hs : w.slots s with
    | none => trivial
    | some me => exact ⟨h.remove hs, rfl⟩
  | use s =>
    dsimp only [lifeStep, specStep]
    cases hs : w.slots s with
    | none => trivial
    | some me =>
      exact ⟨⟨h.cfg, by simp [h.nofault, valid_of_mem w _ (h.comm.alive s me hs)], h.comm, h.userOrigin⟩, rfl⟩

theorem lifeExec_inv (dflt : Nat) : ∀ (prog : List LifeOp) (w : World) (σ : SpecWorld), LifeInv w σ →
    match lifeExec dflt w prog, specExec w.users dflt σ prog with
    | some w', some σ' => LifeInv w' σ' ∧ w'.users = w.users
    | none, none => True
    | _, _ => False := by
  intro prog
  induction prog with
  | nil => intro w σ h; exact ⟨h, rfl⟩
  | cons op ops ih =>
    intro w σ h
    have hstep := lifeStep_inv dflt w σ h op
    simp only [lifeExec, specExec]
    cases h1 : lifeStep dflt w op <;> cases h2 : specStep w.users dflt σ op <;> rw [h1, h2] at hstep
    · trivial
    · exact hstep.elim
    · exact hstep.elim
    · rw [← hstep.2]
      exact ih _ _ hstep.1

end DV.C06
