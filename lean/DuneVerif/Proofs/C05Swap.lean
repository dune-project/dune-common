import DuneVerif.Proofs.C05System
/-!
C05, exchanging the roles of the two index sets and of the two attribute sets exchanges the two sides of the
interface; hence a backward communication is a forward communication of the exchanged system.  `swap_wf`, `swap_sizes`,
`swap_sendL`, `swap_recvL` carry the hypotheses and the lists over, for whoever applies a forward theorem to the exchanged
setting.
-/
namespace DV.C05

/-- source and target index set exchanged on every process -/
def System.swap (sys : System) : System :=
  { P := sys.P, rank := fun p => { src := (sys.rank p).tgtSet, tgt := (sys.rank p).src, two := (sys.rank p).two } }

theorem swap_tgtSet (sys : System) (p : Nat) : (sys.swap.rank p).tgtSet = (sys.rank p).src := by
  simp only [System.swap, RankData.tgtSet]
  by_cases h : (sys.rank p).two = true <;> simp [h]

theorem swap_src (sys : System) (p : Nat) : (sys.swap.rank p).src = (sys.rank p).tgtSet := rfl

theorem swap_sendSpec (ign : Bool) (sys : System) (p q : Nat) : sendSpec ign sys.swap p q = recvSpec ign sys p q := by
  simp only [sendSpec, recvSpec, swap_tgtSet, swap_src]

theorem swap_recvSpec (ign : Bool) (sys : System) (p q : Nat) : recvSpec ign sys.swap p q = sendSpec ign sys p q := by
  simp only [sendSpec, recvSpec, swap_tgtSet, swap_src]

/-- As a rewrite rule this turns the test of a send side into that of a receive side on both sides of a goal; the equation for
    `passes false T S` is this one with `S` and `T` exchanged, read from right to left. -/
theorem passes_swap (S T : Nat → Bool) : passes true T S = passes false S T := by
  funext x
  simp only [passes, if_true, Bool.false_eq_true, if_false]

theorem infoOf_swap (S T : Nat → Bool) : infoOf true T S = infoOf false S T := by
  funext l
  rw [infoOf_eq, infoOf_eq, passes_swap]

theorem swap_remoteEntry (ign : Bool) (sys : System) (p q : Nat) :
    remoteEntry ign sys.swap p q = (remoteEntry ign sys p q).map fun e => (e.1, e.2.2, e.2.1) := by
  rw [remoteEntry_eq, remoteEntry_eq, Option.map_if, swap_sendSpec, swap_recvSpec]
  exact ite_cond_congr (propext (and_congr_right' (not_congr and_comm)))

theorem swap_remoteSpec (ign : Bool) (sys : System) (p : Nat) :
    remoteSpec ign sys.swap p = (remoteSpec ign sys p).map fun e => (e.1, e.2.2, e.2.1) := by
  rw [remoteSpec, remoteSpec, List.map_filterMap]
  exact congrArg (List.filterMap · _) (funext (swap_remoteEntry ign sys p))

theorem buildInterfaceRaw_swap (S T : Nat → Bool) (rem : List (Nat × List RIdx × List RIdx)) :
    buildInterfaceRaw T S (rem.map fun e => (e.1, e.2.2, e.2.1)) = swapIf (buildInterfaceRaw S T rem) := by
  simp only [buildInterfaceRaw, swapIf, List.map_map, Function.comp_def, infoOf_swap]

theorem strip_swapIf (m : IfMap) : strip (swapIf m) = swapIf (strip m) := by
  simp only [strip, swapIf, List.filter_map, Function.comp_def, Bool.and_comm]

theorem swap_interfaceOf (ign : Bool) (S T : Nat → Bool) (sys : System) (p : Nat) :
    interfaceOf ign T S sys.swap p = swapIf (interfaceOf ign S T sys p) := by
  rw [interfaceOf, buildInterface, swap_remoteSpec, buildInterfaceRaw_swap, strip_swapIf]
  rfl

theorem swap_comm (ign : Bool) (S T : Nat → Bool) (sys : System) (sz : Nat) (csS csT : Nat → Nat → Nat) (p : Nat) :
    ((netOf ign S T sys sz csS csT).comm p).swap = (netOf ign T S sys.swap sz csT csS).comm p := by
  simp only [Net.comm, netOf, buildComm_swap, swap_interfaceOf]

theorem swap_wf {sys : System} (h : WF sys) : WF sys.swap where
  src := fun p => by rw [swap_src]; exact h.tgt p
  tgt := fun p => by rw [swap_tgtSet]; exact h.src p

theorem swap_sizes {sys : System} {csS csT blk} (h : SizesByGlobal sys csS csT blk) : SizesByGlobal sys.swap csT csS blk where
  src := fun p e he => by rw [swap_src] at he; exact h.tgt p e he
  tgt := fun p e he => by rw [swap_tgtSet] at he; exact h.src p e he

theorem swap_admits (sys : System) (p q : Nat) : admits sys.swap p q ↔ admits sys p q := Iff.rfl

theorem swap_sendL (ign : Bool) (S T : Nat → Bool) (sys : System) (p q : Nat) :
    sendL ign T S sys.swap p q = recvL ign S T sys p q := by
  simp only [sendL, recvL, sendEntries, recvEntries, swap_sendSpec, passes_swap]
  rfl

theorem swap_recvL (ign : Bool) (S T : Nat → Bool) (sys : System) (p q : Nat) :
    recvL ign T S sys.swap p q = sendL ign S T sys p q := by
  simp only [sendL, recvL, sendEntries, recvEntries, swap_recvSpec, passes_swap]
  rfl

end DV.C05
