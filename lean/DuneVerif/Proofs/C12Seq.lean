/-
C12 — typed retrieval of sequences: strings (`ltrim(rtrim(s))`), blank-separated words (`ParameterTree::split`,
`operator>>` into a string), single characters, arrays of `bool`, and the round trip of integer sequences through
their decimal text.
-/
import DuneVerif.Proofs.C12Lex

namespace DV.C12

theorem rtrim_last (s : Str) (c : Char) (h : (rtrim s).getLast? = some c) : isWs c = false := by
  rw [rtrim_eq, List.getLast?_reverse, ltrim] at h
  exact head?_dropWhile_not isWs s.reverse c h

theorem parseString_trimmed (s : Str) : trimmed (parseString s) = true := by
  simp only [trimmed, Bool.and_eq_true, Option.all_eq_true, Bool.not_eq_true']
  refine ⟨head?_dropWhile_not isWs _, fun c h => rtrim_last s c ?_⟩
  rw [← List.singleton_suffix_iff_getLast?_eq_some] at h ⊢
  exact h.trans (List.dropWhile_suffix isWs)

/-- `Parser<std::string>::parse(s) = m` exactly when `s` is `m` between two runs of blanks and `m` has no blank
    at either end -/
theorem parseString_iff (s m : Str) :
    parseString s = m ↔
      ∃ pre post, s = pre ++ m ++ post ∧ (∀ c ∈ pre, isWs c = true) ∧ (∀ c ∈ post, isWs c = true) ∧ trimmed m = true := by
  constructor
  · rintro rfl
    obtain ⟨post, hpost, hs⟩ := rtrim_split s
    refine ⟨(rtrim s).takeWhile isWs, post, ?_, fun c hc => mem_takeWhile_pos isWs _ c hc, hpost, parseString_trimmed s⟩
    unfold parseString ltrim
    rw [List.takeWhile_append_dropWhile]
    exact hs
  · rintro ⟨pre, post, rfl, hpre, hpost, hm⟩
    unfold parseString
    rw [rtrim_append_ws _ hpost]
    cases hl : m.getLast? with
    | none =>
      have : m = [] := by simpa using hl
      subst this
      simp [rtrim_all_ws hpre, ltrim]
    | some c =>
      have hlast : (pre ++ m).getLast? = some c := by
        rw [List.getLast?_append, hl]; rfl
      rw [rtrim_of_getLast hlast (trimmed_last hm hl), ltrim_ws_append hpre]
      exact ltrim_of_trimmed hm

/-- `s` consists of exactly the words `ws` (maximal runs of non-blank characters) separated/surrounded by blanks
    of the class `sp` -/
inductive WordsOf (sp : Char → Bool) : Str → List Str → Prop
  | nil {post : Str} : (∀ c ∈ post, sp c = true) → WordsOf sp post []
  | cons {pre w rest : Str} {ws : List Str} :
      (∀ c ∈ pre, sp c = true) → w ≠ [] → (∀ c ∈ w, sp c = false) → (∀ c, rest.head? = some c → sp c = true) →
      WordsOf sp rest ws → WordsOf sp (pre ++ w ++ rest) (w :: ws)

theorem splitWsGo_nil (cur : Str) : splitWsGo [] cur = if cur = [] then [] else [cur] := rfl

theorem splitWsGo_blanks {pre : Str} (rest : Str) (h : ∀ c ∈ pre, isWs c = true) :
    splitWsGo (pre ++ rest) [] = splitWsGo rest [] := by
  induction pre with
  | nil => rfl
  | cons c pre ih =>
    rw [List.forall_mem_cons] at h
    rw [List.cons_append, splitWsGo, if_pos h.1, if_pos rfl, ih h.2]

theorem splitWsGo_word {w : Str} (rest cur : Str) (h : ∀ c ∈ w, isWs c = false) :
    splitWsGo (w ++ rest) cur = splitWsGo rest (cur ++ w) := by
  induction w generalizing cur with
  | nil => rw [List.nil_append, List.append_nil]
  | cons c w ih =>
    rw [List.forall_mem_cons] at h
    rw [List.cons_append, splitWsGo, if_neg (by simp [h.1]), ih _ h.2, List.append_assoc, List.singleton_append]

theorem splitWsGo_flush {rest w : Str} (hr : ∀ c, rest.head? = some c → isWs c = true) (hw : w ≠ []) :
    splitWsGo rest w = w :: splitWsGo rest [] := by
  cases rest with
  | nil => rw [splitWsGo_nil, if_neg hw]; rfl
  | cons c r => rw [splitWsGo, if_pos (hr c rfl), if_neg hw, splitWsGo, if_pos (hr c rfl), if_pos rfl]

/-- the words are unique: whatever decomposition of `s` into blanks and words, `split` returns those words -/
theorem splitWs_of_wordsOf {s : Str} {ws : List Str} (h : WordsOf isWs s ws) : splitWs s = ws := by
  unfold splitWs
  induction h with
  | nil hp => simpa [splitWsGo] using splitWsGo_blanks [] hp
  | cons hpre hne hw hr _ ih =>
    rw [List.append_assoc, splitWsGo_blanks _ hpre, splitWsGo_word _ _ hw, List.nil_append, splitWsGo_flush hr hne, ih]

/-- the loop invariant: the blanks in front of the word in the buffer, the buffer and the unread text together consist
    of the words still to be returned -/
theorem wordsOf_splitWsGo (s : Str) {pre cur : Str} (hpre : ∀ c ∈ pre, isWs c = true) (h : ∀ c ∈ cur, isWs c = false) :
    WordsOf isWs (pre ++ cur ++ s) (splitWsGo s cur) := by
  -- the cases of the loop: end of input (buffer empty, not empty), a blank (buffer empty, not empty), a non-blank
  fun_induction splitWsGo s cur generalizing pre with
  | case1 => rw [List.append_nil, List.append_nil]; exact .nil hpre
  | case2 cur hne => exact .cons hpre hne h (by simp) (.nil (List.forall_mem_nil _))
  | case3 c cs hc ih =>
    have := ih (List.forall_mem_append.mpr ⟨hpre, List.forall_mem_singleton.mpr hc⟩) h
    rw [List.append_nil, List.append_assoc] at this
    rwa [List.append_nil]
  | case4 c cs cur hc hne ih =>
    exact .cons hpre hne h (fun _ e => Option.some.inj e ▸ hc)
      (ih (pre := [c]) (List.forall_mem_singleton.mpr hc) (List.forall_mem_nil _))
  | case5 c cs cur hc ih =>
    have := ih hpre (List.forall_mem_append.mpr ⟨h, List.forall_mem_singleton.mpr (Bool.eq_false_iff.mpr hc)⟩)
    rwa [← List.append_assoc, List.append_assoc _ [c]] at this

/-- `ParameterTree::split`: the result is the list of maximal runs of non-blank characters, and only that -/
theorem splitWs_iff (s : Str) (ws : List Str) : splitWs s = ws ↔ WordsOf isWs s ws :=
  ⟨fun h => h ▸ wordsOf_splitWsGo s (pre := []) (List.forall_mem_nil _) (List.forall_mem_nil _), splitWs_of_wordsOf⟩

theorem extractWord_iff (s w rest : Str) :
    extractWord s = some (w, rest) ↔
      ∃ pre, s = pre ++ w ++ rest ∧ AllSpace pre ∧ w ≠ [] ∧ (∀ c ∈ w, isSpaceC c = false) ∧
        (∀ c, rest.head? = some c → isSpaceC c = true) := by
  constructor
  · intro h
    obtain ⟨hne, h⟩ := Option.ite_none_left_eq_some.mp h
    obtain ⟨rfl, rfl⟩ := Prod.mk.inj (Option.some.inj h)
    obtain ⟨pre, hpre, hs, _⟩ := skipWs_split s
    refine ⟨pre, ?_, hpre, hne, fun c hc => ?_, fun c hc => ?_⟩
    · rwa [List.append_assoc, List.takeWhile_append_dropWhile]
    · simpa using mem_takeWhile_pos _ _ c hc
    · simpa using head?_dropWhile_not _ _ c hc
  · rintro ⟨pre, rfl, hpre, hne, hw, hr⟩
    have hd : ∀ c, (w ++ rest).head? = some c → isSpaceC c = false := by
      cases w with
      | nil => exact absurd rfl hne
      | cons a w => exact fun c hc => hw c (Option.some.inj hc ▸ List.mem_cons_self)
    have hw' : ∀ c ∈ w, (!isSpaceC c) = true := fun c hc => by rw [hw c hc]; rfl
    have hr' : ∀ c, rest.head? = some c → (!isSpaceC c) = false := fun c hc => by rw [hr c hc]; rfl
    rw [extractWord, List.append_assoc, skipWs_body hpre hd, takeWhile_append_stop hw' hr', dropWhile_append_stop hw' hr']
    exact if_neg hne

theorem wordsOf_iff (s : Str) (ws : List Str) : WordsOf isSpaceC s ws ↔ Extracts extractWord s ws := by
  constructor
  · intro h
    induction h with
    | nil h => exact .nil h
    | cons hpre hne hw hr _ ih => exact .cons ((extractWord_iff _ _ _).mpr ⟨_, rfl, hpre, hne, hw, hr⟩) ih
  · intro h
    induction h with
    | nil h => exact .nil h
    | cons h1 _ ih =>
      obtain ⟨pre, rfl, hpre, hne, hw, hr⟩ := (extractWord_iff _ _ _).mp h1
      exact .cons hpre hne hw hr ih

/-- `get<std::array<std::string,n>>`: exactly `n` blank-separated words (blank class of `operator>>`) -/
theorem parseRange_word_iff (n : Nat) (s : Str) (ws : List Str) :
    parseRange extractWord n s = some ws ↔ ws.length = n ∧ WordsOf isSpaceC s ws := by
  rw [parseRange_iff, wordsOf_iff]

/-- `get<char>`: exactly one non-blank character between blanks -/
theorem parseChar_iff (s : Str) (c : Char) :
    parseScalar extractChar s = some c ↔
      ∃ pre post, s = pre ++ c :: post ∧ AllSpace pre ∧ AllSpace post ∧ isSpaceC c = false := by
  rw [parseScalar_eq_some]
  constructor
  · rintro ⟨rest, h, hrest⟩
    obtain ⟨pre, hpre, hs, hstop⟩ := skipWs_split s
    revert h
    fun_cases extractChar s with
    | case1 => nofun
    | case2 x r hk =>
      intro h
      rw [hk] at hs hstop
      obtain ⟨rfl, rfl⟩ := Prod.mk.inj (Option.some.inj h)
      exact ⟨pre, r, hs, hpre, hrest, hstop x rfl⟩
  · rintro ⟨pre, post, rfl, hpre, hpost, hc⟩
    refine ⟨post, ?_, hpost⟩
    unfold extractChar
    rw [skipWs_append_of_allSpace hpre, skipWs_cons_of_not_space hc]

theorem intItems_join (ty : IntTy) {pre : Str} (hpre : AllSpace pre) (vs : List Int) (h : ∀ v ∈ vs, ty.lo ≤ v ∧ v ≤ ty.hi) :
    IntItems ty (pre ++ joinC ' ' (vs.map showInt)) vs := by
  induction vs generalizing pre with
  | nil => exact .nil (List.append_nil _ ▸ hpre)
  | cons v vs ih =>
    obtain ⟨⟨hlo, hhi⟩, h⟩ := List.forall_mem_cons.mp h
    have item {rest : Str} (hr : NoDigHead rest) (hi : IntItems ty rest vs) :
        IntItems ty (pre ++ (showInt v ++ rest)) (v :: vs) := by
      have := IntItems.cons hpre (signOK_showInt v) (showNat_ne_nil _) (showNat_allDig _) hr (denotes_showInt ty v hlo hhi) hi
      rwa [List.append_assoc, List.append_assoc, ← List.append_assoc _ (showNat _), ← showInt_eq] at this
    -- after the numeral of `v`: nothing, or a blank and the numerals of `vs`
    cases vs with
    | nil =>
      have := item noDigHead_nil (.nil allSpace_nil)
      rwa [List.append_nil] at this
    | cons w r => exact item (by intro _ e; cases e; rfl) (ih (pre := [' ']) (List.forall_mem_singleton.mpr rfl) h)

theorem roundtrip_range (ty : IntTy) (vs : List Int) (h : ∀ v ∈ vs, ty.lo ≤ v ∧ v ≤ ty.hi) :
    parseRange (extractInt ty) vs.length (joinC ' ' (vs.map showInt)) = some vs :=
  (parseRange_int_iff ty vs.length _ vs).mpr ⟨rfl, intItems_join ty allSpace_nil vs h⟩

theorem splitWs_joinC (ws : List Str) (h : ∀ w ∈ ws, w ≠ [] ∧ ∀ c ∈ w, isWs c = false) : splitWs (joinC ' ' ws) = ws := by
  unfold splitWs
  fun_induction joinC ' ' ws with
  | case1 => rfl
  | case2 w =>
    obtain ⟨hne, hw⟩ := h w List.mem_cons_self
    have := splitWsGo_word [] [] hw
    rwa [List.append_nil, List.nil_append, splitWsGo_nil, if_neg hne] at this
  | case3 w r _ ih =>
    rw [List.forall_mem_cons] at h
    rw [splitWsGo_word _ _ h.1.2, List.nil_append, splitWsGo, if_pos (by decide), if_neg h.1.1, ih h.2]

theorem isWs_of_not_space {c : Char} (h : isSpaceC c = false) : isWs c = false := by
  simp only [isSpaceC, Bool.or_eq_false_iff] at h
  simp only [isWs, h, Bool.or_self]

theorem mapM_some_of_forall {α β} {p : β → Option α} {f : α → β} {l : List α} (h : ∀ a ∈ l, p (f a) = some a) :
    (l.map f).mapM p = some l := by
  induction l with
  | nil => rfl
  | cons a l ih =>
    rw [List.forall_mem_cons] at h
    rw [List.map_cons, List.mapM_cons, h.1, ih h.2]
    rfl

theorem roundtrip_vector (ty : IntTy) (vs : List Int) (h : ∀ v ∈ vs, ty.lo ≤ v ∧ v ≤ ty.hi) :
    parseVector (parseInt ty) (joinC ' ' (vs.map showInt)) = some vs := by
  rw [parseVector, splitWs_joinC, mapM_some_of_forall]
  · intro v hv
    simpa using roundtrip_int ty v (h v hv).1 (h v hv).2 [] [] allSpace_nil allSpace_nil
  · simp only [List.forall_mem_map]
    intro v _
    refine ⟨?_, fun c hc => ?_⟩
    · rw [showInt_eq]
      exact List.append_ne_nil_of_right_ne_nil _ (showNat_ne_nil _)
    · rcases showInt_mem hc with rfl | h
      · rfl
      · exact isWs_of_not_space (isSpaceC_of_isDig h)

/-- `long` on the platform of the harness -/
def tLong : IntTy := ⟨true, 64⟩

theorem extractBool01_eq_some (s : Str) (b : Bool) (rest : Str) :
    extractBool01 s = some (b, rest) ↔ ∃ v, extractInt tLong s = some (v, rest) ∧ (v = 0 ∨ v = 1) ∧ b = (v == 1) := by
  unfold extractBool01
  rw [show (⟨true, 64⟩ : IntTy) = tLong from rfl]
  rcases extractInt tLong s with _ | ⟨v, r⟩
  · simp
  · dsimp only
    constructor
    · intro h
      refine ⟨v, ?_⟩
      by_cases h0 : v = 0
      · rw [if_pos h0] at h
        cases h; subst h0; exact ⟨rfl, .inl rfl, rfl⟩
      · rw [if_neg h0] at h
        obtain ⟨h1, h⟩ := Option.ite_none_right_eq_some.mp h
        cases h; subst h1; exact ⟨rfl, .inr rfl, rfl⟩
    · rintro ⟨_, h, h01, rfl⟩
      cases h
      rcases h01 with rfl | rfl <;> rfl

theorem extracts_bool01_iff (s : Str) (bs : List Bool) :
    Extracts extractBool01 s bs ↔
      ∃ vs, Extracts (extractInt tLong) s vs ∧ (∀ v ∈ vs, v = 0 ∨ v = 1) ∧ bs = vs.map (· == 1) := by
  constructor
  · intro h
    induction h with
    | nil h => exact ⟨[], .nil h, by simp, rfl⟩
    | cons h1 _ ih =>
      obtain ⟨v, hv, h01, rfl⟩ := (extractBool01_eq_some _ _ _).mp h1
      obtain ⟨vs, hvs, hall, rfl⟩ := ih
      exact ⟨v :: vs, .cons hv hvs, List.forall_mem_cons.mpr ⟨h01, hall⟩, rfl⟩
  · rintro ⟨vs, h, hall, rfl⟩
    induction h with
    | nil h => exact .nil h
    | cons h1 _ ih =>
      obtain ⟨h01, hall⟩ := List.forall_mem_cons.mp hall
      exact .cons ((extractBool01_eq_some _ _ _).mpr ⟨_, h1, h01, rfl⟩) (ih hall)

theorem parseRange_bool01_iff (n : Nat) (s : Str) (bs : List Bool) :
    parseRange extractBool01 n s = some bs ↔
      ∃ vs, vs.length = n ∧ IntItems tLong s vs ∧ (∀ v ∈ vs, v = 0 ∨ v = 1) ∧ bs = vs.map (· == 1) := by
  simp only [parseRange_iff, extracts_bool01_iff, intItems_iff]
  constructor
  · rintro ⟨hl, vs, h, hall, rfl⟩
    exact ⟨vs, by simpa using hl, h, hall, rfl⟩
  · rintro ⟨vs, hl, h, hall, rfl⟩
    exact ⟨by simpa using hl, vs, h, hall, rfl⟩

end DV.C12
