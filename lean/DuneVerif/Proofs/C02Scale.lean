import DuneVerif.Proofs.C02Func
import DuneVerif.Proofs.C02Tri
import DuneVerif.Proofs.C02Float
import DuneVerif.Model.C02Top
/-!
# C02 — the LU path has no absolute scale

`luDecomposition` decides "singular" by an exact comparison of the pivot's magnitude with zero and chooses the pivot by
comparing magnitudes within one column.  Consequently the whole LU path of `solve / invert / determinant` is
*equivariant under scaling*: for operands `φ∘A` ("`c·A`") and `ψ∘b` ("`d·b`") it reports FMatrixError in exactly the same
cases as for `A`, `b`, exchanges the same rows, stores the same multipliers, and returns the scaled results
`χ∘x` ("`(d/c)·x`"), `ι∘B` ("`c⁻¹·B`"), `φ^[n] det`.

Everything is stated for an arbitrary scalar type with the core operations and maps `φ ψ χ` that satisfy the few
identities the loops use (`ScaleSys`), so that it applies both to exact fields (`x ↦ c·x`, `c ≠ 0`) and to rounded
arithmetic (`Flt.FlR R`) whenever the rounding commutes with the scaling (`fl (c·x) = c·fl x`: binary floating point and
`c` a power of two, in the absence of overflow and underflow).  A singularity test against a fixed threshold
(`pivmax > 1e-80`) violates these theorems.
-/
namespace DV.C02.Scale
open DV.C02 DV.C02.Flt
set_option linter.unusedSectionVars false

section Generic
variable {n : Nat} {K Q S : Type} [Add K] [Sub K] [Mul K] [Div K] [Neg K] [OfNat K 0] [OfNat K 1]
variable [LinearOrder Q] [Zero Q]

/-- entry-wise image of a matrix / vector -/
def mapMat (g : K → K) (A : Mat n K) : Mat n K := Mat.ofFn fun i j => g (A.f i j)
def mapVec (g : K → K) (v : Vec n K) : Vec n K := Vec.ofFn fun i => g (v.f i)
def mapRes {α : Type} (g : α → α) : Res α → Res α
  | .ok x => .ok (g x)
  | .fmatrixError => .fmatrixError

/-- what the loops of the LU path use about a scaling `φ` of the matrix ("`c·`"), `ψ` of the right-hand side ("`d·`")
and `χ` of the solution ("`(d/c)·`"); `absval` is the pivot magnitude -/
structure ScaleSys (absval : K → Q) (φ ψ χ : K → K) : Prop where
  abs_lt : ∀ x y, absval (φ x) < absval (φ y) ↔ absval x < absval y
  abs_zero : ∀ x, absval (φ x) = 0 ↔ absval x = 0
  div_φ : ∀ a b, φ a / φ b = a / b
  mul_φ : ∀ f b, f * φ b = φ (f * b)
  sub_φ : ∀ a b, φ a - φ b = φ (a - b)
  mul_ψ : ∀ f b, f * ψ b = ψ (f * b)
  sub_ψ : ∀ a b, ψ a - ψ b = ψ (a - b)
  mul_χ : ∀ a x, φ a * χ x = ψ (a * x)
  div_χ : ∀ r a, ψ r / φ a = χ (r / a)

/-- the working matrix of the scaled run after `m` outer steps: the stored multipliers (below the diagonal, columns
`< m`) are those of the unscaled run, everything else is scaled -/
def MatRel (φ : K → K) (m : Nat) (A' A : Mat n K) : Prop :=
  ∀ r c : Fin n, A'.f r c = if c < r ∧ c.1 < m then A.f r c else φ (A.f r c)

theorem MatRel_map (φ : K → K) (A : Mat n K) : MatRel φ 0 (mapMat φ A) A := by
  intro r c; simp [mapMat]

theorem MatRel.scaled {φ : K → K} {m : Nat} {A' A : Mat n K} (h : MatRel φ m A' A) {r c : Fin n}
    (hrc : ¬ (c < r ∧ c.1 < m)) : A'.f r c = φ (A.f r c) := by
  rw [h r c, if_neg hrc]

theorem MatRel.stored {φ : K → K} {m : Nat} {A' A : Mat n K} (h : MatRel φ m A' A) {r c : Fin n}
    (hcr : c < r) (hc : c.1 < m) : A'.f r c = A.f r c := by
  rw [h r c, if_pos ⟨hcr, hc⟩]

theorem MatRel.upper {φ : K → K} {m : Nat} {A' A : Mat n K} (h : MatRel φ m A' A) {r c : Fin n} (hrc : r ≤ c) :
    A'.f r c = φ (A.f r c) :=
  h.scaled fun hh => absurd hh.1 (not_lt.mpr hrc)

theorem MatRel_col {φ : K → K} {A' A : Mat n K} {i : Fin n} (h : MatRel φ i.1 A' A) (r : Fin n) :
    A'.f r i = φ (A.f r i) :=
  h.scaled fun hh => lt_irrefl _ hh.2

variable {absval : K → Q} {φ ψ χ : K → K}

/-- the pivot search of the scaled run finds the same row -/
theorem pivotSearch_scale (H : ScaleSys absval φ ψ χ) {A' A : Mat n K} {i : Fin n} (h : MatRel φ i.1 A' A) :
    (pivotSearch absval A' i).2 = (pivotSearch absval A i).2 := by
  rw [pivotSearch_eq, pivotSearch_eq]
  simp only [MatRel_col h, H.abs_lt]

theorem pivRow_scale (H : ScaleSys absval φ ψ χ) (piv : Bool) {A' A : Mat n K} {i : Fin n} (h : MatRel φ i.1 A' A) :
    pivRow piv absval A' i = pivRow piv absval A i := by
  unfold pivRow
  rw [pivotSearch_scale H h]

theorem swapRows_scale {A' A : Mat n K} {i p : Fin n} (hip : i ≤ p) (h : MatRel φ i.1 A' A) :
    MatRel φ i.1 (swapRows A' i p) (swapRows A i p) := by
  intro r c
  rw [swapRows_f, swapRows_f, h]
  exact if_congr (and_congr_left (swap_lt_iff hip)) rfl rfl

/-- the zero test of the scaled run has the same outcome -/
theorem pivVal_scale (H : ScaleSys absval φ ψ χ) (piv : Bool) {A' A : Mat n K} {i : Fin n} (h : MatRel φ i.1 A' A) :
    pivValG piv absval A' i = 0 ↔ pivValG piv absval A i = 0 := by
  show pivVal piv absval A' i = 0 ↔ pivVal piv absval A i = 0
  rw [pivVal_eq, pivVal_eq, pivRow_scale H piv h]
  have := swapRows_scale (φ := φ) (pivRow_ge piv absval A i) h
  rw [MatRel_col this]
  exact H.abs_zero _

theorem elimAll_scale (H : ScaleSys absval φ ψ χ) {B' B : Mat n K} {i : Fin n} (h : MatRel φ i.1 B' B) :
    MatRel φ (i.1 + 1) (elimAll B' i) (elimAll B i) := by
  intro r c
  by_cases hir : i < r
  · have hii : B'.f i i = φ (B.f i i) := MatRel_col h i
    have hri : B'.f r i = φ (B.f r i) := MatRel_col h r
    rcases lt_trichotomy c i with hc | rfl | hc
    · -- left of the pivot column: a multiplier stored earlier
      rw [elimAll_f_left B' i r c hir hc, elimAll_f_left B i r c hir hc, h.stored (hc.trans hir) hc,
        if_pos ⟨hc.trans hir, Nat.lt_succ_of_lt hc⟩]
    · -- the pivot column: the multiplier of this step
      rw [elimAll_f_piv B' c r hir, elimAll_f_piv B c r hir, hii, hri, H.div_φ, if_pos ⟨hir, Nat.lt_succ_self _⟩]
    · -- right of the pivot column: a scaled entry minus multiplier times scaled entry
      have hci : ¬ c.1 < i.1 + 1 := Nat.not_lt.mpr hc
      rw [elimAll_f_right B' i r c hir hc, elimAll_f_right B i r c hir hc, hii, hri, H.div_φ,
        h.scaled fun hh => hci (Nat.lt_succ_of_lt hh.2), h.upper (le_of_lt hc), H.mul_φ, H.sub_φ,
        if_neg fun hh => hci hh.2]
  · -- a row not below the pivot row is untouched, and has no multiplier in column `i`
    rw [elimAll_f_row B' i r c hir, elimAll_f_row B i r c hir, h r c]
    exact if_congr (and_congr_right fun hcr => ⟨Nat.lt_succ_of_lt, fun _ => lt_of_lt_of_le hcr (not_lt.mp hir)⟩) rfl rfl

/-- **`luDecomposition` of the scaled operands**: the same verdict "singular", and when the run completes the same
multipliers, the scaled upper triangle and related functor states.  `RS` is the relation between the functor states;
the functor must preserve it (`hswap`, `hel`). -/
theorem luDecomp_scale (H : ScaleSys absval φ ψ χ) (piv : Bool) (F : Func n K S) (RS : S → S → Prop)
    (hswap : ∀ (s' s : S) (i p : Fin n), RS s' s → RS (F.swap s' i p) (F.swap s i p))
    (hel : ∀ (B' B : Mat n K) (s' s : S) (i : Fin n), MatRel φ i.1 B' B → RS s' s →
      RS (elimLoop F B' s' i).2 (elimLoop F B s i).2)
    (A' A : Mat n K) (s' s : S) (hA : MatRel φ 0 A' A) (hs : RS s' s) :
    (luDecomp piv absval F A' s').ok = (luDecomp piv absval F A s).ok ∧
    ((luDecomp piv absval F A s).ok = true →
      RS (luDecomp piv absval F A' s').s (luDecomp piv absval F A s).s ∧
      MatRel φ n (luDecomp piv absval F A' s').A (luDecomp piv absval F A s).A) := by
  unfold luDecomp
  apply forUp_rel (⟨A', s', true⟩ : LUState n K S) (⟨A, s, true⟩ : LUState n K S) _ _
    (fun m st' st => st'.ok = st.ok ∧ (st.ok = true → RS st'.s st.s ∧ MatRel φ m st'.A st.A))
    ⟨rfl, fun _ => ⟨hs, hA⟩⟩
  intro i st' st ⟨hok, hrel⟩
  cases hst : st.ok
  · rw [luStep_not_ok piv absval F i st' (hok.trans hst), luStep_not_ok piv absval F i st hst]
    exact ⟨hok, fun h => absurd (hst.symm.trans h) Bool.false_ne_true⟩
  · obtain ⟨hRS, hM⟩ := hrel hst
    have hsw := swapRows_scale (φ := φ) (pivRow_ge piv absval st.A i) hM
    have hz : pivVal piv absval st'.A i = 0 ↔ pivVal piv absval st.A i = 0 := pivVal_scale H piv hM
    rw [luStep_eq piv absval F i st' (hok.trans hst), luStep_eq piv absval F i st hst, pivRow_scale H piv hM]
    by_cases hzero : pivVal piv absval st.A i = 0
    · rw [if_pos hzero, if_pos (hz.mpr hzero)]
      exact ⟨rfl, fun h => absurd h Bool.false_ne_true⟩
    · rw [if_neg hzero, if_neg (mt hz.mp hzero)]
      refine ⟨rfl, fun _ => ⟨hel _ _ _ _ i hsw ?_, elimAll_scale H hsw⟩⟩
      cases piv
      · exact hRS
      · exact hswap _ _ _ _ hRS

/-- the case of a functor that ignores the elimination (`ElimDet`, `ElimPivot`): its state is the same in both runs -/
theorem luDecomp_scale_of_elim_id (H : ScaleSys absval φ ψ χ) (piv : Bool) (F : Func n K S)
    (hF : ∀ s fac k i, F.elim s fac k i = s) (A : Mat n K) (s : S) :
    (luDecomp piv absval F (mapMat φ A) s).ok = (luDecomp piv absval F A s).ok ∧
    ((luDecomp piv absval F A s).ok = true →
      (luDecomp piv absval F (mapMat φ A) s).s = (luDecomp piv absval F A s).s ∧
      MatRel φ n (luDecomp piv absval F (mapMat φ A) s).A (luDecomp piv absval F A s).A) :=
  luDecomp_scale H piv F (fun s' s => s' = s) (fun s' s i p h => by rw [h])
    (fun B' B s' s i _ h => by rw [elimLoop_snd_of_elim_id F hF, elimLoop_snd_of_elim_id F hF]; exact h)
    (mapMat φ A) A s s (MatRel_map φ A) rfl

theorem elimFunc_swap_scale (g : K → K) (s' s : Vec n K) (i p : Fin n) (h : ∀ r, s'.f r = g (s.f r)) :
    ∀ r, ((elimFunc : Func n K (Vec n K)).swap s' i p).f r = g (((elimFunc : Func n K (Vec n K)).swap s i p).f r) := by
  intro r
  simp only [elimFunc, Vec.ofFn_f, h, apply_ite g]

theorem elimFunc_elim_scale (H : ScaleSys absval φ ψ χ) (B' B : Mat n K) (s' s : Vec n K) (i : Fin n)
    (hM : MatRel φ i.1 B' B) (h : ∀ r, s'.f r = ψ (s.f r)) :
    ∀ r, (elimLoop elimFunc B' s' i).2.f r = ψ ((elimLoop elimFunc B s i).2.f r) := by
  intro r
  simp only [elimLoop_elimFunc_snd, Vec.ofFn_f, MatRel_col hM, H.div_φ, h, H.mul_ψ, H.sub_ψ, apply_ite ψ]

/-- back substitution with the scaled upper triangle and the scaled right-hand side gives the scaled solution: the loop
on plain functions, which `backSubst` and every column of `backwardU` run -/
theorem bs_scale (H : ScaleSys absval φ ψ χ) {U' U : Mat n K} {y' y : Fin n → K}
    (hU : MatRel φ n U' U) (hy : ∀ r, y' r = ψ (y r)) :
    ∀ r, forDown n y' (bsStep U') r = χ (forDown n y (bsStep U) r) := by
  intro r
  -- from the last row up: row `r` reads the entries below it
  induction r using WellFoundedGT.induction with
  | ind r ih =>
    rw [bs_fix U' y' r, bs_fix U y r, hU.upper (le_refl r), ← H.div_χ]
    congr 1
    apply forUp_rel _ _ _ _ (fun _ a' a => a' = ψ a) (hy r)
    intro j a' a ha
    rw [ha, apply_ite ψ]
    exact if_ctx_congr Iff.rfl (fun hrj => by rw [hU.upper (le_of_lt hrj), ih j hrj, H.mul_χ, H.sub_ψ]) fun _ => rfl

theorem backSubst_scale (H : ScaleSys absval φ ψ χ) {U' U : Mat n K} {y' y : Vec n K}
    (hU : MatRel φ n U' U) (hy : ∀ r, y'.f r = ψ (y.f r)) :
    ∀ r, (backSubst U' y').f r = χ ((backSubst U y).f r) := by
  rw [backSubst_f, backSubst_f]
  exact bs_scale H hU hy

/-- **solve on the LU path**: FMatrixError for the scaled operands iff for the unscaled ones; otherwise the scaled
solution -/
theorem solveLU_scale (H : ScaleSys absval φ ψ χ) (piv : Bool) (A : Mat n K) (b : Vec n K) :
    solveLU piv absval (mapMat φ A) (mapVec ψ b) = mapRes (mapVec χ) (solveLU piv absval A b) := by
  have hlu := luDecomp_scale H piv (elimFunc : Func n K (Vec n K)) (fun s' s => ∀ r, s'.f r = ψ (s.f r))
    (elimFunc_swap_scale ψ) (elimFunc_elim_scale H)
    (mapMat φ A) A (mapVec ψ b) b (MatRel_map φ A) (Vec.ofFn_f _)
  unfold solveLU
  rw [hlu.1]
  cases hok : (luDecomp piv absval elimFunc A b).ok
  · rfl
  · obtain ⟨hs, hM⟩ := hlu.2 hok
    exact congrArg Res.ok (Vec.ext fun r => by rw [backSubst_scale H hM hs r, mapVec, Vec.ofFn_f])

/-- **determinant on the LU path**: `0` for the scaled matrix when the unscaled run reports "singular" (the verdict is
the same); otherwise the value scaled `n` times (`det (c·A) = cⁿ det A`, here with the rounding of the computed product) -/
theorem detLU_scale (H : ScaleSys absval φ ψ χ) (hleft : ∀ x a, φ x * a = φ (x * a)) (hzero : φ 0 = 0)
    (piv : Bool) (A : Mat n K) :
    detLU piv absval (mapMat φ A) = φ^[n] (detLU piv absval A) := by
  have hlu := luDecomp_scale_of_elim_id H piv (detFunc : Func n K K) (fun _ _ _ _ => rfl) A (1 : K)
  unfold detLU
  rw [hlu.1]
  cases hok : (luDecomp piv absval detFunc A (1 : K)).ok
  · exact (Function.iterate_fixed hzero n).symm
  · obtain ⟨hs, hM⟩ := hlu.2 hok
    rw [hs]
    apply forUp_rel _ _ _ _ (fun m d' d => d' = φ^[m] d) rfl
    intro i d' d hd
    rw [hd, hM.upper (le_refl i), H.mul_φ, Function.iterate_succ_apply']
    -- multiplication from the right commutes with `φ` (`hleft`), hence with its iterates
    exact congrArg φ ((Function.Semiconj.iterate_right (f := (· * _)) (fun x => hleft x _) i).eq d)

/-- the forward sweep reads the strictly lower triangle only -/
theorem forwardL_congr {L' L : Mat n K} (h : ∀ r c : Fin n, c < r → L'.f r c = L.f r c) (B : Mat n K) :
    forwardL L' B = forwardL L B :=
  congrArg (forUp n B) (funext fun i => funext fun X => congrArg (forUp n X) (funext fun j => funext fun Y =>
    if_ctx_congr Iff.rfl (fun hji => by rw [h i j hji]) fun _ => rfl))

/-- the backward sweep with the scaled upper triangle gives the result scaled by `χ` (from `ψ`) -/
theorem backwardU_scale (H : ScaleSys absval φ ψ χ) {U' U : Mat n K} {Y' Y : Mat n K}
    (hU : MatRel φ n U' U) (hY : ∀ r c, Y'.f r c = ψ (Y.f r c)) :
    ∀ r c, (backwardU U' Y').f r c = χ ((backwardU U Y).f r c) := by
  intro r c
  have h := bs_scale H hU (fun k => hY k c) r
  rwa [← backwardU_col, ← backwardU_col] at h

/-- the column un-permutation only moves entries -/
theorem unpermute_map (g : K → K) (p : Vec n (Fin n)) {B' B : Mat n K} (h : ∀ r c, B'.f r c = g (B.f r c)) :
    ∀ r c, (unpermute p B').f r c = g ((unpermute p B).f r c) := by
  intro r c
  rw [unpermute_f, unpermute_f, h]

/-- **invert on the LU path** (`ι` = "`c⁻¹·`"): FMatrixError for the scaled matrix iff for the unscaled one; otherwise
the inverse scaled by `ι` -/
theorem invertLU_scale {ι : K → K} (H : ScaleSys absval φ id ι) (piv : Bool) (A : Mat n K) :
    invertLU piv absval (mapMat φ A) = mapRes (mapMat ι) (invertLU piv absval A) := by
  have hlu := luDecomp_scale_of_elim_id H piv (pivotFunc : Func n K (Vec n (Fin n))) (fun _ _ _ _ => rfl) A idPivot
  unfold invertLU
  rw [hlu.1]
  cases hok : (luDecomp piv absval pivotFunc A idPivot).ok
  · rfl
  · obtain ⟨hs, hM⟩ := hlu.2 hok
    refine congrArg Res.ok (Mat.ext fun r c => ?_)
    rw [hs, forwardL_congr (fun r c hcr => hM.stored hcr c.2) identity,
      unpermute_map ι _ (backwardU_scale H hM (fun _ _ => rfl)) r c, mapMat, Mat.ofFn_f]

/-- the member functions for `rows() ≥ 4` are the LU path -/
theorem solve_scale_ge4 (H : ScaleSys absval φ ψ χ) (piv : Bool) {m : Nat} (A : Mat (m + 4) K) (b : Vec (m + 4) K) :
    solve piv absval (mapMat φ A) (mapVec ψ b) = mapRes (mapVec χ) (solve piv absval A b) :=
  solveLU_scale H piv A b

theorem invert_scale_ge4 {ι : K → K} (H : ScaleSys absval φ id ι) (piv : Bool) {m : Nat} (A : Mat (m + 4) K) :
    invert piv absval (mapMat φ A) = mapRes (mapMat ι) (invert piv absval A) :=
  invertLU_scale H piv A

theorem determinant_scale_ge4 (H : ScaleSys absval φ ψ χ) (hleft : ∀ x a, φ x * a = φ (x * a)) (hzero : φ 0 = 0)
    (piv : Bool) {m : Nat} (A : Mat (m + 4) K) :
    determinant piv absval (mapMat φ A) = φ^[m + 4] (determinant piv absval A) :=
  detLU_scale H hleft hzero piv A

end Generic

section Exact
variable {K Q : Type} [Field K] [LinearOrder Q] [Zero Q]

theorem scaleSys_field {absval : K → Q} {c : K} (hc : c ≠ 0) (d : K)
    (h0 : ∀ x, absval x = 0 ↔ x = 0)
    (hlt : ∀ x y, absval (c * x) < absval (c * y) ↔ absval x < absval y) :
    ScaleSys absval (fun x => c * x) (fun x => d * x) (fun x => d / c * x) where
  abs_lt := hlt
  abs_zero x := by rw [h0, h0, mul_eq_zero, or_iff_right hc]
  div_φ a b := mul_div_mul_left a b hc
  mul_φ f b := mul_left_comm f c b
  sub_φ a b := (mul_sub c a b).symm
  mul_ψ f b := mul_left_comm f d b
  sub_ψ a b := (mul_sub d a b).symm
  mul_χ a x := by rw [mul_mul_mul_comm, mul_div_cancel₀ _ hc]
  div_χ r a := by rw [mul_div_mul_comm]

theorem scaleSys_field_inv {absval : K → Q} {c : K} (hc : c ≠ 0)
    (h0 : ∀ x, absval x = 0 ↔ x = 0)
    (hlt : ∀ x y, absval (c * x) < absval (c * y) ↔ absval x < absval y) :
    ScaleSys absval (fun x => c * x) id (fun x => c⁻¹ * x) := by
  have h := scaleSys_field hc 1 h0 hlt
  simp only [one_mul, one_div] at h
  exact h

end Exact

section Rounded
variable {R : Rounding} {Q : Type} [LinearOrder Q] [Zero Q]

theorem FlR.ext' {a b : FlR R} (h : a.val = b.val) : a = b :=
  congrArg FlR.mk h

/-- `x ↦ c·x` on `FlR R` (an exact operation: no rounding) -/
def scaleFl (c : ℝ) (x : FlR R) : FlR R := ⟨c * x.val⟩

theorem scaleFl_one : scaleFl (R := R) 1 = id :=
  funext fun x => FlR.ext' (one_mul x.val)

/-- A rounded result scales when its exact argument does and the rounding commutes with the scaling.  Every operation of
`FlR R` is `⟨R.fl (exact result)⟩` by definition, so each identity of `ScaleSys` below is an instance of this. -/
theorem scaleFl_fl {k : ℝ} (hk : ∀ x, R.fl (k * x) = k * R.fl x) {e' e : ℝ} (h : e' = k * e) :
    (⟨R.fl e'⟩ : FlR R) = scaleFl k ⟨R.fl e⟩ :=
  FlR.ext' (by rw [h, hk]; rfl)

theorem scaleSys_fl {absval : FlR R → Q} {c d : ℝ} (hc : c ≠ 0)
    (hflc : ∀ x, R.fl (c * x) = c * R.fl x) (hfld : ∀ x, R.fl (d * x) = d * R.fl x)
    (hfldc : ∀ x, R.fl (d / c * x) = d / c * R.fl x)
    (h0 : ∀ x, absval (scaleFl c x) = 0 ↔ absval x = 0)
    (hlt : ∀ x y, absval (scaleFl c x) < absval (scaleFl c y) ↔ absval x < absval y) :
    ScaleSys absval (scaleFl c) (scaleFl d) (scaleFl (d / c)) where
  abs_lt := hlt
  abs_zero := h0
  div_φ a b := FlR.ext' (congrArg R.fl (mul_div_mul_left a.val b.val hc))
  mul_φ f b := scaleFl_fl hflc (mul_left_comm f.val c b.val)
  sub_φ a b := scaleFl_fl hflc (mul_sub c a.val b.val).symm
  mul_ψ f b := scaleFl_fl hfld (mul_left_comm f.val d b.val)
  sub_ψ a b := scaleFl_fl hfld (mul_sub d a.val b.val).symm
  mul_χ a x := scaleFl_fl hfld
    (show c * a.val * (d / c * x.val) = d * (a.val * x.val) by rw [mul_mul_mul_comm, mul_div_cancel₀ _ hc])
  div_χ r a := scaleFl_fl hfldc (mul_div_mul_comm d r.val c a.val)

theorem fl_inv_comm {c : ℝ} (hc : c ≠ 0) (hflc : ∀ x, R.fl (c * x) = c * R.fl x) (x : ℝ) :
    R.fl (c⁻¹ * x) = c⁻¹ * R.fl x := by
  have := hflc (c⁻¹ * x)
  rw [mul_inv_cancel_left₀ hc] at this
  rw [this, inv_mul_cancel_left₀ hc]

theorem scaleSys_fl_inv {absval : FlR R → Q} {c : ℝ} (hc : c ≠ 0) (hflc : ∀ x, R.fl (c * x) = c * R.fl x)
    (h0 : ∀ x, absval (scaleFl c x) = 0 ↔ absval x = 0)
    (hlt : ∀ x y, absval (scaleFl c x) < absval (scaleFl c y) ↔ absval x < absval y) :
    ScaleSys absval (scaleFl c) id (scaleFl c⁻¹) := by
  have h := scaleSys_fl hc hflc (d := 1) (fun x => by rw [one_mul, one_mul])
    (fun x => by rw [one_div]; exact fl_inv_comm hc hflc x) h0 hlt
  rwa [scaleFl_one, one_div] at h

theorem scaleFl_mul_left {c : ℝ} (hflc : ∀ x, R.fl (c * x) = c * R.fl x) (x a : FlR R) :
    scaleFl c x * a = scaleFl c (x * a) :=
  scaleFl_fl hflc (mul_assoc c x.val a.val)

theorem scaleFl_zero (c : ℝ) : scaleFl c (0 : FlR R) = 0 :=
  FlR.ext' (mul_zero c)

theorem iterate_scaleFl (c : ℝ) (m : Nat) (x : FlR R) : ((scaleFl c)^[m] x).val = c ^ m * x.val := by
  induction m generalizing x with
  | zero => simp
  | succ m ih => rw [Function.iterate_succ_apply, ih]; simp only [scaleFl]; ring

/-- the usual magnitude `|x|` is compatible with every scaling `c ≠ 0` (with the magnitude as an unreduced `fun`: the form in
which `h0` / `hlt` of `scaleSys_fl` arise at `absval := fun y => |y.val|`) -/
theorem abs_scale_zero {c : ℝ} (hc : c ≠ 0) (x : FlR R) :
    (fun y : FlR R => |y.val|) (scaleFl c x) = 0 ↔ (fun y : FlR R => |y.val|) x = 0 := by
  simp [scaleFl, hc]

theorem abs_scale_lt {c : ℝ} (hc : c ≠ 0) (x y : FlR R) :
    (fun z : FlR R => |z.val|) (scaleFl c x) < (fun z : FlR R => |z.val|) (scaleFl c y) ↔
      (fun z : FlR R => |z.val|) x < (fun z : FlR R => |z.val|) y := by
  simp only [scaleFl, abs_mul]
  exact mul_lt_mul_iff_right₀ (abs_pos.mpr hc)

end Rounded
end DV.C02.Scale

