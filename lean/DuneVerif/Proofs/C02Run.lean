import DuneVerif.Proofs.C02Outer
/-! C02: the whole run of `luDecomposition` for an arbitrary functor: its structure for any scalar type (`lu_run`), the
same with the matrix invariant of an arithmetic with an error calculus (`lu_run_model`, which the exact and the rounded
development instantiate), that `solveLU` / `invertLU` return exactly when the run goes through (`solveLU_ok_iff`, …), over a
field the invariant `L·W = P·A₀` (`lu_invariant`), and that without pivoting the run goes through exactly when all leading
principal minors are nonzero. -/
namespace DV.C02
open Matrix
set_option linter.unusedSectionVars false

section Generic
variable {n : Nat} {K Q S : Type} [Add K] [Sub K] [Mul K] [Div K] [Neg K] [OfNat K 0] [OfNat K 1]
variable [LinearOrder Q] [Zero Q]

def pivRow (piv : Bool) (absval : K → Q) (A : Mat n K) (i : Fin n) : Fin n :=
  if piv then (pivotSearch absval A i).2 else i

/-- the value compared with zero in the singularity test of outer step `i` -/
def pivVal (piv : Bool) (absval : K → Q) (A : Mat n K) (i : Fin n) : Q :=
  if piv then (pivotSearch absval A i).1 else absval (A.f i i)

/-- the functor state after `func.swap` (only called when pivoting) -/
def swapS (piv : Bool) (F : Func n K S) (s : S) (i p : Fin n) : S := if piv then F.swap s i p else s

theorem pivotPhase_eq (piv : Bool) (absval : K → Q) (F : Func n K S) (A : Mat n K) (s : S) (i : Fin n) :
    pivotPhase piv absval F A s i =
      (pivVal piv absval A i, swapRows A i (pivRow piv absval A i), swapS piv F s i (pivRow piv absval A i)) := by
  cases piv <;> simp [pivotPhase, pivVal, pivRow, swapS, swapRows_self]

theorem luStep_eq (piv : Bool) (absval : K → Q) (F : Func n K S) (i : Fin n) (st : LUState n K S)
    (hok : st.ok = true) :
    luStep piv absval F i st =
      if pivVal piv absval st.A i = 0 then
        ⟨swapRows st.A i (pivRow piv absval st.A i), swapS piv F st.s i (pivRow piv absval st.A i), false⟩
      else
        ⟨elimAll (swapRows st.A i (pivRow piv absval st.A i)) i,
         (elimLoop F (swapRows st.A i (pivRow piv absval st.A i))
            (swapS piv F st.s i (pivRow piv absval st.A i)) i).2, true⟩ := by
  simp only [luStep, hok, if_true, pivotPhase_eq, beq_iff_eq, elimLoop_fst]

theorem luStep_not_ok (piv : Bool) (absval : K → Q) (F : Func n K S) (i : Fin n) (st : LUState n K S)
    (hok : st.ok = false) : luStep piv absval F i st = st := by
  simp [luStep, hok]

theorem pivRow_ge (piv : Bool) (absval : K → Q) (A : Mat n K) (i : Fin n) : i ≤ pivRow piv absval A i := by
  cases piv
  · simp [pivRow]
  · simp only [pivRow, if_true]; exact (pivotSearch_spec absval A i).1

theorem pivVal_eq (piv : Bool) (absval : K → Q) (A : Mat n K) (i : Fin n) :
    pivVal piv absval A i = absval ((swapRows A i (pivRow piv absval A i)).f i i) := by
  rw [swapRows_f, Equiv.swap_apply_left]
  cases piv
  · simp [pivVal, pivRow]
  · simp only [pivVal, pivRow, if_true]; exact (pivotSearch_spec absval A i).2.1

theorem pivVal_zero_col {absval : K → Q} (hnn : ∀ x, 0 ≤ absval x) {A : Mat n K} {i : Fin n}
    (h : pivVal true absval A i = 0) (r : Fin n) (hr : i ≤ r) : absval (A.f r i) = 0 :=
  le_antisymm (((pivotSearch_spec absval A i).2.2 r hr).trans_eq h) (hnn _)

/-- A run of `luDecomposition` goes through steps "swap rows `i`, `p ≥ i`; the pivot's magnitude is nonzero; eliminate"
until the outer loop ends (`ok = true`) or a pivot of magnitude zero is met (`ok = false`); `I` is any invariant of
such steps. -/
theorem lu_run (piv : Bool) (absval : K → Q) (F : Func n K S) (A₀ : Mat n K) (s₀ : S)
    (I : Nat → Equiv.Perm (Fin n) → Mat n K → S → Prop) (h0 : I 0 1 A₀ s₀)
    (hstep : ∀ (i p : Fin n) (σ : Equiv.Perm (Fin n)) (A : Mat n K) (s : S), i ≤ p → (piv = false → p = i) →
      I i.1 σ A s → absval ((swapRows A i p).f i i) ≠ 0 →
      I (i.1 + 1) (σ * Equiv.swap i p) (elimAll (swapRows A i p) i)
        (elimLoop F (swapRows A i p) (swapS piv F s i p) i).2) :
    ((luDecomp piv absval F A₀ s₀).ok = true →
      ∃ σ, I n σ (luDecomp piv absval F A₀ s₀).A (luDecomp piv absval F A₀ s₀).s) ∧
    ((luDecomp piv absval F A₀ s₀).ok = false →
      ∃ (i : Fin n) (σ : Equiv.Perm (Fin n)) (A : Mat n K) (s : S), I i.1 σ A s ∧ pivVal piv absval A i = 0) := by
  unfold luDecomp
  apply forUp_ind (⟨A₀, s₀, true⟩ : LUState n K S) (luStep piv absval F)
    (fun m st => (st.ok = true → ∃ σ, I m σ st.A st.s) ∧
      (st.ok = false →
        ∃ (i : Fin n) (σ : Equiv.Perm (Fin n)) (A : Mat n K) (s : S), I i.1 σ A s ∧ pivVal piv absval A i = 0))
  · exact ⟨fun _ => ⟨1, h0⟩, nofun⟩
  · intro i st ⟨h1, h2⟩
    by_cases hok : st.ok = true
    · obtain ⟨σ, hI⟩ := h1 hok
      rw [luStep_eq piv absval F i st hok]
      by_cases hz : pivVal piv absval st.A i = 0
      · rw [if_pos hz]
        exact ⟨nofun, fun _ => ⟨i, σ, st.A, st.s, hI, hz⟩⟩
      · rw [if_neg hz]
        exact ⟨fun _ => ⟨_, hstep i _ σ st.A st.s (pivRow_ge piv absval st.A i) (fun hpiv => by subst hpiv; rfl) hI
          (pivVal_eq piv absval st.A i ▸ hz)⟩, nofun⟩
    · rw [luStep_not_ok piv absval F i st (Bool.not_eq_true _ ▸ hok)]
      exact ⟨fun h => absurd h hok, h2⟩

/-- `lu_run` for an arithmetic with an error calculus that is valid for `n` operations: the matrix part of the invariant
is `RunInv` whatever the functor, `J` is the functor's part.  (`habs0`: the magnitude tested against zero vanishes on zero.) -/
theorem lu_run_model {F : Type} [Field F] (M : ErrModel K F) (hM : ∀ k, k ≤ n → M.ok k) (piv : Bool) {absval : K → Q}
    (habs0 : ∀ x, M.val x = 0 → absval x = 0) (Fn : Func n K S) (A₀ : Mat n K) (s₀ : S)
    (J : Nat → Equiv.Perm (Fin n) → Mat n K → S → Prop) (h0 : J 0 1 A₀ s₀)
    (hstep : ∀ (i p : Fin n) (σ : Equiv.Perm (Fin n)) (A : Mat n K) (s : S), i ≤ p → (piv = false → p = i) →
      RunInv M A₀ i.1 σ A → J i.1 σ A s → M.val ((swapRows A i p).f i i) ≠ 0 →
      J (i.1 + 1) (σ * Equiv.swap i p) (elimAll (swapRows A i p) i)
        (elimLoop Fn (swapRows A i p) (swapS piv Fn s i p) i).2) :
    ((luDecomp piv absval Fn A₀ s₀).ok = true →
      ∃ σ, RunInv M A₀ n σ (luDecomp piv absval Fn A₀ s₀).A ∧
        J n σ (luDecomp piv absval Fn A₀ s₀).A (luDecomp piv absval Fn A₀ s₀).s) ∧
    ((luDecomp piv absval Fn A₀ s₀).ok = false →
      ∃ (i : Fin n) (σ : Equiv.Perm (Fin n)) (A : Mat n K) (s : S),
        (RunInv M A₀ i.1 σ A ∧ J i.1 σ A s) ∧ pivVal piv absval A i = 0) :=
  lu_run piv absval Fn A₀ s₀ (fun m σ A s => RunInv M A₀ m σ A ∧ J m σ A s) ⟨RunInv_zero A₀, h0⟩
    fun i p σ A s hip hp ⟨hA, hJ⟩ hpiv =>
      have hne : M.val ((swapRows A i p).f i i) ≠ 0 := fun h => hpiv (habs0 _ h)
      ⟨RunInv_step (hM _ i.2) hip hA hne, hstep i p σ A s hip hp hA hJ hne⟩

namespace Flt

/-- `pivValG` and `swapSG` are `pivVal` and `swapS` once more, by definition.  They occur only in the statements of
`lu_invariantG` / `lu_fail_invariantG` and of `Scale.pivVal_scale`; proofs use `pivVal`, `swapS` and `lu_run` / `lu_run_model`. -/
def pivValG (piv : Bool) (absval : K → Q) (A : Mat n K) (i : Fin n) : Q :=
  if piv then (pivotSearch absval A i).1 else absval (A.f i i)

def swapSG (piv : Bool) (F : Func n K S) (s : S) (i p : Fin n) : S := if piv then F.swap s i p else s

/-- the `ok = true` half of `lu_run` -/
theorem lu_invariantG (piv : Bool) (absval : K → Q) (F : Func n K S) (A₀ : Mat n K) (s₀ : S)
    (I : Nat → Equiv.Perm (Fin n) → Mat n K → S → Prop) (h0 : I 0 1 A₀ s₀)
    (hstep : ∀ (i p : Fin n) (σ : Equiv.Perm (Fin n)) (A : Mat n K) (s : S), i ≤ p → (piv = false → p = i) →
      I i.1 σ A s → absval ((swapRows A i p).f i i) ≠ 0 →
      I (i.1 + 1) (σ * Equiv.swap i p) (elimAll (swapRows A i p) i)
        (elimLoop F (swapRows A i p) (swapSG piv F s i p) i).2) :
    (luDecomp piv absval F A₀ s₀).ok = true →
      ∃ σ, I n σ (luDecomp piv absval F A₀ s₀).A (luDecomp piv absval F A₀ s₀).s :=
  (lu_run piv absval F A₀ s₀ I h0 hstep).1

/-- the `ok = false` half of `lu_run`, for an invariant that does not mention the functor state -/
theorem lu_fail_invariantG (piv : Bool) (absval : K → Q) (F : Func n K S) (A₀ : Mat n K) (s₀ : S)
    (I : Nat → Equiv.Perm (Fin n) → Mat n K → Prop) (h0 : I 0 1 A₀)
    (hstep : ∀ (i p : Fin n) (σ : Equiv.Perm (Fin n)) (A : Mat n K), i ≤ p → (piv = false → p = i) →
      I i.1 σ A → absval ((swapRows A i p).f i i) ≠ 0 →
      I (i.1 + 1) (σ * Equiv.swap i p) (elimAll (swapRows A i p) i)) :
    (luDecomp piv absval F A₀ s₀).ok = false →
      ∃ (i : Fin n) (σ : Equiv.Perm (Fin n)) (A : Mat n K), I i.1 σ A ∧ pivValG piv absval A i = 0 := by
  intro hfail
  obtain ⟨i, σ, A, _, hI, hz⟩ := (lu_run piv absval F A₀ s₀ (fun m σ A _ => I m σ A) h0
    fun i p σ A _ => hstep i p σ A).2 hfail
  exact ⟨i, σ, A, hI, hz⟩

end Flt

theorem Res.ite_eq_ok {α : Type} {b : Bool} {x y : α} :
    (if b then Res.ok x else .fmatrixError) = .ok y ↔ b = true ∧ x = y := by
  cases b <;> simp

theorem Res.ite_eq_error {α : Type} {b : Bool} {x : α} :
    (if b then Res.ok x else .fmatrixError) = .fmatrixError ↔ b = false := by
  cases b <;> simp

theorem solveLU_ok_iff {piv : Bool} {absval : K → Q} {A : Mat n K} {b x : Vec n K} :
    solveLU piv absval A b = .ok x ↔ (luDecomp piv absval elimFunc A b).ok = true ∧
      backSubst (luDecomp piv absval elimFunc A b).A (luDecomp piv absval elimFunc A b).s = x :=
  Res.ite_eq_ok

theorem solveLU_error_iff {piv : Bool} {absval : K → Q} {A : Mat n K} {b : Vec n K} :
    solveLU piv absval A b = .fmatrixError ↔ (luDecomp piv absval elimFunc A b).ok = false :=
  Res.ite_eq_error

theorem invertLU_ok_iff {piv : Bool} {absval : K → Q} {A B : Mat n K} :
    invertLU piv absval A = .ok B ↔ (luDecomp piv absval pivotFunc A idPivot).ok = true ∧
      unpermute (luDecomp piv absval pivotFunc A idPivot).s
        (backwardU (luDecomp piv absval pivotFunc A idPivot).A
          (forwardL (luDecomp piv absval pivotFunc A idPivot).A identity)) = B :=
  Res.ite_eq_ok

theorem invertLU_error_iff {piv : Bool} {absval : K → Q} {A : Mat n K} :
    invertLU piv absval A = .fmatrixError ↔ (luDecomp piv absval pivotFunc A idPivot).ok = false :=
  Res.ite_eq_error

end Generic

variable {n : Nat} {K Q S : Type} [Field K] [LinearOrder Q] [Zero Q]

/-- what the theorems need to know about the absolute value used in the pivot search / singularity test -/
structure AbsLike (absval : K → Q) : Prop where
  zero_iff : ∀ x, absval x = 0 ↔ x = 0
  nonneg : ∀ x, 0 ≤ absval x

/-- The invariant of a run of `luDecomposition` with functor `F`: `R m σ A s` is the functor-specific part. -/
theorem lu_invariant (piv : Bool) {absval : K → Q} (habs : AbsLike absval) (F : Func n K S)
    (A₀ : Mat n K) (s₀ : S) (R : Nat → Equiv.Perm (Fin n) → Mat n K → S → Prop)
    (hR0 : R 0 1 A₀ s₀)
    (hRstep : ∀ (i p : Fin n) (σ : Equiv.Perm (Fin n)) (A : Mat n K) (s : S), i ≤ p → (piv = false → p = i) →
      AInv A₀ i.1 A σ → R i.1 σ A s → (swapRows A i p).f i i ≠ 0 →
      R (i.1 + 1) (σ * Equiv.swap i p) (elimAll (swapRows A i p) i)
        (elimLoop F (swapRows A i p) (swapS piv F s i p) i).2) :
    ((luDecomp piv absval F A₀ s₀).ok = true →
      ∃ σ, AInv A₀ n (luDecomp piv absval F A₀ s₀).A σ ∧
        R n σ (luDecomp piv absval F A₀ s₀).A (luDecomp piv absval F A₀ s₀).s) ∧
    ((luDecomp piv absval F A₀ s₀).ok = false → piv = true → (toMatrix A₀).det = 0) := by
  have := lu_run_model (exactModel K) (fun _ _ => trivial) piv (fun x => (habs.zero_iff x).mpr) F A₀ s₀ R hR0
    fun i p σ A s hip hp hA => hRstep i p σ A s hip hp hA.aInv
  refine ⟨fun hok => ?_, fun hfail hpiv => ?_⟩
  · obtain ⟨σ, hA, hR⟩ := this.1 hok
    exact ⟨σ, hA.aInv, hR⟩
  · subst hpiv
    obtain ⟨i, σ, A, s, ⟨hA, _⟩, hz⟩ := this.2 hfail
    exact det_zero_of_fail hA.aInv.fact fun r hr => (habs.zero_iff _).mp (pivVal_zero_col habs.nonneg hz r hr)

theorem lu_ok_det_ne_zero (piv : Bool) {absval : K → Q} (habs : AbsLike absval) (F : Func n K S) (A₀ : Mat n K) (s₀ : S)
    (hok : (luDecomp piv absval F A₀ s₀).ok = true) : (toMatrix A₀).det ≠ 0 := by
  obtain ⟨σ, hA, _⟩ := (lu_invariant piv habs F A₀ s₀ (fun _ _ _ _ => True) trivial
    fun _ _ _ _ _ _ _ _ _ _ => trivial).1 hok
  exact AInv_det_ne_zero hA

/-- **With pivoting the decomposition runs through iff the matrix is nonsingular**, for any functor. -/
theorem lu_ok_iff_det_ne_zero {absval : K → Q} (habs : AbsLike absval) (F : Func n K S) (A₀ : Mat n K) (s₀ : S) :
    (luDecomp true absval F A₀ s₀).ok = true ↔ (toMatrix A₀).det ≠ 0 := by
  refine ⟨lu_ok_det_ne_zero true habs F A₀ s₀, fun hdet => ?_⟩
  by_contra hok
  exact hdet ((lu_invariant true habs F A₀ s₀ (fun _ _ _ _ => True) trivial
    fun _ _ _ _ _ _ _ _ _ _ => trivial).2 (Bool.not_eq_true _ ▸ hok) rfl)

/-- the leading principal minor of order `k+1` -/
noncomputable def leadingMinor (A : Mat n K) (k : Fin n) : K :=
  (toSquareBlockProp (toMatrix A) (fun j : Fin n => j.1 ≤ k.1)).det

theorem det_leadingBlock_mul {L W : Matrix (Fin n) (Fin n) K} {k : ℕ} (hL : ∀ r c : Fin n, r < c → L r c = 0)
    (hL1 : ∀ j, L j j = 1) (hW : ∀ r c : Fin n, r.1 ≤ k → c < r → W r c = 0) :
    (toSquareBlockProp (L * W) fun j : Fin n => j.1 ≤ k).det = ∏ j : {j : Fin n // j.1 ≤ k}, W j.1 j.1 := by
  -- the rows of the leading block of `L` are zero right of it, so the block of `L·W` is the product of the blocks
  have hz : L.toBlock (fun j : Fin n => j.1 ≤ k) (fun j => ¬ j.1 ≤ k) = 0 := by
    ext r c
    exact hL _ _ (Fin.lt_def.2 (lt_of_le_of_lt r.2 (not_le.mp c.2)))
  rw [toSquareBlockProp, toBlock_mul_eq_add _ (fun j : Fin n => j.1 ≤ k), hz, Matrix.zero_mul, add_zero, det_mul,
    det_of_isLowerTriangular (L.toBlock _ _) fun _ _ h => hL _ _ h,
    det_of_isUpperTriangular (M := W.toBlock _ _) fun r _ h => hW _ _ r.2 h]
  simp only [toBlock_apply, hL1, Finset.prod_const_one, one_mul]

/-- with the identity permutation `A₀ = L·W`, hence the minor is the product of the pivots -/
theorem leadingMinor_eq_prod {A₀ A : Mat n K} {m : Nat} (h : AInv A₀ m A 1) (k : Fin n) (hk : k.1 ≤ m) :
    leadingMinor A₀ k = ∏ j : {j : Fin n // j.1 ≤ k.1}, A.f j.1 j.1 := by
  rw [leadingMinor, show toMatrix A₀ = Lview m A * Wview m A from h.fact.symm,
    det_leadingBlock_mul (fun _ _ => Lview_of_lt m A) (Lview_diag m A)
      fun r c hr hc => Wview_of_lt A (lt_of_lt_of_le hc (hr.trans hk)) hc]
  simp only [Wview_diag]

/-- **Without pivoting the decomposition succeeds iff every leading principal minor is nonzero**
("the unpivoted elimination is defined"), for any functor. -/
theorem nopivot_ok_iff_minors {absval : K → Q} (habs : AbsLike absval) (F : Func n K S) (A₀ : Mat n K) (s₀ : S) :
    (luDecomp false absval F A₀ s₀).ok = true ↔ ∀ k : Fin n, leadingMinor A₀ k ≠ 0 := by
  have run := lu_run_model (exactModel K) (fun _ _ => trivial) false (fun x => (habs.zero_iff x).mpr) F A₀ s₀
    (fun _ σ _ _ => σ = 1) rfl fun i p σ A s _ hp _ hσ _ => by rw [hσ, hp rfl, Equiv.swap_self]; rfl
  constructor
  · intro hok k
    obtain ⟨σ, hA, rfl⟩ := run.1 hok
    rw [leadingMinor_eq_prod hA.aInv k (le_of_lt k.2)]
    exact Finset.prod_ne_zero_iff.mpr fun j _ => hA.diag j.1 j.1.2
  · intro hmin
    by_contra hok
    obtain ⟨i, σ, A, _, ⟨hA, rfl⟩, hz⟩ := run.2 (Bool.not_eq_true _ ▸ hok)
    apply hmin i
    rw [leadingMinor_eq_prod hA.aInv i (le_refl _)]
    -- without pivoting the value tested is `absval (A.f i i)`
    exact Finset.prod_eq_zero (i := ⟨i, le_refl _⟩) (Finset.mem_univ _) ((habs.zero_iff (A.f i i)).mp hz)

/-- all leading principal minors nonzero ⇒ the matrix is nonsingular (the last one is the determinant; shown here
through the unpivoted decomposition, which then runs through) -/
theorem det_ne_zero_of_minors {absval : K → Q} (habs : AbsLike absval) (A : Mat n K)
    (hmin : ∀ k : Fin n, leadingMinor A k ≠ 0) : (toMatrix A).det ≠ 0 :=
  lu_ok_det_ne_zero false habs detFunc A (1 : K) ((nopivot_ok_iff_minors habs detFunc A (1 : K)).mpr hmin)

end DV.C02
