import DuneVerif.Proofs.C13Consistent
/-! C13: the state of a rank after the sync as the unique solution of a set-theoretic specification, with
post-condition, monotonicity and exactness as its consequences; deleting copies from the consistent state and syncing. -/
namespace DV.C13

/-- some process believes that `q` holds `g` with attribute `a` -/
def Belief (w : World) (q : Nat) (g : Int) (a : Nat) : Prop :=
  ∃ (p : Nat) (sp : RankState) (en : RemEntry), w[p]? = some sp ∧ en ∈ listOf sp.remote q ∧ en.g = g ∧ en.rem = a

/-- some process `p` that believes `q` to hold `en.g` with attribute `en.own` is `x` itself and holds the index with
attribute `en.rem`, or lists `x` as a holder with attribute `en.rem` -/
def BeliefRem (w : World) (q x : Nat) (en : RemEntry) : Prop :=
  ∃ (p : Nat) (sp : RankState) (enq : RemEntry), w[p]? = some sp ∧ enq ∈ listOf sp.remote q ∧ enq.g = en.g ∧ enq.rem = en.own ∧
    ((x = p ∧ en.rem = enq.own) ∨ (x ≠ q ∧ ∃ er, er ∈ listOf sp.remote x ∧ er.g = en.g ∧ er.rem = en.rem))

/-- the specification of the state `sq'` of process `q` after a sync of the world `w` in which it had state `sq`:
exactly the old pairs plus one pair, numbered by `num`, for every believed index it did not hold; exactly the old
remote indices plus the believed ones; exactly the old neighbours plus the processes of new remote indices; lists in
strictly ascending order; sequence numbers advanced and equal -/
structure SyncSpec (num : Int → Nat) (w : World) (q : Nat) (sq sq' : RankState) : Prop where
  idx : ∀ e, e ∈ sq'.idx ↔ e ∈ sq.idx ∨ (e.loc = num e.g ∧ Belief w q e.g e.attr ∧ ∀ e0 ∈ sq.idx, e0.g ≠ e.g)
  rem : ∀ x en, en ∈ listOf sq'.remote x ↔ en ∈ listOf sq.remote x ∨ BeliefRem w q x en
  nb : ∀ x, isNeighbour sq'.remote x = true ↔ isNeighbour sq.remote x = true ∨ ∃ en, BeliefRem w q x en
  idxSeq : sq'.idxSeq = sq.idxSeq + 1
  -- `finish` takes both sequence numbers from the index set, as the code does (`sync_phases_sound`)
  remSeq : sq'.remSeq = sq.idxSeq + 1
  idxSorted : sq'.idx.Pairwise (fun a b => a.g < b.g)
  nbSorted : sq'.remote.Pairwise (fun a b => a.1 < b.1)
  remSorted : ∀ x, (listOf sq'.remote x).Pairwise (fun a b => a.g < b.g)

/-- the items of `q`'s inbox that name `q` are, one for one, the remote indices the others keep for `q`: the entry `enq`
of `p`'s list is told by the item for `enq.g` in `p`'s message, which gives `q` the attribute `enq.rem` -/
theorem told_iff {D : Decomp} {w : World} (hw : PartialView D w) (q a : Nat) (T : Nat → Item → Prop) :
    (∃ x ∈ flatMsgs (inbox w q), x.2.pairs.lookup q = some a ∧ T x.1 x.2) ↔
      ∃ (p : Nat) (sp : RankState) (enq : RemEntry), w[p]? = some sp ∧ enq ∈ listOf sp.remote q ∧
        T p ⟨enq.g, enq.own, holders sp.remote enq.g⟩ ∧ enq.rem = a := by
  constructor
  · rintro ⟨x, hx, ha, hT⟩
    obtain ⟨m, hm, h1, h2⟩ := (mem_flatMsgs _ x).1 hx
    obtain ⟨sp, hsp, _, hit⟩ := (mem_inbox w q m).1 hm
    rw [h1] at hsp
    rw [hit] at h2
    obtain ⟨e, he, hx2, _⟩ := (mem_itemsFor sp q x.2).1 h2
    have hI := hw _ sp hsp
    rw [hx2] at ha hT
    obtain ⟨enq, h3, h4, h5⟩ := (mem_holders_iff hI.rem e.g q a).1 (lookup_mem ha)
    -- the own attribute of the entry is the attribute of the sender's pair
    have ht := hI.rem.listOf_true q enq h3
    have := hI.idxTrue e he
    rw [← h4] at this
    refine ⟨x.1, sp, enq, hsp, h3, ?_, h5⟩
    rw [h4, Option.some.inj ((attrOf_of_hasKey hI.idxTrue ht.2).symm.trans this)]
    exact hT
  · rintro ⟨p, sp, en, hp, hen, hT, rfl⟩
    have hI := hw p sp hp
    have hhold : (q, en.rem) ∈ holders sp.remote en.g := (mem_holders_iff hI.rem _ _ _).2 ⟨en, hen, rfl, rfl⟩
    refine ⟨(p, ⟨en.g, en.own, holders sp.remote en.g⟩), ?_,
      lookup_of_mem_pairwise (· < ·) Nat.lt_irrefl q en.rem _ (holders_pairwise _ _ _ hI.rem.nbSorted) hhold, hT⟩
    rw [mem_flatMsgs]
    refine ⟨(p, itemsFor sp q), (mem_inbox w q _).2 ⟨sp, hp, isNeighbour_of_mem_listOf _ q en hen, rfl⟩, rfl, ?_⟩
    obtain ⟨e, he, h1, h2⟩ := (hasKey_iff _ _ _).1 (hI.rem.listOf_true q en hen).2
    refine (mem_itemsFor _ _ _).2 ⟨e, he, by rw [h1, h2], ?_⟩
    rw [h1]
    exact List.any_eq_true.2 ⟨(q, en.rem), hhold, beq_self_eq_true q⟩

theorem toldIdx_iff_belief {D : Decomp} {w : World} (hw : PartialView D w) (q : Nat) (g : Int) (a : Nat) :
    (∃ x ∈ flatMsgs (inbox w q), ToldIdxI q x.2 g a) ↔ Belief w q g a :=
  told_iff hw q a fun _ it => it.g = g

theorem toldRem_iff_beliefRem {D : Decomp} {w : World} (hw : PartialView D w) (q x : Nat) (en : RemEntry) :
    (∃ y ∈ flatMsgs (inbox w q), ToldRemI q y.1 y.2 x en) ↔ BeliefRem w q x en := by
  refine (told_iff hw q en.own fun src it =>
    en.g = it.g ∧ ((x = src ∧ en.rem = it.srcAttr) ∨ (x ≠ q ∧ (x, en.rem) ∈ it.pairs))).trans
    (exists_congr fun p => exists_congr fun sp => exists_congr fun enq => and_congr_right fun hp => and_congr_right fun _ => ?_)
  -- a holder listed in the item is a process with an entry for the index in the sender's lists
  constructor
  · rintro ⟨⟨hg, hd⟩, hr⟩
    exact ⟨hg.symm, hr, hd.imp id fun h => ⟨h.1, by rw [hg]; exact (mem_holders_iff (hw p sp hp).rem _ _ _).1 h.2⟩⟩
  · rintro ⟨hg, hr, hd⟩
    exact ⟨⟨hg.symm, hd.imp id fun h => ⟨h.1, (mem_holders_iff (hw p sp hp).rem _ _ _).2 (hg ▸ h.2)⟩⟩, hr⟩

/-- what the sync teaches `q` is what the others believe -/
theorem gain_sync {D : Decomp} {w : World} (num : Int → Nat) (hw : PartialView D w) (q : Nat) (sq : RankState)
    (hq : w[q]? = some sq) : Gain num (Belief w q) (BeliefRem w q) sq (recvAll num q sq (inbox w q)) := by
  rw [recvAll_eq_flat]
  exact (gain_recvFlat num q _ sq (hw q sq hq).rem.nbSorted).congr (toldIdx_iff_belief hw q) (toldRem_iff_beliefRem hw q)

theorem syncSpec_rank {D : Decomp} {w : World} (num : Int → Nat) (hw : PartialView D w)
    (q : Nat) (sq : RankState) (hq : w[q]? = some sq) : SyncSpec num w q sq (syncRank num w q sq) := by
  have hI := hw q sq hq
  have hI' := partialView_sync num hw q _ (sync_getElem?_some num hq)
  have G := gain_sync num hw q sq hq
  -- with what was received as a variable, `finish` of it reduces at once
  rw [syncRank] at hI' ⊢
  generalize recvAll num q sq (inbox w q) = r at G hI'
  refine ⟨fun e => ?_, G.rem, G.nb, congrArg (· + 1) G.idxSeq, congrArg (· + 1) G.idxSeq,
    hI'.idxSorted, hI'.rem.nbSorted, hI'.rem.listOf_pairwise⟩
  refine (G.idx e).trans (or_congr Iff.rfl (and_left_comm.trans (and_congr_right fun _ => and_congr_right fun hb => ?_)))
  -- a belief is true, so a pair of `q` with the believed global index has the believed attribute
  obtain ⟨p, sp, en, h1, h2, h3, h4⟩ := hb
  have ht := ((hw p sp h1).rem.listOf_true q en h2).1
  rw [h3, h4] at ht
  rw [← Bool.not_eq_true, hasKey_iff]
  constructor
  · intro h e0 he0 hg
    have h0 := hI.idxTrue e0 he0
    rw [hg, ht] at h0
    exact h ⟨e0, he0, hg, (Option.some.inj h0).symm⟩
  · rintro h ⟨e0, he0, hg, _⟩
    exact h e0 he0 hg

theorem syncSpec_unique {num : Int → Nat} {w : World} {q : Nat} {sq s1 s2 : RankState}
    (h1 : SyncSpec num w q sq s1) (h2 : SyncSpec num w q sq s2) : s1 = s2 := by
  -- the keys by name: a `(·.g)` would be elaborated before its type is known, which is slow
  have hidx : s1.idx = s2.idx :=
    ext_of_sorted IdxEntry.g h1.idxSorted h2.idxSorted fun e => by rw [h1.idx, h2.idx]
  have hrem : s1.remote = s2.remote := by
    apply remote_ext _ _ h1.nbSorted h2.nbSorted
    · intro x
      rw [h1.nb, h2.nb]
    · intro x
      exact ext_of_sorted RemEntry.g (h1.remSorted x) (h2.remSorted x) fun en => by rw [h1.rem, h2.rem]
  exact RankState.eq_of hidx hrem (h1.idxSeq.trans h2.idxSeq.symm) (h1.remSeq.trans h2.remSeq.symm)

/-- the property's first sentence for one believed copy, about the state of `q` -/
theorem postcondition_rank {D : Decomp} {w : World} (num : Int → Nat) (hw : PartialView D w)
    (p q : Nat) (sp sq : RankState) (hp : w[p]? = some sp) (hq : w[q]? = some sq) (en : RemEntry)
    (hen : en ∈ listOf sp.remote q) :
    hasKey (syncRank num w q sq).idx en.g en.rem = true ∧
      (⟨en.g, en.rem, en.own⟩ : RemEntry) ∈ listOf (syncRank num w q sq).remote p ∧
      ∀ r er, r ≠ q → er ∈ listOf sp.remote r → er.g = en.g →
        (⟨en.g, en.rem, er.rem⟩ : RemEntry) ∈ listOf (syncRank num w q sq).remote r := by
  have S := syncSpec_rank num hw q sq hq
  refine ⟨?_, (S.rem _ _).2 (Or.inr ⟨p, sp, en, hp, hen, rfl, rfl, Or.inl ⟨rfl, rfl⟩⟩),
    fun r er hr her hg => (S.rem _ _).2 (Or.inr ⟨p, sp, en, hp, hen, rfl, rfl, Or.inr ⟨hr, er, her, hg, rfl⟩⟩)⟩
  -- `SyncSpec` has no field for `hasKey`; `finish` is rewritten away first, unifying through it is slow
  rw [syncRank, (finish_idx_remote _).1]
  exact ((gain_sync num hw q sq hq).key _ _).2 (Or.inr ⟨p, sp, en, hp, hen, rfl, rfl⟩)

/-- the state `s` of rank `q` is complete for its copy `(g, a)`: it has the pair and lists the copy of `g` on every other
process -/
structure Complete (D : Decomp) (q : Nat) (s : RankState) (g : Int) (a : Nat) : Prop where
  key : hasKey s.idx g a = true
  rem : ∀ x b, x ≠ q → D.attrOf x g = some b → (⟨g, a, b⟩ : RemEntry) ∈ listOf s.remote x

/-- a sound view (`RankInv`) that is also complete and has no neighbour without a common index is the consistent state
up to the local numbers -/
theorem shape_of_complete {D : Decomp} (hD : DecompWF D) {q : Nat} {s : RankState} (hI : RankInv D D.length q s)
    (hc : ∀ g a, D.attrOf q g = some a → Complete D q s g a)
    (hnb : ∀ x, isNeighbour s.remote x = true → ∃ g a b, D.attrOf q g = some a ∧ D.attrOf x g = some b) :
    s.idx.map (fun e => (e.g, e.attr)) = D.slice q ∧ s.remote = (consistentRank D q (D.slice q)).remote := by
  have hI0 := rankInv_consistent hD q
  refine ⟨ext_of_sorted Prod.fst (List.pairwise_map.2 hI.idxSorted) (hD.slice q) fun x => ?_,
    remote_ext _ _ hI.rem.nbSorted hI0.rem.nbSorted (fun x => ?_) fun x =>
      ext_of_sorted RemEntry.g (hI.rem.listOf_pairwise x) (hI0.rem.listOf_pairwise x) fun en => ?_⟩
  · rw [← attrOf_iff hD, List.mem_map]
    constructor
    · rintro ⟨e, he, h1⟩
      cases h1
      exact hI.idxTrue e he
    · intro h
      obtain ⟨e, he, h1, h2⟩ := (hasKey_iff _ _ _).1 (hc x.1 x.2 h).key
      exact ⟨e, he, by rw [h1, h2]⟩
  · rw [isNeighbour_consistentRank hD]
    constructor
    · intro hx
      obtain ⟨l, hl⟩ := (isNeighbour_iff _ _).1 hx
      exact ⟨(hI.rem.nbOk _ hl).2.1, (hI.rem.nbOk _ hl).1, hnb x hx⟩
    · rintro ⟨_, h2, g, a, b, h3, h4⟩
      exact isNeighbour_of_mem_listOf _ x _ ((hc g a h3).rem x b h2 h4)
  · constructor
    · intro hen
      obtain ⟨l, hl, _⟩ := mem_of_mem_listOf _ x en hen
      have ht := hI.rem.listOf_true x en hen
      rw [listOf_consistentRank D q _ x (hI.rem.nbOk _ hl).2.1 (hI.rem.nbOk _ hl).1]
      exact (mem_interList _ _ en).2 ⟨(attrOf_iff hD q _ _).1 (attrOf_of_hasKey hI.idxTrue ht.2), ht.1⟩
    · intro hen
      obtain ⟨l, hl, _⟩ := mem_of_mem_listOf _ x en hen
      have ht := hI0.rem.listOf_true x en hen
      exact (hc _ _ (attrOf_of_hasKey hI0.idxTrue ht.2)).rem x _ (hI0.rem.nbOk _ hl).1 ht.1

theorem deleted_getElem? {D : Decomp} (del : Nat → Int → Bool) {r : Nat} (hr : r < D.length) :
    (deleteCopies del (consistent D))[r]? = some (deleteRank (del r) (consistentRank D r (D.slice r))) := by
  rw [deleteCopies_getElem?, consistent_getElem?, slice_eq_of_lt D r hr]; rfl

theorem complete_deleted {D : Decomp} (hD : DecompWF D) (del : Int → Bool) {r : Nat} {g : Int} {a : Nat}
    (hdel : del g = false) (ha : D.attrOf r g = some a) :
    Complete D r (deleteRank del (consistentRank D r (D.slice r))) g a := by
  have hm := (attrOf_iff hD r g a).1 ha
  constructor
  · obtain ⟨e, he, h1, h2⟩ := (hasKey_iff _ _ _).1 ((hasKey_numberFrom g a 0 _).2 hm)
    exact (hasKey_iff _ _ _).2 ⟨e, List.mem_filter.2 ⟨he, by rw [h1, hdel]; rfl⟩, h1, h2⟩
  · intro x b hxr hb
    rw [listOf_deleteRank, listOf_consistentRank D r _ x (attrOf_lt hb) hxr, List.mem_filter]
    exact ⟨(mem_interList _ _ _).2 ⟨hm, hb⟩, by rw [hdel]; rfl⟩

/-- knowledge spreads: a process `r` that is complete for its copy of `g` lists `q`, and the post-condition of the sync
for that entry makes `q` complete for its copy -/
theorem complete_sync {D : Decomp} {w : World} (num : Int → Nat) (hw : PartialView D w) {q r : Nat} {sq sr : RankState}
    (hq : w[q]? = some sq) (hr : w[r]? = some sr) (hqr : q ≠ r) {g : Int} {a ar : Nat}
    (ha : D.attrOf q g = some a) (har : D.attrOf r g = some ar) (hc : Complete D r sr g ar) :
    Complete D q (syncRank num w q sq) g a := by
  obtain ⟨h1, h2, h3⟩ := postcondition_rank num hw r q sr sq hr hq _ (hc.rem q a hqr ha)
  refine ⟨h1, fun x b hxq hb => ?_⟩
  by_cases hxr : x = r
  · subst hxr
    cases har.symm.trans hb
    exact h2
  · exact h3 x _ hxq (hc.rem x b hxr hb) rfl

theorem restore_rank {D : Decomp} (hD : DecompWF D) (num : Int → Nat) (del : Nat → Int → Bool)
    (hsurv : ∀ p g, del p g = true → (D.attrOf p g).isSome = true →
      ∃ r ar, p ≠ r ∧ D.attrOf r g = some ar ∧ del r g = false)
    (q : Nat) (hq : q < D.length) :
    ∃ s', (sync num (deleteCopies del (consistent D)))[q]? = some s' ∧
      s'.idx.map (fun e => (e.g, e.attr)) = (consistentRank D q (D.slice q)).idx.map (fun e => (e.g, e.attr)) ∧
      s'.remote = (consistentRank D q (D.slice q)).remote := by
  have hw1 : PartialView D (deleteCopies del (consistent D)) := partialView_delete (partialView_consistent hD) del
  have hs1 := deleted_getElem? del hq
  have hs' := sync_getElem?_some num hs1
  have S := syncSpec_rank num hw1 q _ hs1
  have hI' := partialView_sync num hw1 q _ hs'
  rw [sync_length, deleteCopies_length, consistent_length] at hI'
  refine ⟨_, hs', (shape_of_complete hD hI' (fun g a ha => ?_) fun x hx => ?_).imp_left
    fun h => h.trans (numberFrom_map_key 0 _).symm⟩
  · cases hdel : del q g
    · -- the copy was kept, and nothing is lost
      have hc := complete_deleted hD (del q) hdel ha
      obtain ⟨e, he, h1, h2⟩ := (hasKey_iff _ _ _).1 hc.key
      exact ⟨(hasKey_iff _ _ _).2 ⟨e, (S.idx e).2 (Or.inl he), h1, h2⟩,
        fun x b hxq hb => (S.rem x _).2 (Or.inl (hc.rem x b hxq hb))⟩
    · -- a survivor kept its copy
      obtain ⟨r, ar, hqr, har, hrdel⟩ := hsurv q g hdel (by rw [ha]; rfl)
      exact complete_sync num hw1 hs1 (deleted_getElem? del (attrOf_lt har)) hqr ha har
        (complete_deleted hD (del r) hrdel har)
  · -- a neighbour after the sync was one before, or has an entry, which is true
    rcases (S.nb x).1 hx with h1 | ⟨en, h1⟩
    · rw [isNeighbour_deleteRank] at h1
      exact ((isNeighbour_consistentRank hD q x).1 h1).2.2
    · have ht := hI'.rem.listOf_true x en ((S.rem x en).2 (Or.inr h1))
      exact ⟨en.g, en.own, en.rem, attrOf_of_hasKey hI'.idxTrue ht.2, ht.1⟩

/-- "still listed" means, in any partial view: another process holds the index and keeps it -/
theorem survivor_of_listed {D : Decomp} {w : World} (hw : PartialView D w) (del : Nat → Int → Bool)
    {p : Nat} {g : Int}
    (h : ∃ (r : Nat) (sr : RankState) (en : RemEntry),
      (deleteCopies del w)[r]? = some sr ∧ en ∈ listOf sr.remote p ∧ en.g = g) :
    ∃ r ar, p ≠ r ∧ D.attrOf r g = some ar ∧ del r g = false := by
  obtain ⟨r, sr, en, hsr, hen, rfl⟩ := h
  obtain ⟨s0, h0, rfl⟩ := deleteCopies_getElem?_inv hsr
  rw [listOf_deleteRank, List.mem_filter, Bool.not_eq_true'] at hen
  have hI := hw r s0 h0
  obtain ⟨l, hpl, _⟩ := mem_of_mem_listOf _ p en hen.1
  -- the entry refers to a pair of `r`, which is true
  exact ⟨r, en.own, (hI.rem.nbOk _ hpl).1, attrOf_of_hasKey hI.idxTrue (hI.rem.listOf_true p en hen.1).2, hen.2⟩

end DV.C13
