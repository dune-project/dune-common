import Lean.Meta.Tactic.Simp.RegisterCommand
/-!
C09: registers the simp attribute `lane_laws`; the lemmas that carry it are in `Proofs/C09Lawful.lean`. (A module of its own: an
attribute cannot be used in the module that registers it.)
-/

/-- what `X.lane l` of each lane-wise operation of a lawful `SimdLike` is, stated against the scalar instance
    (`lane_vsub … lane_vmax`, `lane_cond'`, `lane_bcast'` of `Proofs/C09Lawful.lean`) -/
register_simp_attr lane_laws
