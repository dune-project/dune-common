import DuneVerif.Proofs.C06Recv
/-! C06: the messages of all rounds; the receive sides of the data and the size phase; whole runs of one neighbour relation. -/
namespace DV.C06
variable {α : Type}

theorem msgsOf_flatten (h : Handle α) (B f fuel : Nat) (is : List Nat) (hfu : is.length + 1 ≤ fuel)
    (hf : Fits h B f is) : (msgsOf h B f fuel is).flatten = is.flatMap h.data := by
  rw [msgsOf, List.flatten_filter_not_isEmpty, ← List.flatMap_def, ← List.flatMap_assoc, List.flatMap_id',
    blocks_flatten h B f fuel is hfu hf]

theorem msgsOf_mem (h : Handle α) (B f fuel : Nat) (is : List Nat) (hf : Fits h B f is) :
    ∀ m ∈ msgsOf h B f fuel is, m ≠ [] ∧ m.length ≤ B := by
  intro m hm
  unfold msgsOf at hm
  simp only [List.mem_filter, List.mem_map] at hm
  obtain ⟨⟨a, ha, rfl⟩, hne⟩ := hm
  refine ⟨by intro e; simp [e] at hne, (blocks_mem h B f fuel is hf a ha).1⟩

theorem msgsOf_allzero (h : Handle α) (B f fuel : Nat) (is : List Nat) (hfu : is.length + 1 ≤ fuel)
    (hf : Fits h B f is) (hz : total h is = 0) : msgsOf h B f fuel is = [] := by
  have hfl := msgsOf_flatten h B f fuel is hfu hf
  rw [List.eq_nil_of_length_eq_zero hz, List.flatten_eq_nil_iff] at hfl
  exact List.eq_nil_iff_forall_not_mem.2 fun m hm => (msgsOf_mem h B f fuel is hf m hm).1 (hfl m hm)

theorem msgsOf_length_le (h : Handle α) (B f fuel : Nat) (is : List Nat) (hfu : is.length + 1 ≤ fuel)
    (hf : Fits h B f is) : (msgsOf h B f fuel is).length ≤ is.length := by
  by_cases hne : is = []
  · rw [msgsOf_allzero h B f fuel is hfu hf (by rw [hne]; rfl)]
    exact Nat.zero_le _
  · exact Nat.le_trans (List.length_filter_le ..) (by rw [List.length_map]; exact blocks_length_le h B f fuel is hf hne)

/-- the skipping tracker does not skip past a block that holds an item -/
theorem recvS_left_gt (h : Handle α) (r : Nat) (rest : List Nat) : ∀ (a js : List Nat) (k : Nat),
    a.length ≤ js.length → 0 < total h a →
    (js.drop a.length).length < (recvS r k js ((a ++ rest).map h.size)).indicesLeft := by
  intro a
  induction a with
  | nil => intro js k _ ht; exact absurd ht (Nat.lt_irrefl _)
  | cons i a ih =>
    intro js k hl ht
    cases js with
    | nil => exact absurd hl (Nat.not_succ_le_zero _)
    | cons j js =>
      rw [List.cons_append, List.map_cons, List.length_cons, List.drop_succ_cons]
      by_cases hz : h.size i = 0
      · rw [hz, recvS_zero]
        rw [total_cons, hz, Nat.zero_add] at ht
        exact ih js (k + 1) (Nat.le_of_succ_le_succ hl) ht
      · rw [recvS_pos _ _ _ _ _ _ hz, recvT_left, List.length_cons, List.length_drop]
        omega

/-- data phase: `acc` are the calls made so far; together with the calls still owed they are `tgt` -/
theorem dataSide (h : Handle α) (B f r : Nat) (getCount : Bool) (hg : getCount = true ↔ f = 0) (tgt : List (Call α)) :
    RecvSide h B f getCount unpackEntries (fun k js is => rcvT h f r k js is)
      (fun acc _ is js => acc ++ callsOf h is js = tgt) where
  skip := fun k js is => rcvT_skip h f r k js is
  fin := fun k js is hl hf => rcvT_finished h B f r k js is hl hf
  round := by
    intro k js is b acc hl hf _ hb hp
    rw [unpackEntries_round h B f r k js is b acc hl hf hb hp _ (by intro h0; simp [hg.2 h0])]
    exact ⟨rcvT_skip .., rfl⟩
  left := by
    intro k js is hl hf ht
    by_cases h0 : f = 0
    · subst h0
      have := recvS_left_gt h r (round1 h B 0 is).2 (round1 h B 0 is).1 js k (round1_length_le hl)
        (Nat.pos_of_ne_zero (total_round_pos hf ht))
      rw [round1_append] at this
      exact Nat.lt_of_le_of_lt (recvS_left_le ..) this
    · rw [rcvT, rcvT, if_pos h0, if_pos h0]
      exact drop_round_lt hl hf ht
  roundInv := by
    intro k js is b acc hl hf _ hb hp hinv
    rw [unpackEntries_round h B f r k js is b acc hl hf hb hp _ (by intro h0; simp [hg.2 h0])]
    have e1 := callsOf_append h (round1 h B f is).1 (js.take (round1 h B f is).1.length) (round1 h B f is).2
      (js.drop (round1 h B f is).1.length) (by rw [List.length_take, Nat.min_eq_left (round1_length_le hl)])
    rw [round1_append, List.take_append_drop] at e1
    exact (List.append_assoc ..).trans (e1 ▸ hinv)

theorem sizeHandle_fits (h : Handle α) (B : Nat) (hB : 0 < B) (is : List Nat) : Fits (sizeHandle h) B 1 is :=
  Or.inr ⟨by decide, hB, fun _ _ => rfl⟩

theorem sizeHandle_flatMap (h : Handle α) (a : List Nat) : a.flatMap (sizeHandle h).data = a.map h.size :=
  List.map_eq_flatMap.symm

theorem sizeHandle_total (h : Handle α) (a : List Nat) : total (sizeHandle h) a = a.length := by
  simp [total, sizeHandle_flatMap]

theorem round1_sizeHandle (h : Handle α) (B : Nat) {is js : List Nat} (hl : js.length = is.length) :
    (round1 (sizeHandle h) B 1 is).1.length = min B js.length := by
  rw [round1, if_pos Nat.one_ne_zero, List.length_take, Nat.div_one, hl, Nat.min_assoc, Nat.min_self]

theorem unpackSizes_sendT (r k : Nat) (js : List Nat) (b : MessageBuffer Nat) (m : List Nat) (c : Nat) (dst : List Nat) :
    unpackSizes (sendT r k js 1) (b.received m) c dst =
      (sendT r (k + min b.size js.length) (js.drop (min b.size js.length)) 1, b.received m,
        writeAt dst k (m.take (min b.size js.length))) := by
  simp [unpackSizes, unpackSizeEntries, sendT, Tracker.increment, Tracker.indicesLeft, Tracker.offset,
    MessageBuffer.received]

theorem writeAt_step (done chunk : List Nat) (n : Nat) :
    writeAt (done ++ List.replicate n 0) done.length chunk = (done ++ chunk) ++ List.replicate (n - chunk.length) 0 := by
  rw [writeAt, List.take_left, List.drop_length_add_append, List.drop_replicate]

/-- size phase: `dst` is the size array: the sizes received so far, then zeros; completed it is `tgt` -/
theorem sizeSide (h : Handle α) (B : Nat) (tgt : List Nat) :
    RecvSide (sizeHandle h) B 1 false unpackSizes (fun k js _ => sendT 0 k js 1)
      (fun dst k is _ => ∃ done : List Nat, dst = done ++ List.replicate is.length 0 ∧ done.length = k ∧
        done ++ is.map h.size = tgt) where
  skip := fun k js _ => sendT_skip 0 k js 1
  fin := by
    intro k js is hl _
    rw [sizeHandle_total, sendT_finished, ← hl]
    cases js <;> rfl
  round := by
    intro k js is b acc hl _ _ hb _
    rw [unpackSizes_sendT, hb, ← round1_sizeHandle h B hl]
    exact ⟨sendT_skip .., hb⟩
  left := fun _ _ _ hl hf ht => drop_round_lt hl hf ht
  roundInv := by
    intro k js is b dst hl _ _ hb _ hinv
    obtain ⟨done, rfl, rfl, hd3⟩ := hinv
    -- the message holds the sizes of the block; they replace the first zeros behind `done`
    rw [unpackSizes_sendT, hb, ← round1_sizeHandle h B hl, sizeHandle_flatMap,
      List.take_of_length_le (Nat.le_of_eq (List.length_map ..)), writeAt_step, List.length_map,
      ← round1_length (sizeHandle h) B 1 is, Nat.add_sub_cancel_left]
    refine ⟨done ++ (round1 (sizeHandle h) B 1 is).1.map h.size, rfl, by rw [List.length_append, List.length_map], ?_⟩
    rw [← hd3, List.append_assoc, ← List.map_append, round1_append]

section recvAll
variable {β σ : Type} {hd : Handle β} {B f : Nat} {getCount : Bool}
  {unpack : Tracker → MessageBuffer β → Nat → σ → Tracker × MessageBuffer β × σ}
  {T : Nat → List Nat → List Nat → Tracker} {Inv : σ → Nat → List Nat → List Nat → Prop}

/-- `is'`, `js'` are the indices the receiver ends in front of: none, or all of them if there was nothing to receive -/
theorem recvAll_generic (hR : RecvSide hd B f getCount unpack T Inv) (fuel : Nat) (is js : List Nat) (rt0 : Tracker)
    (acc : σ) (hfu : is.length + 1 ≤ fuel) (hl : js.length = is.length) (hf : Fits hd B f is)
    (hrt0 : rt0.skipZeroIndices = T 0 js is) (hinv : Inv acc 0 is js) :
    ∃ (k' : Nat) (is' js' : List Nat), total hd is' = 0 ∧
      Inv (recvAll true getCount unpack (msgsOf hd B f fuel is) rt0 (MessageBuffer.new B) acc).acc k' is' js' ∧
      (recvAll true getCount unpack (msgsOf hd B f fuel is) rt0 (MessageBuffer.new B) acc).posted
        = (msgsOf hd B f fuel is).length ∧
      (recvAll true getCount unpack (msgsOf hd B f fuel is) rt0 (MessageBuffer.new B) acc).ok = true := by
  simp only [recvAll, setupRecv_true, hrt0]
  by_cases hz : total hd is = 0
  · have hfin : (T 0 js is).finished = true := by rw [hR.fin _ _ _ hl hf, hz]; rfl
    rw [hfin, msgsOf_allzero hd B f fuel is hfu hf hz]
    exact ⟨0, is, js, hz, hinv, rfl, by simp [RecvRun.ok, hfin]⟩
  · have hfin : (T 0 js is).finished = false := by rw [hR.fin _ _ _ hl hf]; exact beq_false_of_ne hz
    rw [hfin]
    obtain ⟨k', h1, h2, h3⟩ := recvLoop_generic hR fuel is js 0 (MessageBuffer.new B).reset 1 acc hfu hl rfl rfl hf
      (Nat.pos_of_ne_zero hz) hinv
    exact ⟨k', [], [], rfl, h1, by simp only [Bool.not_false, if_true]; omega, h3⟩

/-- the test `receiveSizeAndSetupReceive` makes before `SetupRecvRequest` is the one the repaired `SetupRecvRequest` makes itself -/
theorem recvAll_guarded (msgs : List (List β)) (t : Tracker) (b : MessageBuffer β) (acc : σ) (ht : t.skipZeroIndices = t) :
    (if t.finished then ⟨acc, 0, msgs.length, false, false, t⟩ else recvAll true getCount unpack msgs t b acc)
      = recvAll true getCount unpack msgs t b acc := by
  simp only [recvAll, setupRecv_true, ht]
  cases t.finished <;> rfl

end recvAll

theorem exchangeSizes_spec (h : Handle α) (B : Nat) (hB : 0 < B) (sendIdx recvIdx : List Nat)
    (hl : recvIdx.length = sendIdx.length) :
    (exchangeSizes true B h sendIdx recvIdx).2.acc = sendIdx.map h.size ∧
    (exchangeSizes true B h sendIdx recvIdx).2.ok = true ∧
    (exchangeSizes true B h sendIdx recvIdx).1.stuck = false ∧
    (exchangeSizes true B h sendIdx recvIdx).1.tracker.finished = true ∧
    (exchangeSizes true B h sendIdx recvIdx).2.posted = (exchangeSizes true B h sendIdx recvIdx).1.messages.length := by
  obtain ⟨hm, hfin, hst⟩ := sendAll_sendT (sizeHandle h) B 1 (sendIdx.length + 1) sendIdx 0 0 (MessageBuffer.new B) true
    (Nat.le_refl _) rfl (sizeHandle_fits h B hB sendIdx) (Or.inl rfl)
  obtain ⟨k', is', js', hz', ⟨done, hd1, _, hd3⟩, hp, hok⟩ := recvAll_generic (sizeSide h B (sendIdx.map h.size))
    (sendIdx.length + 1) sendIdx recvIdx (sendT 0 0 recvIdx 1) (List.replicate recvIdx.length 0) (Nat.le_refl _) hl
    (sizeHandle_fits h B hB sendIdx) (sendT_skip ..) ⟨[], by simp [hl], rfl, by simp⟩
  -- the receiver stands at the end: every index has one size
  rw [sizeHandle_total] at hz'
  rw [List.eq_nil_of_length_eq_zero hz'] at hd1 hd3
  simp only [exchangeSizes, mk'_send, hm, hfin, hst]
  exact ⟨by simpa [hd1] using hd3, hok, trivial, trivial, hp⟩

theorem communicatePairVar_spec (h : Handle α) (B : Nat) (hB : 0 < B) (sendIdx recvIdx : List Nat)
    (hl : recvIdx.length = sendIdx.length) (hfit : ∀ i ∈ sendIdx, h.size i ≤ B) :
    (communicatePairVar true B h sendIdx recvIdx).calls = callsOf h sendIdx recvIdx ∧
    (communicatePairVar true B h sendIdx recvIdx).returns = true ∧
    (communicatePairVar true B h sendIdx recvIdx).dataMessages = (communicatePairVar true B h sendIdx recvIdx).receivesPosted ∧
    (communicatePairVar true B h sendIdx recvIdx).dataMessages = (msgsOf h B 0 (sendIdx.length + 1) sendIdx).length := by
  have hf : Fits h B 0 sendIdx := Or.inl ⟨rfl, hfit⟩
  obtain ⟨e1, e2, e3, e4, _⟩ := exchangeSizes_spec h B hB sendIdx recvIdx hl
  obtain ⟨hm, hfin, hst⟩ := sendAll_sendT h B 0 (sendIdx.length + 1) sendIdx 0 0 (MessageBuffer.new B) true
    (Nat.le_refl _) rfl hf (Or.inl rfl)
  obtain ⟨k', is', js', hz', hacc, hp, hok⟩ := recvAll_generic
    (dataSide h B 0 0 true (by simp) (callsOf h sendIdx recvIdx)) (sendIdx.length + 1) sendIdx recvIdx
    (recvT 0 0 recvIdx (sendIdx.map h.size)) [] (Nat.le_refl _) hl hf (by simp [rcvT, recvT_skip]) rfl
  -- what is left to deliver has no items, so nothing is owed
  rw [callsOf_allzero h is' js' hz', List.append_nil] at hacc
  simp only [communicatePairVar, e1, e2, e3, e4, mk'_recv, mk'_send, hm, hfin, hst, hacc, hp, hok]
  exact ⟨trivial, rfl, trivial, trivial⟩

theorem communicatePairFixed_spec (h : Handle α) (B f : Nat) (sendIdx recvIdx : List Nat)
    (hl : recvIdx.length = sendIdx.length) (hf0 : f ≠ 0) (hfB : f ≤ B) (hsz : ∀ i ∈ sendIdx, h.size i = f) :
    (communicatePairFixed true B h f sendIdx recvIdx).calls = callsOf h sendIdx recvIdx ∧
    (communicatePairFixed true B h f sendIdx recvIdx).returns = true ∧
    (communicatePairFixed true B h f sendIdx recvIdx).dataMessages
      = (communicatePairFixed true B h f sendIdx recvIdx).receivesPosted := by
  have hf : Fits h B f sendIdx := Or.inr ⟨hf0, hfB, hsz⟩
  obtain ⟨hm, hfin, hst⟩ := sendAll_sendT h B f (sendIdx.length + 1) sendIdx 0 0 (MessageBuffer.new B) true
    (Nat.le_refl _) rfl hf (Or.inl rfl)
  have hT : (sendT 0 0 recvIdx 0).setFixedSize f = rcvT h f 0 0 recvIdx sendIdx := by
    simp [Tracker.setFixedSize, rcvT, sendT, hf0]
  obtain ⟨k', is', js', hz', hacc, hp, hok⟩ := recvAll_generic
    (dataSide h B f 0 false (by simp [hf0]) (callsOf h sendIdx recvIdx)) (sendIdx.length + 1) sendIdx recvIdx
    (rcvT h f 0 0 recvIdx sendIdx) [] (Nat.le_refl _) hl hf (rcvT_skip ..) rfl
  rw [callsOf_allzero h is' js' hz', List.append_nil] at hacc
  simp only [communicatePairFixed, mk'_send, hm, hfin, hst, hT, rcvT_skip, recvAll_guarded _ _ _ _ (rcvT_skip ..),
    hacc, hp, hok]
  exact ⟨trivial, rfl, trivial⟩

end DV.C06
