import DuneVerif.Model.C09LUT
import DuneVerif.Proofs.C09LU
/-!
# C09 — the translated control table of `luDecomposition`

`Model/C09LUT.lean` executes `luDecomposition`, `ElimDet::swap`, `ElimPivot::swap` and the LU branches of `determinant`,
`solve`, `invert` from the table `Gen.luCtl` the translator reads off densematrix.hh.  Here: for the canonical table these are the
hand-written algorithms of `Model/C09LU.lean` (so every theorem proved about those transfers, in particular that the LU factors
themselves are lane-wise: `luFactors_noThrow`, `luFactors_throwEarly` of `Proofs/C09LU.lean`).  Only the loop bounds take an argument
(`inRange_one_zero`: `[i + 1, n - 0)` is `i < k`); every other entry of the canonical table is met by unfolding.
-/
namespace DV.C09
open Gen

theorem inRange_one_zero {n : Nat} (i k : Fin n) : (inRange 1 0 i k = true) ↔ i < k :=
  decide_eq_true_iff.trans (and_iff_left k.isLt)

section Canon
variable {V : Type → Type} {L : Nat} (X : SimdLike V L) {K : Type} (R : Arith K) {n : Nat}

theorem cmpK_gt : cmpK R .gt = fun x y => R.lt y x := rfl
theorem cmpK_ne : cmpK R .ne = fun x y => !(R.beq x y) := rfl
theorem cmpIdx_eq : (cmpIdx .eq : Fin n → Fin n → Bool) = fun a b => decide (a = b) := rfl
theorem boolOpB_land : boolOpB .land = fun x y => x && y := rfl

theorem pivotSearchT_canonical (A : Mat (V K) n) (i : Fin n) :
    pivotSearchT X R luCtlCanonical A i = pivotSearch X R A i := by
  simp [pivotSearchT, pivotSearch, luCtlCanonical, inRange_one_zero, cmpK_gt, vgt]

variable {Aux : Type} (F : ElimFunc (V := V) (K := K) (n := n) Aux)

theorem eliminateT_canonical (A : Mat (V K) n) (aux : Aux) (i : Fin n) :
    eliminateT X R luCtlCanonical F A aux i = eliminate X R F A aux i := by
  simp only [eliminateT, eliminate, luCtlCanonical, inRange_one_zero]

theorem luPreT_canonical (piv : Bool) (st : LUState (V := V) (K := K) (n := n) Aux) (i : Fin n) :
    luPreT X R luCtlCanonical F piv st i = luPre X R F piv st i := by
  rw [luPreT, pivotSearchT_canonical]
  rfl

theorem luElimT_canonical (st : LUState (V := V) (K := K) (n := n) Aux) (i : Fin n) :
    luElimT X R luCtlCanonical F st i = luElim X R F st i := by
  simp only [luElimT, luElim, eliminateT_canonical]

theorem luLoopT_canonical (te piv : Bool) (is : List (Fin n)) (st : LUState (V := V) (K := K) (n := n) Aux) :
    luLoopT X R luCtlCanonical F te piv is st = luLoop X R F te piv is st := by
  induction is generalizing st with
  | nil => rfl
  | cons i is ih =>
    rw [luLoopT, luPreT_canonical, luElimT_canonical, ih]
    rfl

theorem luDecompT_canonical (te piv : Bool) (A : Mat (V K) n) (aux : Aux) :
    luDecompT X R luCtlCanonical F te piv A aux = luDecomp X R F te piv A aux := by
  simp only [luDecompT, luDecomp, luLoopT_canonical]

theorem elimDetT_canonical : elimDetT X R luCtlCanonical (n := n) = elimDet X R := rfl

theorem elimPivotT_canonical : elimPivotT X (K := K) luCtlCanonical (n := n) = elimPivot X := rfl

theorem closedForm_or_lu {α : Type} {closed lu : α} (h : n ≠ 1 → n ≠ 2 → n ≠ 3 → lu = closed) :
    (if n ≤ 3 then closed else lu) = closed :=
  ite_eq_left_iff.mpr fun hn => h (by omega) (by omega) (by omega)

theorem determinantT_canonical (piv : Bool) (A : Mat (V K) n) :
    determinantT X R luCtlCanonical piv A = some (determinant X R piv A) := by
  unfold determinantT
  refine closedForm_or_lu fun h1 h2 h3 => ?_
  obtain ⟨st, hst⟩ := Option.isSome_iff_exists.mp (luDecomp_false_isSome X R (elimDet X R) piv A (X.bcast R.one))
  rw [determinant_lu X R h1 h2 h3 hst,
    show luCtlCanonical.detThrowEarly = false from rfl, luDecompT_canonical, elimDetT_canonical, hst]
  rfl

theorem solveT_canonical (piv : Bool) (A : Mat (V K) n) (b : Vector (V K) n) :
    solveT X R luCtlCanonical piv A b = solve X R piv A b := by
  unfold solveT
  refine closedForm_or_lu fun h1 h2 h3 => ?_
  rw [solve_lu X R h1 h2 h3, show luCtlCanonical.solveThrowEarly = true from rfl, luDecompT_canonical]
  cases luDecomp X R (elimRhs X R) true piv A b <;> rfl

theorem invertT_canonical (piv : Bool) (A : Mat (V K) n) :
    invertT X R luCtlCanonical piv A = invert X R piv A := by
  unfold invertT
  refine closedForm_or_lu fun h1 h2 h3 => ?_
  rw [invert_lu X R h1 h2 h3, show luCtlCanonical.invertThrowEarly = true from rfl, luDecompT_canonical,
    elimPivotT_canonical]
  cases luDecomp X R (elimPivot X (K := K)) true piv A (Vector.ofFn fun i => X.bcast i) <;> rfl

theorem solveCT_canonical (chk : Option (CmpOpName → K → Bool)) (piv : Bool) (A : Mat (V K) n) (b : Vector (V K) n) :
    solveCT X R luCtlCanonical chk piv A b = solveC X R chk piv A b := by
  simp only [solveCT, solveC, solveT_canonical]

theorem invertCT_canonical (chk : Option (CmpOpName → K → Bool)) (piv : Bool) (A : Mat (V K) n) :
    invertCT X R luCtlCanonical chk piv A = invertC X R chk piv A := by
  simp only [invertCT, invertC, invertT_canonical]

end Canon

end DV.C09
