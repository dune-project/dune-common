/-
C17 — `roundM` / `truncM` (integer target type explicit, values stored in an `I` variable reduced as the type does)
against `round` / `trunc` (mathematical integers), and what `round` / `trunc` are by the shape of the code alone
(downward and upward rounding as one algorithm `roundBy`, where the results lie, arguments that the conversion
reproduces exactly).  Core Lean only; generic over the scalar type: nothing but the shape of the algorithms is used, so
the statements hold for the exact rationals, for every ordered field and for the rounding arithmetic `FP f` alike.
-/
import DuneVerif.Proofs.C17FP

-- every statement of a section takes the instance arguments of its one `variable` line, needed or not
set_option linter.unusedSectionVars false
namespace DV.C17

theorem IType.two_pow_bits {t : IType} (hb : 0 < t.bits) : (2 : Int) ^ t.bits = 2 * 2 ^ (t.bits - 1) := by
  rw [← Int.pow_succ', Nat.sub_add_cancel hb]

theorem IType.two_le_two_pow_bits {t : IType} (hb : 0 < t.bits) : (2 : Int) ≤ 2 ^ t.bits := by
  have h2 := IType.two_pow_bits hb
  have hp : (0 : Int) < 2 ^ (t.bits - 1) := Int.pow_pos (by decide)
  omega

theorem IType.fits_iff (t : IType) (x : Int) : t.fits x = true ↔ t.lo ≤ x ∧ x ≤ t.hi := by
  simp only [IType.fits, Bool.and_eq_true, decide_eq_true_eq]

theorem IType.fits_between {t : IType} {a b x : Int} (ha : t.fits a = true) (hb : t.fits b = true)
    (h1 : a ≤ x) (h2 : x ≤ b) : t.fits x = true := by
  rw [IType.fits_iff] at *
  omega

theorem IType.fits_zero (t : IType) : t.fits 0 = true := by
  have hp : (0 : Int) < 2 ^ (t.bits - 1) := Int.pow_pos (by decide)
  have hq : (0 : Int) < 2 ^ t.bits := Int.pow_pos (by decide)
  rw [IType.fits_iff, IType.lo, IType.hi]
  omega

theorem IType.hi_nonneg (t : IType) : 0 ≤ t.hi := ((IType.fits_iff t 0).mp (IType.fits_zero t)).2

theorem IType.lo_neg {t : IType} (hs : t.signed = true) : t.lo < 0 := by
  have hp : (0 : Int) < 2 ^ (t.bits - 1) := Int.pow_pos (by decide)
  simp only [IType.lo, hs, if_true]; omega

/-- `int` and wider signed types: the model keeps the value (overflow is undefined behaviour, outside the model) -/
theorem IType.wrap_signed {t : IType} (h : t.signed = true) (hw : 32 ≤ t.bits) (x : Int) : t.wrap x = x := by
  have : ¬ t.bits < 32 := by omega
  simp [IType.wrap, h, this]

theorem IType.hi_eq {t : IType} (hb : 0 < t.bits) : t.hi = t.lo + 2 ^ t.bits - 1 := by
  have h2 := IType.two_pow_bits hb
  simp only [IType.lo, IType.hi]
  split <;> omega

theorem IType.wrap_eq {t : IType} (hw : t.signed = true → t.bits < 32) (x : Int) :
    t.wrap x = (x - t.lo) % 2 ^ t.bits + t.lo := by
  simp only [IType.wrap, IType.lo]
  split
  · rw [if_pos (hw ‹_›), Int.sub_neg]; omega
  · rw [Int.sub_zero, Int.add_zero]

theorem IType.wrap_of_fits {t : IType} (hb : 0 < t.bits) (x : Int) (h : t.fits x = true) : t.wrap x = x := by
  by_cases hw : t.signed = true → t.bits < 32
  · rw [IType.fits_iff, IType.hi_eq hb] at h
    rw [IType.wrap_eq hw, Int.emod_eq_of_lt (by omega) (by omega)]
    omega
  · rw [Classical.not_imp] at hw
    exact IType.wrap_signed hw.1 (Nat.le_of_not_lt hw.2) x

theorem IType.arith_of_wrap {t : IType} {x : Int} (h : t.wrap x = x) : t.arith x = x := by
  unfold IType.arith
  split
  · rfl
  · exact h

theorem IType.wrap_of_range {t : IType} (hu : t.signed = false) (x : Int) (h0 : 0 ≤ x) (h1 : x < 2 ^ t.bits) :
    t.wrap x = x := by
  simp only [IType.wrap, hu, Bool.false_eq_true, if_false]
  exact Int.emod_eq_of_lt h0 h1

theorem neg_one_emod {n : Int} (hn : 0 < n) : (-1) % n = n - 1 := by
  rw [Int.neg_emod_eq_sub_emod, Int.emod_eq_of_lt (by omega) (by omega)]

theorem IType.wrap_neg_one {t : IType} (h : t.signed = false) : t.wrap (0 - 1) = 2 ^ t.bits - 1 := by
  simp only [IType.wrap, h, Bool.false_eq_true, if_false]
  exact neg_one_emod (Int.pow_pos (by decide))

theorem IType.wrap_pow {t : IType} (h : t.signed = false) : t.wrap (2 ^ t.bits - 1 + 1) = 0 := by
  simp [IType.wrap, h]

theorem IType.wrap_lo_pred {t : IType} (hn : t.bits < 32) (hb : 0 < t.bits) :
    t.wrap (t.lo - 1) = t.hi := by
  have : t.lo - 1 - t.lo = -1 := by omega
  rw [IType.wrap_eq (fun _ => hn), IType.hi_eq hb, this, neg_one_emod (Int.pow_pos (by decide))]
  omega

theorem IType.wrap_hi_succ {t : IType} (hn : t.bits < 32) (hb : 0 < t.bits) :
    t.wrap (t.hi + 1) = t.lo := by
  have : t.lo + 2 ^ t.bits - 1 + 1 - t.lo = (2 : Int) ^ t.bits := by omega
  rw [IType.hi_eq hb, IType.wrap_eq (fun _ => hn), this, Int.emod_self, Int.zero_add]

section
variable {K : Type} [Zero K] [Neg K] [Sub K] [Mul K] [LT K] [LE K] [DecidableLT K] [DecidableLE K] [IntCast K] [Add K]

/-- none of the integers the algorithms store for the argument `x` leaves the target type `t`: the decrement of
    `I(val)` (executed only if `T(I(val)) > val`), the values `I(val) … I(val)+2`, and 1 -/
structure NoWrap (t : IType) (tr : K → Int) (x : K) : Prop where
  dec : ((tr x : Int) : K) > x → t.wrap (tr x - 1) = tr x - 1
  up : ∀ y : Int, tr x ≤ y → y ≤ tr x + 2 → t.wrap y = y ∧ t.arith y = y
  one : t.wrap 1 = 1

theorem noWrap_signed {t : IType} (h : t.signed = true) (hw : 32 ≤ t.bits) (tr : K → Int) (x : K) : NoWrap t tr x :=
  ⟨fun _ => IType.wrap_signed h hw _, fun y _ _ => ⟨IType.wrap_signed h hw y, IType.arith_of_wrap (IType.wrap_signed h hw y)⟩,
   IType.wrap_signed h hw 1⟩

theorem noWrap_of_fits {t : IType} (hb : 0 < t.bits) (tr : K → Int) (x : K) (hlo : t.fits (tr x - 1) = true)
    (hhi : t.fits (tr x + 2) = true) (h1 : t.fits 1 = true) : NoWrap t tr x := by
  have hf : ∀ y : Int, tr x - 1 ≤ y → y ≤ tr x + 2 → t.fits y = true := fun y => IType.fits_between hlo hhi
  exact ⟨fun _ => IType.wrap_of_fits hb _ (hf _ (by omega) (by omega)),
    fun y ha hb' => have hy := IType.wrap_of_fits hb y (hf y (by omega) hb'); ⟨hy, IType.arith_of_wrap hy⟩,
    IType.wrap_of_fits hb 1 h1⟩

theorem noWrap_unsigned {t : IType} (hu : t.signed = false) (tr : K → Int) (x : K) (hle : ¬ ((tr x : Int) : K) > x)
    (h0 : 0 ≤ tr x) (hhi : tr x + 2 < 2 ^ t.bits) : NoWrap t tr x := by
  refine ⟨fun h => absurd h hle, fun y h1 h2 => ?_, ?_⟩
  · have hy := IType.wrap_of_range hu y (by omega) (by omega)
    exact ⟨hy, IType.arith_of_wrap hy⟩
  · exact IType.wrap_of_range hu 1 (by omega) (by omega)

-- `split` on a goal with several copies of a conditional is slow to check; the membership lemmas go through this
theorem ite_of {α} (P : α → Prop) {c : Prop} [Decidable c] {a b : α} (ha : P a) (hb : P b) : P (if c then a else b) := by
  split <;> assumption

/-! `round_t<…,downward>` and `round_t<…,upward>` are one algorithm: they differ only in the comparison of the distances to the
two neighbouring integers (`le` resp. `lt`), which decides ties.  `roundBy cmp` is that algorithm with the comparison a
parameter. -/

def roundBy (cmp : K → K → K → Bool) (s : Style) (tr : K → Int) (val eps : K) : Int :=
  let lower := tr val
  if eqS s (lower : K) val eps then lower else
  if (lower : K) > val then
    (if cmp (val - ((lower : K) - ((1 : Int) : K))) ((lower : K) - val) eps then lower - 1 else lower)
  else
    (if cmp (val - (lower : K)) (((lower : K) + ((1 : Int) : K)) - val) eps then lower else lower + 1)

/-- the comparison of the two distances used by rounding style `rs` for the argument `x` -/
def tieCmp (s : Style) (rs : RStyle) (x : K) : K → K → K → Bool :=
  match rs with
  | .downward => leS s
  | .upward => ltS s
  | .towardZero => if x > ((0 : Int) : K) then leS s else ltS s
  | .towardInf => if x > ((0 : Int) : K) then ltS s else leS s

theorem tieCmp_cases (s : Style) (rs : RStyle) (x : K) : tieCmp s rs x = leS s ∨ tieCmp s rs x = ltS s := by
  let P := fun c : K → K → K → Bool => c = leS s ∨ c = ltS s
  cases rs
  · exact ite_of P (Or.inl rfl) (Or.inr rfl)
  · exact ite_of P (Or.inr rfl) (Or.inl rfl)
  · exact Or.inl rfl
  · exact Or.inr rfl

theorem tieCmp_of_ne (s : Style) (rs : RStyle) (x : K) {p q e : K} (h : eqS s p q e = false) :
    tieCmp s rs x p q e = decide (p < q) := by
  rcases tieCmp_cases s rs x with hc | hc <;> rw [hc, Bool.eq_iff_iff, decide_eq_true_iff]
  · rw [leS_iff, h]; simp
  · rw [ltS_iff, h]; simp

theorem round_eq_roundBy (s : Style) (rs : RStyle) (tr : K → Int) (x e : K) :
    round s rs tr x e = roundBy (tieCmp s rs x) s tr x e := by
  cases rs <;> simp only [round, tieCmp] <;> (try split) <;> rfl

theorem roundBy_of_eq (cmp : K → K → K → Bool) (s : Style) (tr : K → Int) (x e : K)
    (h : eqS s ((tr x : Int) : K) x e = true) : roundBy cmp s tr x e = tr x := by
  simp only [roundBy, h, if_true]

/-- `round` applies the reduction of the type only to the value it returns (fixes/C17_round_unsigned.patch,
    fixes/C17_round_range_end.patch: all distances are computed in `T` from `T(I(val))`): `roundM` is the mathematical
    result reduced to the type, for EVERY argument whose integer part `I(val)` is a value of the type — beyond the largest
    and the smallest value of the type and in (-1,0) for an unsigned type as well -/
theorem roundM_eq_wrap {t : IType} (s : Style) (rs : RStyle) (tr : K → Int) (x e : K)
    (h0 : t.wrap (tr x) = tr x) :
    roundM t s rs tr x e = t.wrap (round s rs tr x e) := by
  cases rs <;>
    simp only [roundM, round, roundDownM, roundUpM, roundDown, roundUp, apply_ite t.wrap, h0]

theorem roundM_of_fits {t : IType} (hb : 0 < t.bits) (s : Style) (rs : RStyle) (tr : K → Int) (x e : K)
    (h0 : t.fits (tr x) = true) (hr : t.fits (round s rs tr x e) = true) :
    roundM t s rs tr x e = round s rs tr x e := by
  rw [roundM_eq_wrap s rs tr x e (IType.wrap_of_fits hb _ h0), IType.wrap_of_fits hb _ hr]

/-- the result of `round` is `I(val)` or one of its two neighbours -/
theorem round_mem (s : Style) (rs : RStyle) (tr : K → Int) (x e : K) :
    round s rs tr x e = tr x ∨ round s rs tr x e = tr x - 1 ∨ round s rs tr x e = tr x + 1 := by
  let P := fun r : Int => r = tr x ∨ r = tr x - 1 ∨ r = tr x + 1
  rw [round_eq_roundBy]
  exact ite_of P (Or.inl rfl)
    (ite_of P (ite_of P (Or.inr (Or.inl rfl)) (Or.inl rfl)) (ite_of P (Or.inl rfl) (Or.inr (Or.inr rfl))))

theorem round_mem_of_gt (s : Style) (rs : RStyle) (tr : K → Int) (x e : K) (hg : ((tr x : Int) : K) > x) :
    round s rs tr x e = tr x ∨ round s rs tr x e = tr x - 1 := by
  let P := fun r : Int => r = tr x ∨ r = tr x - 1
  rw [round_eq_roundBy]
  simp only [roundBy, if_pos hg]
  exact ite_of P (Or.inl rfl) (ite_of P (Or.inr rfl) (Or.inl rfl))

theorem roundM_eq {t : IType} (s : Style) (rs : RStyle) {tr : K → Int} {x : K} (e : K) (h : NoWrap t tr x) :
    roundM t s rs tr x e = round s rs tr x e := by
  have h0 := (h.up (tr x) (by omega) (by omega)).1
  rw [roundM_eq_wrap s rs tr x e h0, round_eq_roundBy]
  unfold roundBy
  by_cases hg : ((tr x : Int) : K) > x
  · simp only [hg, if_true, apply_ite t.wrap, h0, h.dec hg]
  · simp only [hg, if_false, apply_ite t.wrap, h0, (h.up (tr x + 1) (by omega) (by omega)).1]

/-- the downward result is 0 (unsigned special case), or the possibly decremented `lower` (`l'`) or its successor -/
theorem truncDown_mem (s : Style) (u : Bool) (tr : K → Int) (x e : K) {l' : Int}
    (hl' : l' = if ((tr x : Int) : K) > x then tr x - 1 else tr x) :
    truncDown s u tr x e = 0 ∨ (l' ≤ truncDown s u tr x e ∧ truncDown s u tr x e ≤ l' + 1) := by
  let P := fun r : Int => r = 0 ∨ (l' ≤ r ∧ r ≤ l' + 1)
  have hl : P (tr x) := Or.inr (by omega)
  simp only [truncDown, ← hl']
  clear hl'
  have h1 : P l' := Or.inr (by omega)
  have h2 : P (l' + 1) := Or.inr (by omega)
  exact ite_of P (Or.inl rfl) (ite_of P hl (ite_of P h1 (ite_of P h2 h1)))

theorem truncDownM_eq {t : IType} (s : Style) {tr : K → Int} {x : K} (e : K) (h : NoWrap t tr x) :
    truncDownM t s tr x e = truncDown s (!t.signed) tr x e := by
  unfold truncDownM truncDown
  by_cases hg : ((tr x : Int) : K) > x
  · have h1 := h.up (tr x - 1 + 1) (by omega) (by omega)
    simp only [hg, if_true, h.dec hg, h1.1, h1.2]
  · have h1 := h.up (tr x + 1) (by omega) (by omega)
    simp only [hg, if_false, h1.1, h1.2]

theorem truncUpM_eq {t : IType} (s : Style) {tr : K → Int} {x : K} (e : K) (h : NoWrap t tr x) :
    truncUpM t s tr x e = truncUp s (!t.signed) tr x e := by
  unfold truncUpM truncUp
  rw [truncDownM_eq s e h]
  have hw : t.wrap (truncDown s (!t.signed) tr x e + 1) = truncDown s (!t.signed) tr x e + 1 := by
    rcases truncDown_mem s (!t.signed) tr x e rfl with h0 | ⟨h1, h2⟩
    · rw [h0]; simpa using h.one
    · exact (h.up _ (by omega) (by omega)).1
  simp only [hw]

theorem truncM_eq {t : IType} (s : Style) (rs : RStyle) {tr : K → Int} {x : K} (e : K) (h : NoWrap t tr x) :
    truncM t s rs tr x e = trunc s (!t.signed) rs tr x e := by
  cases rs <;> simp only [truncM, trunc, truncDownM_eq s e h, truncUpM_eq s e h]

theorem trunc_cases (s : Style) (u : Bool) (rs : RStyle) (tr : K → Int) (x e : K) :
    trunc s u rs tr x e = truncDown s u tr x e ∨ trunc s u rs tr x e = truncUp s u tr x e := by
  let P := fun r : Int => r = truncDown s u tr x e ∨ r = truncUp s u tr x e
  cases rs
  · exact ite_of P (Or.inl rfl) (Or.inr rfl)
  · exact ite_of P (Or.inr rfl) (Or.inl rfl)
  · exact Or.inl rfl
  · exact Or.inr rfl

theorem trunc_of_down_up {s : Style} {u : Bool} (rs : RStyle) {tr : K → Int} {x e : K} {r : Int}
    (hd : truncDown s u tr x e = r) (hu : truncUp s u tr x e = r) : trunc s u rs tr x e = r := by
  rcases trunc_cases s u rs tr x e with hc | hc <;> rw [hc]
  · exact hd
  · exact hu

/-- an argument that its conversion reproduces exactly (an integer; in a floating-point format from `2^digits` on every
    number) is returned by `trunc` before `lower+1` is looked at (fixes/C17_trunc_large.patch), whatever the scalar type -/
theorem trunc_of_exact (s : Style) (rs : RStyle) (tr : K → Int) (x e : K) (hT : ((tr x : Int) : K) = x) (hirr : ¬ x < x)
    (hE : eqS s x x e = true) : trunc s false rs tr x e = tr x := by
  have hd : truncDown s false tr x e = tr x := by
    simp [truncDown, sameVal, hT, hirr]
  have hu : truncUp s false tr x e = tr x := by
    simp [truncUp, hd, neS, Gen.ne, hT, hE]
  exact trunc_of_down_up rs hd hu

/-- where `lower` is not decremented (`T(I(val)) ≤ val`), the expression `lower+1` does not wrap and the downward result is
    stored unchanged, `truncM` is the mathematical result reduced to the type — the counterpart of `roundM_eq_wrap`; with a
    decrement it fails (`trunc_unsigned_neg_up`) -/
theorem truncM_eq_wrap {t : IType} (s : Style) (rs : RStyle) (tr : K → Int) (x e : K) (hnd : ¬ ((tr x : Int) : K) > x)
    (ha : t.arith (tr x + 1) = tr x + 1) (hz : t.wrap 0 = 0) (h0 : t.wrap (tr x) = tr x)
    (hw : t.wrap (truncDown s (!t.signed) tr x e) = truncDown s (!t.signed) tr x e) :
    truncM t s rs tr x e = t.wrap (trunc s (!t.signed) rs tr x e) := by
  have hd : truncDownM t s tr x e = truncDown s (!t.signed) tr x e := by
    rw [← hw]
    simp only [truncDownM, truncDown, hnd, if_false, decide_false, Bool.false_and, Bool.false_eq_true, ha,
      apply_ite t.wrap, hz, h0]
  have hu : truncUpM t s tr x e = t.wrap (truncUp s (!t.signed) tr x e) := by
    simp only [truncUpM, truncUp, hd, apply_ite t.wrap, hw]
  cases rs <;> simp only [truncM, trunc, apply_ite t.wrap, hd, hu, hw]

/-- **`trunc` where `lower` is not decremented** (`T(I(val)) ≤ val`: every non-negative argument — the upper end of the
    range of the type included): if `I(val)` and the mathematical (documented) result are values of the target type, that
    result is returned.  `ha`: the expression `lower+1` does not wrap — every narrow type (integral promotion), and the wide
    ones when `I(val)+1` is a value of the type. -/
theorem truncM_of_fits_nodec {t : IType} (hb : 0 < t.bits) (s : Style) (rs : RStyle) {tr : K → Int} {x : K} (e : K)
    (hnd : ¬ ((tr x : Int) : K) > x) (ha : t.arith (tr x + 1) = tr x + 1) (h0 : t.fits (tr x) = true)
    (hD : t.fits (trunc s (!t.signed) rs tr x e) = true) :
    truncM t s rs tr x e = trunc s (!t.signed) rs tr x e := by
  have hw : ∀ r, t.fits r = true → t.wrap r = r := IType.wrap_of_fits hb
  -- the downward result is 0, `I(val)`, or `I(val) + 1`, which lies between `I(val)` and the upward result
  have hfd : t.fits (truncDown s (!t.signed) tr x e) = true := by
    rcases trunc_cases s (!t.signed) rs tr x e with hc | hc <;> rw [hc] at hD
    · exact hD
    · have hle : truncDown s (!t.signed) tr x e ≤ truncUp s (!t.signed) tr x e := by
        simp only [truncUp]; split <;> omega
      rcases truncDown_mem s (!t.signed) tr x e (if_neg hnd).symm with h | ⟨h1, _⟩
      · rw [h]; exact IType.fits_zero t
      · exact IType.fits_between h0 hD h1 hle
  rw [truncM_eq_wrap s rs tr x e hnd ha (hw 0 (IType.fits_zero t)) (hw _ h0) (hw _ hfd), hw _ hD]

theorem truncM_eq_truncUpM {t : IType} {s : Style} {rs : RStyle} (hrs : rs = .upward ∨ rs = .towardZero) {tr : K → Int}
    {x : K} (e : K) (hx : ¬ x > ((0 : Int) : K)) : truncM t s rs tr x e = truncUpM t s tr x e := by
  rcases hrs with h | h <;> subst h <;> simp only [truncM, hx, if_false]

theorem truncM_eq_truncDownM {t : IType} {s : Style} {rs : RStyle} (hrs : rs = .downward ∨ rs = .towardZero) {tr : K → Int}
    {x : K} (e : K) (hx : x > ((0 : Int) : K)) : truncM t s rs tr x e = truncDownM t s tr x e := by
  rcases hrs with h | h <;> subst h <;> simp only [truncM, hx, if_true]

/-- **`trunc` where `I(val)` lies above `val` and is equal to it within epsilon** (the lower end of the range of a narrow
    signed type included): the downward truncation returns `I(val)` — before any decrement
    (fixes/C17_trunc_range_end.patch), so nothing wraps around -/
theorem truncDownM_snap_conversion {t : IType} (s : Style) (tr : K → Int) (x e : K)
    (hz : (!t.signed && eqS s x ((0 : Int) : K) e) = false)
    (hg : ((tr x : Int) : K) > x) (hE : eqS s ((tr x : Int) : K) x e = true) :
    truncDownM t s tr x e = tr x := by
  unfold truncDownM
  simp only [hz, Bool.false_eq_true, if_false, hg, decide_true, Bool.true_and, hE, if_true]

theorem truncUpM_snap_conversion {t : IType} (s : Style) (tr : K → Int) (x e : K)
    (hz : (!t.signed && eqS s x ((0 : Int) : K) e) = false)
    (hg : ((tr x : Int) : K) > x) (hE : eqS s ((tr x : Int) : K) x e = true) :
    truncUpM t s tr x e = tr x := by
  unfold truncUpM
  simp only [truncDownM_snap_conversion s tr x e hz hg hE, neS, Gen.ne, hE, Bool.not_true, Bool.false_eq_true, if_false]

/-- **`trunc<upward>` where the decrement wraps around**: `I(val)` lies above `val` without being equal to it within
    epsilon, `lower--` stores `L`, and neither `L` nor `T(L+1)` is near the argument.  The downward step returns `L`; the
    correction `if(ne(T(upper), val)) ++upper` then stores `L + 1` in the type, which wraps back. -/
theorem truncUpM_wrapped {t : IType} (s : Style) (tr : K → Int) (x e : K) (L : Int)
    (hz : (!t.signed && eqS s x ((0 : Int) : K) e) = false)
    (hg : ((tr x : Int) : K) > x) (hE : eqS s ((tr x : Int) : K) x e = false) (hL : t.wrap (tr x - 1) = L)
    (hsame : sameVal ((L : Int) : K) x = false) (har : eqS s ((t.arith (L + 1) : Int) : K) x e = false)
    (hne : eqS s ((L : Int) : K) x e = false) :
    truncUpM t s tr x e = t.wrap (L + 1) := by
  have hd : truncDownM t s tr x e = L := by
    unfold truncDownM
    simp only [hz, Bool.false_eq_true, if_false, hg, decide_true, Bool.true_and, hE, if_true, hL, hsame, har]
  unfold truncUpM
  simp only [hd, neS, Gen.ne, hne, Bool.not_false, if_true]

end

end DV.C17
