/-
C03: the hand-written model coincides with the interpretation (Model/C03Src.lean) of the pieces
regenerated from the source (Gen/C03.lean).  The lemmas are proved for the *canonical* pieces (`canonLoop`, …): the
values the generated definitions have for the present source.  Props/C03.lean uses each lemma at the `Gen` term, which
type-checks exactly while `Gen.x` unfolds to `canonX` — a changed source makes exactly those uses fail.
`Src.Outcome.toExists/toAt/toGet` occur in the statement of `lookups_match_source`.  Core Lean only.
-/
import DuneVerif.Proofs.C03Search
import DuneVerif.Model.C03Src

namespace DV.C03
open Src

/-- `inGround`, `inResize` are the truth table of the condition under which the check THROWS: this one throws in RESIZE -/
theorem mutatorSrc_wantsGround (e : Effects) (f : ISet → ISet) (s : ISet) (exc : String) (fst : Bool) :
    mutatorSrc { inGround := false, inResize := true, exc := exc, first := fst } e f s =
      if s.st ≠ .ground then .error .invalidState else .ok (e.apply (f s)) := by
  unfold mutatorSrc Check.rejects
  cases s.st <;> simp

theorem mutatorSrc_wantsResize (e : Effects) (f : ISet → ISet) (s : ISet) (exc : String) (fst : Bool) :
    mutatorSrc { inGround := true, inResize := false, exc := exc, first := fst } e f s =
      if s.st ≠ .resize then .error .invalidState else .ok (e.apply (f s)) := by
  unfold mutatorSrc Check.rejects
  cases s.st <;> simp

def canonBefore : BE := .or (.lt (.var .g1) (.var .g2)) (.and (.eq (.var .g1) (.var .g2)) (.var .cmp12))
def canonAttrLt : BE := .lt (.var .a1) (.var .a2)

theorem beforeSrc_canon (x y : Pair) : beforeSrc canonBefore canonAttrLt x y = before x y := by
  simp only [beforeSrc, canonBefore, canonAttrLt, envPairs, envAttr, BE.eval, IE.eval]
  simp only [ilt, ieq, before, Int.ofNat_lt]
  rfl

theorem mergeInnerSrc_eq (takesOld inner : BE) (hb : ∀ o a, beforeSrc takesOld inner o a = before o a)
    (o : Pair) (rest : List Pair → List Pair) (added : List Pair) :
    mergeInnerSrc takesOld inner o rest added = mergeInner o rest added := by
  induction added with
  | nil => rfl
  | cons a as ih => simp only [mergeInnerSrc, mergeInner, hb, ih]

theorem mergeLoopSrc_eq (takesOld inner drops keeps : BE) (hb : ∀ o a, beforeSrc takesOld inner o a = before o a)
    (hd : ∀ o, drops.eval (envOld o) = !o.l.valid) (hk : ∀ o, keeps.eval (envOld o) = o.l.valid)
    (old added : List Pair) : mergeLoopSrc takesOld inner drops keeps old added = mergeLoop old added := by
  induction old generalizing added with
  | nil => cases added <;> rfl
  | cons o os ih =>
    cases added with
    | nil => rw [mergeLoop_cons_nil]; simp only [mergeLoopSrc, hk, ih]
    | cons a as => simp only [mergeLoopSrc, mergeLoop, hd, mergeInnerSrc_eq _ _ hb, funext ih]

def canonDrops : BE := .var .oldDeleted
def canonKeeps : BE := .not (.var .oldDeleted)

def canonLoop : Loop :=
  { lowInit := .num 0, highInit := .sub (.var .size) (.num 1), probeInit := .num (-1),
    cond := .lt (.var .low) (.var .high), probe := .div (.add (.var .high) (.var .low)) (.num 2),
    test := .ge (.var .elem) (.var .glob), thenT := .high, thenE := .var .probe, elseT := .low,
    elseE := .add (.var .probe) (.num 1) }

theorem searchLoopSrc_canon (xs : List Pair) (g : Int) :
    ∀ (fuel : Nat) (low high probe : Int),
      (searchLoopSrc canonLoop xs g fuel low high probe).map (·.1) = searchLoop xs g fuel low high := by
  -- unfolded before the induction, so that the hypothesis rewrites the goal
  unfold canonLoop
  intro fuel
  -- run on this loop the interpreter has the model's decision tree: the projection is pushed through its branches
  induction fuel with
  | zero =>
    intro low high probe
    simp only [searchLoopSrc, searchLoop, BE.eval, IE.eval, envSearch]
    simp only [ilt, decide_eq_true_eq, apply_ite (Option.map _), Option.map_none, Option.map_some]
  | succ f ih =>
    intro low high probe
    simp only [searchLoopSrc, searchLoop, BE.eval, IE.eval, envSearch]
    simp only [ilt, ile, decide_eq_true_eq, apply_ite (Option.map _), Option.map_some]
    cases gAt xs (Int.tdiv (high + low) 2) with
    | none => rfl
    | some e => simp only [apply_ite (Option.map _), ih, ge_iff_le]

theorem searchSrc_canon (xs : List Pair) (g : Int) : (searchSrc canonLoop xs g).map (·.1) = search xs g :=
  searchLoopSrc_canon xs g xs.length 0 ((xs.length : Int) - 1) (-1)

def canonEmpty : BE := .eq (.var .size) (.num 0)
def canonMiss : BE := .ne (.var .elem) (.var .glob)

def canonExists : Search :=
  { loop := canonLoop, emptyTest := some canonEmpty, emptyAct := .retFalse, missTest := some canonMiss,
    missAct := .retFalse, foundAct := .retTrue }
def canonAt : Search :=
  { loop := canonLoop, emptyTest := some canonEmpty, emptyAct := .throwRange, missTest := some canonMiss,
    missAct := .throwRange, foundAct := .retElem }
def canonGet : Search :=
  { loop := canonLoop, emptyTest := none, emptyAct := .throwRange, missTest := none, missAct := .throwRange,
    foundAct := .retElem }

/-- reading an `Outcome` as the result type of each lookup -/
def Src.Outcome.toExists : Outcome → Option Bool
  | .bool b => some b
  | _ => none

def Src.Outcome.toAt : Outcome → Option (Except Err Pair)
  | .range => some (.error .range)
  | .elem _ p => some (.ok p)
  | _ => none

def Src.Outcome.toGet : Outcome → Option (Nat × Pair)
  | .elem i p => some (i, p)
  | _ => none

theorem lookupSrc_exists (xs : List Pair) (g : Int) : (lookupSrc canonExists xs g).toExists = existsL xs g := by
  unfold lookupSrc existsL canonExists
  rw [← searchSrc_canon]
  cases searchSrc canonLoop xs g with
  | none => rfl
  | some r =>
    simp only [canonEmpty, canonMiss, BE.eval, IE.eval, envSearch, Option.map_some, ieq, Int.natCast_eq_zero]
    by_cases hl : xs.length = 0
    · simp [hl, actSrc, Outcome.toExists]
    · simp only [hl, decide_false, Bool.false_eq_true, if_false]
      cases hg : gAt xs r.1 with
      | none => rfl
      | some e => by_cases he : e = g <;> simp [he, actSrc, Outcome.toExists]

theorem lookupSrc_at (xs : List Pair) (g : Int) : (lookupSrc canonAt xs g).toAt = atL xs g := by
  unfold lookupSrc atL canonAt
  rw [← searchSrc_canon]
  cases searchSrc canonLoop xs g with
  | none => rfl
  | some r =>
    simp only [canonEmpty, canonMiss, BE.eval, IE.eval, envSearch, Option.map_some, ieq, Int.natCast_eq_zero]
    by_cases hl : xs.length = 0
    · simp [hl, actSrc, Outcome.toAt]
    · simp only [hl, decide_false, Bool.false_eq_true, if_false, gAt_eq_map]
      cases hp : pAt xs r.1 with
      | none => rfl
      | some p => by_cases he : p.g = g <;> simp [he, actSrc, Outcome.toAt, hp]

theorem lookupSrc_get (xs : List Pair) (g : Int) : (lookupSrc canonGet xs g).toGet = getL xs g := by
  unfold lookupSrc getL canonGet
  rw [← searchSrc_canon]
  cases searchSrc canonLoop xs g with
  | none => rfl
  | some r =>
    simp only [actSrc, Option.map_some]
    cases hp : pAt xs r.1 <;> rfl

/-- with the generic `LocalIndexComparator` (always false; TL = LocalIndex) the comparison is the model's `before` on
pairs of equal attribute (the `NL` configurations have attribute 0 throughout) -/
theorem beforeSrc_generic (x y : Pair) (h : x.l.attr = y.l.attr) : beforeSrc canonBefore .ff x y = before x y := by
  simp only [beforeSrc, canonBefore, envPairs, BE.eval, IE.eval]
  simp only [ilt, ieq, before, h, Nat.lt_irrefl, decide_false, Bool.and_false]

def canonRenum : Renum := { start := 0, step := 1, value := .var .index }

theorem renumSrc_canon (xs : List Pair) (k : Nat) : renumSrc canonRenum (k : Int) xs = renumFrom k xs := by
  induction xs generalizing k with
  | nil => rfl
  | cons p ps ih =>
    simp only [renumSrc, renumFrom, canonRenum, IE.eval, envIndex, Int.toNat_natCast, ← Int.natCast_succ]
    exact congrArg _ (ih (k + 1))

def canonTableAuto : TableCtor :=
  { sizeInit := .num 0, foldMax := some (.var .locNo), cells := .add (.var .size) (.num 1),
    sizeFinal := .add (.var .size) (.num 1), slot := .var .locNo }

def canonTableSized : TableCtor :=
  { sizeInit := .var .tsize, foldMax := none, cells := .var .size, sizeFinal := .var .size, slot := .var .locNo }

theorem foldMaxSrc_canon (xs : List Pair) (m : Nat) : foldMaxSrc (.var .locNo) xs (m : Int) = (maxLocal xs m : Nat) := by
  induction xs generalizing m with
  | nil => rfl
  | cons p ps ih =>
    simp only [foldMaxSrc, maxLocal, IE.eval, envTable, ← ih]
    congr 1
    omega

theorem fillSrc_canon (xs : List Pair) (t : List (Option Pair)) : fillSrc (.var .locNo) xs t = fillTable xs t := by
  induction xs generalizing t with
  | nil => rfl
  | cons p ps ih =>
    simp only [fillSrc, fillTable, IE.eval, envTable, Int.toNat_natCast, Int.not_lt.2 (Int.natCast_nonneg _), if_false,
      funext ih]

theorem tableSrc_auto (xs : List Pair) :
    tableSrc canonTableAuto 0 xs = (lookupAuto xs).map fun t => (t, ((maxLocal xs 0 + 1 : Nat) : Int)) := by
  have hm : foldMaxSrc (.var .locNo) xs 0 = ((maxLocal xs 0 : Nat) : Int) := foldMaxSrc_canon xs 0
  simp only [tableSrc, canonTableAuto, IE.eval, envTable, lookupAuto, hm, ← Int.natCast_succ,
    Int.not_lt.2 (Int.natCast_nonneg _), if_false, Int.toNat_natCast, fillSrc_canon]

theorem tableSrc_sized (xs : List Pair) (n : Nat) :
    tableSrc canonTableSized n xs = (lookupSized xs n).map fun t => (t, (n : Int)) := by
  simp only [tableSrc, canonTableSized, IE.eval, envTable, lookupSized, Int.not_lt.2 (Int.natCast_nonneg _), if_false,
    Int.toNat_natCast, fillSrc_canon]

def canonLoop1 : MLoop :=
  { needOld := true, needAdded := true,
    body := .ite canonDrops (.acts [.eraseOld])
      (.ite canonBefore (.acts [.pushOld, .eraseOld]) (.acts [.pushAdded, .eraseAdded])) }
def canonLoop2 : MLoop :=
  { needOld := true, needAdded := false, body := .ite canonKeeps (.acts [.pushOld, .eraseOld]) (.acts [.eraseOld]) }
def canonLoop3 : MLoop := { needOld := false, needAdded := true, body := .acts [.pushAdded, .eraseAdded] }

/-- The rule for the first `while` loop of a program: if a pass of the body shortens the lists (so the fuel `runLoops` grants
suffices) and leaves `r` unchanged, and `r` is what the remaining loops compute once the guard fails, then `r` is what the
whole program computes. -/
theorem runLoops_while {inner : BE} {l : MLoop} {ls : List MLoop} {r : MState → List Pair}
    (hd : ∀ s, l.guard s = false → (runLoops inner ls s).map (·.temp) = some (r s))
    (hs : ∀ s, l.guard s = true → ∃ s', l.body.run inner s = some s' ∧
      s'.old.length + s'.added.length < s.old.length + s.added.length ∧ r s' = r s)
    (s : MState) : (runLoops inner (l :: ls) s).map (·.temp) = some (r s) := by
  suffices h : ∀ fuel s, s.old.length + s.added.length ≤ fuel →
      ((l.run inner fuel s).bind (runLoops inner ls)).map (·.temp) = some (r s) from h _ s (Nat.le_refl _)
  intro fuel
  induction fuel with
  | zero =>
    intro s h
    cases hg : l.guard s
    · simp only [MLoop.run, hg, Bool.false_eq_true, if_false, Option.bind_some, hd s hg]
    · obtain ⟨s', _, hlt, _⟩ := hs s hg
      exact absurd (Nat.lt_of_lt_of_le hlt h) (Nat.not_lt_zero _)
  | succ f ih =>
    intro s h
    cases hg : l.guard s
    · simp only [MLoop.run, hg, Bool.false_eq_true, if_false, Option.bind_some, hd s hg]
    · obtain ⟨s', hb, hlt, hr⟩ := hs s hg
      simp only [MLoop.run, hg, if_true, hb, Option.bind_some, ih s' (Nat.le_of_lt_succ (Nat.lt_of_lt_of_le hlt h)), hr]

/-! What each suffix of the canonical program leaves in `tempPairs`, from ANY state (so nothing has to be known about the
state a loop starts in).  In each proof: first the exit of the loop, then one pass of its body, whose decision tree
reduces by unfolding once the bits it tests are fixed. -/

theorem loop3_canon : ∀ s, (runLoops canonAttrLt [canonLoop3] s).map (·.temp) = some (s.temp ++ s.added) := by
  refine runLoops_while (fun ⟨old, added, t⟩ hg => ?_) (fun ⟨old, added, t⟩ hg => ?_)
  · cases added with
    | nil => exact congrArg some (List.append_nil t).symm
    | cons a as => cases hg
  · cases added with
    | nil => cases hg
    | cons a as => exact ⟨_, rfl, Nat.add_lt_add_left (Nat.lt_succ_self _) _, (List.append_cons t a as).symm⟩

theorem loops23_canon : ∀ s, (runLoops canonAttrLt [canonLoop2, canonLoop3] s).map (·.temp) =
    some (s.temp ++ (s.old.filter (·.l.valid) ++ s.added)) := by
  refine runLoops_while (fun ⟨old, added, t⟩ hg => ?_) (fun ⟨old, added, t⟩ hg => ?_)
  · cases old with
    | nil => exact loop3_canon _
    | cons o os => cases hg
  · cases old with
    | nil => cases hg
    | cons o os =>
      have hk : canonKeeps.eval (envMerge canonAttrLt ⟨o :: os, added, t⟩) = !!o.l.valid := rfl
      simp only [canonLoop2, MTree.run, hk, List.filter_cons]
      cases o.l.valid
      · exact ⟨_, rfl, Nat.add_lt_add_right (Nat.lt_succ_self _) _, rfl⟩
      · exact ⟨_, rfl, Nat.add_lt_add_right (Nat.lt_succ_self _) _, (List.append_cons t o _).symm⟩

theorem loops_canon : ∀ s, (runLoops canonAttrLt [canonLoop1, canonLoop2, canonLoop3] s).map (·.temp) =
    some (s.temp ++ mergeLoop s.old s.added) := by
  refine runLoops_while (fun ⟨old, added, t⟩ hg => ?_) (fun ⟨old, added, t⟩ hg => ?_)
  · rw [loops23_canon]
    cases old with
    | nil => rfl
    | cons o os =>
      cases added with
      | nil => rw [mergeLoop_nil_right, List.append_nil]
      | cons a as => cases hg
  · cases old with
    | nil => cases hg
    | cons o os =>
      cases added with
      | nil => cases hg
      | cons a as =>
        have hd : canonDrops.eval (envMerge canonAttrLt ⟨o :: os, a :: as, t⟩) = !o.l.valid := rfl
        -- `envMerge` and `envPairs` give `g1`, `g2`, `cmp12` the same values
        have hb : canonBefore.eval (envMerge canonAttrLt ⟨o :: os, a :: as, t⟩) = before o a := by
          rw [← beforeSrc_canon o a]; simp only [beforeSrc, canonBefore, BE.eval, IE.eval]; rfl
        simp only [canonLoop1, MTree.run, hd, hb, mergeLoop_cons_cons]
        cases o.l.valid
        · exact ⟨_, rfl, Nat.add_lt_add_right (Nat.lt_succ_self _) _, rfl⟩                               -- `o` dropped
        · cases before o a
          · exact ⟨_, rfl, Nat.add_lt_add_left (Nat.lt_succ_self _) _, (List.append_cons t a _).symm⟩    -- `a` taken
          · exact ⟨_, rfl, Nat.add_lt_add_right (Nat.lt_succ_self _) _, (List.append_cons t o _).symm⟩   -- `o` taken

theorem mergeProgSrc_canon (old added : List Pair) :
    mergeProgSrc canonAttrLt [canonLoop1, canonLoop2, canonLoop3] old added = some (mergeLoop old added) :=
  loops_canon ⟨old, added, []⟩

theorem mergeSrc_canon (s : ISet) :
    mergeSrc [.assignNewToLocal, .clearNew] canonAttrLt [canonLoop1, canonLoop2, canonLoop3] s = some (merge s) := by
  unfold mergeSrc merge
  rw [mergeProgSrc_canon, apply_ite some, apply_ite some]
  rfl

end DV.C03
