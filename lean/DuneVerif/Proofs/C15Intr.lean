/-
C15 — the intrusive pool (`IPool`: `head_` and the `next_` words stored inside the free slots) refines the list model
`Pool`, for every valid history and whatever the owners of live blocks write into them.  Core Lean only.
-/
import DuneVerif.Proofs.C15Pool

namespace DV.C15
open DV.C15.Gen

/-- `head` and the `next_` words in `m` spell out the list `l` -/
def Rep (m : Mem) : Option Block → List Block → Prop
  | h, [] => h = none
  | h, b :: rest => h = some b ∧ ∃ nx, m.lookup b = some nx ∧ Rep m nx rest

structure Sim (ip : IPool) (p : Pool) : Prop where
  rep : Rep ip.mem ip.head p.free
  chunks : ip.chunks = p.chunks
  live : ip.live = p.live

theorem lookup_cons_ne {m : Mem} {b x : Block} (v : Option Block) (h : x ≠ b) :
    List.lookup x ((b, v) :: m) = List.lookup x m := by
  rw [List.lookup_cons, beq_false_of_ne h]

theorem rep_cons_of_not_mem {m : Mem} {b : Block} (v : Option Block) {l : List Block} {h : Option Block}
    (hb : b ∉ l) (hr : Rep m h l) : Rep ((b, v) :: m) h l := by
  induction l generalizing h with
  | nil => exact hr
  | cons x rest ih =>
    obtain ⟨h1, nx, h2, h3⟩ := hr
    have hx : x ≠ b := fun e => hb (e ▸ List.mem_cons_self)
    exact ⟨h1, nx, (lookup_cons_ne v hx).trans h2, ih (fun hm => hb (List.mem_cons_of_mem _ hm)) h3⟩

/-- the loop only writes words of the slots it walks over -/
theorem thread_lookup_other (c : Nat) (is : List Nat) (ref : Block) (m : Mem) (x : Block)
    (h : x ∉ ref :: is.map (fun i => (c, i))) :
    List.lookup x (((threadSlots c is ref m).1, none) :: (threadSlots c is ref m).2) = List.lookup x m := by
  induction is generalizing ref m with
  | nil => exact lookup_cons_ne none (List.ne_of_not_mem_cons h)
  | cons i is ih =>
    exact (ih (c, i) _ (List.not_mem_of_not_mem_cons h)).trans (lookup_cons_ne _ (List.ne_of_not_mem_cons h))

/-- after the loop and the final `ref->next_ = 0` the words spell the slots in order -/
theorem thread_rep (c : Nat) (is : List Nat) (ref : Block) (m : Mem)
    (hnd : (ref :: is.map (fun i => (c, i))).Nodup) :
    Rep (((threadSlots c is ref m).1, none) :: (threadSlots c is ref m).2) (some ref)
      (ref :: is.map (fun i => (c, i))) := by
  induction is generalizing ref m with
  | nil => exact ⟨rfl, none, List.lookup_cons_self, rfl⟩
  | cons i is ih =>
    obtain ⟨hnot, hnd'⟩ := List.nodup_cons.1 hnd
    exact ⟨rfl, some (c, i), (thread_lookup_other c is (c, i) _ ref hnot).trans (List.lookup_cons_self),
      ih (c, i) _ hnd'⟩

theorem rep_igrow (E : Nat) (ip : IPool) :
    Rep (igrow E ip).mem (igrow E ip).head ((ip.chunks.length, 0) :: growTail E ip.chunks.length) :=
  thread_rep _ _ _ _ (nodup_slots E _)

theorem sim_allocate {E : Nat} {ip : IPool} {p : Pool} (hs : Sim ip p) (newOk : Bool)
    (hnew : p.free = [] → newOk = true) :
    ∃ ip', iallocate E newOk ip = .ok ((allocate E p).1, ip') ∧ Sim ip' (allocate E p).2 := by
  -- with `p` spelt `⟨ip.chunks, fr, ip.live⟩`, `allocate` computes on `fr` and the ghost fields of `Sim` are `rfl`
  obtain ⟨cs, fr, lv⟩ := p
  obtain ⟨hr, rfl, rfl⟩ := hs
  cases fr with
  | cons b rest =>
    obtain ⟨h1, nx, h2, h3⟩ := hr
    exact ⟨{ ip with head := nx, live := ip.live ++ [b] }, by simp only [iallocate, h1, h2, allocate], h3, rfl, rfl⟩
  | nil =>
    obtain ⟨h1, nx, h2, h3⟩ := rep_igrow E ip
    exact ⟨{ igrow E ip with head := nx, live := (igrow E ip).live ++ [(ip.chunks.length, 0)] },
      by simp only [iallocate, show ip.head = none from hr, hnew rfl, if_true, h1, h2, allocate], h3, rfl, rfl⟩

theorem iallocate_oom {E : Nat} {ip : IPool} (h : ip.head = none) : iallocate E false ip = .error .alloc := by
  simp [iallocate, h]

theorem sim_free {g : Geo} (hg : GeoOK g) {ip : IPool} {p : Pool} (hs : Sim ip p) (hi : Inv g.elements p)
    {b : Block} (hb : b ∈ p.live) :
    ∃ ip', ifree g ip (.blk b) = .ok ip' ∧ Sim ip' { p with free := b :: p.free, live := p.live.erase b } := by
  obtain ⟨cs, fr, lv⟩ := p
  obtain ⟨hr, rfl, rfl⟩ := hs
  -- with the equalities substituted, the range test of `ifree` is `inSomeChunk g p b` unfolded
  exact ⟨_, if_pos (inSomeChunk_of_live hg hi hb),
    ⟨rfl, ip.head, List.lookup_cons_self, rep_cons_of_not_mem _ (fun hf => inv_disjoint hi hf hb) hr⟩, rfl, rfl⟩

theorem ifree_bad (g : Geo) (ip : IPool) : ifree g ip .null = .error .alloc ∧ ifree g ip .foreign = .error .alloc :=
  ⟨rfl, rfl⟩

theorem sim_write {E : Nat} {ip : IPool} {p : Pool} (hs : Sim ip p) (hi : Inv E p) {b : Block} (hb : b ∈ p.live)
    (v : Option Block) : Sim (iwrite ip b v) p := by
  have hnf : b ∉ p.free := fun hf => inv_disjoint hi hf hb
  exact ⟨rep_cons_of_not_mem v hnf hs.rep, hs.chunks, hs.live⟩

theorem sim_step {g : Geo} (hg : GeoOK g) {ip : IPool} {p : Pool} (hs : Sim ip p) (hi : Inv g.elements p) {o : Op}
    (hv : okOp p o) : ∃ ip', istep g ip (.op o) = some (ip', some (step g p o).2) ∧ Sim ip' (step g p o).1 := by
  have halloc : ∃ ip', istep g ip (.op .alloc) = some (ip', some (step g p .alloc).2) ∧ Sim ip' (step g p .alloc).1 := by
    obtain ⟨ip', h1, h2⟩ := sim_allocate (E := g.elements) hs true (fun _ => rfl)
    exact ⟨ip', by simp only [istep, h1, step], h2⟩
  cases o with
  | alloc => exact halloc
  | allocN n =>
    by_cases h : n = 1
    · subst h; exact halloc   -- `allocate(1)` unfolds to `allocate()` in both machines
    · refine ⟨ip, ?_, ?_⟩
      · simp [istep, step, paAllocate, paAccepts, h]
      · simp only [step, paAllocate, paAccepts, h, decide_false, Bool.false_eq_true, if_false]; exact hs
  | allocOom =>
    obtain ⟨cs, fr, lv⟩ := p
    cases fr with
    | nil => exact ⟨ip, by simp [istep, iallocate_oom (E := g.elements) hs.rep, step, allocateOS], hs⟩
    | cons c rest =>
      obtain ⟨ip', h1, h2⟩ := sim_allocate (E := g.elements) hs false (fun h => nomatch h)
      exact ⟨ip', by simp only [istep, h1, step, allocateOS], h2⟩
  | free q =>
    cases q with
    | null | foreign => exact ⟨ip, rfl, hs⟩
    | blk b =>
      obtain ⟨ip', h1, h2⟩ := sim_free hg hs hi hv
      rw [step_free_live hg hi hv]
      exact ⟨ip', by simp only [istep, h1], h2⟩

theorem sim_run {g : Geo} (hg : GeoOK g) : ∀ (iops : List IOp) (ip : IPool) (p : Pool), Sim ip p → Inv g.elements p →
    IValid g p iops →
    ∃ ip', irun g ip iops = some (ip', (run g p (eraseWrites iops)).2) ∧ Sim ip' (run g p (eraseWrites iops)).1 := by
  intro iops
  induction iops with
  | nil => exact fun ip _ hs _ _ => ⟨ip, rfl, hs⟩
  | cons o os ih =>
    intro ip p hs hi hv
    cases o with
    | write b v =>
      obtain ⟨ip', h1, h2⟩ := ih (iwrite ip b v) p (sim_write hs hi hv.1 v) hi hv.2
      exact ⟨ip', by simp only [irun, istep, h1, eraseWrites, List.nil_append], h2⟩
    | op o =>
      obtain ⟨ip1, h1, h2⟩ := sim_step hg hs hi hv.1
      obtain ⟨ip', h3, h4⟩ := ih ip1 (step g p o).1 h2 (inv_step hg hi hv.1) hv.2
      exact ⟨ip', by simp only [irun, h1, h3, eraseWrites, run, List.singleton_append], h4⟩

theorem sim_empty : Sim IPool.empty Pool.empty := ⟨rfl, rfl, rfl⟩

theorem valid_erase {g : Geo} : ∀ (iops : List IOp) (p : Pool), IValid g p iops → Valid g p (eraseWrites iops) := by
  intro iops
  induction iops with
  | nil => exact fun _ _ => trivial
  | cons o os ih =>
    intro p hv
    cases o with
    | write _ _ => exact ih p hv.2
    | op _ => exact ⟨hv.1, ih _ hv.2⟩

end DV.C15
