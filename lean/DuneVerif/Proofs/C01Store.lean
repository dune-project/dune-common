import DuneVerif.Model.C01.Store
/-! Helper lemmas for the object histories of C01 (store layer; core Lean only): array-backed cells, writes through an
object, what `opOk` guarantees, what the assignment tables read from the source must say, the store right after the
declarations. -/

-- every lemma below that mentions `K` takes all six scalar operations of the section as arguments, used or not
set_option linter.unusedSectionVars false

namespace DV.C01

section
variable {K : Type _} [Zero K] [Add K] [Sub K] [Mul K] [Neg K] [Div K]

@[simp] theorem freeze_rows (A : Mat K) : A.freeze.rows = A.rows := rfl
@[simp] theorem freeze_cols (A : Mat K) : A.freeze.cols = A.cols := rfl

theorem freeze_e (A : Mat K) (i j : Nat) :
    A.freeze.e i j = if i < A.rows ∧ j < A.cols then A.e i j else 0 := by
  refine ite_congr rfl (fun ⟨hi, hj⟩ => ?_) fun _ => rfl
  -- entry (i, j) sits at position i * cols + j of the row-major array; that position lies in row i
  have hrow : i * A.cols + j < (i + 1) * A.cols := Nat.succ_mul i _ ▸ Nat.add_lt_add_left hj _
  rw [Array.getD_eq_getD_getElem?, Array.getElem?_ofFn, dif_pos (Nat.lt_of_lt_of_le hrow (Nat.mul_le_mul_right _ hi))]
  exact congr (congrArg A.e (Nat.div_eq_of_lt_le (Nat.le_add_right _ j) hrow)) (Nat.mul_add_mod_of_lt hj)

theorem freeze_e_in (A : Mat K) (i j : Nat) (hi : i < A.rows) (hj : j < A.cols) : A.freeze.e i j = A.e i j := by
  rw [freeze_e, if_pos ⟨hi, hj⟩]

theorem getD_set {α : Type _} (l : List α) (t i : Nat) (v d : α) :
    (l.set t v).getD i d = if i = t then (if t < l.length then v else d) else l.getD i d := by
  rw [List.getD_eq_getElem?_getD, List.getElem?_set, List.getD_eq_getElem?_getD, apply_ite (Option.getD · d),
    apply_ite (Option.getD · d)]
  exact ite_congr (propext eq_comm) (fun _ => rfl) fun _ => rfl

theorem reg_fields {st : SeqState K} {i : Nat} {r : Reg} (h : st.regs[i]? = some r) :
    st.kind i = r.kind ∧ st.ptr i = r.ptr ∧ st.wraps i = r.wraps := by
  simp only [SeqState.kind, SeqState.ptr, SeqState.wraps, h, and_self]

@[simp] theorem wr_regs (st : SeqState K) (t : Nat) (v : Mat K) : (st.wr t v).regs = st.regs := rfl
@[simp] theorem wr_kind (st : SeqState K) (t i : Nat) (v : Mat K) : (st.wr t v).kind i = st.kind i := rfl
@[simp] theorem wr_ptr (st : SeqState K) (t i : Nat) (v : Mat K) : (st.wr t v).ptr i = st.ptr i := rfl
@[simp] theorem wr_wraps (st : SeqState K) (t i : Nat) (v : Mat K) : (st.wr t v).wraps i = st.wraps i := rfl
@[simp] theorem wr_size (st : SeqState K) (t : Nat) (v : Mat K) : (st.wr t v).size = st.size := rfl

theorem wr_buf (st : SeqState K) (t i : Nat) (v : Mat K) :
    (st.wr t v).buf i = if i = st.ptr t then (if st.ptr t < st.bufs.length then v else zeroMat 0 0) else st.buf i :=
  getD_set _ _ _ _ _

theorem wr_wf (st : SeqState K) (t : Nat) (v : Mat K) (h : st.wf) : (st.wr t v).wf :=
  ⟨h.1.trans List.length_set.symm, h.2⟩

theorem rd_own (st : SeqState K) (h : st.wf) (i : Nat) (hi : i < st.size) (hk : st.kind i ≠ .tv) : st.rd i = st.buf i :=
  congrArg st.buf ((h.2 i hi).1 hk)

theorem rd_view (st : SeqState K) (h : st.wf) (i : Nat) (hi : i < st.size) (hk : st.kind i = .tv) :
    st.rd i = st.buf (st.wraps i) :=
  congrArg st.buf ((h.2 i hi).2 hk).1

/-- a write through an object that owns its cell lands in that cell and in no other -/
theorem wr_own (st : SeqState K) (h : st.wf) (t : Nat) (ht : t < st.size) (hk : st.kind t ≠ .tv) (v : Mat K) (i : Nat) :
    (st.wr t v).buf i = if i = t then v else st.buf i := by
  rw [wr_buf, (h.2 t ht).1 hk, if_pos (Nat.lt_of_lt_of_eq ht h.1)]

theorem isVecKind_ne_tv {k : RKind} (h : isVecKind k = true) : k ≠ .tv := by
  rintro rfl
  cases h
theorem isMatKind_ne_tv {k : RKind} (h : isMatKind k = true) : k ≠ .tv := by
  rintro rfl
  cases h

/-- The third conjunct carries nothing: unlike the two matrices of `rowPair_facts`, the objects of a pair may be one (`t = s`, an
object as its own argument). -/
theorem pair_facts (st : SeqState K) (op : OpK) (t s : Nat) (h : opOk.pair st op t s = true) :
    t < st.size ∧ s < st.size ∧ True ∧ st.kind t ≠ .tv ∧ st.kind s ≠ .tv
    ∧ st.lrows t = st.lrows s ∧ (st.rd t).cols = (st.rd s).cols := by
  simp only [opOk.pair, Bool.and_eq_true, Bool.or_eq_true, decide_eq_true_eq, bne_iff_ne, ne_eq, beq_iff_eq] at h
  obtain ⟨⟨⟨⟨ht, hs⟩, hr⟩, hc⟩, hk⟩ := h
  refine ⟨ht, hs, trivial, ?_, ?_, hr, hc⟩
  · rcases hk with hk | hk
    · exact isVecKind_ne_tv hk.1.1.1.1
    · exact isMatKind_ne_tv hk.1.1
  · rcases hk with hk | hk
    · exact isVecKind_ne_tv hk.1.1.1.2
    · exact isMatKind_ne_tv hk.1.2

theorem rowPair_facts (st : SeqState K) (op : OpK) (t i s j : Nat) (h : opOk.rowPair st op t i s j = true) :
    t < st.size ∧ s < st.size ∧ t ≠ s ∧ st.kind t ≠ .tv ∧ st.kind s ≠ .tv
    ∧ i < (st.rd t).rows ∧ j < (st.rd s).rows ∧ (st.rd t).cols = (st.rd s).cols := by
  simp only [opOk.rowPair, Bool.and_eq_true, decide_eq_true_eq, bne_iff_ne, ne_eq, beq_iff_eq] at h
  obtain ⟨⟨⟨⟨⟨⟨⟨⟨⟨⟨ht, hs⟩, hne⟩, hmt⟩, hms⟩, _⟩, _⟩, hi⟩, hj⟩, hc⟩, _⟩ := h
  exact ⟨ht, hs, hne, isMatKind_ne_tv hmt, isMatKind_ne_tv hms, hi, hj, hc⟩

theorem opOk_lmul (st : SeqState K) (t s : Nat) (h : opOk st (.lmul t s) = true) :
    opOk.pair st .lmul t s = true ∧ (st.rd t).rows = (st.rd t).cols :=
  (Bool.and_eq_true_iff.mp h).imp_right beq_iff_eq.mp
theorem opOk_rmul (st : SeqState K) (t s : Nat) (h : opOk st (.rmul t s) = true) :
    opOk.pair st .rmul t s = true ∧ (st.rd t).rows = (st.rd t).cols :=
  (Bool.and_eq_true_iff.mp h).imp_right beq_iff_eq.mp
theorem opOk_fill (st : SeqState K) (t : Nat) (k : K) :
    opOk st (.fill t k) = (decide (t < st.size) && (isVecKind (st.kind t) || isMatKind (st.kind t)) && st.kind t != .scc
      && st.kind t != .svc) := rfl
theorem opOk_scale (st : SeqState K) (t : Nat) (k : K) : opOk st (.scale t k) = opOk st (.fill t k) := rfl

theorem kern_facts (st : SeqState K) (k : KName) (a x y : Nat) (alpha : K) (h : opOk st (.kern k a alpha x y) = true) :
    a < st.size ∧ x < st.size ∧ y < st.size ∧ x ≠ y ∧ st.kind x ≠ .tv ∧ st.kind y ≠ .tv
    ∧ (st.kind a ≠ .tv ∨ (st.kind a = .tv ∧ st.wraps a < st.size))
    ∧ offers k (st.matRep a) = true ∧ (st.rd x).rows = 1 ∧ (st.rd y).rows = 1 := by
  unfold opOk at h
  simp only [Bool.and_eq_true, Bool.or_eq_true, decide_eq_true_eq, bne_iff_ne, ne_eq, beq_iff_eq] at h
  obtain ⟨⟨⟨⟨⟨⟨⟨⟨⟨⟨⟨⟨ha, hx⟩, hy⟩, hxy⟩, hm⟩, hvx⟩, hvy⟩, _⟩, hoff⟩, _⟩, hrx⟩, hry⟩, _⟩ := h
  refine ⟨ha, hx, hy, hxy, isVecKind_ne_tv hvx, isVecKind_ne_tv hvy, ?_, hoff, hrx, hry⟩
  rcases hm with hm | ⟨⟨hk, hb⟩, _⟩
  · exact Or.inl (isMatKind_ne_tv hm)
  · rw [if_pos hk] at hb
    exact Or.inr ⟨hk, hb⟩

/-- the stored operand an operation reads besides its target: the other object of a pair, the vector `x` of a kernel call, the
target itself where there is no other -/
def SOp.src : SOp K → Nat
  | .asg _ s | .add _ s | .sub _ s | .axpy _ _ s | .lmul _ s | .rmul _ s | .rasg _ _ s _ | .raxpy _ _ _ s _ => s
  | .kern _ _ _ x _ => x
  | .fill t _ | .scale t _ => t

/-- target and source of an executed operation are objects of the store that own their cell (the matrix of a kernel call, the
one operand that may be a view, is neither) -/
theorem opOk_operands (st : SeqState K) (op : SOp K) (h : opOk st op = true) :
    (op.target < st.size ∧ st.kind op.target ≠ .tv) ∧ op.src < st.size ∧ st.kind op.src ≠ .tv := by
  have ofPair : ∀ op t s, opOk.pair st op t s = true → (t < st.size ∧ st.kind t ≠ .tv) ∧ s < st.size ∧ st.kind s ≠ .tv :=
    fun op t s h =>
      let ⟨ht, hs, _, hkt, hks, _⟩ := pair_facts st op t s h
      ⟨⟨ht, hkt⟩, hs, hks⟩
  cases op with
  | asg t s | add t s | sub t s | axpy t _ s => exact ofPair _ t s h
  | lmul t s => exact ofPair _ t s (opOk_lmul st t s h).1
  | rmul t s => exact ofPair _ t s (opOk_rmul st t s h).1
  | fill t k | scale t k =>
    simp only [opOk_scale, opOk_fill, Bool.and_eq_true, decide_eq_true_eq] at h
    have ht : t < st.size ∧ st.kind t ≠ .tv := ⟨h.1.1.1, (Bool.or_eq_true_iff.mp h.1.1.2).elim isVecKind_ne_tv isMatKind_ne_tv⟩
    exact ⟨ht, ht⟩
  | kern k a alpha x y =>
    obtain ⟨_, hx, hy, _, hkx, hky, _⟩ := kern_facts st k a x y alpha h
    exact ⟨⟨hy, hky⟩, hx, hkx⟩
  | rasg t i s j | raxpy t i _ s j =>
    obtain ⟨ht, hs, _, hkt, hks, _⟩ := rowPair_facts st _ t i s j h
    exact ⟨⟨ht, hkt⟩, hs, hks⟩

theorem opOk_reads (st : SeqState K) (hwf : st.wf) (op : SOp K) (h : opOk st op = true) :
    st.rd op.target = st.buf op.target ∧ st.rd op.src = st.buf op.src :=
  let ⟨⟨ht, hkt⟩, hs, hks⟩ := opOk_operands st op h
  ⟨rd_own st hwf _ ht hkt, rd_own st hwf _ hs hks⟩

/-! ### the assignment tables read from scalarvectorview.hh / scalarmatrixview.hh

With the tables as generated from the current source every assignment to a scalar view writes the value through the
handle; no table says "re-point the handle". -/

theorem assignMode_writes (kt ks : RKind) : assignMode kt ks = none ∨ assignMode kt ks = some .copyEntry := by
  cases kt
  case sc => cases ks <;> exact Or.inr rfl
  case sv => cases ks <;> exact Or.inr rfl
  all_goals exact Or.inl rfl

theorem fillMode_writes (kt : RKind) : fillMode kt = none ∨ fillMode kt = some .copyEntry := by
  cases kt
  case sc => exact Or.inr rfl
  case sv => exact Or.inr rfl
  all_goals exact Or.inl rfl

theorem handleMode_writes (st : SeqState K) (op : SOp K) :
    handleMode st op = none ∨ handleMode st op = some .copyEntry := by
  cases op with
  | asg | rasg => exact assignMode_writes _ _
  | fill => exact fillMode_writes _
  | _ => exact Or.inl rfl

theorem asgVal_eq (kt ks : RKind) (bs : Mat K) :
    asgVal kt ks bs = if ks = .dg ∧ kt ≠ .dg then assignFrom (.diag bs.cols (bs.e 0)) else bs :=
  ite_congr (by simp only [Bool.and_eq_true, beq_iff_eq, bne_iff_ne]) (fun _ => rfl) (fun _ => rfl)

theorem seqStep_eq (conj : K → K) (st st' : SeqState K) (op : SOp K) (h : seqStep conj st op = some st') :
    opOk st op = true ∧ st' = st.wr op.target (opVal conj st op).freeze := by
  unfold seqStep at h
  cases hok : opOk st op with
  | false => rw [hok] at h; cases h
  | true =>
    rw [hok] at h
    refine ⟨rfl, ?_⟩
    rcases handleMode_writes st op with hm | hm
    · rw [hm] at h; exact (Option.some.inj h).symm
    · rw [hm] at h; exact (Option.some.inj h).symm

theorem init_reg (ds : List (Decl K)) (i : Nat) (d : Decl K) (h : ds[i]? = some d) :
    (initState ds).regs[i]? = some (if d.kind == .tv then ⟨.tv, d.wraps, d.wraps⟩ else ⟨d.kind, i, i⟩) := by
  have hi : i < ds.length := (List.getElem?_eq_some_iff.mp h).1
  have hr : ((if d.viaRefWrapper then Gen.twRefHolds else Gen.tvHolds) == ViewHold.reference) = true := by
    cases d.viaRefWrapper <;> rfl
  simp only [initState, List.getElem?_map, List.getElem?_range hi, Option.map_some, h, hr, if_true]

theorem init_size (ds : List (Decl K)) : (initState ds).size = ds.length := by
  show ((List.range ds.length).map _).length = _
  rw [List.length_map, List.length_range]

theorem init_kind (ds : List (Decl K)) (i : Nat) (d : Decl K) (h : ds[i]? = some d) : (initState ds).kind i = d.kind := by
  rw [(reg_fields (init_reg ds i d h)).1]
  split
  · exact (beq_iff_eq.mp ‹_›).symm
  · rfl

theorem init_wf (ds : List (Decl K)) (hds : declsOk ds) : (initState ds).wf := by
  refine ⟨(init_size ds).trans (List.length_map ..).symm, fun i hi => ?_⟩
  have hi' : i < ds.length := init_size ds ▸ hi
  have hd : ds[i]? = some ds[i] := List.getElem?_eq_getElem hi'
  obtain ⟨-, ep, ew⟩ := reg_fields (init_reg ds i _ hd)
  rw [init_kind ds i _ hd, ep, ew]
  refine ⟨fun hk => ?_, fun hk => ?_⟩
  · rw [if_neg (mt beq_iff_eq.mp hk)]
  · obtain ⟨b, hb, hbk⟩ := hds i _ hd hk
    rw [if_pos (beq_iff_eq.mpr hk), init_kind ds _ b hb]
    exact ⟨rfl, Nat.lt_of_lt_of_eq (List.getElem?_eq_some_iff.mp hb).1 (init_size ds).symm, hbk⟩

theorem init_buf (ds : List (Decl K)) (i : Nat) (d : Decl K) (h : ds[i]? = some d) (hk : d.kind ≠ .tv) :
    (initState ds).buf i = d.init := by
  simp only [SeqState.buf, initState, List.getD_eq_getElem?_getD, List.getElem?_map, h, Option.map_some, Option.getD_some]
  exact if_neg (mt beq_iff_eq.mp hk)

end

end DV.C01
