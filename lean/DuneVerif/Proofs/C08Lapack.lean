import Mathlib.Tactic.Ring
import Mathlib.LinearAlgebra.Matrix.Charpoly.Basic
import DuneVerif.Model.C08
/-!
# C08 — the row-major ↔ column-major hand-over to LAPACK as index arithmetic

First what ?syev / ?geev see of the caller's matrix and what the copy-back does to eigenvectors; then, for the clause
"returns the spectrum (all roots of the characteristic polynomial)", that what they work on has the characteristic
polynomial of `A`: the fixed-size non-symmetric routine hands over `Aᵀ` (`Matrix.charpoly_transpose`), the dynamic
routine `A` itself, the symmetric routines the upper completion, which is `A` for symmetric `A`.
-/
namespace DV.C08

variable {R : Type}

/-- symmetric on the index range `[0,n)²` -/
def SymOn (n : Nat) (A : Nat → Nat → R) : Prop := ∀ i j, i < n → j < n → A i j = A j i

/-- LAPACK reads the column-major copy as the matrix itself -/
theorem fortranView_packColMajor (n : Nat) (A : Nat → Nat → R) (r c : Nat) (hr : r < n) :
    fortranView n (packColMajor n A) r c = A r c := by
  obtain ⟨hd, hm⟩ := (Nat.div_mod_unique (d := c) (Nat.zero_lt_of_lt hr)).2 ⟨rfl, hr⟩
  unfold fortranView packColMajor
  rw [hd, hm]

/-- LAPACK reads the row-major copy as the transpose -/
theorem fortranView_packRowMajor (n : Nat) (A : Nat → Nat → R) (r c : Nat) (hr : r < n) :
    fortranView n (packRowMajor n A) r c = A c r :=
  fortranView_packColMajor n (fun i j => A j i) r c hr

/-- the copy-back turns column `i` of the Fortran result into row `i` -/
theorem copyBack_eq (n : Nat) (Z : Nat → Nat → R) (i j : Nat) (hj : j < n) : copyBack n Z i j = Z j i := by
  unfold copyBack unpackRowMajor
  rw [Nat.mul_comm, Nat.add_comm]
  exact fortranView_packColMajor n Z j i hj

theorem lapackSeesSym_eq (n : Nat) (A : Nat → Nat → R) (hs : SymOn n A) (r c : Nat) (hr : r < n) (hc : c < n) :
    lapackSeesSym n A r c = A r c := by
  unfold lapackSeesSym upperCompletion
  rw [fortranView_packRowMajor n A r c hr, fortranView_packRowMajor n A c r hc, hs c r hc hr]
  exact ite_self _

def toMatN (n : Nat) (A : Nat → Nat → R) : Matrix (Fin n) (Fin n) R := Matrix.of fun i j => A i.val j.val

theorem toMatN_seesNonSymD (n : Nat) (A : Nat → Nat → R) : toMatN n (lapackSeesNonSymD n A) = toMatN n A := by
  ext i j
  simp only [toMatN, Matrix.of_apply]
  exact fortranView_packColMajor n A i.val j.val i.isLt

theorem toMatN_seesNonSymF (n : Nat) (A : Nat → Nat → R) : toMatN n (lapackSeesNonSymF n A) = (toMatN n A).transpose :=
  toMatN_seesNonSymD n fun i j => A j i

theorem toMatN_seesSym (n : Nat) (A : Nat → Nat → R) (hs : SymOn n A) : toMatN n (lapackSeesSym n A) = toMatN n A := by
  ext i j
  simp only [toMatN, Matrix.of_apply]
  exact lapackSeesSym_eq n A hs i.val j.val i.isLt j.isLt

variable [CommRing R]

/-- `v` is a right eigenvector of the `n x n` matrix `M` for `lam`:  `Σ_k M r k * v k = lam * v r` -/
def IsRightEig (n : Nat) (M : Nat → Nat → R) (lam : R) (v : Nat → R) : Prop :=
  ∀ r, r < n → sumTo n (fun k => M r k * v k) = lam * v r

/-- `v` is a left eigenvector:  `Σ_k v k * M k c = lam * v c`  (`vᵀ M = lam vᵀ`) -/
def IsLeftEig (n : Nat) (M : Nat → Nat → R) (lam : R) (v : Nat → R) : Prop :=
  ∀ c, c < n → sumTo n (fun k => v k * M k c) = lam * v c

theorem sumTo_congr (n : Nat) (f g : Nat → R) (h : ∀ k, k < n → f k = g k) : sumTo n f = sumTo n g := by
  induction n with
  | zero => rfl
  | succ m ih =>
    unfold sumTo
    rw [ih (fun k hk => h k (Nat.lt_succ_of_lt hk)), h m (Nat.lt_succ_self m)]

theorem IsRightEig.congr {n : Nat} {M M' : Nat → Nat → R} {lam : R} {v v' : Nat → R}
    (hM : ∀ r c, r < n → c < n → M r c = M' r c) (hv : ∀ k, k < n → v' k = v k) (h : IsRightEig n M lam v) :
    IsRightEig n M' lam v' := by
  intro r hr
  rw [hv r hr, ← h r hr]
  exact sumTo_congr n _ _ fun k hk => by rw [← hM r k hr hk, hv k hk]

/-- if what LAPACK works on agrees with `A` on the index range and the columns of its result `Z` are right eigenvectors
of it, the copy-back returns right eigenvectors of `A` as rows -/
theorem copyBack_rightEig (n : Nat) (A M : Nat → Nat → R) (hM : ∀ r c, r < n → c < n → M r c = A r c)
    (Z : Nat → Nat → R) (w : Nat → R) (hZ : ∀ c, c < n → IsRightEig n M (w c) (fun k => Z k c)) :
    ∀ i, i < n → IsRightEig n A (w i) (copyBack n Z i) :=
  fun i hi => (hZ i hi).congr hM fun k hk => copyBack_eq n Z i k hk

theorem charpoly_seesNonSymF (n : Nat) (A : Nat → Nat → R) :
    (toMatN n (lapackSeesNonSymF n A)).charpoly = (toMatN n A).charpoly := by
  rw [toMatN_seesNonSymF, Matrix.charpoly_transpose]

end DV.C08
