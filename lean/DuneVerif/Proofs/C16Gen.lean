/-
C16 — what the translated operator bodies (DuneVerif/Gen/C16.lean, regenerated from the headers on every run) say,
as equations about the model's operators.  Every lemma here is closed by `rfl` (for the legacy facades: by `rfl` in
each `is_convertible` branch, through `apply_ite`): it holds exactly when the generated expression *is* the expected one
up to evaluation.  A change of the source that alters the meaning of one of the bodies makes the corresponding lemma
fail to compile, and with it the property theorems about that operator, whether they cite the lemma or evaluate the
body by `rfl` themselves.
Core Lean only.
-/
import DuneVerif.Model.C16

namespace DV.C16

theorem posCore_equals (a b : It) : posCore.equals a b = (decide (a.pos = b.pos) && (a.cont == b.cont)) := rfl
theorem posCore_increment (a : It) : posCore.increment a = { a with pos := a.pos + 1 } := rfl
theorem posCore_decrement (a : It) : posCore.decrement a = { a with pos := a.pos - 1 } := rfl
theorem posCore_advance (a : It) (n : Int) : posCore.advance a n = { a with pos := a.pos + n } := rfl
theorem posCore_distanceTo (a b : It) : posCore.distanceTo a b = b.pos - a.pos := rfl
theorem dereference_spec (c : List Int) (a : It) : dereference c a = getAt c a.pos := rfl
theorem elementAt_spec (c : List Int) (a : It) (i : Int) : elementAt c a i = getAt c (a.pos + i) := rfl

theorem alCore_equals (a b : It) : alCore.equals a b = decide (a.pos = b.pos) := rfl
theorem alCore_increment (a : It) : alCore.increment a = { a with pos := a.pos + 1 } := rfl
theorem alCore_decrement (a : It) : alCore.decrement a = { a with pos := a.pos - 1 } := rfl
theorem alCore_advance (a : It) (n : Int) : alCore.advance a n = { a with pos := a.pos + n } := rfl
theorem alCore_distanceTo (a b : It) : alCore.distanceTo a b = b.pos - a.pos := rfl
theorem alDereference_spec (c : List Int) (a : It) : alDereference c a = getAt c a.pos := rfl
theorem alElementAt_spec (c : List Int) (a : It) (i : Int) : alElementAt c a i = getAt c (a.pos + i) := rfl

namespace Legacy
variable {I : Type} (k : Core I)
theorem eq_spec (conv : Bool) (l r : I) : eq k conv l r = if conv then k.equals l r else k.equals r l :=
  apply_ite (B.eval _ _) _ _ _
theorem ne_spec (conv : Bool) (l r : I) : ne k conv l r = if conv then !k.equals l r else !k.equals r l :=
  apply_ite (B.eval _ _) _ _ _
theorem eqFw_spec (conv : Bool) (l r : I) : eqFw k conv l r = if conv then k.equals l r else k.equals r l :=
  apply_ite (B.eval _ _) _ _ _
theorem neFw_spec (conv : Bool) (l r : I) : neFw k conv l r = if conv then !k.equals l r else !k.equals r l :=
  apply_ite (B.eval _ _) _ _ _
theorem eqBi_spec (conv : Bool) (l r : I) : eqBi k conv l r = if conv then k.equals l r else k.equals r l :=
  apply_ite (B.eval _ _) _ _ _
theorem neBi_spec (conv : Bool) (l r : I) : neBi k conv l r = !eqBi k conv l r := rfl
theorem lt_spec (conv : Bool) (l r : I) :
    lt k conv l r = if conv then decide (k.distanceTo l r > 0) else decide (k.distanceTo r l < 0) :=
  apply_ite (B.eval _ _) _ _ _
theorem le_spec (conv : Bool) (l r : I) :
    le k conv l r = if conv then decide (k.distanceTo l r ≥ 0) else decide (k.distanceTo r l ≤ 0) :=
  apply_ite (B.eval _ _) _ _ _
theorem gt_spec (conv : Bool) (l r : I) :
    gt k conv l r = if conv then decide (k.distanceTo l r < 0) else decide (k.distanceTo r l > 0) :=
  apply_ite (B.eval _ _) _ _ _
theorem ge_spec (conv : Bool) (l r : I) :
    ge k conv l r = if conv then decide (k.distanceTo l r ≤ 0) else decide (k.distanceTo r l ≥ 0) :=
  apply_ite (B.eval _ _) _ _ _
theorem diff_spec (conv : Bool) (l r : I) :
    diff k conv l r = if conv then -(k.distanceTo l r) else k.distanceTo r l :=
  apply_ite (E.eval _) _ _ _
theorem addAssign_spec (i : I) (n : Int) : addAssign k i n = k.advance i n := rfl
theorem subAssign_spec (i : I) (n : Int) : subAssign k i n = k.advance i (-n) := rfl
theorem plus_spec (i : I) (n : Int) : plus k i n = k.advance i n := rfl
theorem minus_spec (i : I) (n : Int) : minus k i n = k.advance i (-n) := rfl
theorem indexArg_spec (n : Int) : indexArg n = n := rfl
end Legacy

namespace IR
theorem eq_spec (a b : IR) : eq a b = decide (a.value = b.value) := rfl
theorem ne_spec (a b : IR) : ne a b = decide (a.value ≠ b.value) := rfl
theorem lt_spec (a b : IR) : lt a b = decide (a.value < b.value) := rfl
theorem le_spec (a b : IR) : le a b = decide (a.value ≤ b.value) := rfl
theorem gt_spec (a b : IR) : gt a b = decide (a.value > b.value) := rfl
theorem ge_spec (a b : IR) : ge a b = decide (a.value ≥ b.value) := rfl
-- the six comparisons for every width of the integral type: their bodies contain no machine difference
theorem eqW_spec (bits : Nat) (a b : IR) : eqW bits a b = decide (a.value = b.value) := rfl
theorem neW_spec (bits : Nat) (a b : IR) : neW bits a b = decide (a.value ≠ b.value) := rfl
theorem ltW_spec (bits : Nat) (a b : IR) : ltW bits a b = decide (a.value < b.value) := rfl
theorem leW_spec (bits : Nat) (a b : IR) : leW bits a b = decide (a.value ≤ b.value) := rfl
theorem gtW_spec (bits : Nat) (a b : IR) : gtW bits a b = decide (a.value > b.value) := rfl
theorem geW_spec (bits : Nat) (a b : IR) : geW bits a b = decide (a.value ≥ b.value) := rfl
theorem inc_spec (a : IR) : inc a = ⟨a.value + 1⟩ := rfl
theorem dec_spec (a : IR) : dec a = ⟨a.value - 1⟩ := rfl
theorem addAssign_spec (a : IR) (n : Int) : addAssign a n = ⟨a.value + n⟩ := rfl
theorem subAssign_spec (a : IR) (n : Int) : subAssign a n = ⟨a.value - n⟩ := rfl
theorem plus_spec (a : IR) (n : Int) : plus a n = ⟨a.value + n⟩ := rfl
theorem nplus_spec (n : Int) (a : IR) : nplus n a = ⟨a.value + n⟩ := rfl
theorem minus_spec (a : IR) (n : Int) : minus a n = ⟨a.value - n⟩ := rfl
theorem diff_spec (a b : IR) : diff a b = a.value - b.value := rfl
theorem deref_spec (a : IR) : deref a = a.value := rfl
theorem index_spec (a : IR) (n : Int) : index a n = a.value + n := rfl
end IR

namespace IntegralRange
theorem ofTo_spec (to : Int) : ofTo to = ⟨0, to⟩ := rfl
theorem begin_spec (r : IntegralRange) : r.begin_ = ⟨r.lo⟩ := rfl
theorem end_spec (r : IntegralRange) : r.end_ = ⟨r.hi⟩ := rfl
theorem get_spec (r : IntegralRange) (i : Int) : r.get i = r.lo + i := rfl
theorem empty_spec (r : IntegralRange) : r.empty = decide (r.lo = r.hi) := rfl
theorem size_spec (bits : Nat) (r : IntegralRange) : r.size bits = (r.hi % 2 ^ bits - r.lo % 2 ^ bits) % 2 ^ bits := rfl
theorem contains_spec (r : IntegralRange) (x : Int) : r.contains x = (decide (r.lo ≤ x) && decide (x < r.hi)) := rfl
end IntegralRange

namespace SR
theorem begin_spec (r : IntegralRange) : begin_ r = ⟨r.lo⟩ := rfl
theorem end_spec (r : IntegralRange) : end_ r = ⟨r.hi⟩ := rfl
theorem getStatic_spec (r : IntegralRange) (i : Int) : getStatic r i = r.lo + i := rfl
theorem get_spec (r : IntegralRange) (i : Int) : get r i = r.lo + i := rfl
theorem empty_spec (r : IntegralRange) : empty r = decide (r.lo = r.hi) := rfl
theorem size_spec (bits : Nat) (r : IntegralRange) : size bits r = (r.hi % 2 ^ bits - r.lo % 2 ^ bits) % 2 ^ bits := rfl
theorem contains_spec (r : IntegralRange) (x : Int) : contains r x = (decide (r.lo ≤ x) && decide (x < r.hi)) := rfl
end SR

namespace NewF
variable {B : Type} (b : Base B)
theorem ne_spec (l r : B) : ne b l r = !eq b l r := rfl
theorem ltB_spec (l r : B) : ltB b l r = b.lt l r := rfl
theorem leB_spec (l r : B) : leB b l r = !b.lt r l := rfl
theorem gtB_spec (l r : B) : gtB b l r = b.lt r l := rfl
theorem geB_spec (l r : B) : geB b l r = !b.lt l r := rfl
theorem lt_spec (l r : B) : lt b l r = decide (diff b l r < 0) := rfl
theorem le_spec (l r : B) : le b l r = decide (diff b l r ≤ 0) := rfl
theorem gt_spec (l r : B) : gt b l r = decide (diff b l r > 0) := rfl
theorem ge_spec (l r : B) : ge b l r = decide (diff b l r ≥ 0) := rfl
theorem subAssign_spec (i : B) (n : Int) : subAssign b i n = b.addAssign i (-n) := rfl
theorem preIncAdv_spec (i : B) : preIncAdv b i = b.addAssign i 1 := rfl
theorem preDecAdv_spec (i : B) : preDecAdv b i = b.addAssign i (-1) := rfl
end NewF

end DV.C16
