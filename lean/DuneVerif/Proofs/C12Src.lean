/-
C12 — the tie between the hand-written model and the values `tools/translators/tr_c12.py` reads from the source on
every run (`DuneVerif/Gen/C12.lean`).  Helper lemmas; the theorems themselves are the `src_*` statements of
`Props/C12.lean`.  This module does not import `Gen/C12.lean`: `wsList`, `quoteList` and `boolTable` are the generated values
written out, and `Props/C12.lean` identifies them with the generated ones by `rfl`.
-/
import DuneVerif.Proofs.C12Str

namespace DV.C12

/-- membership in a list of characters as a Boolean -/
def inSet (l : List Char) (c : Char) : Bool := l.contains c

/-- the model's blank set, sorted by byte code (tab, newline, carriage return, space) -/
def wsList : List Char := [Char.ofNat 9, Char.ofNat 10, Char.ofNat 13, Char.ofNat 32]

theorem isWs_eq_inSet (c : Char) : isWs c = inSet wsList c := by
  have e9 : Char.ofNat 9 = '\t' := by decide
  have e10 : Char.ofNat 10 = '\n' := by decide
  have e13 : Char.ofNat 13 = '\r' := by decide
  have e32 : Char.ofNat 32 = ' ' := by decide
  simp only [isWs, inSet, wsList, e9, e10, e13, e32, List.contains_cons, List.contains_nil, Bool.or_false]
  cases (c == ' ') <;> cases (c == '\t') <;> cases (c == '\n') <;> cases (c == '\r') <;> rfl

/-- the quote characters of the model, sorted by byte code -/
def quoteList : List Char := [Char.ofNat 34, Char.ofNat 39]

theorem isQuote_eq_inSet (c : Char) : isQuote c = inSet quoteList c := by
  have e34 : Char.ofNat 34 = '"' := by decide
  have e39 : Char.ofNat 39 = '\'' := by decide
  simp only [isQuote, inSet, quoteList, e34, e39, List.contains_cons, List.contains_nil, Bool.or_false]
  cases (c == '\'') <;> cases (c == '"') <;> rfl

/-- `argv[i][0] == '-' && argv[i][1] != 0` -/
theorem isOpt_eq (a : Str) : isOpt a = (a.head? == some '-' && decide (a.length > 1)) := by
  match a with
  | [] => rfl
  | [c] => simp [isOpt]
  | c :: d :: r => simp [isOpt]

/-- the first step of the dotted-key descent: `dot = key.find('.')`, `key.substr(0,dot)`, `key.substr(dot+1)` -/
theorem comps_of_splitFirst (key a b : Str) (h : splitFirst '.' key = some (a, b)) : comps key = a :: comps b := by
  obtain ⟨rfl, hn⟩ := splitFirst_eq_some '.' key a b h
  exact splitOnC_cons_of_not_mem '.' a b hn

theorem comps_of_no_dot (key : Str) (h : splitFirst '.' key = none) : comps key = [key] :=
  splitOnC_of_not_mem '.' key (splitFirst_eq_none '.' key h)

/-- looking a lower-cased text up in a word table -/
def lookupWord (tbl : List (Str × Bool)) (r : Str) : Option Bool :=
  match tbl with
  | [] => none
  | (w, b) :: rest => if r = w then some b else lookupWord rest r

/-- the model's `Parser<bool>` word table, sorted as the translator sorts it -/
def boolTable : List (Str × Bool) :=
  [("false".toList, false), ("no".toList, false), ("true".toList, true), ("yes".toList, true)]

theorem parseBool_eq_lookup (s : Str) :
    parseBool s = match lookupWord boolTable (s.map toLowerC) with
      | some b => some b
      | none => (parseInt tInt (s.map toLowerC)).map (· != 0) := by
  simp only [parseBool, boolTable, lookupWord]
  generalize s.map toLowerC = r
  have hf : "false".toList = ['f', 'a', 'l', 's', 'e'] := String.toList_ofList
  have hn : "no".toList = ['n', 'o'] := String.toList_ofList
  have ht : "true".toList = ['t', 'r', 'u', 'e'] := String.toList_ofList
  have hy : "yes".toList = ['y', 'e', 's'] := String.toList_ofList
  simp only [hf, hn, ht, hy]
  by_cases h1 : r = ['f', 'a', 'l', 's', 'e']
  · subst h1; rfl
  · by_cases h2 : r = ['n', 'o']
    · subst h2; rfl
    · by_cases h3 : r = ['t', 'r', 'u', 'e']
      · subst h3; rfl
      · by_cases h4 : r = ['y', 'e', 's']
        · subst h4; rfl
        · simp [h1, h2, h3, h4]

end DV.C12
