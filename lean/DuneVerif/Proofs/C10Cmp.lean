/-
C10: the top-down comparison scan, the `!=` scan, the comparisons derived from them, and all six as one function of the
comparison (`cmpEval`, `Model/C10Hist.lean`).  Core Lean only.
-/
import DuneVerif.Model.C10Hist
import DuneVerif.Proofs.C10Basic

namespace DV.C10
open DV.C10.Gen

theorem compare_add_right (a x t : Nat) : compare (a + t) (x + t) = compare a x := by
  rw [Nat.compare_eq_ite_lt, Nat.compare_eq_ite_lt]
  simp only [Nat.add_lt_add_iff_right]

theorem cmpTop_eq {n : Nat} {a x : List Nat} (ha : Wf n a) (hx : Wf n x) : cmpTop a x = compare (val a) (val x) := by
  refine wf_ind₂ rfl ?_ ha hx
  intro _ a x as xs ha hx _ _ ih
  rw [cmpTop, ih, val_cons, val_cons]
  rcases Nat.lt_trichotomy (val as) (val xs) with h | h | h
  · rw [Nat.compare_eq_lt.2 h, Nat.compare_eq_lt.2 (digit_lt x ha h)]
  · rw [h, Nat.compare_eq_eq.2 rfl, compare_add_right]
  · rw [Nat.compare_eq_gt.2 h, Nat.compare_eq_gt.2 (digit_lt a hx h)]

theorem lt_val' {n : Nat} {a x : List Nat} (ha : Wf n a) (hx : Wf n x) : lt a x = decide (val a < val x) := by
  rw [lt, cmpTop_eq ha hx]
  exact decide_eq_decide.2 Nat.compare_eq_lt

theorem le_val' {n : Nat} {a x : List Nat} (ha : Wf n a) (hx : Wf n x) : le a x = decide (val a ≤ val x) := by
  rw [le, cmpTop_eq ha hx]
  exact decide_not.symm.trans (decide_eq_decide.2 Nat.compare_ne_gt)

theorem ne_eq_decide (a x : List Nat) (h : a.length = x.length) : ne a x = decide (a ≠ x) := by
  induction a generalizing x with
  | nil => cases x with
    | nil => rfl
    | cons => nomatch h
  | cons a as ih => cases x with
    | nil => nomatch h
    | cons x xs =>
      rw [ne, ih xs (Nat.succ.inj h)]
      by_cases hax : a = x
      · rw [hax, bne_self_eq_false, if_neg Bool.false_ne_true]
        exact decide_eq_decide.2 (not_congr (List.cons_inj_right x).symm)
      · rw [if_pos (bne_iff_ne.2 hax)]
        exact (decide_eq_true (mt List.head_eq_of_cons_eq hax)).symm

theorem ne_val' {n : Nat} {a x : List Nat} (ha : Wf n a) (hx : Wf n x) : ne a x = decide (val a ≠ val x) := by
  rw [ne_eq_decide a x (ha.1.trans hx.1.symm)]
  exact decide_eq_decide.2 (not_congr ⟨congrArg val, val_inj ha hx⟩)

/- `gtDef`, `geDef`, `eqDef` are regenerated from the header, which may write a derived comparison in any of the
   forms `!(a c x)`, `x c a`, `!(x c a)`.  The three proofs below go through for each form the translator accepts:
   the `simp only` set names the primitive comparisons in both orientations (so some of it is unused), and what is
   left is a fact about `<`, `≤`, `=` on two numbers. -/
set_option linter.unusedSimpArgs false

theorem gt_val' {n : Nat} {a x : List Nat} (ha : Wf n a) (hx : Wf n x) : gt a x = decide (val x < val a) := by
  simp only [gt, gtDef, evalCmpDef, primCmp, le_val' ha hx, lt_val' ha hx, lt_val' hx ha, le_val' hx ha]
  all_goals (rw [Bool.eq_iff_iff]; simp)
  all_goals omega

theorem ge_val' {n : Nat} {a x : List Nat} (ha : Wf n a) (hx : Wf n x) : ge a x = decide (val x ≤ val a) := by
  simp only [ge, geDef, evalCmpDef, primCmp, le_val' ha hx, lt_val' ha hx, lt_val' hx ha, le_val' hx ha]
  all_goals (rw [Bool.eq_iff_iff]; simp)
  all_goals omega

theorem eq_val' {n : Nat} {a x : List Nat} (ha : Wf n a) (hx : Wf n x) : eq a x = decide (val a = val x) := by
  simp only [eq, eqDef, evalCmpDef, primCmp, ne_val' ha hx, ne_val' hx ha]
  all_goals (rw [Bool.eq_iff_iff]; simp)
  all_goals omega

theorem cmpEval_spec {n : Nat} {a x : List Nat} (ha : Wf n a) (hx : Wf n x) (c : Cmp) :
    cmpEval c a x = cmpSpec c (val a) (val x) := by
  cases c
  · exact lt_val' ha hx
  · exact le_val' ha hx
  · exact gt_val' ha hx
  · exact ge_val' ha hx
  · exact eq_val' ha hx
  · exact ne_val' ha hx

end DV.C10
