/-
C12 — readNamedOptions for ALL argument vectors.

`namedSpec` is the documentation read literally, with a *set* of keywords that already have a value: a named
parameter `--k=v` is stored under `k` (and `k` counts as given when it is a keyword), a positional argument goes
to the first keyword of the list that is not given yet, `-h` or `--help` asks for help, `--k` without `=` is an error,
and at the end the first `required` keywords must all be given.  The code (and the model `namedLoop`) keeps a
`vector<bool> done` and a cursor `current` that only moves forward instead.  `readNamedOptions_eq_spec` proves the
two agree for every argument vector, every keyword list without repetitions, every tree and all flags.
-/
import DuneVerif.Proofs.C12Opt

namespace DV.C12

/-- first keyword of the list that has no value yet -/
def firstFree (kws given : List Str) : Option Str := kws.find? (fun k => !given.contains k)

def specLoop (kws : List Str) (am ow : Bool) : List Str → Tree → List Str → Except Err (Tree × List Str)
  | [], t, g => .ok (t, g)
  | a :: rest, t, g =>
    match classify a with
    | .help => .error .help
    | .bad => .error .parser
    | .named k v =>
      if !am && !kws.contains k then .error .parser                 -- unknown parameter
      else match storeOpt ow t k v with
        | .error e => .error e
        | .ok t' => specLoop kws am ow rest t' (if kws.contains k then k :: g else g)
    | .pos x =>
      match firstFree kws g with
      | none => .error .parser                                        -- superfluous unnamed parameter
      | some kw => match storeOpt ow t kw x with
        | .error e => .error e
        | .ok t' => specLoop kws am ow rest t' (kw :: g)

def namedSpec (args : List Str) (t : Tree) (kws : List Str) (required : Nat) (am ow : Bool) : Except Err Tree :=
  match specLoop kws am ow args t [] with
  | .error e => .error e
  | .ok (t', given) =>
    -- missing parameter(s): one of the first `required` keywords has no value
    if (List.range kws.length).any (fun i => i < required && !given.contains (kws.getD i [])) then .error .parser
    else .ok t'

/-- ties the `done` vector and the cursor `current` of the code to the set of keywords given so far; `below`: no free keyword
    behind the cursor, which is why a cursor that only moves forward finds the first free keyword -/
structure Inv (kws : List Str) (done : List Bool) (cur : Nat) (given : List Str) : Prop where
  len : done.length = kws.length
  agree : ∀ i, i < kws.length → done.getD i false = given.contains (kws.getD i [])
  below : ∀ i, i < cur → done.getD i false = true

theorem find?_least (p : Str → Bool) (l : List Str) : ∀ r : Nat, (∀ j, j < r → p (l.getD j []) = false) →
    (r < l.length → p (l.getD r []) = true) → l.find? p = l[r]? := by
  induction l with
  | nil => intro r _ _; rfl
  | cons x xs ih =>
    intro r h1 h2
    cases r with
    | zero => exact List.find?_cons_of_pos (l := xs) (h2 (Nat.zero_lt_succ _))
    | succ r =>
      rw [List.find?_cons_of_neg (a := x) (Bool.eq_false_iff.mp (h1 0 (Nat.zero_lt_succ r)))]
      exact ih r (fun j hj => h1 (j + 1) (Nat.succ_lt_succ hj)) (fun hr => h2 (Nat.succ_lt_succ hr))

theorem getD_set_bool (done : List Bool) (r i : Nat) (hr : r < done.length) :
    (done.set r true).getD i false = (decide (i = r) || done.getD i false) := by
  rw [List.getD_eq_getElem?_getD, List.getElem?_set, List.getD_eq_getElem?_getD]
  by_cases h : r = i
  · subst h; simp [hr]
  · simp [h, Ne.symm h]

theorem Inv.mark {kws : List Str} (hn : kws.Nodup) {done : List Bool} {cur : Nat} {given : List Str}
    (inv : Inv kws done cur given) {r : Nat} (hr : r < kws.length) :
    Inv kws (done.set r true) cur (kws.getD r [] :: given) := by
  have hrd : r < done.length := by rw [inv.len]; exact hr
  refine ⟨by simp [inv.len], fun i hi => ?_, fun i hi => ?_⟩
  · -- both sides gain a disjunct: `i = r` on the left, `kws.getD i [] = kws.getD r []` on the right, the same without repetitions
    rw [getD_set_bool done r i hrd, List.contains_cons, inv.agree i hi, Bool.beq_eq_decide_eq,
      decide_eq_decide.mpr (List.getD_inj hi hr hn)]
  · rw [getD_set_bool done r i hrd, inv.below i hi, Bool.or_true]

/-- the positional step: cursor search = first keyword not given; the invariant is kept -/
theorem inv_pos {kws : List Str} (hn : kws.Nodup) {done : List Bool} {cur : Nat} {given : List Str}
    (inv : Inv kws done cur given) :
    (skipDone done.length done cur ≥ done.length → firstFree kws given = none) ∧
    (skipDone done.length done cur < done.length →
      firstFree kws given = some (kws.getD (skipDone done.length done cur) []) ∧
      Inv kws (done.set (skipDone done.length done cur) true) (skipDone done.length done cur)
        (kws.getD (skipDone done.length done cur) [] :: given)) := by
  have hcur : cur ≤ done.length := Nat.le_of_not_lt fun hc => by
    have := inv.below done.length hc
    rw [getD_false_of_ge done _ (Nat.le_refl _)] at this
    cases this
  obtain ⟨-, h2, h3, h4⟩ := skipDone_spec done done.length cur (Nat.sub_le _ _) hcur
  generalize skipDone done.length done cur = r at h2 h3 h4 ⊢
  have inv' : Inv kws done r given := by
    refine ⟨inv.len, inv.agree, fun j hj => ?_⟩
    by_cases hjc : j < cur
    · exact inv.below j hjc
    · exact h3 j (Nat.le_of_not_lt hjc) hj
  rw [inv.len] at h2 ⊢
  have hff : firstFree kws given = kws[r]? := by
    refine find?_least _ kws r (fun j hj => ?_) (fun hr => ?_)
    · rw [← inv.agree j (Nat.lt_of_lt_of_le hj h2), inv'.below j hj]
      rfl
    · rw [← inv.agree r hr, h4]
      rfl
  constructor
  · intro hge
    rw [hff, List.getElem?_eq_none hge]
  · intro hlt
    exact ⟨by rw [hff, List.getElem?_eq_getElem hlt, List.getElem_eq_getD []], inv'.mark hn hlt⟩

theorem inv_named {kws : List Str} (hn : kws.Nodup) {done : List Bool} {cur : Nat} {given : List Str}
    (inv : Inv kws done cur given) (key : Str) :
    Inv kws (markDone (findIdx? key kws) done) cur (if kws.contains key then key :: given else given) := by
  rw [← Bool.not_not (kws.contains key), ← findIdx?_isNone_iff key kws]
  cases hf : findIdx? key kws with
  | none => exact inv
  | some r =>
    obtain ⟨hr, rfl⟩ := findIdx?_getD key kws r hf
    exact inv.mark hn hr

/-- the test at the end of `namedSpec` ("missing parameter(s)"), as a function of the loop's result -/
def specMissing (kws : List Str) (required : Nat) : Except Err (Tree × List Str) → Except Err Tree
  | .error e => .error e
  | .ok (t, given) =>
    if (List.range kws.length).any (fun i => i < required && !given.contains (kws.getD i [])) then .error .parser else .ok t

theorem namedSpec_eq (args : List Str) (t : Tree) (kws : List Str) (required : Nat) (am ow : Bool) :
    namedSpec args t kws required am ow = specMissing kws required (specLoop kws am ow args t []) := rfl

theorem any_range_congr (n : Nat) (p q : Nat → Bool) (h : ∀ i, i < n → p i = q i) :
    (List.range n).any p = (List.range n).any q := by
  rw [Bool.eq_iff_iff, List.any_eq_true, List.any_eq_true]
  exact exists_congr fun i => and_congr_right fun hi => by rw [h i (List.mem_range.mp hi)]

/-- from states related by `Inv` the two loops end in the same error, or in the same tree with `done` = membership
    in `given`, so that the "missing" tests agree index by index -/
theorem loops_agree {kws : List Str} (hn : kws.Nodup) (required : Nat) (am ow : Bool) (args : List Str) : ∀ (t : Tree)
    (done : List Bool) (cur : Nat) (given : List Str), Inv kws done cur given →
    checkMissing required kws.length (namedLoop kws am ow args t done cur) =
      specMissing kws required (specLoop kws am ow args t given) := by
  induction args with
  | nil =>
    intro t done cur given inv
    rw [namedLoop_nil, specLoop, checkMissing, specMissing,
      any_range_congr kws.length _ (fun i => decide (i < required) && !given.contains (kws.getD i []))
        fun i hi => by rw [inv.agree i hi]]
  | cons a rest ih =>
    intro t done cur given inv
    rw [namedLoop_cons, specLoop]
    cases classify a with
    | help => rfl
    | bad => rfl
    | named k v =>
      simp only
      unfold namedStep
      rw [findIdx?_isNone_iff]
      cases (!am && !kws.contains k) with
      | true => rfl
      | false =>
        simp only [Bool.false_eq_true, ↓reduceIte]
        cases storeOpt ow t k v with
        | error e => rfl
        | ok t' => exact ih t' _ cur _ (inv_named hn inv k)
    | pos x =>
      simp only
      unfold posStep
      have hp := inv_pos hn inv
      by_cases hge : skipDone done.length done cur ≥ done.length
      · rw [if_pos hge, hp.1 hge]
        rfl
      · obtain ⟨hff, inv'⟩ := hp.2 (Nat.lt_of_not_le hge)
        rw [if_neg hge, hff]
        simp only
        cases storeOpt ow t (kws.getD (skipDone done.length done cur) []) x with
        | error e => rfl
        | ok t' => exact ih t' _ _ _ inv'

theorem inv_init (kws : List Str) : Inv kws (List.replicate kws.length false) 0 [] := by
  refine ⟨List.length_replicate, fun i hi => ?_, fun i hi => absurd hi (Nat.not_lt_zero i)⟩
  rw [List.getD_eq_getElem?_getD, List.getElem?_replicate_of_lt hi]
  rfl

theorem readNamedOptions_eq_spec (args : List Str) (t : Tree) (kws : List Str) (required : Nat) (am ow : Bool)
    (hn : kws.Nodup) : readNamedOptions args t kws required am ow = namedSpec args t kws required am ow := by
  rw [readNamed_eq, namedSpec_eq]
  exact loops_agree hn required am ow args t _ 0 [] (inv_init kws)

end DV.C12
