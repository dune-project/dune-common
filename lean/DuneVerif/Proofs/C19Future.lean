/-
C19 — the future state machines: the judgements on a trace the future theorems are stated with (`dataOf`,
`MisuseReported`, `AlwaysReady`, `succGets`), the projections onto the void classes (`eraseMpi`, `erasePseudo`) and the
lemmas behind those theorems.  Core Lean only.

The four classes share one protocol (`Protocol`): a validity flag that only `get` clears, a payload that `get` hands out
and no other call changes, and the documented error for `get`/`wait` on an invalid future.  Everything about whole call
histories is proved once from that; `MPIFuture<T>` and `PseudoFuture<T>` are shown to follow it, the void classes are
projections of these two (`Sim`, `trace_sim`).
-/
import DuneVerif.Model.C19

namespace DV.C19

/-- the payloads that `get` calls delivered in a trace -/
def dataOf : List FObs → List (List Int)
  | [] => []
  | .data d :: os => d :: dataOf os
  | _ :: os => dataOf os

/-- every `wait`/`get` in the history was answered by InvalidFutureException.  (This and the two judgements below are
only ever applied to `trace step s h`, which is as long as `h`: the catch-all case is not reached.) -/
def MisuseReported : List FOp → List FObs → Prop
  | o :: os, b :: bs => ((o = .get ∨ o = .wait) → b = .errInvalid) ∧ MisuseReported os bs
  | _, _ => True

/-- every `ready`/`spin` in the history answered `true` -/
def AlwaysReady : List FOp → List FObs → Prop
  | o :: os, b :: bs => ((o = .ready ∨ o = .spin) → b = .bool true) ∧ AlwaysReady os bs
  | _, _ => True

/-- number of `get` calls that returned (were not answered by InvalidFutureException) -/
def succGets : List FOp → List FObs → Nat
  | o :: os, b :: bs => (if o = .get ∧ b ≠ .errInvalid then 1 else 0) + succGets os bs
  | _, _ => 0

theorem trace_cons {σ : Type} (step : σ → FOp → FObs × σ) (s : σ) (o : FOp) (os : List FOp) :
    trace step s (o :: os) = (step s o).1 :: trace step (step s o).2 os := rfl

theorem final_cons {σ : Type} (step : σ → FOp → FObs × σ) (s : σ) (o : FOp) (os : List FOp) :
    final step s (o :: os) = final step (step s o).2 os := rfl

theorem final_append {σ : Type} (step : σ → FOp → FObs × σ) (s : σ) (h1 h2 : List FOp) :
    final step s (h1 ++ h2) = final step (final step s h1) h2 := by
  induction h1 generalizing s with
  | nil => rfl
  | cons o os ih => simp [final_cons, ih]

theorem dataOf_cons (b : FObs) (bs : List FObs) : dataOf (b :: bs) = dataOf [b] ++ dataOf bs := by
  cases b <;> rfl

/-- `dead` is a set of states closed under `step` in which every `wait`/`get` throws and nothing is handed out: the
invalid futures, and the null `Dune::Future` -/
theorem dead_run {σ : Type} (step : σ → FOp → FObs × σ) (dead : σ → Prop)
    (hstep : ∀ s o, dead s → dead (step s o).2 ∧ dataOf [(step s o).1] = [] ∧
      ((o = .get ∨ o = .wait) → (step s o).1 = .errInvalid))
    (s : σ) (hs : dead s) (h : List FOp) :
    dead (final step s h) ∧ MisuseReported h (trace step s h) ∧ dataOf (trace step s h) = [] ∧
      succGets h (trace step s h) = 0 := by
  induction h generalizing s with
  | nil => exact ⟨hs, trivial, rfl, rfl⟩
  | cons o os ih =>
    obtain ⟨hd, hno, hmis⟩ := hstep s o hs
    obtain ⟨i0, i1, i2, i3⟩ := ih _ hd
    rw [trace_cons, final_cons]
    refine ⟨i0, ⟨hmis, i1⟩, by rw [dataOf_cons, hno, i2]; rfl, ?_⟩
    rw [succGets, i3, if_neg fun hg => hg.2 (hmis (.inl hg.1))]

/-- what the classes with a payload have in common: `valid` is the validity flag, `pay` what a `get` would deliver;
`dataOf [b] = []` says that the answer `b` is not a payload -/
structure Protocol {σ : Type} (step : σ → FOp → FObs × σ) (valid : σ → Bool) (pay : σ → List Int) : Prop where
  step_valid : ∀ s o, valid (step s o).2 = (valid s && decide (o ≠ .get))
  get_data : ∀ s, valid s = true → (step s .get).1 = .data (pay s)
  keeps : ∀ s o, valid s = true → o ≠ .get → pay (step s o).2 = pay s ∧ dataOf [(step s o).1] = []
  invalid : ∀ s o, valid s = false →
    dataOf [(step s o).1] = [] ∧ ((o = .get ∨ o = .wait) → (step s o).1 = .errInvalid)

namespace Protocol

variable {σ : Type} {step : σ → FOp → FObs × σ} {valid : σ → Bool} {pay : σ → List Int}

theorem final_valid (P : Protocol step valid pay) (s : σ) (h : List FOp) :
    valid (final step s h) = (valid s && !h.contains .get) := by
  induction h generalizing s with
  | nil => exact (Bool.and_true _).symm
  | cons o os ih =>
    rw [final_cons, ih, P.step_valid, Bool.and_assoc, List.contains_cons, Bool.not_or]
    cases o <;> rfl

theorem invalid_run (P : Protocol step valid pay) (s : σ) (hs : valid s = false) (h : List FOp) :
    MisuseReported h (trace step s h) ∧ dataOf (trace step s h) = [] ∧ succGets h (trace step s h) = 0 :=
  (dead_run step (valid · = false) (fun s o hs => ⟨by rw [P.step_valid, hs]; rfl, P.invalid s o hs⟩) s hs h).2

theorem valid_run (P : Protocol step valid pay) (s : σ) (hs : valid s = true) (h : List FOp) :
    dataOf (trace step s h) = (if h.contains .get then [pay s] else []) ∧
      succGets h (trace step s h) = (if h.contains .get then 1 else 0) := by
  induction h generalizing s with
  | nil => exact ⟨rfl, rfl⟩
  | cons o os ih =>
    rw [trace_cons, dataOf_cons]
    by_cases ho : o = .get
    · subst ho
      obtain ⟨_, hd, hg⟩ := P.invalid_run (step s .get).2 (by rw [P.step_valid, hs]; rfl) os
      simp [succGets, dataOf, P.get_data s hs, hd, hg]
    · obtain ⟨hp, hno⟩ := P.keeps s o hs ho
      obtain ⟨i1, i2⟩ := ih (step s o).2 (by rw [P.step_valid, hs]; simp [ho])
      have hne : ¬ (FOp.get = o) := fun h => ho h.symm
      simp [succGets, hno, i1, i2, hp, ho, hne]

end Protocol

def Sim {σ τ : Type} (step₁ : σ → FOp → FObs × σ) (step₂ : τ → FOp → FObs × τ) (π : σ → τ) (φ : FObs → FObs) : Prop :=
  ∀ s o, step₂ (π s) o = (φ (step₁ s o).1, π (step₁ s o).2)

theorem trace_sim {σ τ : Type} {step₁ : σ → FOp → FObs × σ} {step₂ : τ → FOp → FObs × τ} {π : σ → τ}
    {φ : FObs → FObs} (hsim : Sim step₁ step₂ π φ) (s : σ) (h : List FOp) :
    trace step₂ (π s) h = (trace step₁ s h).map φ ∧ final step₂ (π s) h = π (final step₁ s h) := by
  induction h generalizing s with
  | nil => exact ⟨rfl, rfl⟩
  | cons o os ih =>
    rw [trace_cons, trace_cons, final_cons, final_cons, hsim]
    exact ⟨by rw [List.map_cons, (ih _).1], (ih _).2⟩

/-! The lemmas about one call are finite tables over flag × request × call: each entry holds by computation. -/

namespace MpiFut

/-- what `get` would deliver: the operation's data once complete, never the stale buffer -/
def payload (f : MpiFut) : List Int := if f.req = .pending then f.incoming else f.buf

theorem protocol : Protocol step (·.valid) payload where
  step_valid := by
    rintro ⟨v, r, b, i⟩ o
    cases o <;> cases v <;> cases r <;> rfl
  get_data := by
    rintro ⟨v, r, b, i⟩ (rfl : v = true)
    cases r <;> rfl
  keeps := by
    rintro ⟨v, r, b, i⟩ o (rfl : v = true) ho
    cases o
    case get => exact absurd rfl ho
    all_goals cases r <;> exact ⟨rfl, rfl⟩
  invalid := by
    rintro ⟨v, r, b, i⟩ o (rfl : v = false)
    refine ⟨?_, ?_⟩
    · cases o <;> rfl
    · rintro (rfl | rfl) <;> rfl

theorem step_req (f : MpiFut) (o : FOp) (hr : f.req ≠ .pending) :
    (step f o).2.req ≠ .pending ∧ ((o = .ready ∨ o = .spin) → (step f o).1 = .bool true) := by
  obtain ⟨v, r, b, i⟩ := f
  cases r
  · exact absurd rfl hr
  all_goals
    refine ⟨?_, ?_⟩
    · cases o <;> cases v <;> exact Req.noConfusion
    · rintro (rfl | rfl) <;> rfl

theorem notPending_ready (f : MpiFut) (h : List FOp) (hr : f.req ≠ .pending) : AlwaysReady h (trace step f h) := by
  induction h generalizing f with
  | nil => trivial
  | cons o os ih =>
    rw [trace_cons]
    exact ⟨(step_req f o hr).2, ih _ (step_req f o hr).1⟩

theorem ready_after (f : MpiFut) (h0 : List FOp) (o : FOp) (h : List FOp)
    (hr : (step (final step f h0) o).2.req ≠ .pending) :
    AlwaysReady h (trace step (final step f (h0 ++ [o])) h) := by
  rw [final_append]
  exact notPending_ready _ h hr

theorem complete_notPending (f : MpiFut) : (step f .complete).2.req ≠ .pending := by
  obtain ⟨v, r, b, i⟩ := f
  cases r <;> exact Req.noConfusion

theorem ready_true_notPending (f : MpiFut) (h : (step f .ready).1 = .bool true) :
    (step f .ready).2.req ≠ .pending := by
  obtain ⟨v, r, b, i⟩ := f
  cases r
  · cases h
  all_goals exact Req.noConfusion

/-- an invalid MPI future never owns an active request (it became invalid through `get`, which waits) -/
def Inv (f : MpiFut) : Prop := f.valid = false → f.req ≠ .pending

theorem wait_notPending (f : MpiFut) (hi : Inv f) : (step f .wait).2.req ≠ .pending := by
  obtain ⟨v, r, b, i⟩ := f
  cases v
  · exact hi rfl
  · exact Req.noConfusion

theorem inv_step (f : MpiFut) (o : FOp) (hi : Inv f) : Inv (step f o).2 := by
  intro hv'
  cases hv : f.valid
  · exact (step_req f o (hi hv)).1
  · obtain rfl : o = .get := by
      rw [protocol.step_valid, hv] at hv'
      simpa using hv'
    obtain ⟨v, r, b, i⟩ := f
    obtain rfl : v = true := hv
    exact Req.noConfusion

theorem inv_final (f : MpiFut) (h : List FOp) (hi : Inv f) : Inv (final step f h) := by
  induction h generalizing f with
  | nil => exact hi
  | cons o os ih => rw [final_cons]; exact ih _ (inv_step f o hi)

end MpiFut

def eraseMpi (f : MpiFut) : MpiVoid := { valid := f.valid, req := f.req }

theorem mpiVoid_step : Sim MpiFut.step MpiVoid.step eraseMpi eraseObs := by
  rintro ⟨v, r, b, i⟩ o
  cases o <;> cases v <;> cases r <;> rfl

/-- a state of `MPIFuture<T>` whose projection is `f`: `eraseMpi (liftMpi f)` is `f` by structure eta -/
def liftMpi (f : MpiVoid) : MpiFut := { valid := f.valid, req := f.req, buf := [], incoming := [] }

namespace PseudoFut

theorem protocol : Protocol step (·.valid) (·.data) where
  step_valid := by
    rintro ⟨v, d⟩ o
    cases o <;> cases v <;> rfl
  get_data := by
    rintro ⟨v, d⟩ (rfl : v = true)
    rfl
  keeps := by
    rintro ⟨v, d⟩ o (rfl : v = true) ho
    cases o
    case get => exact absurd rfl ho
    all_goals exact ⟨rfl, rfl⟩
  invalid := by
    rintro ⟨v, d⟩ o (rfl : v = false)
    refine ⟨?_, ?_⟩
    · cases o <;> rfl
    · rintro (rfl | rfl) <;> rfl

theorem valid_ready (f : PseudoFut) (h : List FOp) (hg : h.contains .get = false) (hv : f.valid = true) :
    AlwaysReady h (trace step f h) := by
  induction h generalizing f with
  | nil => trivial
  | cons o os ih =>
    obtain ⟨v, d⟩ := f
    obtain rfl : v = true := hv
    rw [List.contains_cons, Bool.or_eq_false_iff] at hg
    rw [trace_cons]
    refine ⟨by rintro (rfl | rfl) <;> rfl, ih _ hg.2 ?_⟩
    cases o
    case get => cases hg.1
    all_goals rfl

end PseudoFut

def erasePseudo (f : PseudoFut) : PseudoVoid := { valid := f.valid }

theorem pseudoVoid_step : Sim PseudoFut.step PseudoVoid.step erasePseudo eraseObs := by
  rintro ⟨v, d⟩ o
  cases o <;> cases v <;> rfl

def liftPseudo (f : PseudoVoid) : PseudoFut := { valid := f.valid, data := [] }

theorem eraseObs_eq_err (b : FObs) : eraseObs b = .errInvalid ↔ b = .errInvalid := by
  cases b <;> simp [eraseObs]

/-- the judgements on a trace carry over from a class with a payload to its void projection -/
theorem void_judgements {σ τ : Type} {step₁ : σ → FOp → FObs × σ} {step₂ : τ → FOp → FObs × τ} {π : σ → τ}
    (hsim : Sim step₁ step₂ π eraseObs) (s : σ) (h : List FOp) :
    succGets h (trace step₂ (π s) h) = succGets h (trace step₁ s h) ∧
      (MisuseReported h (trace step₁ s h) → MisuseReported h (trace step₂ (π s) h)) ∧
      (AlwaysReady h (trace step₁ s h) → AlwaysReady h (trace step₂ (π s) h)) := by
  induction h generalizing s with
  | nil => exact ⟨rfl, fun _ => trivial, fun _ => trivial⟩
  | cons o os ih =>
    obtain ⟨i1, i2, i3⟩ := ih (step₁ s o).2
    rw [trace_cons, trace_cons, hsim]
    -- `eraseObs` maps `errInvalid` and `bool true` to themselves by computation
    exact ⟨by simp only [succGets, i1, ne_eq, eraseObs_eq_err],
      fun hm => ⟨fun ho => congrArg eraseObs (hm.1 ho), i2 hm.2⟩,
      fun hr => ⟨fun ho => congrArg eraseObs (hr.1 ho), i3 hr.2⟩⟩

end DV.C19
