import DuneVerif.Proofs.C08Basic
/-!
# C08 — the 2x2 path: Cayley–Hamilton columns, identity special case, scale invariance of the closed form, and the
max-norm preconditioning of the entry points
-/
namespace DV.C08

/-- `temp = matrix; temp[0][0] -= l; temp[1][1] -= l;` -/
def shifted (A : M2 ℝ) (l : ℝ) : M2 ℝ := { A with a00 := A.a00 - l, a11 := A.a11 - l }

/-- the two candidate columns of `A - l I` as the code forms them -/
def colA (A : M2 ℝ) (l : ℝ) : V2 ℝ := ⟨A.a00 - l, A.a10⟩
def colB (A : M2 ℝ) (l : ℝ) : V2 ℝ := ⟨A.a01, A.a11 - l⟩

theorem identThreshold_nonneg (eps n : ℝ) (he : 0 ≤ eps) (hn : 0 ≤ n) :
    0 ≤ (Gen.ev2_identThreshold eps n : ℝ) := by
  unfold Gen.ev2_identThreshold
  push_cast
  positivity

/-- the threshold is relative to `‖A‖∞`; an absolute constant would not be homogeneous -/
theorem identThreshold_smul (eps n s : ℝ) :
    (Gen.ev2_identThreshold eps (s * n) : ℝ) = s * Gen.ev2_identThreshold eps n := by
  unfold Gen.ev2_identThreshold
  ring

/-- the translated columns `Gen.ev2_v*_col*` are `colA`/`colB` literally (the closing `rfl`): the first returned vector is
taken from `A - l₁ I`, the second from `A - l₀ I` -/
theorem choice_unfold (eps : ℝ) (A : M2 ℝ) (l0 l1 : ℝ) :
    eigenVectorChoice2d eps A l0 l1 =
      if infNorm2 (shifted A l0) ≤ Gen.ev2_identThreshold eps (infNorm2 A) then none
      else some (pickColumn (colA A l1) (colB A l1), pickColumn (colA A l0) (colB A l0)) := by
  unfold eigenVectorChoice2d
  simp only [Gen.ev2_shiftIndex, if_true]
  rfl

theorem shifted_smul (s : ℝ) (A : M2 ℝ) (l : ℝ) : shifted (smul2 s A) (s * l) = smul2 s (shifted A l) := by
  unfold shifted smul2
  simp only [mul_sub]

theorem colA_smul (s : ℝ) (A : M2 ℝ) (l : ℝ) : colA (smul2 s A) (s * l) = smulV2 s (colA A l) := by
  unfold colA smul2 smulV2
  simp only [mul_sub]

theorem colB_smul (s : ℝ) (A : M2 ℝ) (l : ℝ) : colB (smul2 s A) (s * l) = smulV2 s (colB A l) := by
  unfold colB smul2 smulV2
  simp only [mul_sub]

theorem choice_smul (eps s : ℝ) (hs : 0 < s) (A : M2 ℝ) (l0 l1 : ℝ) :
    eigenVectorChoice2d eps (smul2 s A) (s * l0) (s * l1)
      = (eigenVectorChoice2d eps A l0 l1).map (fun c => (smulV2 s c.1, smulV2 s c.2)) := by
  rw [choice_unfold, choice_unfold, shifted_smul, infNorm2_smul s hs, infNorm2_smul s hs, identThreshold_smul,
    colA_smul, colB_smul, colA_smul, colB_smul, pickColumn_smul s hs, pickColumn_smul s hs,
    apply_ite (Option.map _)]
  simp only [mul_le_mul_iff_right₀ hs, Option.map_none, Option.map_some]

theorem eigenVectors2d_smul (eps s : ℝ) (hs : 0 < s) (A : M2 ℝ) (l0 l1 : ℝ) :
    eigenVectors2d Real.sqrt eps (smul2 s A) (s * l0) (s * l1) = eigenVectors2d Real.sqrt eps A l0 l1 := by
  unfold eigenVectors2d
  rw [choice_smul eps s hs]
  cases eigenVectorChoice2d eps A l0 l1 with
  | none => rfl
  | some c =>
    obtain ⟨c0, c1⟩ := c
    simp only [Option.map_some, normalize2_smul s hs]

/-! ### Cayley–Hamilton: the columns of `A - l₁ I` are orthogonal to those of `A - l₀ I`, hence eigenvectors for `l₀` -/

def Vieta (A : M2 ℝ) (l0 l1 : ℝ) : Prop := l0 + l1 = A.a00 + A.a11 ∧ l0 * l1 = A.a00 * A.a11 - A.a01 * A.a01

theorem vieta_of_closed_form (A : M2 ℝ) (hs : Sym2 A) : Vieta A (closed0 A) (closed1 A) := by
  have hsq : Real.sqrt (disc2 A) * Real.sqrt (disc2 A) = disc2 A := Real.mul_self_sqrt (disc2_nonneg A hs)
  refine ⟨closed_trace A, ?_⟩
  unfold closed0 closed1
  have : disc2 A = ((A.a00 - A.a11) / 2) ^ 2 + A.a01 * A.a01 := by unfold disc2; rw [hs]
  linear_combination (-1 : ℝ) * hsq + (-1 : ℝ) * this

theorem vieta_swap (A : M2 ℝ) (l0 l1 : ℝ) (hv : Vieta A l0 l1) : Vieta A l1 l0 := by
  obtain ⟨h1, h2⟩ := hv
  exact ⟨(add_comm _ _).trans h1, (mul_comm _ _).trans h2⟩

theorem vieta_root (A : M2 ℝ) (hs : Sym2 A) (l0 l1 : ℝ) (hv : Vieta A l0 l1) : charPoly2 A l0 = 0 := by
  unfold charPoly2
  rw [hs]
  linear_combination l0 * hv.1 - hv.2

theorem closed_roots (A : M2 ℝ) (hs : Sym2 A) : charPoly2 A (closed0 A) = 0 ∧ charPoly2 A (closed1 A) = 0 :=
  ⟨vieta_root _ hs _ _ (vieta_of_closed_form A hs), vieta_root _ hs _ _ (vieta_swap _ _ _ (vieta_of_closed_form A hs))⟩

theorem cols_orthogonal (A : M2 ℝ) (hs : Sym2 A) (l0 l1 : ℝ) (hv : Vieta A l0 l1)
    (u w : V2 ℝ) (hu : u = colA A l1 ∨ u = colB A l1) (hw : w = colA A l0 ∨ w = colB A l0) : dot2 u w = 0 := by
  obtain ⟨h1, h2⟩ := hv
  unfold Sym2 at hs
  rcases hu with rfl | rfl <;> rcases hw with rfl | rfl <;> simp only [dot2, colA, colB, hs]
  · linear_combination (1 : ℝ) * h2 + (-A.a00) * h1
  · linear_combination (-A.a01) * h1
  · linear_combination (-A.a01) * h1
  · linear_combination (1 : ℝ) * h2 + (-A.a11) * h1

/-- for symmetric `A` the components of `(A - l I) c` are the scalar products of `c` with the columns of `A - l I`; so
the orthogonality above also says that a column of `A - l₁ I` is an eigenvector for `l₀` -/
theorem eigen_of_orthogonal (A : M2 ℝ) (hs : Sym2 A) (l : ℝ) (c : V2 ℝ) (ha : dot2 c (colA A l) = 0)
    (hb : dot2 c (colB A l) = 0) : mulVec2 A c = smulV2 l c := by
  unfold dot2 colA at ha
  unfold dot2 colB at hb
  unfold mulVec2 smulV2
  rw [hs] at ha ⊢
  simp only [V2.mk.injEq]
  exact ⟨by linear_combination ha, by linear_combination hb⟩

theorem pick_mem (e0 e1 : V2 ℝ) : pickColumn e0 e1 = e0 ∨ pickColumn e0 e1 = e1 := by
  rcases pickColumn_cases e0 e1 with h | h
  · exact Or.inl h.1
  · exact Or.inr h.1

/-- the chosen column is a longest one: if it vanishes, both do -/
theorem pick_zero (e0 e1 : V2 ℝ) (h : norm2 (pickColumn e0 e1) = 0) : e0.x = 0 ∧ e1.x = 0 ∧ e0.y = 0 ∧ e1.y = 0 := by
  have h01 : norm2 e0 = 0 ∧ norm2 e1 = 0 := by
    rcases pickColumn_cases e0 e1 with ⟨he, hle⟩ | ⟨he, hlt⟩
    · rw [he] at h
      exact ⟨h, le_antisymm (h ▸ hle) (norm2_nonneg e1)⟩
    · rw [he] at h
      exact ⟨le_antisymm (h ▸ hlt.le) (norm2_nonneg e0), h⟩
  obtain ⟨x0, y0⟩ := norm2_eq_zero h01.1
  obtain ⟨x1, y1⟩ := norm2_eq_zero h01.2
  exact ⟨x0, x1, y0, y1⟩

/-- in the general branch the chosen columns are non-zero: otherwise `A - l₀ I = 0` (for `l₁` by the trace), and the
identity branch would have been taken -/
theorem general_branch_nonzero (eps : ℝ) (he : 0 ≤ eps) (A : M2 ℝ) (l0 l1 : ℝ) (ht : l0 + l1 = A.a00 + A.a11)
    (hb : ¬ infNorm2 (shifted A l0) ≤ Gen.ev2_identThreshold eps (infNorm2 A)) :
    norm2 (pickColumn (colA A l1) (colB A l1)) ≠ 0 ∧ norm2 (pickColumn (colA A l0) (colB A l0)) ≠ 0 := by
  have hz : norm2 (pickColumn (colA A l0) (colB A l0)) ≠ 0 := fun h =>
    hb (by rw [infNorm2_eq_zero (shifted A l0) (pick_zero _ _ h)]; exact identThreshold_nonneg eps _ he (infNorm2_nonneg A))
  refine ⟨fun h => ?_, hz⟩
  obtain ⟨h00, -, -, h11⟩ : A.a00 - l1 = 0 ∧ A.a01 = 0 ∧ A.a10 = 0 ∧ A.a11 - l1 = 0 := pick_zero _ _ h
  obtain rfl : l0 = l1 := by linear_combination ht + h00 + h11
  exact hz h

theorem dot2_comm (u w : V2 ℝ) : dot2 u w = dot2 w u := by
  unfold dot2
  ring

theorem dot2_smulV2 (k : ℝ) (c w : V2 ℝ) : dot2 (smulV2 k c) w = k * dot2 c w := by
  unfold dot2 smulV2
  ring

theorem dot2_normalize (c w : V2 ℝ) (h : dot2 c w = 0) : dot2 (normalize2 Real.sqrt c) w = 0 := by
  rw [normalize2_eq_smulV2, dot2_smulV2, h, mul_zero]

theorem general_branch_correct (eps : ℝ) (he : 0 ≤ eps) (A : M2 ℝ) (hs : Sym2 A) (l0 l1 : ℝ) (hv : Vieta A l0 l1)
    (hc : eigenVectorChoice2d eps A l0 l1 ≠ none) :
    let v := eigenVectors2d Real.sqrt eps A l0 l1
    mulVec2 A v.1 = smulV2 l0 v.1 ∧ mulVec2 A v.2 = smulV2 l1 v.2 ∧
      norm2 v.1 = 1 ∧ norm2 v.2 = 1 ∧ dot2 v.1 v.2 = 0 := by
  have hb : ¬ infNorm2 (shifted A l0) ≤ Gen.ev2_identThreshold eps (infNorm2 A) := fun hb =>
    hc (by rw [choice_unfold, if_pos hb])
  obtain ⟨hn0, hn1⟩ := general_branch_nonzero eps he A l0 l1 hv.1 hb
  -- each returned vector is orthogonal to both columns of the other shifted matrix; the eigen equations and the
  -- orthogonality of the pair are read off from that
  have o0 := fun w hw => dot2_normalize _ w (cols_orthogonal A hs l0 l1 hv _ w (pick_mem _ _) hw)
  have o1 := fun w hw => dot2_normalize _ w (cols_orthogonal A hs l1 l0 (vieta_swap A l0 l1 hv) _ w (pick_mem _ _) hw)
  show _ ∧ _
  unfold eigenVectors2d
  rw [choice_unfold, if_neg hb]
  exact ⟨eigen_of_orthogonal A hs l0 _ (o0 _ (Or.inl rfl)) (o0 _ (Or.inr rfl)),
    eigen_of_orthogonal A hs l1 _ (o1 _ (Or.inl rfl)) (o1 _ (Or.inr rfl)), normalize2_unit _ hn0,
    normalize2_unit _ hn1, dot2_normalize _ _ ((dot2_comm _ _).trans (o1 _ (pick_mem _ _)))⟩

theorem ident_branch_correct (eps : ℝ) (A : M2 ℝ) (l0 l1 : ℝ) (ht : l0 + l1 = A.a00 + A.a11)
    (hc : eigenVectorChoice2d eps A l0 l1 = none) :
    let v := eigenVectors2d Real.sqrt eps A l0 l1
    let thr : ℝ := Gen.ev2_identThreshold eps (infNorm2 A)
    let r0 := mulVec2 (shifted A l0) v.1
    let r1 := mulVec2 (shifted A l1) v.2
    norm2 v.1 = 1 ∧ norm2 v.2 = 1 ∧ dot2 v.1 v.2 = 0 ∧
      |r0.x| ≤ thr ∧ |r0.y| ≤ thr ∧ |r1.x| ≤ thr ∧ |r1.y| ≤ thr := by
  have hb : infNorm2 (shifted A l0) ≤ Gen.ev2_identThreshold eps (infNorm2 A) := by
    by_contra hb
    rw [choice_unfold, if_neg hb] at hc
    cases hc
  have hv1 : eigenVectors2d Real.sqrt eps A l0 l1 = (⟨1, 0⟩, ⟨0, 1⟩) := by
    unfold eigenVectors2d
    rw [hc]
    simp only [one, zero, Nat.cast_one, Nat.cast_zero]
  obtain ⟨b00, b01, b10, -⟩ := abs_le_infNorm2 (shifted A l0)
  -- the residuals are the first column of `A - l₀ I` and the second of `A - l₁ I`, and `a₁₁ - l₁ = -(a₀₀ - l₀)`
  have e1 : A.a11 - l1 = -(A.a00 - l0) := by linear_combination -ht
  simp only [hv1, norm2_eq, dot2, mulVec2, shifted, mul_one, mul_zero, add_zero, zero_add, true_and]
  rw [e1, abs_neg]
  exact ⟨b00.trans hb, b10.trans hb, b01.trans hb, b00.trans hb⟩

/-- `scaledMatrix = matrix / maxAbsElement`: what the entry points hand to the closed form -/
noncomputable def scaled2 (A : M2 ℝ) : M2 ℝ := sdiv2 A (preScale2 A)

theorem preScale2_eq (A : M2 ℝ) : preScale2 A = maxAbsElement2 A := by
  unfold preScale2
  simp only [Gen.ev2_preconditioned, if_true]

theorem maxAbsElement2_pos (A : M2 ℝ) : 0 < maxAbsElement2 A := by
  unfold maxAbsElement2 zero one
  simp only [Nat.cast_zero, Nat.cast_one]
  split_ifs with h
  · exact h
  · exact one_pos

theorem preScale2_pos (A : M2 ℝ) : 0 < preScale2 A := by
  rw [preScale2_eq]; exact maxAbsElement2_pos A

theorem maxAbsElement2_smul (s : ℝ) (hs : 0 < s) (A : M2 ℝ) (hA : 0 < infNorm2 A) :
    maxAbsElement2 (smul2 s A) = s * maxAbsElement2 A := by
  unfold maxAbsElement2 zero
  simp only [Nat.cast_zero]
  rw [infNorm2_smul s hs, if_pos hA, if_pos (mul_pos hs hA)]

theorem sdiv2_smul (s m : ℝ) (hs : s ≠ 0) (A : M2 ℝ) : sdiv2 (smul2 s A) (s * m) = sdiv2 A m := by
  unfold sdiv2 smul2
  simp only [mul_div_mul_left _ _ hs]

theorem sdiv2_sym (A : M2 ℝ) (m : ℝ) (hs : Sym2 A) : Sym2 (sdiv2 A m) := by
  unfold Sym2 sdiv2 at *
  simp only
  rw [hs]

theorem scaled2_sym (A : M2 ℝ) (hs : Sym2 A) : Sym2 (scaled2 A) := sdiv2_sym A _ hs

def zeroM2 : M2 ℝ := ⟨0, 0, 0, 0⟩

theorem entries_zero_of_infNorm2 (A : M2 ℝ) (h : infNorm2 A = 0) : A = zeroM2 := by
  obtain ⟨h0, h1, h2, h3⟩ := abs_le_infNorm2 A
  rw [h] at h0 h1 h2 h3
  cases A
  simp only [zeroM2, M2.mk.injEq]
  exact ⟨abs_nonpos_iff.mp h0, abs_nonpos_iff.mp h1, abs_nonpos_iff.mp h2, abs_nonpos_iff.mp h3⟩

theorem smul2_zeroM2 (s : ℝ) : smul2 s zeroM2 = zeroM2 := by
  unfold smul2 zeroM2
  simp only [mul_zero]

theorem scaled2_smul (s : ℝ) (hs : 0 < s) (A : M2 ℝ) (hA : 0 < infNorm2 A) :
    scaled2 (smul2 s A) = scaled2 A ∧ preScale2 (smul2 s A) = s * preScale2 A := by
  unfold scaled2
  rw [preScale2_eq, preScale2_eq, maxAbsElement2_smul s hs A hA, sdiv2_smul s _ hs.ne']
  exact ⟨rfl, rfl⟩

/-- the un-scaling lemmas below are ring identities about `smul2` read through this equation -/
theorem smul2_sdiv2 (A : M2 ℝ) (m : ℝ) (hm : m ≠ 0) : smul2 m (sdiv2 A m) = A := by
  unfold smul2 sdiv2
  simp only [mul_div_cancel₀ _ hm]

theorem charPoly2_smul2 (B : M2 ℝ) (m l : ℝ) : charPoly2 (smul2 m B) (l * m) = m ^ 2 * charPoly2 B l := by
  unfold charPoly2 smul2
  ring

theorem mulVec2_smul2 (B : M2 ℝ) (m : ℝ) (v : V2 ℝ) : mulVec2 (smul2 m B) v = smulV2 m (mulVec2 B v) := by
  unfold mulVec2 smul2 smulV2
  simp only [V2.mk.injEq]
  constructor <;> ring

theorem charPoly2_unscale (A : M2 ℝ) (m l : ℝ) (hm : m ≠ 0) (h : charPoly2 (sdiv2 A m) l = 0) :
    charPoly2 A (l * m) = 0 := by
  rw [← smul2_sdiv2 A m hm, charPoly2_smul2, h, mul_zero]

theorem mulVec2_unscale (A : M2 ℝ) (m l : ℝ) (hm : m ≠ 0) (v : V2 ℝ)
    (h : mulVec2 (sdiv2 A m) v = smulV2 l v) : mulVec2 A v = smulV2 (l * m) v := by
  rw [← smul2_sdiv2 A m hm, mulVec2_smul2, h]
  unfold smulV2
  simp only [V2.mk.injEq]
  constructor <;> ring

theorem eigenValues2x2_eq (A : M2 ℝ) (hs : Sym2 A) :
    eigenValues2x2 Real.sqrt A = .ok (closed0 (scaled2 A) * preScale2 A, closed1 (scaled2 A) * preScale2 A) := by
  have h := eigenValues2d_sym (scaled2 A) (scaled2_sym A hs)
  unfold eigenValues2x2
  unfold scaled2 at h
  simp only [h]
  rfl

theorem eigenValuesVectors2x2_ok (eps : ℝ) (A : M2 ℝ) (hs : Sym2 A) :
    eigenValuesVectors2x2 Real.sqrt eps A =
      .ok ((closed0 (scaled2 A) * preScale2 A, closed1 (scaled2 A) * preScale2 A),
        eigenVectors2d Real.sqrt eps (scaled2 A) (closed0 (scaled2 A)) (closed1 (scaled2 A))) := by
  have h := eigenValues2d_sym (scaled2 A) (scaled2_sym A hs)
  unfold eigenValuesVectors2x2 eigenValuesVectors2d
  unfold scaled2 at h
  simp only [h]
  rfl

theorem scaled2_trace (A : M2 ℝ) : ((scaled2 A).a00 + (scaled2 A).a11) * preScale2 A = A.a00 + A.a11 := by
  unfold scaled2 sdiv2
  simp only
  rw [← add_div, div_mul_cancel₀ _ (preScale2_pos A).ne']

theorem scaled2_zeroM2 : scaled2 zeroM2 = zeroM2 := by
  unfold scaled2 sdiv2 zeroM2
  simp only [zero_div]

theorem closed_zeroM2 : closed0 zeroM2 = 0 ∧ closed1 zeroM2 = 0 := by
  have hd : disc2 zeroM2 = 0 := by unfold disc2 zeroM2; norm_num
  unfold closed0 closed1
  rw [hd, Real.sqrt_zero]
  unfold zeroM2
  norm_num

theorem mulVec2_shifted_unscale (A : M2 ℝ) (m l : ℝ) (hm : m ≠ 0) (v : V2 ℝ) :
    mulVec2 (shifted A (l * m)) v =
      ⟨m * (mulVec2 (shifted (sdiv2 A m) l) v).x, m * (mulVec2 (shifted (sdiv2 A m) l) v).y⟩ := by
  have h := mulVec2_smul2 (shifted (sdiv2 A m) l) m v
  rw [← shifted_smul, smul2_sdiv2 A m hm, mul_comm] at h
  exact h

end DV.C08
