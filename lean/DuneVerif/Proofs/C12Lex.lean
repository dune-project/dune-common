/-
C12 — the typed-retrieval lexers (`Parser<T>::parse`, model section 6): complete characterisation of the
integer extraction, of `Parser<int-like>::parse`, of the fixed-size ranges, of `bool`, `vector`, `bitset`,
and the round trip through the canonical decimal text.
-/
import DuneVerif.Proofs.C12Str

namespace DV.C12

def AllSpace (s : Str) : Prop := ∀ c ∈ s, isSpaceC c = true
def AllDig (s : Str) : Prop := ∀ c ∈ s, isDig c = true
def SignOK (sign : Str) : Prop := sign = [] ∨ sign = ['+'] ∨ sign = ['-']
/-- the unread text does not start with a digit -/
def NoDigHead (rest : Str) : Prop := ∀ c, rest.head? = some c → isDig c = false

/-- the value the integer type `ty` assigns to the literal `sign digs` -/
def IntTy.denotes (ty : IntTy) (sign digs : Str) (v : Int) : Prop :=
  if ty.signed then
    v = (if sign = ['-'] then -(digitsVal digs : Int) else (digitsVal digs : Int)) ∧ ty.lo ≤ v ∧ v ≤ ty.hi
  else (digitsVal digs : Int) ≤ ty.hi ∧
       v = (if sign = ['-'] then (((2 ^ ty.bits - digitsVal digs) % 2 ^ ty.bits : Nat) : Int)
            else (digitsVal digs : Int))

theorem head?_dropWhile_not {α} (p : α → Bool) (l : List α) (c : α) (h : (l.dropWhile p).head? = some c) :
    p c = false := by
  have := List.head?_dropWhile_not p l
  rwa [h] at this

theorem mem_takeWhile_pos {α} (p : α → Bool) (l : List α) (c : α) (h : c ∈ l.takeWhile p) : p c = true :=
  List.all_eq_true.mp List.all_takeWhile c h

theorem takeWhile_append_stop {α} {p : α → Bool} {w rest : List α} (hw : ∀ c ∈ w, p c = true)
    (hr : ∀ c, rest.head? = some c → p c = false) : (w ++ rest).takeWhile p = w := by
  rw [List.takeWhile_append_of_pos hw]
  cases rest with
  | nil => simp
  | cons c r => simp [List.takeWhile_cons_of_neg (Bool.not_eq_true _ ▸ hr c rfl)]

theorem dropWhile_append_stop {α} {p : α → Bool} {w rest : List α} (hw : ∀ c ∈ w, p c = true)
    (hr : ∀ c, rest.head? = some c → p c = false) : (w ++ rest).dropWhile p = rest := by
  rw [List.dropWhile_append_of_pos hw]
  cases rest with
  | nil => simp
  | cons c r => exact List.dropWhile_cons_of_neg (Bool.not_eq_true _ ▸ hr c rfl)

theorem isSpaceC_of_isDig {c : Char} (h : isDig c = true) : isSpaceC c = false := by
  cases hs : isSpaceC c with
  | false => rfl
  | true =>
    simp [isSpaceC] at hs
    rcases hs with ((((h1 | h1) | h1) | h1) | h1) | h1 <;> subst h1 <;> exact absurd h (by decide)

theorem isDig_of_isSpaceC {c : Char} (h : isSpaceC c = true) : isDig c = false := by
  cases hd : isDig c with
  | false => rfl
  | true => rw [isSpaceC_of_isDig hd] at h; cases h

theorem not_sign_of_isDig {c : Char} (h : isDig c = true) : c ≠ '-' ∧ c ≠ '+' :=
  ⟨fun e => by subst e; exact absurd h (by decide), fun e => by subst e; exact absurd h (by decide)⟩

theorem allSpace_nil : AllSpace [] := by intro c hc; cases hc
theorem allDig_nil : AllDig [] := by intro c hc; cases hc

theorem noDigHead_nil : NoDigHead [] := by intro c hc; simp at hc

theorem noDigHead_of_allSpace {s : Str} (h : AllSpace s) : NoDigHead s :=
  fun c hc => isDig_of_isSpaceC (h c (List.mem_of_head? hc))

theorem skipWs_append_of_allSpace {pre x : Str} (h : AllSpace pre) : skipWs (pre ++ x) = skipWs x := by
  unfold skipWs
  exact List.dropWhile_append_of_pos h

theorem skipWs_cons_of_not_space {c : Char} {s : Str} (h : isSpaceC c = false) : skipWs (c :: s) = c :: s := by
  unfold skipWs
  exact List.dropWhile_cons_of_neg (by simp [h])

theorem skipWs_split (s : Str) :
    ∃ pre, AllSpace pre ∧ s = pre ++ skipWs s ∧ ∀ c, (skipWs s).head? = some c → isSpaceC c = false :=
  ⟨s.takeWhile isSpaceC, mem_takeWhile_pos isSpaceC s, List.takeWhile_append_dropWhile.symm, head?_dropWhile_not isSpaceC s⟩

theorem skipWs_eq_nil_iff (s : Str) : skipWs s = [] ↔ AllSpace s := by
  constructor
  · intro h
    obtain ⟨pre, hpre, hs, _⟩ := skipWs_split s
    rw [h, List.append_nil] at hs
    exact hs ▸ hpre
  · intro h
    have := skipWs_append_of_allSpace (x := []) h
    rwa [List.append_nil] at this

theorem digs_split (s2 : Str) :
    AllDig (s2.takeWhile isDig) ∧ NoDigHead (s2.dropWhile isDig) ∧
      s2 = s2.takeWhile isDig ++ s2.dropWhile isDig :=
  ⟨fun c hc => mem_takeWhile_pos isDig s2 c hc, fun c hc => head?_dropWhile_not isDig s2 c hc,
    List.takeWhile_append_dropWhile.symm⟩

/-- the optional sign: was it a minus, and what follows -/
def signSplit (s1 : Str) : Bool × Str :=
  (s1.head? == some '-', if s1.head? == some '-' || s1.head? == some '+' then s1.drop 1 else s1)

theorem signSplit_nil : signSplit [] = (false, []) := rfl
theorem signSplit_minus (t : Str) : signSplit ('-' :: t) = (true, t) := rfl
theorem signSplit_plus (t : Str) : signSplit ('+' :: t) = (false, t) := rfl
theorem signSplit_other {c : Char} (t : Str) (h1 : c ≠ '-') (h2 : c ≠ '+') :
    signSplit (c :: t) = (false, c :: t) := by simp [signSplit, h1, h2]

theorem signSplit_spec (s1 : Str) :
    ∃ sign, SignOK sign ∧ s1 = sign ++ (signSplit s1).2 ∧ ((signSplit s1).1 = true ↔ sign = ['-']) := by
  cases s1 with
  | nil => exact ⟨[], Or.inl rfl, by simp [signSplit_nil], by simp [signSplit_nil]⟩
  | cons c t =>
    by_cases h1 : c = '-'
    · subst h1
      exact ⟨['-'], Or.inr (Or.inr rfl), by simp [signSplit_minus], by simp [signSplit_minus]⟩
    · by_cases h2 : c = '+'
      · subst h2
        exact ⟨['+'], Or.inr (Or.inl rfl), by simp [signSplit_plus], by simp [signSplit_plus]⟩
      · exact ⟨[], Or.inl rfl, by simp [signSplit_other t h1 h2], by simp [signSplit_other t h1 h2]⟩

theorem signSplit_sign_body {sign R : Str} (hs : SignOK sign)
    (hR : ∀ c, R.head? = some c → c ≠ '-' ∧ c ≠ '+') : signSplit (sign ++ R) = (decide (sign = ['-']), R) := by
  rcases hs with rfl | rfl | rfl
  · cases R with
    | nil => simp [signSplit_nil]
    | cons c t =>
      obtain ⟨h1, h2⟩ := hR c rfl
      simp [signSplit_other t h1 h2]
  · simp [signSplit_plus]
  · simp [signSplit_minus]

theorem skipWs_body {pre R : Str} (hpre : AllSpace pre) (hR : ∀ c, R.head? = some c → isSpaceC c = false) :
    skipWs (pre ++ R) = R :=
  dropWhile_append_stop hpre hR

theorem head_cons {P : Char → Prop} {x : Char} {R : Str} (h : P x) : ∀ c, (x :: R).head? = some c → P c :=
  fun _ hc => Option.some.inj hc ▸ h

theorem head_sign_not_space {sign X : Str} (hs : SignOK sign) (hX : ∀ c, X.head? = some c → isSpaceC c = false) :
    ∀ c, (sign ++ X).head? = some c → isSpaceC c = false := by
  rcases hs with rfl | rfl | rfl
  · exact hX
  · exact head_cons (by decide)
  · exact head_cons (by decide)

theorem head_digs {digs rest : Str} (hne : digs ≠ []) (hd : AllDig digs) :
    ∀ c, (digs ++ rest).head? = some c → isDig c = true := by
  cases digs with
  | nil => exact absurd rfl hne
  | cons d ds => exact head_cons (hd d List.mem_cons_self)

/-- `extractInt` in terms of what its stages produce: blanks skipped, sign split off, digits spanned -/
theorem extractInt_of_stages {ty : IntTy} {s s1 s2 sign digs rest rest' : Str} {neg : Bool} {v : Int}
    (h1 : skipWs s = s1) (h2 : signSplit s1 = (neg, s2)) (h3 : s2.takeWhile isDig = digs)
    (h4 : s2.dropWhile isDig = rest) (hs : neg = true ↔ sign = ['-']) :
    extractInt ty s = some (v, rest') ↔ digs ≠ [] ∧ rest' = rest ∧ ty.denotes sign digs v := by
  obtain ⟨rfl, rfl⟩ := Prod.mk.inj h2
  subst h1 h3 h4
  unfold extractInt IntTy.denotes
  -- the sign text matters only through `neg` (`← hs`); every test of `extractInt` guards a `none`
  cases ty.signed with
  | true =>
    simp only [← hs, if_true, Option.ite_none_left_eq_some, Option.ite_none_right_eq_some, Option.some.injEq, Prod.mk.injEq]
    constructor
    · rintro ⟨hd, hr, rfl, rfl⟩; exact ⟨hd, rfl, rfl, hr⟩
    · rintro ⟨hd, rfl, rfl, hr⟩; exact ⟨hd, hr, rfl, rfl⟩
  | false =>
    simp only [← hs, Bool.false_eq_true, if_false, Option.ite_none_left_eq_some, Option.some.injEq, Prod.mk.injEq,
      Int.not_lt, gt_iff_lt]
    constructor
    · rintro ⟨hd, hr, rfl, rfl⟩; exact ⟨hd, rfl, hr, rfl⟩
    · rintro ⟨hd, rfl, hr, rfl⟩; exact ⟨hd, hr, rfl, rfl⟩

theorem extractInt_iff (ty : IntTy) (s rest : Str) (v : Int) :
    extractInt ty s = some (v, rest) ↔
      ∃ pre sign digs, s = pre ++ sign ++ digs ++ rest ∧ AllSpace pre ∧ SignOK sign ∧ digs ≠ [] ∧ AllDig digs ∧
        NoDigHead rest ∧ ty.denotes sign digs v := by
  constructor
  · intro h
    obtain ⟨pre, hpre, hs, _⟩ := skipWs_split s
    obtain ⟨sign, hsign, hs1, hneg⟩ := signSplit_spec (skipWs s)
    obtain ⟨hdig, hrest, hs2⟩ := digs_split (signSplit (skipWs s)).2
    obtain ⟨hne, rfl, hden⟩ := (extractInt_of_stages (s2 := (signSplit (skipWs s)).2) rfl rfl rfl rfl hneg).mp h
    refine ⟨pre, sign, _, ?_, hpre, hsign, hne, hdig, hrest, hden⟩
    rw [List.append_assoc, List.append_assoc, ← hs2, ← hs1]
    exact hs
  · rintro ⟨pre, sign, digs, rfl, hpre, hsign, hne, hdig, hrest, hden⟩
    have hD := head_digs (rest := rest) hne hdig
    rw [List.append_assoc, List.append_assoc]
    exact (extractInt_of_stages
      (skipWs_body hpre (head_sign_not_space hsign fun c hc => isSpaceC_of_isDig (hD c hc)))
      (signSplit_sign_body hsign fun c hc => not_sign_of_isDig (hD c hc))
      (takeWhile_append_stop hdig hrest) (dropWhile_append_stop hdig hrest) (by simp)).mpr ⟨hne, rfl, hden⟩

theorem parseScalar_eq_some {α} (ex : Str → Option (α × Str)) (s : Str) (v : α) :
    parseScalar ex s = some v ↔ ∃ rest, ex s = some (v, rest) ∧ AllSpace rest := by
  unfold parseScalar
  rcases ex s with _ | ⟨w, rest⟩
  · simp
  · simp [skipWs_eq_nil_iff, and_assoc, and_comm]

/-- `Parser<T>::parse` for integers accepts exactly  blanks [sign] digits blanks  with the value in range -/
theorem parseInt_iff (ty : IntTy) (s : Str) (v : Int) :
    parseInt ty s = some v ↔
      ∃ pre sign digs post, s = pre ++ sign ++ digs ++ post ∧ AllSpace pre ∧ AllSpace post ∧ SignOK sign ∧
        digs ≠ [] ∧ AllDig digs ∧ ty.denotes sign digs v := by
  unfold parseInt
  rw [parseScalar_eq_some]
  constructor
  · rintro ⟨rest, h, hrest⟩
    obtain ⟨pre, sign, digs, hs, hpre, hsign, hne, hdig, _, hden⟩ := (extractInt_iff ty s rest v).mp h
    exact ⟨pre, sign, digs, rest, hs, hpre, hrest, hsign, hne, hdig, hden⟩
  · rintro ⟨pre, sign, digs, post, hs, hpre, hpost, hsign, hne, hdig, hden⟩
    exact ⟨post, (extractInt_iff ty s post v).mpr
      ⟨pre, sign, digs, hs, hpre, hsign, hne, hdig, noDigHead_of_allSpace hpost, hden⟩, hpost⟩

theorem digitChar_spec : ∀ d : Fin 10, isDig (digitChar d) = true ∧ (digitChar d).toNat - 48 = d := by decide

theorem digitChar_isDig {d : Nat} (h : d < 10) : isDig (digitChar d) = true := (digitChar_spec ⟨d, h⟩).1
theorem digitChar_val {d : Nat} (h : d < 10) : (digitChar d).toNat - 48 = d := (digitChar_spec ⟨d, h⟩).2

theorem showNat_lt {n : Nat} (h : n < 10) : showNat n = [digitChar n] := by
  rw [showNat]; simp [h]

theorem showNat_ge {n : Nat} (h : ¬ n < 10) : showNat n = showNat (n / 10) ++ [digitChar (n % 10)] := by
  rw [showNat]; simp [h]

theorem showNat_ne_nil (n : Nat) : showNat n ≠ [] := by
  by_cases h : n < 10
  · rw [showNat_lt h]; simp
  · rw [showNat_ge h]; simp

theorem showNat_allDig (n : Nat) : AllDig (showNat n) := by
  fun_induction showNat n with
  | case1 n h =>
    intro c hc
    rw [List.mem_singleton.mp hc]
    exact digitChar_isDig h
  | case2 n h ih =>
    intro c hc
    rcases List.mem_append.mp hc with hc | hc
    · exact ih c hc
    · rw [List.mem_singleton.mp hc]
      exact digitChar_isDig (Nat.mod_lt n (by decide))

theorem digitsVal_concat (xs : Str) (c : Char) : digitsVal (xs ++ [c]) = digitsVal xs * 10 + (c.toNat - 48) := by
  rw [digitsVal, List.foldl_append]; rfl

theorem digitsVal_showNat (n : Nat) : digitsVal (showNat n) = n := by
  fun_induction showNat n with
  | case1 n h =>
    rw [← List.nil_append [digitChar n], digitsVal_concat, digitChar_val h]
    exact Nat.zero_add n
  | case2 n h ih => rw [digitsVal_concat, ih, digitChar_val (Nat.mod_lt n (by decide)), Nat.div_add_mod']

theorem showInt_eq (i : Int) : showInt i = (if i < 0 then ['-'] else []) ++ showNat i.natAbs := by
  unfold showInt
  by_cases h : i < 0 <;> simp [h]

theorem denotes_showInt (ty : IntTy) (i : Int) (hlo : ty.lo ≤ i) (hhi : i ≤ ty.hi) :
    ty.denotes (if i < 0 then ['-'] else []) (showNat i.natAbs) i := by
  unfold IntTy.denotes
  rw [digitsVal_showNat]
  by_cases h : i < 0
  · -- only a signed type has room for a negative number
    have hs : ty.signed = true := by
      cases hsg : ty.signed with
      | true => rfl
      | false => rw [IntTy.lo, hsg] at hlo; exact absurd h (Int.not_lt.mpr hlo)
    rw [if_pos hs, if_pos h, if_pos rfl, Int.ofNat_natAbs_of_nonpos (Int.le_of_lt h), Int.neg_neg]
    exact ⟨rfl, hlo, hhi⟩
  · rw [if_neg h, if_neg (List.cons_ne_nil _ _).symm, if_neg (List.cons_ne_nil _ _).symm,
      Int.natAbs_of_nonneg (Int.not_lt.mp h)]
    split
    · exact ⟨rfl, hlo, hhi⟩
    · exact ⟨hhi, rfl⟩

theorem signOK_showInt (i : Int) : SignOK (if i < 0 then ['-'] else []) := by
  by_cases h : i < 0 <;> simp [h, SignOK]

theorem roundtrip_int (ty : IntTy) (i : Int) (hlo : ty.lo ≤ i) (hhi : i ≤ ty.hi)
    (pre post : Str) (hpre : AllSpace pre) (hpost : AllSpace post) :
    parseInt ty (pre ++ showInt i ++ post) = some i := by
  rw [parseInt_iff]
  refine ⟨pre, if i < 0 then ['-'] else [], showNat i.natAbs, post, ?_, hpre, hpost, signOK_showInt i, showNat_ne_nil _,
    showNat_allDig _, denotes_showInt ty i hlo hhi⟩
  rw [showInt_eq]; simp [List.append_assoc]

/-- the text is integer literals of the type `ty` with the values `vs`, one after the other, then only blanks:
    `Extracts (extractInt ty)` (`intItems_iff`) spelled out, for the statements of the property -/
inductive IntItems (ty : IntTy) : Str → List Int → Prop
  | nil {post : Str} : AllSpace post → IntItems ty post []
  | cons {pre sign digs rest : Str} {v : Int} {vs : List Int} :
      AllSpace pre → SignOK sign → digs ≠ [] → AllDig digs → NoDigHead rest → ty.denotes sign digs v →
      IntItems ty rest vs → IntItems ty (pre ++ sign ++ digs ++ rest) (v :: vs)

/-- anything but blanks after the last item is an error (the trailing test of fixes/C12_parserange.patch) -/
theorem parseRange_trailing {α} (ex : Str → Option (α × Str)) (s : Str) :
    parseRange ex 0 s = some [] ↔ AllSpace s := by
  rw [parseRange, Option.ite_none_right_eq_some, skipWs_eq_nil_iff]
  exact and_iff_left rfl

/-- the values the extractor `ex` takes off a text one after the other, nothing but blanks remaining: what
    `parseRange` reads, whatever the element type -/
inductive Extracts {α} (ex : Str → Option (α × Str)) : Str → List α → Prop
  | nil {post : Str} : AllSpace post → Extracts ex post []
  | cons {s rest : Str} {v : α} {vs : List α} : ex s = some (v, rest) → Extracts ex rest vs → Extracts ex s (v :: vs)

theorem parseRange_iff {α} (ex : Str → Option (α × Str)) (n : Nat) (s : Str) (vs : List α) :
    parseRange ex n s = some vs ↔ vs.length = n ∧ Extracts ex s vs := by
  constructor
  · intro h
    -- the branches of the model's recursion; in the three failing ones `h` is `none = some vs`
    fun_induction parseRange ex n s generalizing vs with
    | case1 s hs => cases h; exact ⟨rfl, .nil ((skipWs_eq_nil_iff s).mp hs)⟩
    | case5 n s v rest h1 vs' h2 ih =>
      cases h
      obtain ⟨rfl, h4⟩ := ih _ h2
      exact ⟨rfl, .cons h1 h4⟩
    | _ => cases h
  · rintro ⟨rfl, h⟩
    induction h with
    | nil h => exact (parseRange_trailing ex _).mpr h
    | cons h1 _ ih => simp only [List.length_cons, parseRange, h1, ih]

/-- a converted range never has the wrong number of items -/
theorem parseRange_length {α} (ex : Str → Option (α × Str)) (n : Nat) (s : Str) (vs : List α)
    (h : parseRange ex n s = some vs) : vs.length = n :=
  ((parseRange_iff ex n s vs).mp h).1

theorem intItems_iff (ty : IntTy) (s : Str) (vs : List Int) : IntItems ty s vs ↔ Extracts (extractInt ty) s vs := by
  constructor
  · intro h
    induction h with
    | nil h => exact .nil h
    | cons hpre hsign hne hdig hrest hden _ ih =>
      exact .cons ((extractInt_iff ty _ _ _).mpr ⟨_, _, _, rfl, hpre, hsign, hne, hdig, hrest, hden⟩) ih
  · intro h
    induction h with
    | nil h => exact .nil h
    | cons h1 _ ih =>
      obtain ⟨pre, sign, digs, rfl, hpre, hsign, hne, hdig, hrest, hden⟩ := (extractInt_iff ty _ _ _).mp h1
      exact .cons hpre hsign hne hdig hrest hden ih

theorem parseRange_int_iff (ty : IntTy) (n : Nat) (s : Str) (vs : List Int) :
    parseRange (extractInt ty) n s = some vs ↔ vs.length = n ∧ IntItems ty s vs := by
  rw [parseRange_iff, intItems_iff]

theorem bool_words_cases (s : Str) :
    ((s.map toLowerC = "yes".toList ∨ s.map toLowerC = "true".toList) → parseBool s = some true) ∧
    ((s.map toLowerC = "no".toList ∨ s.map toLowerC = "false".toList) → parseBool s = some false) ∧
    ((s.map toLowerC ≠ "yes".toList ∧ s.map toLowerC ≠ "true".toList ∧ s.map toLowerC ≠ "no".toList ∧
       s.map toLowerC ≠ "false".toList) → parseBool s = (parseInt tInt (s.map toLowerC)).map (· != 0)) := by
  refine ⟨?_, ?_, ?_⟩
  · intro h
    unfold parseBool
    rcases h with h | h <;> simp [h]
  · intro h
    unfold parseBool
    rcases h with h | h <;> rw [h] <;> simp
  · rintro ⟨h1, h2, h3, h4⟩
    simp only [parseBool, h1, h2, h3, h4, decide_false, Bool.or_false, Bool.false_eq_true, if_false]

theorem toLowerC_of_isDig {c : Char} (h : isDig c = true) : toLowerC c = c := by
  simp [isDig] at h
  unfold toLowerC
  have : ¬ (65 ≤ c.toNat ∧ c.toNat ≤ 90) := by omega
  simp [this]

theorem showInt_mem {i : Int} {c : Char} (h : c ∈ showInt i) : c = '-' ∨ isDig c = true := by
  rw [showInt_eq] at h
  simp only [List.mem_append] at h
  rcases h with h | h
  · by_cases hi : i < 0
    · simp [hi] at h; exact Or.inl h
    · simp [hi] at h
  · exact Or.inr (showNat_allDig _ c h)

theorem map_toLowerC_showInt (i : Int) : (showInt i).map toLowerC = showInt i := by
  have : ∀ c ∈ showInt i, toLowerC c = id c := fun c hc => by
    rcases showInt_mem hc with rfl | hx
    · decide
    · exact toLowerC_of_isDig hx
  rw [List.map_congr_left this, List.map_id]

theorem showInt_ne_word {i : Int} {w : Str} {c : Char} (hc : c ∈ w) (h1 : c ≠ '-') (h2 : isDig c = false) :
    showInt i ≠ w := by
  intro e
  rw [← e] at hc
  rcases showInt_mem hc with h | h
  · exact h1 h
  · rw [h2] at h; cases h

theorem bool_numeral (i : Int) (hlo : tInt.lo ≤ i) (hhi : i ≤ tInt.hi) : parseBool (showInt i) = some (i != 0) := by
  have h := (bool_words_cases (showInt i)).2.2
  rw [map_toLowerC_showInt] at h
  have hy : showInt i ≠ "yes".toList := showInt_ne_word (c := 'y') (by decide) (by decide) (by decide)
  have ht : showInt i ≠ "true".toList := showInt_ne_word (c := 't') (by decide) (by decide) (by decide)
  have hn : showInt i ≠ "no".toList := showInt_ne_word (c := 'n') (by decide) (by decide) (by decide)
  have hf : showInt i ≠ "false".toList := showInt_ne_word (c := 'f') (by decide) (by decide) (by decide)
  rw [h ⟨hy, ht, hn, hf⟩]
  have := roundtrip_int tInt i hlo hhi [] [] allSpace_nil allSpace_nil
  simp only [List.nil_append, List.append_nil] at this
  rw [this]
  rfl

/-- pointwise relation of two lists (core Lean has no `List.Forall₂`) -/
inductive Forall₂ {α β} (R : α → β → Prop) : List α → List β → Prop
  | nil : Forall₂ R [] []
  | cons {a b l₁ l₂} : R a b → Forall₂ R l₁ l₂ → Forall₂ R (a :: l₁) (b :: l₂)

theorem Forall₂.length_eq {α β} {R : α → β → Prop} {l₁ : List α} {l₂ : List β} (h : Forall₂ R l₁ l₂) :
    l₁.length = l₂.length := by
  induction h with
  | nil => rfl
  | cons _ _ ih => simp [ih]

theorem mapM_option_iff {α β} (p : α → Option β) (l : List α) (vs : List β) :
    l.mapM p = some vs ↔ Forall₂ (fun a b => p a = some b) l vs := by
  constructor
  · intro h
    induction l generalizing vs with
    | nil => cases h; exact .nil
    | cons a l ih =>
      rw [List.mapM_cons] at h
      obtain ⟨b, h1, h2⟩ := Option.bind_eq_some_iff.mp h
      obtain ⟨bs, h3, h4⟩ := Option.bind_eq_some_iff.mp h2
      cases h4
      exact .cons h1 (ih bs h3)
  · intro h
    induction h with
    | nil => rfl
    | cons h1 _ ih => rw [List.mapM_cons, h1, ih]; rfl

theorem parseVector_iff {α} (p : Str → Option α) (s : Str) (vs : List α) :
    parseVector p s = some vs ↔ Forall₂ (fun tok v => p tok = some v) (splitWs s) vs := by
  unfold parseVector
  exact mapM_option_iff p (splitWs s) vs

theorem parseBitset_iff (n : Nat) (s : Str) (bs : List Bool) :
    parseBitset n s = some bs ↔
      (splitWs s).length = n ∧ Forall₂ (fun tok b => parseBool tok = some b) (splitWs s) bs := by
  rw [parseBitset, Option.ite_none_left_eq_some, mapM_option_iff, bne_iff_ne, Decidable.not_not]

theorem parseBitset_length (n : Nat) (s : Str) (bs : List Bool) (h : parseBitset n s = some bs) :
    bs.length = n ∧ (splitWs s).length = n := by
  obtain ⟨hn, hm⟩ := (parseBitset_iff n s bs).mp h
  exact ⟨hm.length_eq ▸ hn, hn⟩

example : parseInt ⟨true, 32⟩ " -12 ".toList = some (-12) := by decide +kernel
example : parseInt ⟨true, 32⟩ "12x".toList = none := by decide +kernel
example : parseInt ⟨false, 8⟩ "-1".toList = some 255 := by decide +kernel
example : parseInt ⟨false, 8⟩ "256".toList = none := by decide +kernel
example : parseInt ⟨true, 8⟩ "-128".toList = some (-128) := by decide +kernel
example : parseInt ⟨true, 8⟩ "128".toList = none := by decide +kernel
example : parseRange (extractInt ⟨true, 32⟩) 2 "1 2 -".toList = none := by decide +kernel
example : parseRange (extractInt ⟨true, 32⟩) 2 "1 2 ".toList = some [1, 2] := by decide +kernel
example : parseRange (extractInt ⟨true, 32⟩) 2 "1 2 3".toList = none := by decide +kernel
example : parseRange (extractInt ⟨true, 32⟩) 2 "1".toList = none := by decide +kernel
example : parseBool "YES".toList = some true := by decide +kernel
example : parseBool "False".toList = some false := by decide +kernel
example : parseBool "2".toList = some true := by decide +kernel
example : parseBool "0".toList = some false := by decide +kernel
example : parseBool "maybe".toList = none := by decide +kernel
example : parseVector (parseInt tInt) "1  2\t3".toList = some [1, 2, 3] := by decide +kernel
example : parseBitset 3 "1 0 yes".toList = some [true, false, true] := by decide +kernel
example : parseBitset 3 "1 0".toList = none := by decide +kernel

end DV.C12
