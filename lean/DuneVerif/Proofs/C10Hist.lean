/-
C10: the generated tables mean what the specification says, and the extended
statement machine (`Model/C10Hist.lean`) refines the machine over natural numbers modulo W.  Core Lean only.
-/
import DuneVerif.Proofs.C10Prog

namespace DV.C10
open DV.C10.Gen

theorem mixedOk_all (s bl : Bool) (o : BinOp) : mixedOk s bl o = true := by
  revert s bl
  cases o <;> decide +kernel

/-- what `mixedOk_all` says of one entry of the table -/
theorem mixedBody_cases (s bl : Bool) (o : BinOp) :
    (isArith o = false ∧ mixedBody s bl o = none) ∨
    (isArith o = true ∧ ∃ b, mixedBody s bl o = some b ∧ b.op = o ∧ (b.bigLeft = bl ∨ o = .add ∨ o = .mul)) := by
  have hok := mixedOk_all s bl o
  unfold mixedOk at hok
  cases hm : mixedBody s bl o with
  | none => rw [hm] at hok; exact Or.inl ⟨by simpa using hok, rfl⟩
  | some b =>
    rw [hm] at hok
    simp only [Bool.and_eq_true, Bool.or_eq_true, beq_iff_eq, decide_eq_true_eq] at hok
    exact Or.inr ⟨hok.1.1, b, rfl, hok.1.2, or_assoc.1 hok.2⟩

theorem construct_signed_neg (n : Nat) (t : IntTy) (y : Int) (hs : t.signed = true) (hy : y < 0) :
    construct n t y = .negative := by
  simp [construct, hs, ofSigned, hy]

theorem construct_nonneg (n : Nat) (t : IntTy) (y : Int) (h0 : 0 ≤ y) :
    construct n t y = .ok (assign n y.toNat) := by
  rw [construct, ofSigned, if_neg (Int.not_lt.2 h0), ite_self]

theorem holds_bounds {t : IntTy} {y : Int} (h : t.holds y = true) :
    (y < 0 → t.signed = true) ∧ y.toNat < 2 ^ t.width := by
  have hp : 0 < 2 ^ t.width := Nat.pow_pos Nat.zero_lt_two
  unfold IntTy.holds at h
  split at h
  · next hs =>
    exact ⟨fun _ => hs, (Int.toNat_lt' hp).2 (Int.lt_of_lt_of_le (of_decide_eq_true h).2
      (Int.ofNat_le.2 (Nat.pow_le_pow_right Nat.zero_lt_two (Nat.sub_le _ _))))⟩
  · exact ⟨fun hy => absurd (of_decide_eq_true h).1 (Int.not_le.2 hy), (Int.toNat_lt' hp).2 (of_decide_eq_true h).2⟩

/-- conversion of a built-in operand of any admitted type: rejected iff negative (only a signed type has negative
    values), else `y mod W` -/
theorem construct_cases (n : Nat) {t : IntTy} {y : Int} (h : builtinOk t y = true) :
    (y < 0 → t.signed = true ∧ construct n t y = .negative) ∧
    (0 ≤ y → construct n t y = .ok (assign n y.toNat) ∧ Wf n (assign n y.toNat) ∧
      val (assign n y.toNat) = y.toNat % W n) := by
  simp only [builtinOk, Bool.and_eq_true, decide_eq_true_eq] at h
  obtain ⟨hs, hlt⟩ := holds_bounds h.2
  exact ⟨fun hneg => ⟨hs hneg, construct_signed_neg n t y (hs hneg) hneg⟩,
    fun h0 => ⟨construct_nonneg n t y h0,
      Rep.assign n (Nat.lt_of_lt_of_le hlt (Nat.pow_le_pow_right Nat.zero_lt_two h.1))⟩⟩

theorem ofRes_abs (res : Res) : (Obs.ofRes res).abs = SObs.ofOpt res.abs := by
  cases res <;> rfl

theorem Refines.obs {n : Nat} {m : Option (Regs × Res)} {s : Option (SRegs × Option Nat)}
    (h : Refines n Res.abs m s) :
    Refines n Obs.abs (m.map fun p => (p.1, Obs.ofRes p.2)) (s.map fun p => (p.1, SObs.ofOpt p.2)) := by
  obtain ⟨rfl, h2⟩ := h
  cases m with
  | none => exact refines_none
  | some p => exact ⟨congrArg (fun o => some (p.1.abs, o)) (ofRes_abs p.2), fun _ _ e => by cases e; exact h2 _ _ rfl⟩

theorem refines_commitObs {n : Nat} {r : Regs} (hr : WfRegs n r) (d : Reg) {res : Res} {spec : Option Nat}
    (h : ResOk n res spec) : Refines n Obs.abs (some (commitObs r d res)) (some (scommitObs r.abs d spec)) :=
  (refines_commit hr d h).obs

theorem specBin_comm (W : Nat) {o : BinOp} (h : o = .add ∨ o = .mul) (x y : Nat) : specBin W o x y = specBin W o y x := by
  rcases h with h | h <;> subst h
  · simp only [specBin, Nat.add_comm]
  · simp only [specBin, Nat.mul_comm]

/-- the body of a mixed operator, applied in its own operand order, meets the specification in the order of the call -/
theorem mixed_resOk {k : Nat} {o : BinOp} {b : MixedBody} {bl : Bool} (hop : b.op = o)
    (hside : b.bigLeft = bl ∨ o = .add ∨ o = .mul) {a c : List Nat} (ha : Wf (ndigits k) a)
    (hc : Wf (ndigits k) c) :
    ResOk (ndigits k) (if b.bigLeft then applyBin k b.op a c else applyBin k b.op c a)
      (if bl then specBin (W (ndigits k)) o (val a) (val c) else specBin (W (ndigits k)) o (val c) (val a)) := by
  subst hop
  have h1 := applyBin_spec (k := k) b.op ha hc
  have h2 := applyBin_spec (k := k) b.op hc ha
  rcases hside with rfl | hcomm
  · cases b.bigLeft
    · exact h2
    · exact h1
  · rw [specBin_comm _ hcomm (val c), ite_self]
    cases b.bigLeft
    · rw [specBin_comm _ hcomm]
      exact h2
    · exact h1

theorem step4_refines {k : Nat} {r : Regs} (hr : WfRegs (ndigits k) r) (s : Stmt) :
    Refines (ndigits k) Obs.abs (step4 k r s) (specStep4 (ndigits k) r.abs s) := by
  unfold step4 specStep4
  by_cases hv : s.valid (ndigits k) = true
  · simp only [hv, Bool.not_true, Bool.false_eq_true, if_false]
    cases s with
    | old op => exact (step_refines hr op).obs
    | mixed o d t y bl =>
      obtain ⟨hneg, hpos⟩ := construct_cases (ndigits k) (t := t) (y := y) hv
      rcases mixedBody_cases t.signed bl o with ⟨ha, hm⟩ | ⟨ha, b, hm, hop, hside⟩
      · simp only [hm, ha, Bool.not_false, if_true]
        exact refines_none
      · simp only [hm, ha, Bool.not_true, Bool.false_eq_true, if_false]
        by_cases hy : y < 0
        · simp only [(hneg hy).2, hy, if_true]
          exact refines_some hr _
        · obtain ⟨hc, hwf, hval⟩ := hpos (Int.not_lt.1 hy)
          simp only [hc, hy, if_false, abs_get, ← hval, ← W_eq]
          exact refines_commitObs hr d (mixed_resOk hop hside (hr.get d) hwf)
    | compound o d t y =>
      obtain ⟨hneg, hpos⟩ := construct_cases (ndigits k) (t := t) (y := y) hv
      by_cases hy : y < 0
      · simp only [(hneg hy).2, hy, if_true]
        exact refines_some hr _
      · obtain ⟨hc, hwf, hval⟩ := hpos (Int.not_lt.1 hy)
        simp only [hc, hy, if_false, abs_get, ← hval, ← W_eq]
        exact refines_commitObs hr d (applyBin_spec o (hr.get d) hwf)
    | cmp c x y =>
      simp only [abs_get, ← cmpEval_spec (hr.get x) (hr.get y) c]
      exact refines_some hr _
    | cmpB c x t y =>
      obtain ⟨hneg, hpos⟩ := construct_cases (ndigits k) (t := t) (y := y) hv
      by_cases hy : y < 0
      · simp only [(hneg hy).2, hy, if_true]
        exact refines_some hr _
      · obtain ⟨hc, hwf, hval⟩ := hpos (Int.not_lt.1 hy)
        simp only [hc, hy, if_false, abs_get, ← W_eq, ← hval, ← cmpEval_spec (hr.get x) hwf c]
        exact refines_some hr _
    | touint x =>
      simp only [abs_get, ← touint_val' (hr.get x)]
      exact refines_some hr _
  · simp only [hv, Bool.not_false, if_true]
    exact refines_none

end DV.C10
