/-
C10: `operator/=` and `operator%=` (repeated subtraction).  Core Lean only.
-/
import DuneVerif.Proofs.C10Arith
import DuneVerif.Proofs.C10Cmp

namespace DV.C10

/-- The subtraction loop with more fuel than the quotient leaves through its `else` branch with quotient (added to
    the counter `r`, modulo W) and remainder.  The divisor must be non-zero: this is the guard the code needs. -/
theorem divLoop_spec {n : Nat} {x : List Nat} (hx : Wf n x) (hpos : 0 < val x) :
    ∀ (fuel : Nat) (a r : List Nat), Wf n a → Wf n r → val a / val x < fuel →
      Wf n (divLoop fuel a x r).1 ∧ Wf n (divLoop fuel a x r).2 ∧
      val (divLoop fuel a x r).1 = (val r + val a / val x) % W n ∧
      val (divLoop fuel a x r).2 = val a % val x := by
  intro fuel a r ha hr h
  fun_induction divLoop fuel a x r with
  | case1 => exact absurd h (Nat.not_lt_zero _)
  | case2 fuel a x r hle ih =>
    rw [ge_val' ha hx, decide_eq_true_iff] at hle
    have hs := sub_val_of_le ha hx hle
    -- the goal becomes `ih`: one round fewer on `a - x`, counted in `r`
    rw [Nat.div_eq_sub_div hpos hle, ← hs] at h ⊢
    rw [Nat.mod_eq_sub_mod hle, ← hs, ← Nat.add_assoc, Nat.add_right_comm, ← Nat.mod_add_mod, ← (incr_rep hr).2]
    exact ih hx hpos (sub_rep ha hx).1 (incr_rep hr).1 (Nat.lt_of_succ_lt_succ h)
  | case3 fuel a x r hlt =>
    rw [ge_val' ha hx, decide_eq_true_iff, Nat.not_le] at hlt
    rw [Nat.div_eq_of_lt hlt, Nat.mod_eq_of_lt hlt, Nat.add_zero, Nat.mod_eq_of_lt (val_lt hr)]
    exact ⟨hr, ha, rfl, rfl⟩

theorem eq_zeros {n : Nat} {x : List Nat} (hx : Wf n x) : eq x (zeros x.length) = true ↔ val x = 0 := by
  rw [eq_val' hx (hx.1 ▸ wf_zeros x.length), val_zeros, decide_eq_true_iff]

theorem divmod_spec {n : Nat} {a x : List Nat} (ha : Wf n a) (hx : Wf n x) (h : val x ≠ 0) :
    ∃ q r, div a x = .ok q ∧ mod a x = .ok r ∧ Wf n q ∧ Wf n r ∧
      val q = val a / val x ∧ val r = val a % val x := by
  obtain ⟨h1, h2, h3, h4⟩ := divLoop_spec hx (Nat.pos_of_ne_zero h) (val a / val x + 1) a (zeros a.length) ha
    (ha.1 ▸ wf_zeros a.length) (Nat.lt_succ_self _)
  have hz := mt (eq_zeros hx).1 h
  refine ⟨_, _, if_neg hz, if_neg hz, h1, h2, ?_, h4⟩
  rw [h3, val_zeros, Nat.zero_add]
  exact Nat.mod_eq_of_lt (Nat.lt_of_le_of_lt (Nat.div_le_self _ _) (val_lt ha))

theorem divmod_zero {n : Nat} {x : List Nat} (a : List Nat) (hx : Wf n x) (h : val x = 0) :
    div a x = .mathError ∧ mod a x = .mathError :=
  ⟨if_pos ((eq_zeros hx).2 h), if_pos ((eq_zeros hx).2 h)⟩

end DV.C10
