import Mathlib.Analysis.SpecialFunctions.Trigonometric.Inverse
import DuneVerif.Proofs.C08Ev3
/-!
# C08 — the trigonometric form of the 3x3 eigenvalues (Smith 1961)

With `q = tr A / 3`, `6 p² = ‖A - qI‖_F²` and `r = det((A - qI)/p)/2`, the characteristic polynomial in the variable
`s = t - q` is the depressed cubic `s³ - 3p² s - 2 r p³`.  If `|r| ≤ 1` and `cos 3φ = r`, this cubic is the product of
the `s - p·(2 cos φ)`, `s - p·(2 cos (φ ± 2π/3))` (`trig_cubic`), so `q + p·(2 cos …)` are all the roots, with
multiplicity.  That `|r| ≤ 1` always holds for a symmetric matrix is proved in `C08Ev3Spec`.
-/
namespace DV.C08

theorem cos_two_pi_div_three : Real.cos (2 * Real.pi / 3) = -1 / 2 := by
  have h : 2 * Real.pi / 3 = Real.pi - Real.pi / 3 := by ring
  rw [h, Real.cos_pi_sub, Real.cos_pi_div_three]
  ring

theorem sin_two_pi_div_three_sq : Real.sin (2 * Real.pi / 3) ^ 2 = 3 / 4 := by
  have h := Real.sin_sq_add_cos_sq (2 * Real.pi / 3)
  rw [cos_two_pi_div_three] at h
  linear_combination h

theorem cos_sum_three (φ : ℝ) :
    Real.cos φ + Real.cos (φ + 2 * Real.pi / 3) + Real.cos (φ - 2 * Real.pi / 3) = 0 := by
  rw [Real.cos_add, Real.cos_sub, cos_two_pi_div_three]
  ring

/-- `2 cos φ`, `2 cos (φ ± 2π/3)`, stretched by `p`, are the roots of the depressed cubic `s³ - 3p²s - 2 cos(3φ) p³` -/
theorem trig_cubic (φ p s : ℝ) :
    s ^ 3 - 3 * p ^ 2 * s - 2 * Real.cos (3 * φ) * p ^ 3 =
      (s - p * (2 * Real.cos (φ + 2 * Real.pi / 3))) * (s - p * (2 * Real.cos (φ - 2 * Real.pi / 3)))
        * (s - p * (2 * Real.cos φ)) := by
  have hσ := sin_two_pi_div_three_sq
  have hs := Real.sin_sq_add_cos_sq φ
  rw [Real.cos_add, Real.cos_sub, cos_two_pi_div_three, Real.cos_three_mul]
  linear_combination (4 * p ^ 2 * s - 8 * p ^ 3 * Real.cos φ) * Real.sin φ ^ 2 * hσ
    + (3 * p ^ 2 * s - 6 * p ^ 3 * Real.cos φ) * hs

theorem roots_of_factor (S : M3 ℝ) (a b c : ℝ) (hf : ∀ t, charPoly3 S t = (t - a) * (t - b) * (t - c)) :
    charPoly3 S a = 0 ∧ charPoly3 S b = 0 ∧ charPoly3 S c = 0 := by
  refine ⟨?_, ?_, ?_⟩ <;> rw [hf] <;> ring

noncomputable def pOf (S : M3 ℝ) : ℝ := Gen.ev3_p Real.sqrt (p2Of S)

/-- `r = det(B)/2` before clamping, `B = (A - qI)/p` -/
noncomputable def rawR (S : M3 ℝ) : ℝ := Gen.ev3_r (det3 (smul3 (Gen.ev3_Bscale (pOf S)) (shift3 S (qOf S))))

noncomputable def phiOf (S : M3 ℝ) : ℝ :=
  Gen.ev3_phi Real.arccos (clampK (rawR S) Gen.ev3_clampLo Gen.ev3_clampHi)

/-- the three trigonometric values, before sorting, as `q + p (2 cos θ)`; the middle one is defined through the trace -/
theorem trig_values (q p φ : ℝ) :
    Gen.ev3_lam0 Real.cos q p φ Real.pi = q + p * (2 * Real.cos (φ + 2 * Real.pi / 3)) ∧
    Gen.ev3_lam2 Real.cos q p φ Real.pi = q + p * (2 * Real.cos φ) ∧
    Gen.ev3_lam1 q (q + p * (2 * Real.cos (φ + 2 * Real.pi / 3))) (q + p * (2 * Real.cos φ))
      = q + p * (2 * Real.cos (φ - 2 * Real.pi / 3)) := by
  refine ⟨?_, ?_, ?_⟩
  · unfold Gen.ev3_lam0; push_cast; ring
  · unfold Gen.ev3_lam2; push_cast; ring
  · unfold Gen.ev3_lam1
    push_cast
    linear_combination (-2 * p) * cos_sum_three φ

theorem impl_trig (eps : ℝ) (S : M3 ℝ) (hb : ¬ DiagBranch eps S) :
    eigenValues3dImpl Real.sqrt Real.arccos Real.cos Real.pi eps S =
      (sort3 (qOf S + pOf S * (2 * Real.cos (phiOf S + 2 * Real.pi / 3)))
        (qOf S + pOf S * (2 * Real.cos (phiOf S - 2 * Real.pi / 3)))
        (qOf S + pOf S * (2 * Real.cos (phiOf S))),
       clampK (rawR S) Gen.ev3_clampLo Gen.ev3_clampHi) := by
  obtain ⟨e0, e2, e1⟩ := trig_values (qOf S) (pOf S) (phiOf S)
  -- backwards, `e1` first: its left side holds the closed forms of the other two, which `e0`, `e2` then fold as well
  rw [impl_eq, ← e1, ← e0, ← e2]
  exact (if_neg hb).trans rfl

theorem clampK_id (x lo hi : ℝ) (h1 : lo ≤ x) (h2 : x ≤ hi) : clampK x lo hi = x := by
  unfold clampK
  rw [if_neg (not_lt.mpr h1), if_neg (not_lt.mpr h2)]

theorem clamp_rawR (S : M3 ℝ) (hr : -1 ≤ rawR S ∧ rawR S ≤ 1) :
    clampK (rawR S) Gen.ev3_clampLo Gen.ev3_clampHi = rawR S := by
  apply clampK_id
  · unfold Gen.ev3_clampLo; push_cast; exact hr.1
  · unfold Gen.ev3_clampHi; push_cast; exact hr.2

theorem p1Of_pos_of_not_diag (eps : ℝ) (he : 0 ≤ eps) (S : M3 ℝ) (hb : ¬ DiagBranch eps S) : 0 < p1Of S := by
  unfold DiagBranch Gen.ev3_diagThreshold at hb
  linarith [not_le.mp hb]

theorem p2Of_eq (S : M3 ℝ) :
    p2Of S = (S.a00 - qOf S) * (S.a00 - qOf S) + (S.a11 - qOf S) * (S.a11 - qOf S)
      + (S.a22 - qOf S) * (S.a22 - qOf S) + 2 * p1Of S := by
  unfold p2Of Gen.ev3_p2
  push_cast
  ring

theorem p2Of_pos (S : M3 ℝ) (hp1 : 0 < p1Of S) : 0 < p2Of S / 6 := by
  rw [p2Of_eq]
  exact div_pos (add_pos_of_nonneg_of_pos (add_nonneg (add_nonneg (mul_self_nonneg _) (mul_self_nonneg _))
    (mul_self_nonneg _)) (mul_pos two_pos hp1)) (by norm_num)

theorem pOf_eq (S : M3 ℝ) : pOf S = Real.sqrt (p2Of S / 6) := by
  unfold pOf Gen.ev3_p
  push_cast
  rfl

theorem pOf_pos (S : M3 ℝ) (hp1 : 0 < p1Of S) : 0 < pOf S :=
  pOf_eq S ▸ Real.sqrt_pos.mpr (p2Of_pos S hp1)

theorem pOf_sq (S : M3 ℝ) (hp1 : 0 < p1Of S) : 6 * pOf S ^ 2 = p2Of S := by
  rw [pOf_eq, Real.sq_sqrt (p2Of_pos S hp1).le, mul_div_cancel₀ _ (by norm_num : (6 : ℝ) ≠ 0)]

theorem det_shift_qOf (S : M3 ℝ) (hp : pOf S ≠ 0) : det3 (shift3 S (qOf S)) = 2 * rawR S * pOf S ^ 3 := by
  unfold rawR Gen.ev3_r Gen.ev3_Bscale
  rw [det3_smul3]
  push_cast
  field_simp

/-- for a symmetric matrix with `q = tr/3` and `6 p² = ‖A - qI‖_F²`, the characteristic polynomial in the shifted
variable is the depressed cubic `s³ - 3 p² s - det (A - qI)` -/
theorem charPoly3_shift_cubic (A : M3 ℝ) (hs : Sym3 A) (q p s : ℝ)
    (hq : q = (A.a00 + A.a11 + A.a22) / 3)
    (hp : 6 * p ^ 2 = (A.a00 - q) * (A.a00 - q) + (A.a11 - q) * (A.a11 - q) + (A.a22 - q) * (A.a22 - q)
      + 2 * (A.a01 * A.a01 + A.a02 * A.a02 + A.a12 * A.a12)) :
    charPoly3 A (q + s) = s ^ 3 - 3 * p ^ 2 * s - det3 (shift3 A q) := by
  obtain ⟨s10, s20, s21⟩ := hs
  unfold charPoly3 det3 shift3
  simp only
  rw [s10, s20, s21]
  subst hq
  linear_combination (s / 2) * hp

theorem charPoly3_trig (S : M3 ℝ) (hs : Sym3 S) (hp1 : 0 < p1Of S) (s : ℝ) :
    charPoly3 S (qOf S + s) = s ^ 3 - 3 * pOf S ^ 2 * s - 2 * rawR S * pOf S ^ 3 := by
  rw [charPoly3_shift_cubic S hs (qOf S) (pOf S) s (gen_q3 _ _ _) (by rw [pOf_sq S hp1, p2Of_eq, p1Of_eq]),
    det_shift_qOf S (pOf_pos S hp1).ne']

theorem trig_factor_of_r (eps : ℝ) (he : 0 ≤ eps) (S : M3 ℝ) (hs : Sym3 S) (hb : ¬ DiagBranch eps S)
    (hr : -1 ≤ rawR S ∧ rawR S ≤ 1) :
    ∀ t : ℝ, charPoly3 S t =
      (t - (eigenValues3dImpl Real.sqrt Real.arccos Real.cos Real.pi eps S).1.1)
        * (t - (eigenValues3dImpl Real.sqrt Real.arccos Real.cos Real.pi eps S).1.2.1)
        * (t - (eigenValues3dImpl Real.sqrt Real.arccos Real.cos Real.pi eps S).1.2.2) := by
  have hcos3 : Real.cos (3 * phiOf S) = rawR S := by
    have hphi : 3 * phiOf S = Real.arccos (rawR S) := by
      unfold phiOf Gen.ev3_phi
      rw [clamp_rawR S hr]
      push_cast
      ring
    rw [hphi, Real.cos_arccos hr.1 hr.2]
  intro t
  have h1 := charPoly3_trig S hs (p1Of_pos_of_not_diag eps he S hb) (t - qOf S)
  rw [add_sub_cancel] at h1
  rw [impl_trig eps S hb, sort3_prod, h1, ← hcos3, sub_add_eq_sub_sub, sub_add_eq_sub_sub, sub_add_eq_sub_sub]
  exact trig_cubic (phiOf S) (pOf S) (t - qOf S)

/-- In the trigonometric branch, if the unclamped `r` lies in `[-1,1]`, all three computed values are eigenvalues. -/
theorem impl_trig_roots (eps : ℝ) (he : 0 ≤ eps) (S : M3 ℝ) (hs : Sym3 S) (hb : ¬ DiagBranch eps S)
    (hr : -1 ≤ rawR S ∧ rawR S ≤ 1) :
    let l := (eigenValues3dImpl Real.sqrt Real.arccos Real.cos Real.pi eps S).1
    charPoly3 S l.1 = 0 ∧ charPoly3 S l.2.1 = 0 ∧ charPoly3 S l.2.2 = 0 :=
  roots_of_factor S _ _ _ (trig_factor_of_r eps he S hs hb hr)

theorem diag_factor (sqrt acos cos : ℝ → ℝ) (pi eps : ℝ) (he : 0 ≤ eps) (S : M3 ℝ)
    (hd : S.a01 = 0 ∧ S.a02 = 0 ∧ S.a12 = 0 ∧ S.a10 = 0 ∧ S.a20 = 0 ∧ S.a21 = 0) :
    ∀ t : ℝ, charPoly3 S t =
      (t - (eigenValues3dImpl sqrt acos cos pi eps S).1.1)
        * (t - (eigenValues3dImpl sqrt acos cos pi eps S).1.2.1)
        * (t - (eigenValues3dImpl sqrt acos cos pi eps S).1.2.2) := by
  obtain ⟨h01, h02, h12, h10, h20, h21⟩ := hd
  intro t
  rw [impl_diag sqrt acos cos pi eps S (diagBranch_of_diag eps he S h01 h02 h12), sort3_prod]
  unfold charPoly3 det3 shift3
  simp only
  rw [h01, h02, h12, h10, h20, h21]
  ring

/-- For an exactly diagonal matrix the (sorted) diagonal entries are returned, and they are the eigenvalues. -/
theorem impl_diag_roots (sqrt acos cos : ℝ → ℝ) (pi eps : ℝ) (he : 0 ≤ eps) (S : M3 ℝ)
    (hd : S.a01 = 0 ∧ S.a02 = 0 ∧ S.a12 = 0 ∧ S.a10 = 0 ∧ S.a20 = 0 ∧ S.a21 = 0) :
    let l := (eigenValues3dImpl sqrt acos cos pi eps S).1
    charPoly3 S l.1 = 0 ∧ charPoly3 S l.2.1 = 0 ∧ charPoly3 S l.2.2 = 0 :=
  roots_of_factor S _ _ _ (diag_factor sqrt acos cos pi eps he S hd)

end DV.C08
