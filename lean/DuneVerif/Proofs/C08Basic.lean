import Mathlib.Analysis.Real.Sqrt
import Mathlib.Tactic.Ring
import Mathlib.Tactic.Linarith
import Mathlib.Tactic.FieldSimp
import Mathlib.Tactic.LinearCombination
import DuneVerif.Model.C08
/-!
# C08 — specification vocabulary and helper lemmas over ℝ

The model of `Model/C08.lean` instantiated at `K := ℝ`, `sqrt := Real.sqrt`.
-/
namespace DV.C08

def Sym2 (A : M2 ℝ) : Prop := A.a10 = A.a01

/-- characteristic polynomial of a 2x2 matrix, `det (t I - A)` -/
def charPoly2 (A : M2 ℝ) (t : ℝ) : ℝ := t * t - (A.a00 + A.a11) * t + (A.a00 * A.a11 - A.a01 * A.a10)

def mulVec2 (A : M2 ℝ) (v : V2 ℝ) : V2 ℝ := ⟨A.a00 * v.x + A.a01 * v.y, A.a10 * v.x + A.a11 * v.y⟩

def smulV2 (l : ℝ) (v : V2 ℝ) : V2 ℝ := ⟨l * v.x, l * v.y⟩

def dot2 (u v : V2 ℝ) : ℝ := u.x * v.x + u.y * v.y

def Sym3 (A : M3 ℝ) : Prop := A.a10 = A.a01 ∧ A.a20 = A.a02 ∧ A.a21 = A.a12

def row0 (A : M3 ℝ) : V3 ℝ := ⟨A.a00, A.a01, A.a02⟩
def row1 (A : M3 ℝ) : V3 ℝ := ⟨A.a10, A.a11, A.a12⟩
def row2 (A : M3 ℝ) : V3 ℝ := ⟨A.a20, A.a21, A.a22⟩

def trace3 (A : M3 ℝ) : ℝ := A.a00 + A.a11 + A.a22

/-- characteristic polynomial of a 3x3 matrix, `det (t I - A)` -/
def charPoly3 (A : M3 ℝ) (t : ℝ) : ℝ := - det3 (shift3 A t)

theorem absK_eq (x : ℝ) : absK x = |x| := by
  unfold absK zero
  simp only [Nat.cast_zero]
  split_ifs with h
  · exact (abs_of_neg h).symm
  · exact (abs_of_nonneg (not_lt.mp h)).symm

theorem maxK_eq (a b : ℝ) : maxK a b = max a b := by
  simp only [maxK, max_def', ← not_lt, ite_not]

theorem infNorm2_eq (A : M2 ℝ) :
    infNorm2 A = max (|A.a10| + |A.a11|) (max (|A.a00| + |A.a01|) 0) := by
  unfold infNorm2 zero
  simp only [Nat.cast_zero, zero_add, absK_eq, maxK_eq]

theorem infNorm2_nonneg (A : M2 ℝ) : 0 ≤ infNorm2 A := by
  rw [infNorm2_eq]
  exact le_max_of_le_right (le_max_right _ _)

theorem abs_le_infNorm2 (A : M2 ℝ) :
    |A.a00| ≤ infNorm2 A ∧ |A.a01| ≤ infNorm2 A ∧ |A.a10| ≤ infNorm2 A ∧ |A.a11| ≤ infNorm2 A := by
  have r0 : |A.a00| + |A.a01| ≤ infNorm2 A := by
    rw [infNorm2_eq]
    exact (le_max_left _ _).trans (le_max_right _ _)
  have r1 : |A.a10| + |A.a11| ≤ infNorm2 A := by
    rw [infNorm2_eq]
    exact le_max_left _ _
  exact ⟨(le_add_of_nonneg_right (abs_nonneg A.a01)).trans r0, (le_add_of_nonneg_left (abs_nonneg A.a00)).trans r0,
    (le_add_of_nonneg_right (abs_nonneg A.a11)).trans r1, (le_add_of_nonneg_left (abs_nonneg A.a10)).trans r1⟩

theorem infNorm2_smul (s : ℝ) (hs : 0 < s) (A : M2 ℝ) : infNorm2 (smul2 s A) = s * infNorm2 A := by
  rw [infNorm2_eq, infNorm2_eq]
  simp only [smul2, abs_mul, abs_of_pos hs]
  rw [← mul_add, ← mul_add, mul_max_of_nonneg _ _ hs.le, mul_max_of_nonneg _ _ hs.le, mul_zero]

theorem infNorm2_eq_zero (A : M2 ℝ) (h : A.a00 = 0 ∧ A.a01 = 0 ∧ A.a10 = 0 ∧ A.a11 = 0) : infNorm2 A = 0 := by
  rw [infNorm2_eq]
  obtain ⟨h0, h1, h2, h3⟩ := h
  simp [h0, h1, h2, h3]

theorem norm2_eq (v : V2 ℝ) : norm2 v = v.x * v.x + v.y * v.y := by
  unfold norm2 zero
  simp only [Nat.cast_zero, zero_add]

theorem norm2_nonneg (v : V2 ℝ) : 0 ≤ norm2 v := by
  rw [norm2_eq]
  exact add_nonneg (mul_self_nonneg _) (mul_self_nonneg _)

theorem norm2_eq_zero {v : V2 ℝ} (h : norm2 v = 0) : v.x = 0 ∧ v.y = 0 := by
  rw [norm2_eq] at h
  exact mul_self_add_mul_self_eq_zero.mp h

theorem gen_p (a b c d : ℝ) : Gen.ev2_p a b c d = (a + d) / 2 := by
  unfold Gen.ev2_p
  push_cast
  ring

theorem gen_q (a b c d : ℝ) :
    Gen.ev2_q a b c d ((a + d) / 2) (Gen.ev2_p2 a b c d ((a + d) / 2)) = ((a - d) / 2) ^ 2 + c * b := by
  unfold Gen.ev2_q Gen.ev2_p2
  ring

/-- discriminant term of the symmetric 2x2 closed form -/
noncomputable def disc2 (A : M2 ℝ) : ℝ := ((A.a00 - A.a11) / 2) ^ 2 + A.a10 * A.a01

theorem disc2_nonneg (A : M2 ℝ) (hs : Sym2 A) : 0 ≤ disc2 A := by
  unfold disc2
  rw [hs]
  exact add_nonneg (sq_nonneg _) (mul_self_nonneg _)

/-- the two values of the 2x2 closed form, `tr/2 ∓ √disc` -/
noncomputable def closed0 (A : M2 ℝ) : ℝ := (A.a00 + A.a11) / 2 - Real.sqrt (disc2 A)
noncomputable def closed1 (A : M2 ℝ) : ℝ := (A.a00 + A.a11) / 2 + Real.sqrt (disc2 A)

theorem eigenValues2d_sym (A : M2 ℝ) (hs : Sym2 A) : eigenValues2d Real.sqrt A = .ok (closed0 A, closed1 A) := by
  have hq := disc2_nonneg A hs
  unfold eigenValues2d
  simp only [gen_p, gen_q, zero, Nat.cast_zero]
  have h1 : ¬ (((A.a00 - A.a11) / 2) ^ 2 + A.a10 * A.a01 < 0) := not_lt.mpr hq
  simp only [h1, false_and, if_false, Gen.ev2_lam0, Gen.ev2_lam1]
  rfl

theorem closed_unique (A : M2 ℝ) (hs : Sym2 A) {s0 s1 : ℝ} (hval : eigenValues2d Real.sqrt A = .ok (s0, s1)) :
    s0 = closed0 A ∧ s1 = closed1 A := by
  rw [eigenValues2d_sym A hs] at hval
  simp only [Except.ok.injEq, Prod.mk.injEq] at hval
  exact ⟨hval.1.symm, hval.2.symm⟩

theorem closed_trace (A : M2 ℝ) : closed0 A + closed1 A = A.a00 + A.a11 := by
  unfold closed0 closed1
  ring

theorem closed_le (A : M2 ℝ) : closed0 A ≤ closed1 A :=
  (sub_le_self _ (Real.sqrt_nonneg _)).trans (le_add_of_nonneg_right (Real.sqrt_nonneg _))

theorem smul2_sym (s : ℝ) (A : M2 ℝ) (hs : Sym2 A) : Sym2 (smul2 s A) := by
  unfold Sym2 smul2 at *
  simp only
  rw [hs]

theorem disc2_smul (s : ℝ) (A : M2 ℝ) : disc2 (smul2 s A) = s ^ 2 * disc2 A := by
  unfold disc2 smul2
  simp only
  ring

theorem sqrt_disc2_smul (s : ℝ) (hs : 0 < s) (A : M2 ℝ) :
    Real.sqrt (disc2 (smul2 s A)) = s * Real.sqrt (disc2 A) := by
  rw [disc2_smul, Real.sqrt_mul (sq_nonneg s), Real.sqrt_sq hs.le]

theorem pickColumn_cases (e0 e1 : V2 ℝ) :
    (pickColumn e0 e1 = e0 ∧ norm2 e1 ≤ norm2 e0) ∨ (pickColumn e0 e1 = e1 ∧ norm2 e0 < norm2 e1) := by
  unfold pickColumn
  split_ifs with h
  · exact Or.inl ⟨rfl, h⟩
  · exact Or.inr ⟨rfl, not_le.mp h⟩

theorem norm2_smulV2 (s : ℝ) (v : V2 ℝ) : norm2 (smulV2 s v) = s ^ 2 * norm2 v := by
  rw [norm2_eq, norm2_eq]
  unfold smulV2
  simp only
  ring

theorem pickColumn_smul (s : ℝ) (hs : 0 < s) (e0 e1 : V2 ℝ) :
    pickColumn (smulV2 s e0) (smulV2 s e1) = smulV2 s (pickColumn e0 e1) := by
  unfold pickColumn
  rw [norm2_smulV2, norm2_smulV2, apply_ite (smulV2 s)]
  simp only [mul_le_mul_iff_right₀ (pow_pos hs 2)]

theorem normalize2_smul (s : ℝ) (hs : 0 < s) (v : V2 ℝ) :
    normalize2 Real.sqrt (smulV2 s v) = normalize2 Real.sqrt v := by
  unfold normalize2
  rw [norm2_smulV2, Real.sqrt_mul (sq_nonneg s), Real.sqrt_sq hs.le]
  unfold smulV2
  simp only
  rw [mul_div_mul_left _ _ hs.ne', mul_div_mul_left _ _ hs.ne']

/-- dividing by `√s` normalises a vector of squared length `s > 0`; the normalisations of `normalize2`, `orthoComp` and
`eig1` are instances -/
theorem inv_sqrt_mul_self {s : ℝ} (hs : 0 < s) : 1 / Real.sqrt s * (1 / Real.sqrt s) * s = 1 := by
  rw [div_mul_div_comm, one_mul, Real.mul_self_sqrt hs.le, one_div, inv_mul_cancel₀ hs.ne']

theorem normalize2_eq_smulV2 (v : V2 ℝ) : normalize2 Real.sqrt v = smulV2 (1 / Real.sqrt (norm2 v)) v := by
  unfold normalize2 smulV2
  simp only [one_div_mul_eq_div]

theorem normalize2_unit (v : V2 ℝ) (h : norm2 v ≠ 0) : norm2 (normalize2 Real.sqrt v) = 1 := by
  rw [normalize2_eq_smulV2, norm2_smulV2, sq]
  exact inv_sqrt_mul_self (lt_of_le_of_ne (norm2_nonneg v) (Ne.symm h))

end DV.C08
