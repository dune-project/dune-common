/-
C12 — the INI reader: the fuel of the line loop (number of lines + 1) is never exhausted and its amount does not matter, because
the quote loop only consumes lines (`parseLoop_spec`, `parseLines_cons`); and the text-level theorem `parseINI_renderDoc`:
reading the lines of a document of the dialect is `applyAll` of the assignments the document denotes.
-/
import DuneVerif.Proofs.C12Str

namespace DV.C12

/-- the optional trailing comment of an assignment line -/
def cmtText : Option Str → Str
  | none => []
  | some t => '#' :: t

/-- the value as spelled in the document -/
def spell : Option Char → Str → Str
  | none, v => v
  | some c, v => c :: v ++ [c]

theorem renderItem_assign (ws1 key ws2 ws3 : Str) (q : Option Char) (value ws4 : Str) (cmt : Option Str) :
    renderItem (.assign ws1 key ws2 ws3 q value ws4 cmt) =
      ws1 ++ (key ++ (ws2 ++ '=' :: (ws3 ++ spell q value ++ ws4 ++ cmtText cmt))) := by
  simp only [renderItem, List.append_assoc, List.cons_append]
  cases q <;> cases cmt <;> rfl

/-- no clause of `setPath` produces `.fuel`, and the errors of the recursive call are passed on -/
theorem setPath_ne_fuel (p : List Str) (v : Str) (t : Tree) : setPath p v t ≠ .error .fuel := by
  fun_induction setPath p v t <;> simp_all

theorem hasKeyPath_ne_fuel (p : List Str) (t : Tree) : hasKeyPath p t ≠ .error .fuel := by
  fun_induction hasKeyPath p t <;> simp_all

/-- the overwrite test and the assignment inside `assignStep` -/
def storeStep (ow : Bool) (t : Tree) (key value : Str) : Except Err Tree :=
  if ow then t.set key value
  else match t.hasKey key with
    | .error e => .error e
    | .ok true => .ok t
    | .ok false => t.set key value

theorem assignStep_eq (ow : Bool) (st : St) (k v : Str) :
    assignStep ow st k v =
      if st.seen.contains k then .error .parser
      else andThen (storeStep ow st.tree k v) (fun t => .ok { st with seen := k :: st.seen, tree := t }) := by
  unfold assignStep storeStep
  split
  · rfl
  · dsimp only
    generalize (if ow = true then st.tree.set k v else _) = r
    cases r <;> rfl

theorem storeStep_ne_fuel (ow : Bool) (t : Tree) (k v : Str) : storeStep ow t k v ≠ .error .fuel := by
  have hs : t.set k v ≠ .error .fuel := setPath_ne_fuel (comps k) v t
  have hk : t.hasKey k ≠ .error .fuel := hasKeyPath_ne_fuel (comps k) t
  unfold storeStep
  split
  · exact hs
  · split
    · rename_i e he; intro h; injection h with h; exact hk (h ▸ he)
    · simp
    · exact hs

theorem assignStep_ne_fuel (ow : Bool) (st : St) (k v : Str) : assignStep ow st k v ≠ .error .fuel := by
  rw [assignStep_eq]
  split
  · simp
  · have := storeStep_ne_fuel ow st.tree k v
    cases h : storeStep ow st.tree k v with
    | error e => intro h2; injection h2 with h2; exact this (h2 ▸ h)
    | ok t => simp

theorem quoteLoop_length (q : Char) (v : Str) (ls : List Str) : (quoteLoop q v ls).2.length ≤ ls.length := by
  fun_induction quoteLoop q v ls <;> simp <;> omega

theorem readValue_length (rhs : Str) (rest : List Str) : (readValue rhs rest).2.length ≤ rest.length := by
  unfold readValue
  split
  · simp
  · split
    · exact quoteLoop_length _ _ _
    · simp

/-- one iteration is a result about the state, paired with unread lines that are no more than before -/
theorem lineStep_shape (ow : Bool) (raw : Str) (rest : List Str) (st : St) :
    ∃ (r : Except Err St) (ls' : List Str),
      lineStep ow raw rest st = andThen r (fun s => .ok (s, ls')) ∧ r ≠ .error .fuel ∧ ls'.length ≤ rest.length := by
  have skip (s : St) : ∃ (r : Except Err St) (ls' : List Str),
      .ok (s, rest) = andThen r (fun s => .ok (s, ls')) ∧ r ≠ .error .fuel ∧ ls'.length ≤ rest.length :=
    ⟨.ok s, rest, rfl, nofun, Nat.le_refl _⟩
  unfold lineStep
  split
  · exact skip st
  · split
    · exact skip st
    · split
      · split <;> exact skip _
      · split
        · exact skip st
        · rename_i k rhs _
          refine ⟨assignStep ow st (st.pfx ++ rtrim (ltrim k)) (readValue rhs rest).1, (readValue rhs rest).2, ?_,
            assignStep_ne_fuel _ _ _ _, readValue_length _ _⟩
          dsimp only
          cases assignStep ow st (st.pfx ++ rtrim (ltrim k)) (readValue rhs rest).1 <;> rfl

theorem parseLoop_spec (ow : Bool) : ∀ (f : Nat) (lines : List Str) (st : St), lines.length ≤ f →
    parseLoop ow (f + 1) lines st ≠ .error .fuel ∧
      ∀ g, lines.length ≤ g → parseLoop ow (g + 1) lines st = parseLoop ow (f + 1) lines st
  | _, [], _, _ => ⟨nofun, fun _ _ => rfl⟩
  | 0, _ :: _, _, h => absurd h (Nat.not_succ_le_zero _)
  | f + 1, l :: ls, st, h => by
    obtain ⟨r, ls', he, hr, hl⟩ := lineStep_shape ow l ls st
    have step (g : Nat) : parseLoop ow (g + 1) (l :: ls) st = andThen r (parseLoop ow g ls') := by
      rw [parseLoop, he]; cases r <;> rfl
    rw [List.length_cons] at h
    rw [step]
    cases r with
    | error e => exact ⟨hr, fun g _ => by rw [step]; rfl⟩
    | ok s =>
      have ih := parseLoop_spec ow f ls' s (by omega)
      refine ⟨ih.1, fun g hg => ?_⟩
      rw [List.length_cons] at hg
      cases g with
      | zero => omega
      | succ g => rw [step]; exact ih.2 g (by omega)

theorem parseLines_nil (ow : Bool) (st : St) : parseLines ow [] st = .ok st := rfl

/-- the loop equation without fuel -/
theorem parseLines_cons (ow : Bool) (l : Str) (ls : List Str) (st : St) :
    parseLines ow (l :: ls) st = andThen (lineStep ow l ls st) (fun r => parseLines ow r.2 r.1) := by
  obtain ⟨r, ls', he, _, hl⟩ := lineStep_shape ow l ls st
  rw [parseLines, parseLoop, he]
  cases r with
  | error e => rfl
  | ok s => exact (parseLoop_spec ow ls'.length ls' s (Nat.le_refl _)).2 ls.length hl

/-- what an item does to the loop state -/
def itemStep (ow : Bool) (it : Item) (st : St) : Except Err St :=
  match it with
  | .blank _ => .ok st
  | .comment _ _ => .ok st
  | .header _ _ p _ _ => .ok { st with pfx := newPrefix p }
  | .assign _ key _ _ _ value _ _ => assignStep ow st (st.pfx ++ key) value

def linesOf (s : Str) : List Str := splitOnC '\n' s

theorem not_mem_of_noNl {s : Str} (h : noNl s = true) : '\n' ∉ s := not_mem_of_all h rfl

theorem blank_noNl {ws : Str} (h : blankStr ws = true) : '\n' ∉ ws := not_mem_of_all h (by decide)

theorem lineStep_blank (ow : Bool) (ws : Str) (rest : List Str) (st : St) (h : blankStr ws = true) :
    lineStep ow ws rest st = .ok (st, rest) := by
  unfold lineStep
  rw [ltrim_all_ws (blank_all_ws h)]

theorem lineStep_comment (ow : Bool) (ws text : Str) (rest : List Str) (st : St) (h : blankStr ws = true) :
    lineStep ow (ws ++ '#' :: text) rest st = .ok (st, rest) := by
  unfold lineStep
  rw [ltrim_blank_append h, ltrim_cons_of_not_ws isWs_hash]
  simp

theorem lineStep_bracket (ow : Bool) (ws inner junk : Str) (rest : List Str) (st : St) (h : blankStr ws = true)
    (hni : ']' ∉ inner) :
    lineStep ow (ws ++ '[' :: (inner ++ ']' :: junk)) rest st
      = .ok ({ st with pfx := newPrefix (rtrim (ltrim inner)) }, rest) := by
  unfold lineStep
  rw [ltrim_blank_append h, ltrim_cons_of_not_ws isWs_lbr]
  simp only [show ('[' == '#') = false by decide, show ('[' == '[') = true by decide, Bool.false_eq_true, if_false, if_true]
  rw [splitFirst_append ']' _ junk hni]

theorem lineStep_header (ow : Bool) (ws1 ws2 p ws3 junk : Str) (rest : List Str) (st : St)
    (h1 : blankStr ws1 = true) (h2 : blankStr ws2 = true) (h3 : blankStr ws3 = true)
    (hp : p.all (· != ']') = true) (ht : trimmed p = true) :
    lineStep ow (ws1 ++ '[' :: ws2 ++ p ++ ws3 ++ ']' :: junk) rest st
      = .ok ({ st with pfx := newPrefix p }, rest) := by
  have hnot : ']' ∉ ws2 ++ p ++ ws3 :=
    List.not_mem_append (List.not_mem_append (not_mem_of_all h2 (by decide)) (not_mem_of_all hp (by simp)))
      (not_mem_of_all h3 (by decide))
  have e : ws1 ++ '[' :: ws2 ++ p ++ ws3 ++ ']' :: junk = ws1 ++ '[' :: (ws2 ++ p ++ ws3 ++ ']' :: junk) := by
    simp only [List.append_assoc, List.cons_append]
  rw [e, lineStep_bracket ow ws1 _ junk rest st h1 hnot, trim_padded (blank_all_ws h2) (blank_all_ws h3) ht]

theorem key_part {key ws2 : Str} (hk : trimmed key = true) (h2 : blankStr ws2 = true) :
    rtrim (ltrim (key ++ ws2)) = key := by
  have := trim_padded (a := []) (p := key) (b := ws2) (by simp) (blank_all_ws h2) hk
  simpa using this

theorem takeWhile_cmt {a : Str} (h : '#' ∉ a) (cmt : Option Str) : (a ++ cmtText cmt).takeWhile (· != '#') = a := by
  cases cmt with
  | none => rw [cmtText, List.append_nil]; exact takeWhile_ne_all '#' a h
  | some t => exact takeWhile_ne_stop '#' a t h

/-- the `default:` branch on a trimmed line `K = R0 [# cmt]` -/
theorem lineStep_default (ow : Bool) (raw K R0 : Str) (cmt : Option Str) (rest : List Str) (st : St)
    (hl : ltrim raw = K ++ '=' :: R0 ++ cmtText cmt) (hKb : K.head? ≠ some '[')
    (hKe : '=' ∉ K) (hKh : '#' ∉ K) (hR : '#' ∉ R0) :
    lineStep ow raw rest st =
      andThen (assignStep ow st (st.pfx ++ rtrim (ltrim K)) (readValue R0 rest).1)
        (fun st' => .ok (st', (readValue R0 rest).2)) := by
  -- the first character of the line is that of `K`, or `=`
  obtain ⟨c, r, hcr, hc1, hc2⟩ : ∃ c r, K ++ '=' :: R0 = c :: r ∧ (c == '#') = false ∧ (c == '[') = false := by
    cases K with
    | nil => exact ⟨'=', _, rfl, rfl, rfl⟩
    | cons c k => exact ⟨c, _, rfl, beq_eq_false_iff_ne.mpr fun e => hKh (e ▸ List.mem_cons_self),
        beq_eq_false_iff_ne.mpr fun e => hKb (e ▸ rfl)⟩
  have hnot : '#' ∉ K ++ '=' :: R0 := List.not_mem_append hKh (List.not_mem_cons_of_ne_of_not_mem (by decide) hR)
  unfold lineStep
  rw [hl, hcr, List.cons_append]
  simp only [hc1, hc2, Bool.false_eq_true, if_false]
  rw [← List.cons_append, ← hcr, takeWhile_cmt hnot, splitFirst_append '=' K R0 hKe]
  dsimp only
  cases assignStep ow st (st.pfx ++ rtrim (ltrim K)) (readValue R0 rest).fst <;> rfl

theorem lineStep_assign (ow : Bool) (ws1 key ws2 R0 : Str) (cmt : Option Str) (rest : List Str) (st : St)
    (h1 : blankStr ws1 = true) (h2 : blankStr ws2 = true)
    (hkey : key.all (fun c => c != '=' && c != '#' && c != '\n') = true) (hkt : trimmed key = true)
    (hkb : key.head? ≠ some '[') (hR : '#' ∉ R0) :
    lineStep ow (ws1 ++ (key ++ (ws2 ++ '=' :: (R0 ++ cmtText cmt)))) rest st
      = andThen (assignStep ow st (st.pfx ++ key) (readValue R0 rest).1)
          (fun st' => .ok (st', (readValue R0 rest).2)) := by
  cases key with
  | nil =>
    -- the blanks in front of `=` go with the leading ones
    exact lineStep_default ow _ [] R0 cmt rest st
      (by rw [ltrim_blank_append h1, List.nil_append, ltrim_blank_append h2, ltrim_cons_of_not_ws isWs_eq]; rfl)
      nofun nofun nofun hR
  | cons c k =>
    have := lineStep_default ow (ws1 ++ (c :: k ++ (ws2 ++ '=' :: (R0 ++ cmtText cmt)))) (c :: k ++ ws2) R0 cmt rest st
      (by rw [ltrim_blank_append h1, List.append_assoc, List.append_assoc]; exact ltrim_cons_of_not_ws (trimmed_head hkt))
      hkb (List.not_mem_append (not_mem_of_all hkey rfl) (not_mem_of_all h2 (by decide)))
      (List.not_mem_append (not_mem_of_all hkey rfl) (not_mem_of_all h2 (by decide))) hR
    rwa [key_part hkt h2] at this

theorem readValue_cons {ws3 : Str} (h3 : blankStr ws3 = true) {c : Char} (hc : isWs c = false) (v : Str) (rest : List Str) :
    readValue (ws3 ++ c :: v) rest =
      if isQuote c then ((rtrim (quoteLoop c v rest).1).dropLast, (quoteLoop c v rest).2) else (rtrim (c :: v), rest) := by
  unfold readValue
  rw [ltrim_blank_append h3, ltrim_cons_of_not_ws hc]
  rfl

theorem readValue_bare (ws3 value ws4 : Str) (rest : List Str)
    (h3 : blankStr ws3 = true) (h4 : blankStr ws4 = true)
    (ht : trimmed value = true) (hq : value.head?.all (fun c => !isQuote c) = true) :
    readValue (ws3 ++ value ++ ws4) rest = (value, rest) := by
  rw [List.append_assoc]
  cases value with
  | nil => unfold readValue; rw [List.nil_append, ltrim_blank_append h3, ltrim_all_ws (blank_all_ws h4)]
  | cons c v =>
    rw [List.cons_append, readValue_cons h3 (trimmed_head ht), if_neg (by simpa using hq), ← List.cons_append,
      rtrim_append_ws _ (blank_all_ws h4), rtrim_of_trimmed ht]

theorem quoteLoop_done (q : Char) (v : Str) (rest : List Str) (h : endsWith (rtrim v) q = true) :
    quoteLoop q v rest = (v, rest) := by
  cases rest <;> simp [quoteLoop, h]

theorem rtrim_closed (value ws4 : Str) (q : Char) (hq : isQuote q = true) (h4 : blankStr ws4 = true) :
    rtrim (value ++ q :: ws4) = value ++ [q] := by
  have : value ++ q :: ws4 = (value ++ [q]) ++ ws4 := by simp
  rw [this, rtrim_append_ws _ (blank_all_ws h4), rtrim_concat_of_not_ws _ (isWs_quote hq)]

theorem endsWith_closed (a ws4 : Str) (q : Char) (hq : isQuote q = true) (h4 : blankStr ws4 = true) :
    endsWith (rtrim (a ++ q :: ws4)) q = true := by
  rw [rtrim_closed _ ws4 q hq h4, endsWith, List.getLast?_concat]
  simp

theorem readValue_quoted (ws3 value ws4 : Str) (q : Char) (rest : List Str)
    (h3 : blankStr ws3 = true) (h4 : blankStr ws4 = true) (hq : isQuote q = true) :
    readValue (ws3 ++ (q :: value ++ [q]) ++ ws4) rest = (value, rest) := by
  rw [List.append_assoc, List.cons_append, List.cons_append, List.append_assoc, List.singleton_append,
    readValue_cons h3 (isWs_quote hq), if_pos hq, quoteLoop_done q _ rest (endsWith_closed value ws4 q hq h4),
    rtrim_closed value ws4 q hq h4, List.dropLast_concat]

theorem nl_ne_quote {q : Char} (hq : isQuote q = true) : '\n' ≠ q := by
  rintro rfl; simp [isQuote] at hq

/-- the continuation lines `w q ws4` of a quoted value: the loop appends them up to the line with the closing quote -/
theorem quoteLoop_multi (q : Char) (hq : isQuote q = true) (ws4 : Str) (h4 : blankStr ws4 = true) (rest : List Str)
    (w : Str) : q ∉ w → ∀ acc, q ∉ acc →
    quoteLoop q acc (linesOf (w ++ q :: ws4) ++ rest) = (acc ++ '\n' :: (w ++ q :: ws4), rest) := by
  induction w using sep_induction '\n' with
  | base w hnl =>
    -- the last line: it carries the closing quote
    intro _ acc hacc
    have hnl' : '\n' ∉ w ++ q :: ws4 :=
      List.not_mem_append hnl (List.not_mem_cons_of_ne_of_not_mem (nl_ne_quote hq) (blank_noNl h4))
    rw [linesOf, splitOnC_of_not_mem _ _ hnl']
    simp only [List.cons_append, List.nil_append, quoteLoop, endsWith_false_of_not_mem hacc, Bool.false_eq_true, if_false]
    apply quoteLoop_done
    rw [← List.cons_append, ← List.append_assoc]
    exact endsWith_closed _ ws4 q hq h4
  | step w1 w2 h1 ih =>
    intro hqw acc hacc
    rw [List.append_assoc, List.cons_append, linesOf, splitOnC_cons_of_not_mem _ _ _ h1]
    simp only [List.cons_append, quoteLoop, endsWith_false_of_not_mem hacc, Bool.false_eq_true, if_false]
    rw [← linesOf, ih (fun h => hqw (by simp [h])) (acc ++ '\n' :: w1)
      (List.not_mem_append hacc (List.not_mem_cons_of_ne_of_not_mem (nl_ne_quote hq).symm fun h => hqw (by simp [h])))]
    simp

theorem readValue_continued (ws3 v1 v2 ws4 : Str) (c : Char) (rest : List Str) (h3 : blankStr ws3 = true)
    (h4 : blankStr ws4 = true) (hq : isQuote c = true) (hc1 : c ∉ v1) (hc2 : c ∉ v2) :
    readValue (ws3 ++ c :: v1) (linesOf (v2 ++ c :: ws4) ++ rest) = (v1 ++ '\n' :: v2, rest) := by
  rw [readValue_cons h3 (isWs_quote hq), if_pos hq, quoteLoop_multi c hq ws4 h4 rest v2 hc2 v1 hc1,
    ← List.cons_append, ← List.append_assoc, rtrim_closed _ ws4 c hq h4, List.dropLast_concat]

theorem parseLines_one (ow : Bool) (line : Str) (rest rest' : List Str) (st : St) (hnl : '\n' ∉ line)
    (r : Except Err St) (h : lineStep ow line rest st = andThen r (fun st' => .ok (st', rest'))) :
    parseLines ow (linesOf line ++ rest) st = andThen r (fun st' => parseLines ow rest' st') := by
  rw [linesOf, splitOnC_of_not_mem _ _ hnl]
  simp only [List.cons_append, List.nil_append]
  rw [parseLines_cons, h]
  cases r <;> rfl

/-- an assignment line followed by the continuation lines `more` of its value: `readValue` consumes exactly those -/
theorem parseLines_assign (ow : Bool) (ws1 key ws2 R0 : Str) (cmt : Option Str) (value : Str) (more rest : List Str) (st : St)
    (h1 : blankStr ws1 = true) (h2 : blankStr ws2 = true)
    (hkey : key.all (fun c => c != '=' && c != '#' && c != '\n') = true) (hkt : trimmed key = true)
    (hkb : key.head? ≠ some '[') (hcm : cmt.all noNl = true) (hRh : '#' ∉ R0) (hRn : '\n' ∉ R0)
    (hrv : readValue R0 (more ++ rest) = (value, rest)) :
    parseLines ow (linesOf (ws1 ++ (key ++ (ws2 ++ '=' :: (R0 ++ cmtText cmt)))) ++ (more ++ rest)) st =
      andThen (assignStep ow st (st.pfx ++ key) value) (fun st' => parseLines ow rest st') := by
  refine parseLines_one ow _ _ rest st ?_ _ ?_
  · have hc : '\n' ∉ cmtText cmt := by
      cases cmt with
      | none => nofun
      | some t => exact List.not_mem_cons_of_ne_of_not_mem (by decide) (not_mem_of_noNl hcm)
    exact List.not_mem_append (blank_noNl h1) (List.not_mem_append (not_mem_of_all hkey rfl) (List.not_mem_append (blank_noNl h2)
      (List.not_mem_cons_of_ne_of_not_mem (by decide) (List.not_mem_append hRn hc))))
  · rw [lineStep_assign ow ws1 key ws2 R0 cmt _ st h1 h2 hkey hkt hkb hRh, hrv]

theorem parseLines_item (ow : Bool) (it : Item) (hwf : it.wf = true) (rest : List Str) (st : St) :
    parseLines ow (linesOf (renderItem it) ++ rest) st =
      andThen (itemStep ow it st) (fun st' => parseLines ow rest st') := by
  cases it with
  | blank ws =>
    simp only [Item.wf] at hwf
    exact parseLines_one ow ws rest rest st (blank_noNl hwf) (.ok st) (lineStep_blank ow ws rest st hwf)
  | comment ws text =>
    simp only [Item.wf, Bool.and_eq_true] at hwf
    exact parseLines_one ow _ rest rest st
      (List.not_mem_append (blank_noNl hwf.1) (List.not_mem_cons_of_ne_of_not_mem (by decide) (not_mem_of_noNl hwf.2)))
      (.ok st) (lineStep_comment ow ws text rest st hwf.1)
  | header ws1 ws2 p ws3 junk =>
    simp only [Item.wf, Bool.and_eq_true] at hwf
    obtain ⟨⟨⟨⟨⟨⟨h1, h2⟩, h3⟩, hj⟩, hpn⟩, hpb⟩, hpt⟩ := hwf
    refine parseLines_one ow _ rest rest st ?_ (.ok { st with pfx := newPrefix p })
      (lineStep_header ow ws1 ws2 p ws3 junk rest st h1 h2 h3 hpb hpt)
    simp only [renderItem, List.mem_append, List.mem_cons, not_or]
    exact ⟨⟨⟨⟨blank_noNl h1, by decide, blank_noNl h2⟩, not_mem_of_noNl hpn⟩, blank_noNl h3⟩, by decide, not_mem_of_noNl hj⟩
  | assign ws1 key ws2 ws3 q value ws4 cmt =>
    simp only [Item.wf, Bool.and_eq_true] at hwf
    obtain ⟨⟨⟨⟨⟨⟨⟨⟨h1, h2⟩, h3⟩, h4⟩, hkey⟩, hkt⟩, hkb⟩, hcm⟩, hv⟩ := hwf
    -- left to each shape of value: `cmt.all noNl`, `'#' ∉ R0`, `'\n' ∉ R0`, and what `readValue` makes of `R0` and `more`
    have asg := fun R0 cmt more => parseLines_assign ow ws1 key ws2 R0 cmt value more rest st h1 h2 hkey hkt (by simpa using hkb)
    have h3h : '#' ∉ ws3 := not_mem_of_all h3 (by decide)
    have h4h : '#' ∉ ws4 := not_mem_of_all h4 (by decide)
    rw [renderItem_assign]
    cases q with
    | none =>
      simp only [Bool.and_eq_true] at hv
      obtain ⟨⟨hvc, hvt⟩, hvq⟩ := hv
      exact asg (ws3 ++ value ++ ws4) cmt [] hcm
        (List.not_mem_append (List.not_mem_append h3h (not_mem_of_all hvc rfl)) h4h)
        (List.not_mem_append (List.not_mem_append (blank_noNl h3) (not_mem_of_all hvc rfl)) (blank_noNl h4))
        (readValue_bare ws3 value ws4 rest h3 h4 hvt hvq)
    | some c =>
      simp only [Bool.and_eq_true] at hv
      obtain ⟨⟨⟨hcq, hvc⟩, hvh⟩, hvn⟩ := hv
      have hcv : c ∉ value := not_mem_of_all hvc (by simp)
      have hch : '#' ≠ c := by rintro rfl; simp [isQuote] at hcq
      by_cases hnl : '\n' ∈ value
      · -- continued over several lines; no comment allowed
        obtain ⟨v1, v2, rfl, hv1⟩ := List.eq_append_cons_of_mem hnl
        have hcm' : cmt = none := by
          have : noNl (v1 ++ '\n' :: v2) = false := by simp [noNl]
          rw [this] at hvn
          simpa using hvn
        subst hcm'
        rw [takeWhile_ne_stop '\n' v1 v2 hv1] at hvh
        have e : ws1 ++ (key ++ (ws2 ++ '=' :: (ws3 ++ spell (some c) (v1 ++ '\n' :: v2) ++ ws4 ++ cmtText none))) =
            (ws1 ++ (key ++ (ws2 ++ '=' :: ((ws3 ++ c :: v1) ++ cmtText none)))) ++ '\n' :: (v2 ++ c :: ws4) := by
          simp [spell, cmtText, List.append_assoc]
        rw [e, linesOf, splitOnC_append, List.append_assoc]
        exact asg (ws3 ++ c :: v1) none _ rfl
          (List.not_mem_append h3h (List.not_mem_cons_of_ne_of_not_mem hch (not_mem_of_all hvh (by simp))))
          (List.not_mem_append (blank_noNl h3) (List.not_mem_cons_of_ne_of_not_mem (nl_ne_quote hcq) hv1))
          (readValue_continued ws3 v1 v2 ws4 c rest h3 h4 hcq (fun h => hcv (by simp [h])) (fun h => hcv (by simp [h])))
      · -- closed on the same line
        rw [takeWhile_ne_all '\n' value hnl] at hvh
        have hvh' : '#' ∉ value := not_mem_of_all hvh (by simp)
        exact asg (ws3 ++ (c :: value ++ [c]) ++ ws4) cmt [] hcm
          (List.not_mem_append (List.not_mem_append h3h (List.not_mem_cons_of_ne_of_not_mem hch
            (List.not_mem_append hvh' (List.not_mem_cons_of_ne_of_not_mem hch nofun)))) h4h)
          (List.not_mem_append (List.not_mem_append (blank_noNl h3) (List.not_mem_cons_of_ne_of_not_mem (nl_ne_quote hcq)
            (List.not_mem_append hnl (List.not_mem_cons_of_ne_of_not_mem (nl_ne_quote hcq) nofun)))) (blank_noNl h4))
          (readValue_quoted ws3 value ws4 c rest h3 h4 hcq)

/-- the empty document is one blank line -/
theorem parseLines_doc_nil (ow : Bool) (rest : List Str) (st : St) :
    parseLines ow (linesOf (renderDoc []) ++ rest) st = parseLines ow rest st :=
  parseLines_item ow (.blank []) rfl rest st

/-- one item of a document; the same whatever follows it, by `parseLines_doc_nil` -/
theorem parseLines_doc_cons (ow : Bool) (it : Item) (hwf : it.wf = true) (r : List Item) (rest : List Str) (st : St) :
    parseLines ow (linesOf (renderDoc (it :: r)) ++ rest) st =
      andThen (itemStep ow it st) (fun st' => parseLines ow (linesOf (renderDoc r) ++ rest) st') := by
  cases r with
  | nil =>
    simp only [parseLines_doc_nil]
    exact parseLines_item ow it hwf rest st
  | cons it2 r =>
    rw [show renderDoc (it :: it2 :: r) = renderItem it ++ '\n' :: renderDoc (it2 :: r) from rfl, linesOf, splitOnC_append,
      List.append_assoc]
    exact parseLines_item ow it hwf _ st

/-- `applyAll` does not read the prefix in its state (`p0`), the reader does (`p`): with the two apart, a header is the
    induction hypothesis at another `p` -/
theorem parseLines_doc (ow : Bool) : ∀ (items : List Item), (∀ it ∈ items, it.wf = true) →
    ∀ (rest : List Str) (p p0 : Str) (seen : List Str) (t : Tree),
    parseLines ow (linesOf (renderDoc items) ++ rest) ⟨p, seen, t⟩ =
      andThen (applyAll ow (denote p items) ⟨p0, seen, t⟩)
        (fun s => parseLines ow rest ⟨lastPrefix p items, s.seen, s.tree⟩)
  | [], _, rest, p, p0, seen, t => parseLines_doc_nil ow rest _
  | it :: r, hwf, rest, p, p0, seen, t => by
    have ih := parseLines_doc ow r (fun x hx => hwf x (List.mem_cons_of_mem _ hx)) rest
    rw [parseLines_doc_cons ow it (hwf it List.mem_cons_self)]
    cases it with
    | blank _ => exact ih p p0 seen t
    | comment _ _ => exact ih p p0 seen t
    | header _ _ p' _ _ => exact ih (newPrefix p') p0 seen t
    | assign _ k _ _ _ v _ _ =>
      simp only [itemStep, denote, applyAll, assignStep_eq]
      split
      · rfl
      · cases storeStep ow t (p ++ k) v with
        | error e => rfl
        | ok t' => exact ih p p0 _ t'

theorem parseINI_renderDoc (items : List Item) (hwf : ∀ it ∈ items, it.wf = true) (t : Tree) (ow : Bool) :
    parseINI (renderDoc items) t ow =
      andThen (applyAll ow (denote [] items) ⟨[], [], t⟩) (fun s => .ok s.tree) := by
  have h := parseLines_doc ow items hwf [] [] [] [] t
  rw [List.append_nil] at h
  rw [parseINI, ← linesOf, h]
  cases applyAll ow (denote [] items) ⟨[], [], t⟩ <;> rfl

theorem parseINI_renderDoc_ok {items : List Item} (hwf : ∀ it ∈ items, it.wf = true) {t t' : Tree} {ow : Bool}
    (h : parseINI (renderDoc items) t ow = .ok t') :
    ∃ st, applyAll ow (denote [] items) ⟨[], [], t⟩ = .ok st ∧ st.tree = t' := by
  rw [parseINI_renderDoc items hwf] at h
  obtain ⟨st, hs, h⟩ := andThen_eq_ok.mp h
  exact ⟨st, hs, Except.ok.inj h⟩

theorem parseINI_ne_fuel (doc : Str) (t : Tree) (ow : Bool) : parseINI doc t ow ≠ .error .fuel := by
  have := (parseLoop_spec ow _ (splitOnC '\n' doc) ⟨[], [], t⟩ (Nat.le_refl _)).1
  unfold parseINI parseLines
  split <;> simp_all

end DV.C12
