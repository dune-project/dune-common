import DuneVerif.Proofs.C20Basic
/-! Indexing, arithmetic, norms, the iteration protocol and string conversion of the bindings against the plain operations on
    the entries. -/
namespace DV.C20

theorem getItem_of_norm (v : List Int) (i : Int) (p : Nat) (h : normIndex v.length i = some p) :
    getItem v i = .ok (v.getD p 0) := by
  simp [getItem, h]

theorem setItem_of_norm (v : List Int) (i x : Int) (p : Nat) (h : normIndex v.length i = some p) :
    setItem v i x = .ok (v.set p x) := by
  simp [setItem, h]

theorem getD_set_same (v : List Int) (p : Nat) (x : Int) (hp : p < v.length) : (v.set p x).getD p 0 = x := by
  simp [List.getD_eq_getElem?_getD, List.getElem?_set_self hp]

theorem pyNeg_eq (v : List Int) : pyNeg v = vneg v := by
  unfold pyNeg vscale vneg
  apply List.map_congr_left
  intro a _
  exact Int.mul_neg_one a

theorem vadd_comm (a b : List Int) : vadd a b = vadd b a := List.zipWith_comm_of_comm Int.add_comm

theorem vsub_swap (a b : List Int) : vsub a b = vneg (vsub b a) := by
  unfold vsub vneg
  rw [List.map_zipWith, List.zipWith_comm]
  congr 1
  funext x y
  omega

theorem vsub_zero_left (v : List Int) : vsub (List.replicate v.length 0) v = vneg v := by
  unfold vsub vneg
  -- the zeros are a constant map of `v`, and `zipWith` of two maps of one list is a map
  rw [← List.map_const', List.zipWith_map_left, List.zipWith_self]
  exact List.map_congr_left fun a _ => Int.zero_sub a

theorem vscale_eq_map_mul_left (k : Int) (v : List Int) : vscale k v = v.map (fun e => k * e) := by
  unfold vscale
  apply List.map_congr_left
  intro a _
  exact Int.mul_comm a k

theorem foldl_add_sum (f : Int → Int) (l : List Int) : l.foldl (fun s e => s + f e) 0 = (l.map f).sum := by
  rw [List.sum_eq_foldl, List.foldl_map]

theorem oneNorm_cons (e : Int) (v : List Int) : oneNorm (e :: v) = iabs e + oneNorm v := by
  unfold oneNorm
  rw [foldl_add_sum, foldl_add_sum]
  rfl

theorem twoNorm2_cons (e : Int) (v : List Int) : twoNorm2 (e :: v) = e * e + twoNorm2 v := by
  unfold twoNorm2
  rw [foldl_add_sum, foldl_add_sum]
  rfl

theorem vdot_cons (a b : Int) (x y : List Int) : vdot (a :: x) (b :: y) = a * b + vdot x y := by
  unfold vdot
  rw [← List.sum_eq_foldl, ← List.sum_eq_foldl]
  rfl

theorem twoNorm2_eq_dot (v : List Int) : twoNorm2 v = vdot v v := by
  unfold twoNorm2 vdot
  rw [foldl_add_sum, ← List.sum_eq_foldl, List.zipWith_self]

theorem iabs_nonneg (e : Int) : 0 ≤ iabs e := Int.natCast_nonneg e.natAbs

theorem infNorm_max (v : List Int) : (0 :: v.map iabs).max? = some (infNorm v) := by
  rw [List.max?_cons', List.foldl_map]
  rfl

theorem infNorm_spec (v : List Int) :
    (∀ a ∈ v, iabs a ≤ infNorm v) ∧ (infNorm v = 0 ∨ ∃ a ∈ v, infNorm v = iabs a) := by
  obtain ⟨hm, hle⟩ := List.max?_eq_some_iff.mp (infNorm_max v)
  refine ⟨fun a ha => hle _ (List.mem_cons_of_mem _ (List.mem_map_of_mem ha)), ?_⟩
  rcases List.mem_cons.mp hm with h | h
  · exact Or.inl h
  · obtain ⟨a, ha, e⟩ := List.mem_map.mp h
    exact Or.inr ⟨a, ha, e.symm⟩

theorem getItem_nat_lt (v : List Int) (i : Nat) (h : i < v.length) : getItem v (i : Int) = .ok v[i] := by
  rw [List.getElem_eq_getD 0]
  -- `(↑i).toNat` is `i` by computation
  exact getItem_of_norm v i i (normIndex_nonneg v.length i (Int.natCast_nonneg i) (Int.ofNat_lt.mpr h))

theorem getItem_nat_ge (v : List Int) (i : Nat) (h : v.length ≤ i) : getItem v (i : Int) = .error .index := by
  have hn : normIndex v.length (i : Int) = none := normIndex_out _ _ (Or.inr (Int.ofNat_le.mpr h))
  simp [getItem, hn]

theorem iterFrom_eq (v : List Int) (i fuel : Nat) : iterFrom v i fuel = (v.drop i).take fuel := by
  induction fuel generalizing i with
  | zero => rfl
  | succ fuel ih =>
    rcases Nat.lt_or_ge i v.length with h | h
    · rw [List.drop_eq_getElem_cons h, List.take_succ_cons, ← ih]
      simp only [iterFrom, getItem_nat_lt v i h]
    · rw [List.drop_eq_nil_of_le h]
      simp only [iterFrom, getItem_nat_ge v i h, List.take_nil]

theorem pyIter_eq (v : List Int) : pyIter v = v := by
  unfold pyIter
  rw [iterFrom_eq, List.drop_zero, List.take_of_length_le (Nat.le_succ _)]

theorem joinLoop_eq (d : String) : ∀ (l : List String), joinLoop d l = d.intercalate l
  | [] => rfl
  | x :: xs => by
    induction xs generalizing x with
    | nil => exact String.intercalate_singleton.symm
    | cons y ys ih =>
      -- one turn of the loop; `String.intercalate` too keeps the text so far as the head of the list
      show joinLoop d ((x ++ d ++ y) :: ys) = _
      rw [ih, String.intercalate_cons_append, String.intercalate_cons_cons]

end DV.C20
