import DuneVerif.Gen.C20
import DuneVerif.Proofs.C20Basic
/-!
Tie between the definitions regenerated from the source on every run (`DuneVerif/Gen/C20.lean`, written by
`tools/translators/tr_c20.py`) and the hand-written model: interpreters for the generated loop descriptions (`runLoop`,
`runBufLoop`; `runLoop_eq` for a loop that copies `xs[i]` to entry `i`), the normal form that the generated and the model's
index normalisation share (`gen_norm_char`, `normIndex_char`), and the table `boundTable` saying which operation names of the
op language drive which binding.
-/
namespace DV.C20

/-- run a generated copy loop: a vector of `size` entries `init`, then `acc[dst i] := xs[src i]` for `first ≤ i < bound` -/
def runLoop (c : Gen.CopyLoop) (size : Nat) (xs : List Int) : List Int :=
  (List.range' (c.first size xs.length) (c.bound size xs.length - c.first size xs.length)).foldl
    (fun acc i => acc.set (c.dst i) (xs.getD (c.src i) 0)) (List.replicate size c.init)

/-- run the generated buffer constructor: the source is addressed in whole items of `w = 8` bytes from `ptr` -/
def runBufLoop (n : Nat) (mem : List Int) (m : MemLay) (b : BufInfo) : List Int :=
  (List.range' (Gen.bufFirst n b.shape) (Gen.bufBound n b.shape - Gen.bufFirst n b.shape)).foldl
    (fun acc i => acc.set (Gen.bufDst i) (m.load mem (b.ptr + 8 * Gen.bufSrc (i : Int) (Gen.bufStride b.stride 8))))
    (List.replicate n Gen.bufInit)

theorem runLoop_eq (c : Gen.CopyLoop) (bound : Nat → Nat → Nat) (hi : c.init = 0) (hf : ∀ s l, c.first s l = 0)
    (hb : ∀ s l, c.bound s l = bound s l) (hd : ∀ i, c.dst i = i) (hs : ∀ i, c.src i = i) (n : Nat) (xs : List Int) :
    runLoop c n xs =
      (List.range (bound n xs.length)).foldl (fun acc i => acc.set i (xs.getD i 0)) (List.replicate n 0) := by
  have h1 : c.dst = fun i => i := funext hd
  have h2 : c.src = fun i => i := funext hs
  unfold runLoop
  rw [hi, hf, hb, h1, h2, List.range_eq_range']
  simp

/-- the generated index normalisation, whatever the order and spelling of its tests: `none` outside `[-n, n)`, else the
    entry `i` / `n + i` -/
theorem gen_norm_char (n : Nat) (i : Int) :
    Gen.normalizeIndex n i = if i < -(n:Int) ∨ (n:Int) ≤ i then none else some (if i < 0 then i + n else i) := by
  unfold Gen.normalizeIndex
  simp only [Bool.or_eq_true, decide_eq_true_eq]
  repeat' split
  all_goals first | rfl | (exfalso; omega) | (apply congrArg; omega)

theorem normIndex_char (n : Nat) (i : Int) :
    (normIndex n i).map (fun (p : Nat) => Int.ofNat p) = if i < -(n:Int) ∨ (n:Int) ≤ i then none else some (if i < 0 then i + n else i) := by
  rw [normIndex_eq]
  by_cases hr : -(n : Int) ≤ i ∧ i < n
  · rw [if_pos hr, if_neg (by omega), Option.map_some, Int.ofNat_eq_natCast,
      Int.toNat_of_nonneg (Int.emod_nonneg i (by omega)), emod_of_index hr.1 hr.2]
  · rw [if_neg hr, if_pos (by omega)]
    rfl

/-- which operation names of the op language (`harness/c20_py.py` executor `op_*`, `Driver/C20.lean`) drive a binding;
    `-` = a structural entry (the order in which registration functions are called).  The left column is compared with the
    generated `Gen.bindings` (`gen_bindings_modelled`); the right column is written by hand and compared with nothing. -/
def boundTable : List (String × String) := [
  ("densevector.hh:registerCopyingDenseVectorMethods#1: def __add__(T,list)", "addl"),
  ("densevector.hh:registerCopyingDenseVectorMethods#1: def __div__(T,ValueType)", "ldiv"),
  ("densevector.hh:registerCopyingDenseVectorMethods#1: def __mul__(T,ValueType)", "mul muli"),
  ("densevector.hh:registerCopyingDenseVectorMethods#1: def __neg__(T)", "neg"),
  ("densevector.hh:registerCopyingDenseVectorMethods#1: def __pos__(object)", "alias"),
  ("densevector.hh:registerCopyingDenseVectorMethods#1: def __radd__(T,list)", "raddl"),
  ("densevector.hh:registerCopyingDenseVectorMethods#1: def __rmul__(T,ValueType)", "rmul rmuli"),
  ("densevector.hh:registerCopyingDenseVectorMethods#1: def __rsub__(T,list)", "rsubl"),
  ("densevector.hh:registerCopyingDenseVectorMethods#1: def __sub__(T,list)", "subl"),
  ("densevector.hh:registerCopyingDenseVectorMethods#1: def __truediv__(T,ValueType)", "div divi"),
  ("densevector.hh:registerCopyingDenseVectorMethods#1: op self+self", "add addo"),
  ("densevector.hh:registerCopyingDenseVectorMethods#1: op self-self", "sub subo"),
  ("densevector.hh:registerDenseVector: def __getitem__(T,ssize_t)", "get getn iter slice"),
  ("densevector.hh:registerDenseVector: def __getitem__(T,int_)", "get"),
  ("densevector.hh:registerDenseVector: def __len__(T)", "len"),
  ("densevector.hh:registerDenseVector: def __setitem__(T,ssize_t,ValueType)", "set setn"),
  ("densevector.hh:registerDenseVector: def __setitem__(T,int_,ValueType)", "set"),
  ("densevector.hh:registerDenseVector: def assign(T,T)", "assign assigno"),
  ("densevector.hh:registerDenseVector: op self!=self", "ne nel neo"),
  ("densevector.hh:registerDenseVector: op self*=ValueType", "imuls imuli"),
  ("densevector.hh:registerDenseVector: op self+=self", "iadd iaddl iaddo"),
  ("densevector.hh:registerDenseVector: op self+=ValueType", "iadds iaddi"),
  ("densevector.hh:registerDenseVector: op self-=self", "isub isubl isubo"),
  ("densevector.hh:registerDenseVector: op self-=ValueType", "isubs isubi"),
  ("densevector.hh:registerDenseVector: op self/=ValueType", "idivs idivi"),
  ("densevector.hh:registerDenseVector: op self==self", "eq eql eqo"),
  ("densevector.hh:registerDenseVector: call registerOneTensorInterface", "-"),
  ("densevector.hh:registerDenseVector: call registerCopyingDenseVectorMethods", "-"),
  ("densevector.hh:registerDenseVector: call registerScalarCopyingDenseVectorMethods", "-"),
  ("densevector.hh:registerDenseVector: conv list,T", "addo subo eqo neo doto assigno iaddo isubo"),
  ("densevector.hh:registerScalarCopyingDenseVectorMethods#1: def __add__(object,int)", "addi"),
  ("densevector.hh:registerScalarCopyingDenseVectorMethods#1: def __radd__(object,int)", "raddi"),
  ("densevector.hh:registerScalarCopyingDenseVectorMethods#1: def __rsub__(T,int)", "rsubi"),
  ("densevector.hh:registerScalarCopyingDenseVectorMethods#1: def __sub__(object,int)", "subi"),
  ("densevector.hh:registerScalarCopyingDenseVectorMethods#2: def __add__(T,int)", "addi"),
  ("densevector.hh:registerScalarCopyingDenseVectorMethods#2: def __add__(T,ValueType)", "addf"),
  ("densevector.hh:registerScalarCopyingDenseVectorMethods#2: def __radd__(T,int)", "raddi"),
  ("densevector.hh:registerScalarCopyingDenseVectorMethods#2: def __radd__(T,ValueType)", "raddf"),
  ("densevector.hh:registerScalarCopyingDenseVectorMethods#2: def __rsub__(T,int)", "rsubi"),
  ("densevector.hh:registerScalarCopyingDenseVectorMethods#2: def __rsub__(T,ValueType)", "rsubf"),
  ("densevector.hh:registerScalarCopyingDenseVectorMethods#2: def __sub__(T,int)", "subi"),
  ("densevector.hh:registerScalarCopyingDenseVectorMethods#2: def __sub__(T,ValueType)", "subf"),
  ("dynvector.hh:registerDynamicVector: init()", "new zero"),
  ("dynvector.hh:registerDynamicVector: init(list)", "new list ilist"),
  ("dynvector.hh:registerDynamicVector: def __repr__(DV)", "str"),
  ("dynvector.hh:registerDynamicVector: call registerDenseVector", "-"),
  ("fvector.hh:registerFieldVector: def __float__(FV)", "float"),
  ("fvector.hh:registerFieldVector: init()", "new zero"),
  ("fvector.hh:registerFieldVector: init(int)", "new iargs"),
  ("fvector.hh:registerFieldVector: init(K)", "new args"),
  ("fvector.hh:registerFieldVector: init(buffer)", "new np nps2 npsm1 npb0 arr nb_*"),
  ("fvector.hh:registerFieldVector: init(tuple)", "new tuple ituple"),
  ("fvector.hh:registerFieldVector: init(list)", "new list ilist"),
  ("fvector.hh:registerFieldVector: init(args)", "new args iargs"),
  ("fvector.hh:registerFieldVector: def __repr__(FV)", "str"),
  ("fvector.hh:registerFieldVector: def __str__(FV)", "str"),
  ("fvector.hh:registerFieldVector: buffer()", "view npcopy sl slice nvscale"),
  ("fvector.hh:registerFieldVector: def copy(FV,args)", "mcopy mcopya"),
  ("fvector.hh:registerFieldVector: call registerDenseVector", "-"),
  ("fvector.hh:registerFieldVector: call registerFieldVector", "-"),
  ("fvector.hh:registerFieldVector: conv int,FV", "muli rmuli"),
  ("fvector.hh:registerFieldVector: conv K,FV", "mul rmul"),
  ("fvector.hh:registerFieldVector: conv args,FV", "addo subo (tuple)"),
  ("fvector.hh:registerFieldVector: conv buffer,FV", "addo subo eqo doto (np arr)"),
  ("tuplevector.hh:registerTupleVector: def __getitem__(TV,size_t)", "tget tlist tsetel"),
  ("tuplevector.hh:registerTupleVector: init(tuple)", "tnew tnewa"),
  ("tuplevector.hh:registerTupleVector: def __len__(TV)", "tlen"),
  ("tuplevector.hh:registerTupleVector: def __setitem__(TV,size_t,object)", "tsetd tseti tsetf tsetl"),
  ("tuplevector.hh:registerTupleVector: def assign(TV,TV)", "tassign"),
  ("tuplevector.hh:registerTupleVector: def copy(TV)", "tcopy"),
  ("vector.hh:registerOneTensorInterface#1: def __mul__(T,T)", "dot dotl doto"),
  ("vector.hh:registerOneTensorInterface#1: def __rmul__(T,T)", "rdotl"),
  ("vector.hh:registerOneTensorInterface#1: prop infinity_norm(T)", "norms"),
  ("vector.hh:registerOneTensorInterface#1: prop infinity_norm_real(T)", "norms"),
  ("vector.hh:registerOneTensorInterface#1: prop one_norm(T)", "norms"),
  ("vector.hh:registerOneTensorInterface#1: prop one_norm_real(T)", "norms"),
  ("vector.hh:registerOneTensorInterface#1: prop two_norm(T)", "norms"),
  ("vector.hh:registerOneTensorInterface#1: prop two_norm2(T)", "norms")
]

end DV.C20
