import DuneVerif.Proofs.C09X
/-!
# C09 — every kernel shape of the translator's grammar is lane-wise; entry-wise maps of rectangular matrices (`A += B` … `A.axpy(k, B)`)
-/
namespace DV.C09
open Gen

section Kern
variable {V : Type → Type} {L : Nat} (X : SimdLike V L) (hX : X.Lawful) {K : Type} (R : Arith K) {r c : Nat} (l : Fin L)
  (cj : K → K) (s : KShape)

include hX in
theorem hom_kTerm (alpha : V K) :
    LaneHom2 X l (kTerm X R cj s alpha) (kTerm Xs R cj s (X.lane l alpha)) := by
  intro a b
  simp only [kTerm, lane_laws, hX, apply_ite (X.lane l), hX.lane_map]
  rfl

include hX in
theorem hom_kUpd : LaneHom2 X l (kUpd X R s) (kUpd Xs R s) := by
  intro a b
  simp only [kUpd, apply_ite (X.lane l), lane_laws, hX]

include hX in
theorem kPre_lane : (kPre X R s).map (X.lane l) = kPre Xs R s := by
  unfold kPre
  rw [Option.map_if, lane_bcast' X hX]

include hX in
theorem kernelRunN_lanewise (alpha : V K) (A : RMat (V K) r c) (x : Vector (V K) c) (y : Vector (V K) r) :
    laneVec X l (kernelRunN X R cj s alpha A x y) =
      kernelRunN Xs R cj s (X.lane l alpha) (laneRMat X l A) (laneVec X l x) (laneVec X l y) :=
  kernelN_lanewise X l _ _ _ _ _ _ (kPre_lane X hX R l s) (hom_kUpd X hX R l s) (hom_kTerm X hX R l cj s alpha) A x y

include hX in
theorem kernelRunT_lanewise (alpha : V K) (A : RMat (V K) r c) (x : Vector (V K) r) (y : Vector (V K) c) :
    laneVec X l (kernelRunT X R cj s alpha A x y) =
      kernelRunT Xs R cj s (X.lane l alpha) (laneRMat X l A) (laneVec X l x) (laneVec X l y) := by
  unfold kernelRunT
  cases s.form with
  | mtv =>
    exact kernelM_lanewise X l _ _ _ _ _ _ (kPre_lane X hX R l s) (hom_kUpd X hX R l s) (hom_kTerm X hX R l cj s alpha) A x y
  | n | t =>
    exact kernelT_lanewise X l _ _ _ _ (hom_kUpd X hX R l s) (hom_kTerm X hX R l cj s alpha) A x y

end Kern

section MatSpace
variable {V : Type → Type} {L : Nat} (X : SimdLike V L) (hX : X.Lawful) {K : Type} (R : Arith K) {r c : Nat} (l : Fin L)

theorem rmap2_lanewise (f : V K → V K → V K) (fs : K → K → K) (h : ∀ a b, X.lane l (f a b) = fs (X.lane l a) (X.lane l b))
    (A B : RMat (V K) r c) : laneRMat X l (RMat.map2 f A B) = RMat.map2 fs (laneRMat X l A) (laneRMat X l B) := by
  simp only [laneRMat, RMat.map2, Vector.map_zipWith, Vector.zipWith_map, h]

theorem rmap1_lanewise (f : V K → V K) (fs : K → K) (h : ∀ a, X.lane l (f a) = fs (X.lane l a))
    (A : RMat (V K) r c) : laneRMat X l (RMat.map1 f A) = RMat.map1 fs (laneRMat X l A) := by
  simp only [laneRMat, RMat.map1, Vector.map_map, Function.comp_def, h]

end MatSpace
end DV.C09
