import DuneVerif.Proofs.C13Add
/-! C13: the numbering of the processes (the communicator's choice) is irrelevant, because the specification of the
sync (`SyncSpec`, C13Restore) does not depend on it.  Core Lean only. -/
namespace DV.C13

/-- the states of one process in two worlds whose processes are numbered differently (`ρ`: number in the first world
↦ number in the second): same index set and sequence numbers, and what the first lists for process `y` the second
lists for process `ρ y` -/
def RenSt (ρ : Nat → Nat) (P : Nat) (st st' : RankState) : Prop :=
  st'.idx = st.idx ∧ st'.idxSeq = st.idxSeq ∧ st'.remSeq = st.remSeq ∧
  (∀ y, y < P → listOf st'.remote (ρ y) = listOf st.remote y) ∧
  (∀ y, y < P → isNeighbour st'.remote (ρ y) = isNeighbour st.remote y)

/-- for `renumbered_of_forall` on concrete worlds (`exRen`, Props/C13.lean) -/
instance (ρ : Nat → Nat) (P : Nat) (st st' : RankState) : Decidable (RenSt ρ P st st') := by
  unfold RenSt; exact inferInstance

theorem RenSt.listOf_eq {ρ : Nat → Nat} {P : Nat} {st st' : RankState} (h : RenSt ρ P st st') {y : Nat} (hy : y < P) :
    listOf st'.remote (ρ y) = listOf st.remote y := h.2.2.2.1 y hy

/-- `w'` is the world `w` with process `p` called `ρ p` -/
def Renumbered (ρ : Nat → Nat) (w w' : World) : Prop :=
  w'.length = w.length ∧ ∀ (p : Nat) (st : RankState), w[p]? = some st → ∃ st', w'[ρ p]? = some st' ∧ RenSt ρ w.length st st'

/-- `Renumbered` process by process, in a form that can be evaluated on concrete worlds -/
theorem renumbered_of_forall (ρ : Nat → Nat) (w w' : World) (hl : w'.length = w.length)
    (h : ∀ p, p < w.length →
      ρ p < w'.length ∧ RenSt ρ w.length (w[p]?.getD ⟨[], [], 0, 0⟩) (w'[ρ p]?.getD ⟨[], [], 0, 0⟩)) :
    Renumbered ρ w w' := by
  refine ⟨hl, fun p st hp => ?_⟩
  obtain ⟨h1, h2⟩ := h p (List.getElem?_eq_some_iff.1 hp).1
  rw [hp, List.getElem?_eq_getElem h1] at h2
  exact ⟨_, List.getElem?_eq_getElem h1, h2⟩

/-- `ρ` permutes `0 … P-1`, with inverse `ρi` -/
def PermOn (P : Nat) (ρ ρi : Nat → Nat) : Prop :=
  (∀ p, p < P → ρ p < P ∧ ρi (ρ p) = p) ∧ (∀ y, y < P → ρi y < P ∧ ρ (ρi y) = y)

theorem PermOn.inj {P : Nat} {ρ ρi : Nat → Nat} (hP : PermOn P ρ ρi) {a b : Nat} (ha : a < P) (hb : b < P) :
    ρ a = ρ b ↔ a = b :=
  ⟨fun h => by rw [← (hP.1 a ha).2, ← (hP.1 b hb).2, h], congrArg ρ⟩

/-- what some process of `w` satisfies, its namesake in `w'` satisfies, when the two statements agree on
corresponding states -/
theorem Renumbered.exists_iff {ρ ρi : Nat → Nat} {w w' : World} (hR : Renumbered ρ w w') (hP : PermOn w.length ρ ρi)
    {α : Type} {F F' : Nat → RankState → α → Prop}
    (h : ∀ p sp sp' a, p < w.length → RenSt ρ w.length sp sp' → (F' (ρ p) sp' a ↔ F p sp a)) :
    (∃ p' sp' a, w'[p']? = some sp' ∧ F' p' sp' a) ↔ ∃ p sp a, w[p]? = some sp ∧ F p sp a := by
  constructor
  · rintro ⟨p', sp', a, h1, h2⟩
    -- `p'` is the new name of `ρi p'`
    obtain ⟨p, hp, rfl⟩ : ∃ p, p < w.length ∧ ρ p = p' :=
      ⟨ρi p', hP.2 p' (hR.1 ▸ (List.getElem?_eq_some_iff.1 h1).1)⟩
    obtain ⟨st', hst', hren⟩ := hR.2 p _ (List.getElem?_eq_getElem hp)
    cases hst'.symm.trans h1
    exact ⟨p, _, a, List.getElem?_eq_getElem hp, (h _ _ _ a hp hren).1 h2⟩
  · rintro ⟨p, sp, a, h1, h2⟩
    obtain ⟨sp', hsp', hren⟩ := hR.2 p sp h1
    exact ⟨_, sp', a, hsp', (h p sp sp' a (List.getElem?_eq_some_iff.1 h1).1 hren).2 h2⟩

/-- beliefs speak of the lists the processes keep for `q`, which correspond -/
theorem belief_renumbered {ρ ρi : Nat → Nat} {w w' : World} (hR : Renumbered ρ w w') (hP : PermOn w.length ρ ρi)
    (q : Nat) (hq : q < w.length) (g : Int) (a : Nat) : Belief w' (ρ q) g a ↔ Belief w q g a :=
  hR.exists_iff hP fun p sp sp' en _ hren => by rw [hren.listOf_eq hq]

/-- ... and of which process is which, where `ρ` is one to one -/
theorem beliefRem_renumbered {ρ ρi : Nat → Nat} {w w' : World} (hR : Renumbered ρ w w') (hP : PermOn w.length ρ ρi)
    (q x : Nat) (hq : q < w.length) (hx : x < w.length) (en : RemEntry) :
    BeliefRem w' (ρ q) (ρ x) en ↔ BeliefRem w q x en :=
  hR.exists_iff hP fun p sp sp' enq hp hren => by
    rw [hren.listOf_eq hq, hren.listOf_eq hx, hP.inj hx hp, Ne, hP.inj hx hq]

end DV.C13
