import DuneVerif.Proofs.C13World
/-! C13: the consistent state of a decomposition, deleting copies from it. Core Lean only. -/
namespace DV.C13

/-- every rank's slice lists each global index at most once, in ascending order -/
def DecompWF (D : Decomp) : Prop := ∀ sl ∈ D, sl.Pairwise (fun a b => a.1 < b.1)

theorem slice_eq_of_lt (D : Decomp) (p : Nat) (h : p < D.length) : D[p]? = some (D.slice p) := by
  rw [Decomp.slice, List.getD_eq_getElem?_getD, List.getElem?_eq_getElem h]; rfl

theorem slice_eq_nil (D : Decomp) (p : Nat) (h : D.length ≤ p) : D.slice p = [] := by
  rw [Decomp.slice, List.getD_eq_getElem?_getD, List.getElem?_eq_none h]; rfl

theorem attrOf_lt {D : Decomp} {p : Nat} {g : Int} {a : Nat} (h : D.attrOf p g = some a) : p < D.length :=
  Nat.lt_of_not_le fun hp => by
    rw [Decomp.attrOf, slice_eq_nil D p hp] at h
    exact nomatch h

theorem DecompWF.slice {D : Decomp} (h : DecompWF D) (p : Nat) : (D.slice p).Pairwise (fun a b => a.1 < b.1) := by
  by_cases hp : p < D.length
  · exact h _ (List.mem_of_getElem? (slice_eq_of_lt D p hp))
  · rw [slice_eq_nil D p (Nat.le_of_not_lt hp)]
    exact List.Pairwise.nil

theorem attrOf_iff {D : Decomp} (h : DecompWF D) (p : Nat) (g : Int) (a : Nat) :
    D.attrOf p g = some a ↔ (g, a) ∈ D.slice p :=
  ⟨lookup_mem, lookup_of_mem_pairwise (· < ·) Int.lt_irrefl g a _ (h.slice p)⟩

theorem numberFrom_map_key (i : Nat) (l : List (Int × Nat)) : (numberFrom i l).map (fun e => (e.g, e.attr)) = l := by
  induction l generalizing i with
  | nil => rfl
  | cons x xs ih => rw [numberFrom, List.map_cons, ih]

theorem mem_numberFrom (e : IdxEntry) (i : Nat) (l : List (Int × Nat)) (h : e ∈ numberFrom i l) : (e.g, e.attr) ∈ l := by
  have := List.mem_map_of_mem (f := fun e : IdxEntry => (e.g, e.attr)) h
  rwa [numberFrom_map_key] at this

theorem hasKey_numberFrom (g : Int) (a : Nat) (i : Nat) (l : List (Int × Nat)) :
    hasKey (numberFrom i l) g a = true ↔ (g, a) ∈ l := by
  have := List.mem_map (f := fun e : IdxEntry => (e.g, e.attr)) (b := (g, a)) (l := numberFrom i l)
  rw [numberFrom_map_key] at this
  simp only [hasKey_iff, this, Prod.mk.injEq]

theorem numberFrom_pairwise (i : Nat) (l : List (Int × Nat)) (h : l.Pairwise (fun a b => a.1 < b.1)) :
    (numberFrom i l).Pairwise (fun a b => a.g < b.g) := by
  rw [← numberFrom_map_key i l, List.pairwise_map] at h
  exact h

theorem mem_interList (mine other : List (Int × Nat)) (en : RemEntry) :
    en ∈ interList mine other ↔ (en.g, en.own) ∈ mine ∧ other.lookup en.g = some en.rem := by
  simp only [interList, List.mem_filterMap, Option.map_eq_some_iff]
  constructor
  · rintro ⟨⟨g, a⟩, h1, b, h2, rfl⟩
    exact ⟨h1, h2⟩
  · rintro ⟨h1, h2⟩
    exact ⟨(en.g, en.own), h1, en.rem, h2, rfl⟩

theorem interList_pairwise (mine other : List (Int × Nat)) (h : mine.Pairwise (fun a b => a.1 < b.1)) :
    (interList mine other).Pairwise (fun a b => a.g < b.g) := by
  refine List.Pairwise.filterMap _ (fun a a' haa b hb b' hb' => ?_) h
  obtain ⟨_, _, rfl⟩ := Option.map_eq_some_iff.1 hb
  obtain ⟨_, _, rfl⟩ := Option.map_eq_some_iff.1 hb'
  exact haa

theorem consistent_getElem? (D : Decomp) (p : Nat) :
    (consistent D)[p]? = (D[p]?).map (fun mine => consistentRank D p mine) :=
  List.getElem?_mapIdx

theorem consistent_length (D : Decomp) : (consistent D).length = D.length := List.length_mapIdx

theorem consistent_getElem?_some {D : Decomp} {p : Nat} {st : RankState} (h : (consistent D)[p]? = some st) :
    p < D.length ∧ st = consistentRank D p (D.slice p) := by
  have hp : p < D.length := consistent_length D ▸ (List.getElem?_eq_some_iff.1 h).1
  rw [consistent_getElem?, slice_eq_of_lt D p hp] at h
  exact ⟨hp, (Option.some.inj h).symm⟩

theorem mem_remote_consistentRank (D : Decomp) (p : Nat) (mine : List (Int × Nat)) (q : Nat) (l : List RemEntry) :
    (q, l) ∈ (consistentRank D p mine).remote ↔
      q < D.length ∧ q ≠ p ∧ l = interList mine (D.slice q) ∧ l ≠ [] := by
  simp only [consistentRank, List.mem_filterMap, List.mem_range, Option.ite_none_left_eq_some, List.isEmpty_iff,
    Option.some.injEq, Prod.mk.injEq]
  constructor
  · rintro ⟨q', h1, h2, h4, rfl, rfl⟩
    exact ⟨h1, h2, rfl, h4⟩
  · rintro ⟨h1, h2, rfl, h4⟩
    exact ⟨q, h1, h2, h4, rfl, rfl⟩

theorem remote_consistentRank_sorted (D : Decomp) (p : Nat) (mine : List (Int × Nat)) :
    (consistentRank D p mine).remote.Pairwise (fun a b => a.1 < b.1) := by
  refine List.Pairwise.filterMap _ (fun a a' haa b hb b' hb' => ?_) List.pairwise_lt_range
  simp only [Option.ite_none_left_eq_some, Option.some.injEq] at hb hb'
  rw [← hb.2.2, ← hb'.2.2]
  exact haa

theorem listOf_consistentRank (D : Decomp) (p : Nat) (mine : List (Int × Nat)) (q : Nat) (h1 : q < D.length) (h2 : q ≠ p) :
    listOf (consistentRank D p mine).remote q = interList mine (D.slice q) := by
  by_cases hemp : interList mine (D.slice q) = []
  · rw [hemp]
    apply listOf_eq_nil_of_not_neighbour
    cases hn : isNeighbour (consistentRank D p mine).remote q
    · rfl
    · obtain ⟨l, hl⟩ := (isNeighbour_iff _ _).1 hn
      obtain ⟨_, _, h3, h4⟩ := (mem_remote_consistentRank D p mine q l).1 hl
      exact absurd (h3 ▸ hemp) h4
  · exact listOf_of_mem _ (remote_consistentRank_sorted D p mine) q _
      ((mem_remote_consistentRank D p mine q _).2 ⟨h1, h2, rfl, hemp⟩)

theorem interList_ne_nil_iff {D : Decomp} (hD : DecompWF D) (p q : Nat) :
    interList (D.slice p) (D.slice q) ≠ [] ↔ ∃ g a b, D.attrOf p g = some a ∧ D.attrOf q g = some b := by
  constructor
  · intro h
    obtain ⟨en, hen⟩ := List.exists_mem_of_ne_nil _ h
    obtain ⟨h1, h2⟩ := (mem_interList _ _ en).1 hen
    exact ⟨en.g, en.own, en.rem, (attrOf_iff hD p _ _).2 h1, h2⟩
  · rintro ⟨g, a, b, h1, h2⟩
    exact List.ne_nil_of_mem ((mem_interList _ _ ⟨g, a, b⟩).2 ⟨(attrOf_iff hD p g a).1 h1, h2⟩)

theorem isNeighbour_consistentRank {D : Decomp} (hD : DecompWF D) (p q : Nat) :
    isNeighbour (consistentRank D p (D.slice p)).remote q = true ↔
      q < D.length ∧ q ≠ p ∧ ∃ g a b, D.attrOf p g = some a ∧ D.attrOf q g = some b := by
  simp only [isNeighbour_iff, mem_remote_consistentRank, exists_and_left, exists_eq_left, interList_ne_nil_iff hD]

theorem rankInv_consistent {D : Decomp} (hD : DecompWF D) (p : Nat) :
    RankInv D D.length p (consistentRank D p (D.slice p)) := by
  refine ⟨numberFrom_pairwise 0 _ (hD.slice p), fun e he => (attrOf_iff hD p e.g e.attr).2 (mem_numberFrom e 0 _ he),
    remote_consistentRank_sorted D p _, fun x hx => ?_, fun x hx en hen => ?_⟩
  · obtain ⟨h1, h2, h3, _⟩ := (mem_remote_consistentRank D p _ x.1 x.2).1 hx
    exact ⟨h2, h1, h3 ▸ interList_pairwise _ _ (hD.slice p)⟩
  · obtain ⟨_, _, h3, _⟩ := (mem_remote_consistentRank D p _ x.1 x.2).1 hx
    obtain ⟨h4, h5⟩ := (mem_interList _ _ en).1 (h3 ▸ hen)
    exact ⟨h5, (hasKey_numberFrom en.g en.own 0 _).2 h4⟩

theorem partialView_consistent {D : Decomp} (hD : DecompWF D) : PartialView D (consistent D) := by
  intro p st hst
  obtain ⟨_, rfl⟩ := consistent_getElem?_some hst
  rw [consistent_length]
  exact rankInv_consistent hD p

theorem listOf_map_filter (f : RemEntry → Bool) (r : List (Nat × List RemEntry)) (x : Nat) :
    listOf (r.map fun y => (y.1, y.2.filter f)) x = (listOf r x).filter f := by
  induction r with
  | nil => rfl
  | cons hd rest ih =>
    obtain ⟨y, l⟩ := hd
    rw [List.map_cons, listOf_cons, listOf_cons, ih]
    by_cases h : x = y
    · rw [if_pos h, if_pos h]
    · rw [if_neg h, if_neg h]

theorem listOf_deleteRank (del : Int → Bool) (st : RankState) (x : Nat) :
    listOf (deleteRank del st).remote x = (listOf st.remote x).filter (fun en => !del en.g) :=
  listOf_map_filter _ _ _

theorem isNeighbour_deleteRank (del : Int → Bool) (st : RankState) (x : Nat) :
    isNeighbour (deleteRank del st).remote x = isNeighbour st.remote x :=
  isNeighbour_map (f := fun y => (y.1, y.2.filter fun en => !del en.g)) (fun _ => rfl) st.remote x

theorem rankInv_delete {D : Decomp} {P q : Nat} {st : RankState} (h : RankInv D P q st) (del : Int → Bool) :
    RankInv D P q (deleteRank del st) := by
  refine ⟨List.Pairwise.filter _ h.idxSorted, fun e he => h.idxTrue e (List.mem_filter.1 he).1,
    h.rem.map (fun _ => rfl) fun x hx => ⟨List.Pairwise.filter _ (h.rem.nbOk x hx).2.2, fun en hen => ?_⟩⟩
  obtain ⟨hen1, hen2⟩ := List.mem_filter.1 hen
  refine ⟨(h.rem.remTrue x hx en hen1).1, ?_⟩
  -- the pair the entry refers to has the global index of the entry, which is not deleted
  obtain ⟨e, he, h1, h2⟩ := (hasKey_iff _ _ _).1 (h.rem.remTrue x hx en hen1).2
  exact (hasKey_iff _ _ _).2 ⟨e, List.mem_filter.2 ⟨he, h1 ▸ hen2⟩, h1, h2⟩

theorem deleteCopies_getElem? (del : Nat → Int → Bool) (w : World) (p : Nat) :
    (deleteCopies del w)[p]? = (w[p]?).map (fun st => deleteRank (del p) st) :=
  List.getElem?_mapIdx

theorem deleteCopies_getElem?_inv {del : Nat → Int → Bool} {w : World} {p : Nat} {st' : RankState}
    (h : (deleteCopies del w)[p]? = some st') : ∃ st, w[p]? = some st ∧ deleteRank (del p) st = st' :=
  Option.map_eq_some_iff.1 ((deleteCopies_getElem? del w p).symm.trans h)

theorem deleteCopies_length (del : Nat → Int → Bool) (w : World) : (deleteCopies del w).length = w.length :=
  List.length_mapIdx

theorem partialView_delete {D : Decomp} {w : World} (h : PartialView D w) (del : Nat → Int → Bool) :
    PartialView D (deleteCopies del w) := by
  intro p st hst
  obtain ⟨st0, h0, rfl⟩ := deleteCopies_getElem?_inv hst
  rw [deleteCopies_length]
  exact rankInv_delete (h p st0 h0) (del p)

end DV.C13
