/-
C12 — what every other C12 module starts from: sequencing of results (`andThen`), lemmas about the string
primitives of the model (ltrim, rtrim, splitFirst, splitOnC, takeWhile), and decidable equality of trees and parser
states, so that test vectors can be checked by evaluation. `ltrim` is `List.dropWhile`, `rtrim` the same on the reversed
string (`rtrim_eq`), `splitOnC c` is `List.splitOn c` and `joinC c` is `[c].intercalate` (`splitOnC_eq`, `joinC_eq`): core's
lemmas about these carry most of what is said about them here.
-/
import DuneVerif.Model.C12

namespace DV.C12

/-- sequencing of `Except` results (the explicit `match` of the model, named so that it can be rewritten) -/
def andThen {α β : Type} (r : Except Err α) (k : α → Except Err β) : Except Err β :=
  match r with
  | .error e => .error e
  | .ok a => k a

@[simp] theorem andThen_ok {α β : Type} (a : α) (k : α → Except Err β) : andThen (.ok a) k = k a := rfl
@[simp] theorem andThen_error {α β : Type} (e : Err) (k : α → Except Err β) : andThen (.error e : Except Err α) k = .error e := rfl

theorem andThen_eq_ok {α β : Type} {r : Except Err α} {k : α → Except Err β} {b : β} :
    andThen r k = .ok b ↔ ∃ a, r = .ok a ∧ k a = .ok b := by
  cases r <;> simp

theorem isWs_of_isBlank {c : Char} (h : isBlank c = true) : isWs c = true := by
  simp only [isBlank, isWs, Bool.or_eq_true] at h ⊢
  exact h.imp_left .inl

theorem blank_all_ws {ws : Str} (h : blankStr ws = true) : ∀ c ∈ ws, isWs c = true := by
  intro c hc
  exact isWs_of_isBlank ((List.all_eq_true.mp h) c hc)

theorem not_mem_of_all {p : Char → Bool} {s : Str} {c : Char} (h : s.all p = true) (hc : p c = false) : c ∉ s :=
  fun hm => by simp [List.all_eq_true.mp h c hm] at hc

theorem isWs_hash : isWs '#' = false := by decide
theorem isWs_eq : isWs '=' = false := by decide
theorem isWs_lbr : isWs '[' = false := by decide
theorem isWs_rbr : isWs ']' = false := by decide
theorem isWs_sq : isWs '\'' = false := by decide
theorem isWs_dq : isWs '"' = false := by decide

theorem isWs_quote {c : Char} (h : isQuote c = true) : isWs c = false := by
  simp [isQuote] at h
  rcases h with h | h <;> subst h <;> decide

theorem ltrim_nil : ltrim [] = [] := rfl

theorem ltrim_ws_append {ws s : Str} (h : ∀ c ∈ ws, isWs c = true) : ltrim (ws ++ s) = ltrim s := by
  unfold ltrim
  exact List.dropWhile_append_of_pos h

theorem ltrim_blank_append {ws s : Str} (h : blankStr ws = true) : ltrim (ws ++ s) = ltrim s :=
  ltrim_ws_append (blank_all_ws h)

theorem ltrim_all_ws {ws : Str} (h : ∀ c ∈ ws, isWs c = true) : ltrim ws = [] := by
  have := ltrim_ws_append (s := []) h
  simpa [ltrim_nil] using this

theorem ltrim_cons_of_not_ws {c : Char} {s : Str} (h : isWs c = false) : ltrim (c :: s) = c :: s := by
  unfold ltrim
  exact List.dropWhile_cons_of_neg (by simp [h])

theorem rtrim_nil : rtrim [] = [] := rfl

theorem rtrim_eq : ∀ (s : Str), rtrim s = (ltrim s.reverse).reverse
  | [] => rfl
  | c :: cs => by
    rw [rtrim, rtrim_eq cs, List.reverse_cons, ltrim, ltrim, List.dropWhile_append]
    cases h : cs.reverse.dropWhile isWs with
    | nil => by_cases hc : isWs c = true <;> simp [hc]
    | cons a b => simp

theorem rtrim_append_ws (s : Str) {ws : Str} (h : ∀ c ∈ ws, isWs c = true) : rtrim (s ++ ws) = rtrim s := by
  rw [rtrim_eq, rtrim_eq, List.reverse_append, ltrim, List.dropWhile_append_of_pos (by simpa using h), ltrim]

theorem rtrim_all_ws {ws : Str} (h : ∀ c ∈ ws, isWs c = true) : rtrim ws = [] :=
  rtrim_append_ws [] h

theorem rtrim_concat_of_not_ws (s : Str) {c : Char} (h : isWs c = false) : rtrim (s ++ [c]) = s ++ [c] := by
  rw [rtrim_eq, List.reverse_append, ltrim, List.reverse_singleton, List.singleton_append,
    List.dropWhile_cons_of_neg (by simp [h]), List.reverse_cons, List.reverse_reverse]

theorem rtrim_of_getLast {s : Str} {c : Char} (h : s.getLast? = some c) (hc : isWs c = false) : rtrim s = s := by
  obtain ⟨t, rfl⟩ := List.getLast?_eq_some_iff.mp h
  exact rtrim_concat_of_not_ws t hc

theorem trimmed_nil : trimmed [] = true := rfl

theorem trimmed_head {c : Char} {r : Str} (h : trimmed (c :: r) = true) : isWs c = false := by
  simp [trimmed] at h
  exact h.1

theorem trimmed_last {s : Str} {c : Char} (h : trimmed s = true) (hl : s.getLast? = some c) : isWs c = false := by
  simp only [trimmed, Bool.and_eq_true] at h
  have := h.2
  rw [hl] at this
  simpa using this

theorem ltrim_of_trimmed {s : Str} (h : trimmed s = true) : ltrim s = s := by
  cases s with
  | nil => rfl
  | cons c r => exact ltrim_cons_of_not_ws (trimmed_head h)

theorem rtrim_of_trimmed {s : Str} (h : trimmed s = true) : rtrim s = s := by
  cases hs : s.getLast? with
  | none =>
    have : s = [] := by simpa using hs
    subst this; rfl
  | some c => exact rtrim_of_getLast hs (trimmed_last h hs)

theorem trim_padded {a p b : Str} (ha : ∀ c ∈ a, isWs c = true) (hb : ∀ c ∈ b, isWs c = true)
    (hp : trimmed p = true) : rtrim (ltrim (a ++ p ++ b)) = p := by
  rw [List.append_assoc, ltrim_ws_append ha]
  cases p with
  | nil => simp [ltrim_all_ws hb, rtrim]
  | cons c r =>
    rw [List.cons_append, ltrim_cons_of_not_ws (trimmed_head hp), ← List.cons_append, rtrim_append_ws _ hb]
    exact rtrim_of_trimmed hp

theorem rtrim_split (s : Str) : ∃ post, (∀ c ∈ post, isWs c = true) ∧ s = rtrim s ++ post :=
  ⟨(s.reverse.takeWhile isWs).reverse, fun c hc => List.all_eq_true.mp List.all_takeWhile c (List.mem_reverse.mp hc), by
    rw [rtrim_eq, ltrim, ← List.reverse_append, List.takeWhile_append_dropWhile, List.reverse_reverse]⟩

theorem mem_of_mem_rtrim {s : Str} {c : Char} (h : c ∈ rtrim s) : c ∈ s := by
  obtain ⟨post, _, hs⟩ := rtrim_split s
  rw [hs]
  exact List.mem_append_left _ h

theorem mem_of_endsWith {s : Str} {q : Char} (h : endsWith s q = true) : q ∈ s :=
  List.mem_of_getLast? (by simpa [endsWith] using h)

theorem endsWith_false_of_not_mem {s : Str} {q : Char} (h : q ∉ s) : endsWith (rtrim s) q = false :=
  Bool.eq_false_iff.mpr fun e => h (mem_of_mem_rtrim (mem_of_endsWith e))

theorem splitFirst_append (c : Char) : ∀ (a b : Str), c ∉ a → splitFirst c (a ++ c :: b) = some (a, b)
  | [], b, _ => by simp [splitFirst]
  | x :: xs, b, h => by
    have hx : x ≠ c := fun e => h (by simp [e])
    have ih := splitFirst_append c xs b (fun hm => h (List.mem_cons_of_mem _ hm))
    simp [splitFirst, hx, ih]

theorem splitFirst_none (c : Char) : ∀ (s : Str), c ∉ s → splitFirst c s = none
  | [], _ => rfl
  | x :: xs, h => by
    have hx : x ≠ c := fun e => h (by simp [e])
    have ih := splitFirst_none c xs (fun hm => h (List.mem_cons_of_mem _ hm))
    simp [splitFirst, hx, ih]

/-- Induction over a string cut at the first `c`: it has none, or it is `a ++ c :: b` with none in `a`. With the two
    equations a primitive satisfies on these shapes (`splitFirst_none`/`_append`, `splitOnC_of_not_mem`/`_cons_of_not_mem`)
    nothing else about it needs the characters. -/
theorem sep_induction (c : Char) {P : Str → Prop} (base : ∀ s, c ∉ s → P s)
    (step : ∀ a b, c ∉ a → P b → P (a ++ c :: b)) (s : Str) : P s := by
  suffices ∀ s a, c ∉ a → P (a ++ s) from this s [] List.not_mem_nil
  intro s
  induction s with
  | nil => intro a ha; simpa using base a ha
  | cons x xs ih =>
    intro a ha
    by_cases hx : x = c
    · exact hx ▸ step a xs ha (ih [] List.not_mem_nil)
    · rw [List.append_cons]
      exact ih (a ++ [x]) (by simp [ha, Ne.symm hx])

theorem splitFirst_eq_some (c : Char) : ∀ (s a b : Str), splitFirst c s = some (a, b) → s = a ++ c :: b ∧ c ∉ a := by
  intro s a b
  induction s using sep_induction c with
  | base s h => rw [splitFirst_none c s h]; nofun
  | step a' b' h _ =>
    rw [splitFirst_append c a' b' h]
    rintro ⟨⟩
    exact ⟨rfl, h⟩

theorem splitFirst_eq_none (c : Char) : ∀ (s : Str), splitFirst c s = none → c ∉ s := by
  intro s
  induction s using sep_induction c with
  | base s h => exact fun _ => h
  | step a b h _ => rw [splitFirst_append c a b h]; nofun

theorem takeWhile_ne_stop (c : Char) (a t : Str) (h : c ∉ a) :
    (a ++ c :: t).takeWhile (· != c) = a := by
  rw [List.takeWhile_append_of_pos (by intro x hx; simp; exact fun e => h (e ▸ hx))]
  simp

theorem takeWhile_ne_all (c : Char) (a : Str) (h : c ∉ a) : a.takeWhile (· != c) = a := by
  have := List.takeWhile_append_of_pos (p := (· != c)) (l₁ := a) (l₂ := [])
    (by intro x hx; simp; exact fun e => h (e ▸ hx))
  simpa using this

theorem splitOnC_eq (c : Char) (s : Str) : splitOnC c s = s.splitOn c := by
  induction s with
  | nil => rfl
  | cons x xs ih =>
    rw [splitOnC, ih, List.splitOn_cons_eq_if_modifyHead]
    cases h : xs.splitOn c with
    | nil => exact absurd h (List.splitOn_ne_nil c xs)
    | cons _ _ => rfl

theorem splitOnC_of_not_mem (c : Char) : ∀ s : Str, c ∉ s → splitOnC c s = [s] :=
  fun s h => (splitOnC_eq c s).trans (List.splitOn_eq_singleton h)

theorem splitOnC_cons_of_not_mem (c : Char) : ∀ (a b : Str), c ∉ a → splitOnC c (a ++ c :: b) = a :: splitOnC c b := by
  intro a b h
  rw [splitOnC_eq, splitOnC_eq, List.splitOn_append_cons_self_of_not_mem h]

theorem splitOnC_ne_nil (c : Char) : ∀ s : Str, splitOnC c s ≠ [] :=
  fun s => splitOnC_eq c s ▸ List.splitOn_ne_nil c s

theorem splitOnC_append (c : Char) : ∀ (a b : Str), splitOnC c (a ++ c :: b) = splitOnC c a ++ splitOnC c b := by
  intro a b
  rw [splitOnC_eq, splitOnC_eq, splitOnC_eq, List.splitOn_append_cons_self]

/-- the inverse of `splitOnC c`: the pieces with `c` between them -/
def joinC (c : Char) : List Str → Str
  | [] => []
  | [p] => p
  | p :: r => p ++ c :: joinC c r

theorem joinC_cons (c : Char) (p : Str) {q : List Str} (h : q ≠ []) : joinC c (p :: q) = p ++ c :: joinC c q := by
  cases q with
  | nil => exact absurd rfl h
  | cons _ _ => rfl

theorem joinC_cons_eq (c : Char) (p : Str) (r : List Str) : joinC c (p :: r) = p ++ r.flatMap (c :: ·) := by
  induction r generalizing p with
  | nil => simp [joinC]
  | cons q r ih => rw [joinC_cons c p (by simp), ih, List.flatMap_cons, List.cons_append]

theorem joinC_eq (c : Char) (ps : List Str) : joinC c ps = [c].intercalate ps := by
  induction ps with
  | nil => rfl
  | cons p q ih =>
    cases q with
    | nil => exact List.intercalate_singleton.symm
    | cons _ _ => rw [List.intercalate_cons_cons, ← ih]; simp [joinC]

theorem splitOnC_joinC (c : Char) : ∀ (ps : List Str), ps ≠ [] → (∀ p ∈ ps, c ∉ p) → splitOnC c (joinC c ps) = ps := by
  intro ps hne h
  rw [splitOnC_eq, joinC_eq, List.splitOn_intercalate c h hne]

theorem joinC_splitOnC (c : Char) (s : Str) : joinC c (splitOnC c s) = s := by
  rw [splitOnC_eq, joinC_eq, List.intercalate_splitOn]

theorem splitOnC_injective (c : Char) {a b : Str} (h : splitOnC c a = splitOnC c b) : a = b := by
  rw [← joinC_splitOnC c a, ← joinC_splitOnC c b, h]

theorem splitOnC_pieces (c : Char) : ∀ (s : Str), ∀ p ∈ splitOnC c s, c ∉ p := by
  intro s
  induction s using sep_induction c with
  | base s h => rw [splitOnC_of_not_mem c s h]; simpa using h
  | step a b h ih =>
    rw [splitOnC_cons_of_not_mem c a b h]
    simpa using ⟨h, ih⟩

-- `Tree` is a nested inductive type, to which the `deriving` handler for `DecidableEq` does not apply
mutual
def Tree.decEq : (a b : Tree) → Decidable (a = b)
  | .node v s, .node v' s' =>
    have := decEqSubs s s'
    decidable_of_iff (v = v' ∧ s = s') (by simp)
def decEqSubs : (a b : List (Str × Tree)) → Decidable (a = b)
  | [], [] => isTrue rfl
  | [], _ :: _ => isFalse nofun
  | _ :: _, [] => isFalse nofun
  | (n, s) :: r, (n', s') :: r' =>
    have := Tree.decEq s s'
    have := decEqSubs r r'
    decidable_of_iff ((n = n' ∧ s = s') ∧ r = r') (by simp)
end

instance : DecidableEq Tree := Tree.decEq
deriving instance DecidableEq for Except, St

end DV.C12
