import DuneVerif.Proofs.C13Basic
/-! C13: what receiving published indices does to one rank's state: the invariant `RankInv` is kept, and what the state
gains is exactly what the items tell (`Gain`). Core Lean only. -/
namespace DV.C13

/-- the remote part of a rank's state agrees with the decomposition `D` and refers to pairs of `idx` -/
structure RemInv (D : Decomp) (P q : Nat) (idx : List IdxEntry) (r : List (Nat × List RemEntry)) : Prop where
  nbSorted : r.Pairwise (fun a b => a.1 < b.1)
  nbOk : ∀ x ∈ r, x.1 ≠ q ∧ x.1 < P ∧ x.2.Pairwise (fun a b => a.g < b.g)
  remTrue : ∀ x ∈ r, ∀ en ∈ x.2, D.attrOf x.1 en.g = some en.rem ∧ hasKey idx en.g en.own = true

/-- rank `q`'s state is a partial view of the decomposition `D`: every global index at most once and in ascending
order, every attribute as in `D`, neighbours in ascending order without `q` itself, every remote index refers to a
pair of the index set -/
structure RankInv (D : Decomp) (P q : Nat) (st : RankState) : Prop where
  idxSorted : st.idx.Pairwise (fun a b => a.g < b.g)
  idxTrue : ∀ e ∈ st.idx, D.attrOf q e.g = some e.attr
  rem : RemInv D P q st.idx st.remote

/-- a published index all of whose statements agree with `D` -/
structure TrueItem (D : Decomp) (P me src : Nat) (it : Item) : Prop where
  srcTrue : D.attrOf src it.g = some it.srcAttr
  srcNe : src ≠ me
  srcLt : src < P
  pairsTrue : ∀ pr ∈ it.pairs, D.attrOf pr.1 it.g = some pr.2 ∧ pr.1 < P

/-- the item tells `me` that it holds `g` with attribute `a` -/
def ToldIdxI (me : Nat) (it : Item) (g : Int) (a : Nat) : Prop :=
  it.pairs.lookup me = some a ∧ it.g = g

/-- the item (sent by `src`) tells `me` that process `y` holds `en.g` with attribute `en.rem` -/
def ToldRemI (me src : Nat) (it : Item) (y : Nat) (en : RemEntry) : Prop :=
  it.pairs.lookup me = some en.own ∧ en.g = it.g ∧
    ((y = src ∧ en.rem = it.srcAttr) ∨ (y ≠ me ∧ (y, en.rem) ∈ it.pairs))

/-- `recvAll` on the inbox as one list of (source, item) (`flatMsgs`), so that receiving an inbox is one fold -/
def recvFlat (num : Int → Nat) (me : Nat) (st : RankState) (xs : List (Nat × Item)) : RankState :=
  xs.foldl (fun s x => receiveItem num me x.1 s x.2) st

def flatMsgs (msgs : List (Nat × List Item)) : List (Nat × Item) :=
  msgs.flatMap fun m => m.2.map fun it => (m.1, it)

theorem recvAll_eq_flat (num : Int → Nat) (me : Nat) (msgs : List (Nat × List Item)) (st : RankState) :
    recvAll num me st msgs = recvFlat num me st (flatMsgs msgs) := by
  simp only [recvAll, recvFlat, flatMsgs, List.foldl_flatMap, List.foldl_map]
  rfl

theorem mem_flatMsgs (msgs : List (Nat × List Item)) (x : Nat × Item) :
    x ∈ flatMsgs msgs ↔ ∃ m ∈ msgs, m.1 = x.1 ∧ x.2 ∈ m.2 := by
  simp only [flatMsgs, List.mem_flatMap, List.mem_map]
  constructor
  · rintro ⟨m, hm, it, hit, rfl⟩
    exact ⟨m, hm, rfl, hit⟩
  · rintro ⟨m, hm, h1, h2⟩
    exact ⟨m, hm, x.2, h2, by rw [h1]⟩

theorem attrOf_of_hasKey {D : Decomp} {q : Nat} {idx : List IdxEntry} (hT : ∀ e ∈ idx, D.attrOf q e.g = some e.attr)
    {g : Int} {a : Nat} (ha : hasKey idx g a = true) : D.attrOf q g = some a := by
  obtain ⟨e, he, h1, h2⟩ := (hasKey_iff idx g a).1 ha
  rw [← h1, ← h2]
  exact hT e he

theorem RemInv.mono {D : Decomp} {P q : Nat} {idx idx' : List IdxEntry} {r : List (Nat × List RemEntry)}
    (h : RemInv D P q idx r) (hm : ∀ g a, hasKey idx g a = true → hasKey idx' g a = true) : RemInv D P q idx' r :=
  ⟨h.nbSorted, h.nbOk, fun x hx en hen => ⟨(h.remTrue x hx en hen).1, hm _ _ (h.remTrue x hx en hen).2⟩⟩

theorem RemInv.listOf_pairwise {D : Decomp} {P q : Nat} {idx : List IdxEntry} {r : List (Nat × List RemEntry)}
    (h : RemInv D P q idx r) (x : Nat) : (listOf r x).Pairwise (fun a b => a.g < b.g) := by
  rw [listOf]
  cases hl : r.lookup x with
  | none => exact List.Pairwise.nil
  | some l => exact (h.nbOk _ (lookup_mem hl)).2.2

theorem RemInv.listOf_true {D : Decomp} {P q : Nat} {idx : List IdxEntry} {r : List (Nat × List RemEntry)}
    (h : RemInv D P q idx r) (x : Nat) (en : RemEntry) (hen : en ∈ listOf r x) :
    D.attrOf x en.g = some en.rem ∧ hasKey idx en.g en.own = true := by
  obtain ⟨l, hl, hen'⟩ := mem_of_mem_listOf r x en hen
  exact h.remTrue _ hl en hen'

theorem RemInv.map {D : Decomp} {P q : Nat} {idx idx' : List IdxEntry} {r : List (Nat × List RemEntry)}
    (h : RemInv D P q idx r) {f : Nat × List RemEntry → Nat × List RemEntry} (hfst : ∀ x, (f x).1 = x.1)
    (hf : ∀ x ∈ r, (f x).2.Pairwise (fun a b => a.g < b.g) ∧
      ∀ en ∈ (f x).2, D.attrOf x.1 en.g = some en.rem ∧ hasKey idx' en.g en.own = true) :
    RemInv D P q idx' (r.map f) := by
  refine ⟨List.pairwise_map.2 (h.nbSorted.imp fun hxy => ?_), List.forall_mem_map.2 fun x hx => ?_,
    List.forall_mem_map.2 fun x hx => ?_⟩
  · rw [hfst, hfst]
    exact hxy
  · rw [hfst]
    exact ⟨(h.nbOk x hx).1, (h.nbOk x hx).2.1, (hf x hx).1⟩
  · rw [hfst]
    exact (hf x hx).2

theorem RemInv.insert {D : Decomp} {P q : Nat} {idx : List IdxEntry} {r : List (Nat × List RemEntry)}
    (h : RemInv D P q idx r) (hT : ∀ e ∈ idx, D.attrOf q e.g = some e.attr)
    (x : Nat) (g : Int) (a xa : Nat) (hxq : x ≠ q) (hxP : x < P) (hx : D.attrOf x g = some xa)
    (hk : hasKey idx g a = true) : RemInv D P q idx (insertRemote x ⟨g, a, xa⟩ r) := by
  have hq : D.attrOf q g = some a := attrOf_of_hasKey hT hk
  refine ⟨pairwise_insertRemote _ _ _ h.nbSorted, fun y hy => ?_, fun y hy en hen => ?_⟩
  · rcases mem_insertRemote _ _ y.1 y.2 r h.nbSorted hy with h1 | ⟨h1, h2⟩
    · exact h.nbOk _ h1
    · rw [h1, h2]
      refine ⟨hxq, hxP, pairwise_insertEntry _ _ (h.listOf_pairwise x) fun e he heg => ?_⟩
      -- an entry for `g` that is already there carries the attributes `D` gives, like the new one
      have ht := h.listOf_true x e he
      have h1 := ht.1
      have h2 := attrOf_of_hasKey hT ht.2
      rw [heg] at h1 h2
      exact (RemEntry.eq_iff e g a xa).2 ⟨heg, Option.some.inj (h2.symm.trans hq), Option.some.inj (h1.symm.trans hx)⟩
  · rcases mem_insertRemote _ _ y.1 y.2 r h.nbSorted hy with h1 | ⟨h1, h2⟩
    · exact h.remTrue _ h1 en hen
    · rw [h1]
      rcases (mem_insertEntry _ en _).1 (h2 ▸ hen) with rfl | h4
      · exact ⟨hx, hk⟩
      · exact h.listOf_true x en h4

/-- `st'` is `st` after learning the pairs `I` (global, attribute; numbered by `num` where new) and the remote indices
`S` (process, entry): what one insertion, one published index, a list of them, a whole sync add to a state whose
neighbour map is sorted.  `nbSorted` is part of the relation so that it composes (`Gain.trans`, `Gain.foldl`): `rem` holds
for sorted maps -/
structure Gain (num : Int → Nat) (I : Int → Nat → Prop) (S : Nat → RemEntry → Prop) (st st' : RankState) : Prop where
  key : ∀ g a, hasKey st'.idx g a = true ↔ hasKey st.idx g a = true ∨ I g a
  idx : ∀ e, e ∈ st'.idx ↔ e ∈ st.idx ∨ (I e.g e.attr ∧ e.loc = num e.g ∧ hasKey st.idx e.g e.attr = false)
  nbSorted : st'.remote.Pairwise (fun a b => a.1 < b.1)
  rem : ∀ y en, en ∈ listOf st'.remote y ↔ en ∈ listOf st.remote y ∨ S y en
  nb : ∀ y, isNeighbour st'.remote y = true ↔ isNeighbour st.remote y = true ∨ ∃ en, S y en
  idxSeq : st'.idxSeq = st.idxSeq
  remSeq : st'.remSeq = st.remSeq

theorem Gain.nothing {num : Int → Nat} {I : Int → Nat → Prop} {S : Nat → RemEntry → Prop} (st : RankState)
    (hs : st.remote.Pairwise (fun a b => a.1 < b.1)) (hI : ∀ g a, I g a → hasKey st.idx g a = true)
    (hS : ∀ y en, S y en → en ∈ listOf st.remote y) : Gain num I S st st :=
  ⟨fun g a => (or_iff_left_of_imp (hI g a)).symm,
    fun _ => (or_iff_left_of_imp fun h => nomatch (hI _ _ h.1).symm.trans h.2.2).symm, hs,
    fun y en => (or_iff_left_of_imp (hS y en)).symm,
    fun y => (or_iff_left_of_imp fun ⟨en, h⟩ => isNeighbour_of_mem_listOf _ y en (hS y en h)).symm, rfl, rfl⟩

theorem Gain.trans {num : Int → Nat} {I I' : Int → Nat → Prop} {S S' : Nat → RemEntry → Prop} {st st' st'' : RankState}
    (h1 : Gain num I S st st') (h2 : Gain num I' S' st' st'') :
    Gain num (fun g a => I g a ∨ I' g a) (fun y en => S y en ∨ S' y en) st st'' := by
  refine ⟨fun g a => ?_, fun e => ?_, h2.nbSorted, fun y en => ?_, fun y => ?_,
    h2.idxSeq.trans h1.idxSeq, h2.remSeq.trans h1.remSeq⟩
  · rw [h2.key, h1.key, or_assoc]
  · -- a pair learnt in the second step is new to `st'` iff it is new to `st` and was not learnt in the first
    rw [h2.idx, h1.idx, ← Bool.not_eq_true, ← Bool.not_eq_true, h1.key]
    by_cases ht : I e.g e.attr
    · simp only [ht, or_true, not_true, and_false, or_false, true_and, true_or]
    · simp only [ht, or_false, false_and, false_or]
  · rw [h2.rem, h1.rem, or_assoc]
  · rw [h2.nb, h1.nb, or_assoc, exists_or]

theorem Gain.congr {num : Int → Nat} {I I' : Int → Nat → Prop} {S S' : Nat → RemEntry → Prop} {st st' : RankState}
    (h : Gain num I S st st') (hI : ∀ g a, I g a ↔ I' g a) (hS : ∀ y en, S y en ↔ S' y en) : Gain num I' S' st st' :=
  ⟨fun g a => (h.key g a).trans (or_congr Iff.rfl (hI g a)),
    fun e => (h.idx e).trans (or_congr Iff.rfl (and_congr (hI _ _) Iff.rfl)), h.nbSorted,
    fun y en => (h.rem y en).trans (or_congr Iff.rfl (hS y en)),
    fun y => (h.nb y).trans (or_congr Iff.rfl (exists_congr (hS y))), h.idxSeq, h.remSeq⟩

theorem Gain.foldl {num : Int → Nat} {γ : Type} (I : γ → Int → Nat → Prop) (S : γ → Nat → RemEntry → Prop)
    (f : RankState → γ → RankState)
    (h : ∀ s c, s.remote.Pairwise (fun a b => a.1 < b.1) → Gain num (I c) (S c) s (f s c))
    (l : List γ) (st : RankState) (hs : st.remote.Pairwise (fun a b => a.1 < b.1)) :
    Gain num (fun g a => ∃ c ∈ l, I c g a) (fun y en => ∃ c ∈ l, S c y en) st (l.foldl f st) := by
  induction l generalizing st with
  | nil => exact Gain.nothing st hs (fun _ _ h => nomatch h) (fun _ _ h => nomatch h)
  | cons c cs ih =>
    have h1 := h st c hs
    exact (h1.trans (ih _ h1.nbSorted)).congr (fun _ _ => by simp only [List.mem_cons, exists_eq_or_imp])
      fun _ _ => by simp only [List.mem_cons, exists_eq_or_imp]

/-- what `receiveItem` does to the neighbour map: the source and the third parties of one published index (`os`: process,
attribute there) inserted one after the other -/
def insertAll (g : Int) (a : Nat) (os : List (Nat × Nat)) (r : List (Nat × List RemEntry)) : List (Nat × List RemEntry) :=
  os.foldl (fun r x => insertRemote x.1 ⟨g, a, x.2⟩ r) r

/-- `Gain` speaks of states: the fold over the neighbour map, read as a fold over states -/
theorem foldl_insertRemote (g : Int) (a : Nat) (os : List (Nat × Nat)) (st : RankState) :
    os.foldl (fun s o => { s with remote := insertRemote o.1 ⟨g, a, o.2⟩ s.remote }) st =
      { st with remote := insertAll g a os st.remote } := by
  induction os generalizing st with
  | nil => rfl
  | cons o os ih => exact ih _

theorem gain_insertRemote (num : Int → Nat) (x : Nat) (n : RemEntry) (st : RankState)
    (hs : st.remote.Pairwise (fun a b => a.1 < b.1)) :
    Gain num (fun _ _ => False) (fun y en => y = x ∧ en = n) st { st with remote := insertRemote x n st.remote } :=
  ⟨fun _ _ => (or_iff_left id).symm, fun _ => (or_iff_left fun h => h.1).symm, pairwise_insertRemote x n _ hs,
    mem_listOf_insertRemote x n _ hs,
    fun y => by rw [isNeighbour_insertRemote, or_comm]; simp only [exists_and_left, exists_eq, and_true], rfl, rfl⟩

theorem insertAll_inv {D : Decomp} {P q : Nat} {idx : List IdxEntry}
    (hT : ∀ e ∈ idx, D.attrOf q e.g = some e.attr) (g : Int) (a : Nat) (hk : hasKey idx g a = true)
    (os : List (Nat × Nat)) (r : List (Nat × List RemEntry)) (h : RemInv D P q idx r)
    (ho : ∀ o ∈ os, o.1 ≠ q ∧ o.1 < P ∧ D.attrOf o.1 g = some o.2) : RemInv D P q idx (insertAll g a os r) :=
  List.foldlRecOn os _ h fun _ hr o hm => hr.insert hT o.1 g a o.2 (ho o hm).1 (ho o hm).2.1 (ho o hm).2.2 hk

theorem receiveItem_none (num : Int → Nat) (me src : Nat) (st : RankState) (it : Item)
    (h : it.pairs.lookup me = none) : receiveItem num me src st it = st := by
  rw [receiveItem, h]

theorem receiveItem_some (num : Int → Nat) (me src : Nat) (st : RankState) (it : Item) (a : Nat)
    (h : it.pairs.lookup me = some a) :
    receiveItem num me src st it =
      { st with
        idx := if hasKey st.idx it.g a then st.idx else insertIdx ⟨it.g, a, num it.g⟩ st.idx
        remote := insertAll it.g a ((src, it.srcAttr) :: it.pairs.filter (fun x => x.1 != me)) st.remote } := by
  rw [receiveItem, h]; rfl

theorem mem_others (me src : Nat) (it : Item) (y xa : Nat) :
    (y, xa) ∈ (src, it.srcAttr) :: it.pairs.filter (fun x => x.1 != me) ↔
      (y = src ∧ xa = it.srcAttr) ∨ (y ≠ me ∧ (y, xa) ∈ it.pairs) := by
  rw [List.mem_cons, Prod.mk.injEq, List.mem_filter, bne_iff_ne]
  exact or_congr Iff.rfl and_comm

theorem gain_addIdx (num : Int → Nat) (g : Int) (a : Nat) (st : RankState)
    (hs : st.remote.Pairwise (fun a b => a.1 < b.1)) :
    Gain num (fun g' a' => a = a' ∧ g = g') (fun _ _ => False) st
      { st with idx := if hasKey st.idx g a then st.idx else insertIdx ⟨g, a, num g⟩ st.idx } := by
  by_cases hk : hasKey st.idx g a = true
  · rw [if_pos hk]
    exact Gain.nothing st hs (fun _ _ h => h.1 ▸ h.2 ▸ hk) (fun _ _ h => h.elim)
  · rw [if_neg hk]
    refine ⟨fun g' a' => by rw [hasKey_insertIdx, or_comm, and_comm], fun e => ?_, hs, fun _ _ => (or_iff_left id).symm,
      fun _ => (or_iff_left fun ⟨_, h⟩ => h).symm, rfl, rfl⟩
    rw [mem_insertIdx, or_comm]
    refine or_congr Iff.rfl ⟨?_, fun ⟨⟨h2, h1⟩, h3, _⟩ => (IdxEntry.eq_iff e g a _).2 ⟨h1.symm, h2.symm, h1 ▸ h3⟩⟩
    rintro rfl
    exact ⟨⟨rfl, rfl⟩, rfl, Bool.not_eq_true _ ▸ hk⟩

theorem gain_receiveItem (num : Int → Nat) (me src : Nat) (st : RankState) (it : Item)
    (hs : st.remote.Pairwise (fun a b => a.1 < b.1)) :
    Gain num (ToldIdxI me it) (ToldRemI me src it) st (receiveItem num me src st it) := by
  cases h : it.pairs.lookup me with
  | none =>
    rw [receiveItem_none _ _ _ _ _ h]
    exact Gain.nothing st hs (fun _ _ h' => nomatch h.symm.trans h'.1) (fun _ _ h' => nomatch h.symm.trans h'.1)
  | some b =>
    -- the pair told, then the source and the third parties one after the other
    have G := (gain_addIdx num it.g b st hs).trans (Gain.foldl _ _ _
      (fun s o hs => gain_insertRemote num o.1 ⟨it.g, b, o.2⟩ s hs)
      ((src, it.srcAttr) :: it.pairs.filter (fun x => x.1 != me)) _ hs)
    rw [foldl_insertRemote] at G
    rw [receiveItem_some _ _ _ _ _ _ h]
    refine G.congr (fun g a => ?_) fun y en => ?_
    · rw [ToldIdxI, h, Option.some.injEq]
      simp only [and_false, exists_false, or_false]
    · rw [ToldRemI, h, Option.some.injEq, false_or]
      constructor
      · rintro ⟨o, ho, rfl, rfl⟩
        exact ⟨rfl, rfl, (mem_others me src it _ _).1 ho⟩
      · rintro ⟨h2, h1, h3⟩
        exact ⟨_, (mem_others me src it y en.rem).2 h3, rfl, (RemEntry.eq_iff en _ _ _).2 ⟨h1, h2.symm, rfl⟩⟩

theorem RankInv.addIdx {D : Decomp} {P me : Nat} {st : RankState} (h : RankInv D P me st) (g : Int) (a loc : Nat)
    (hme : D.attrOf me g = some a) :
    RankInv D P me { st with idx := if hasKey st.idx g a then st.idx else insertIdx ⟨g, a, loc⟩ st.idx } := by
  by_cases hk : hasKey st.idx g a = true
  · rw [if_pos hk]; exact h
  · rw [if_neg hk]
    refine ⟨pairwise_insertIdx _ _ h.idxSorted fun e he heg => hk ?_, fun e he => ?_,
      h.rem.mono fun _ _ h1 => (hasKey_insertIdx _ _ _ _).2 (Or.inr h1)⟩
    · -- a pair with the global index told has, by `D`, the attribute told
      have := h.idxTrue e he
      rw [heg, hme] at this
      exact (hasKey_iff _ _ _).2 ⟨e, he, heg, (Option.some.inj this).symm⟩
    · rcases (mem_insertIdx _ e _).1 he with rfl | h1
      · exact hme
      · exact h.idxTrue e h1

theorem RankInv.receiveItem {D : Decomp} {P me : Nat} {st : RankState} (h : RankInv D P me st)
    (num : Int → Nat) (src : Nat) (it : Item) (ht : TrueItem D P me src it) :
    RankInv D P me (receiveItem num me src st it) := by
  cases hl : it.pairs.lookup me with
  | none => rw [receiveItem_none _ _ _ _ _ hl]; exact h
  | some a =>
    rw [receiveItem_some _ _ _ _ _ _ hl]
    have h1 := h.addIdx it.g a (num it.g) (ht.pairsTrue _ (lookup_mem hl)).1
    refine ⟨h1.idxSorted, h1.idxTrue, insertAll_inv h1.idxTrue it.g a
      (((gain_addIdx num it.g a st h.rem.nbSorted).key _ _).2 (Or.inr ⟨rfl, rfl⟩)) _ _ h1.rem fun o ho => ?_⟩
    rcases (mem_others me src it o.1 o.2).1 ho with ⟨h2, h3⟩ | ⟨h2, h3⟩
    · rw [h2, h3]
      exact ⟨ht.srcNe, ht.srcLt, ht.srcTrue⟩
    · exact ⟨h2, (ht.pairsTrue _ h3).2, (ht.pairsTrue _ h3).1⟩

theorem gain_recvFlat (num : Int → Nat) (me : Nat) (xs : List (Nat × Item)) (st : RankState)
    (hs : st.remote.Pairwise (fun a b => a.1 < b.1)) :
    Gain num (fun g a => ∃ x ∈ xs, ToldIdxI me x.2 g a) (fun y en => ∃ x ∈ xs, ToldRemI me x.1 x.2 y en) st
      (recvFlat num me st xs) :=
  Gain.foldl _ _ _ (fun s x => gain_receiveItem num me x.1 s x.2) xs st hs

theorem sorted_recvFlat (num : Int → Nat) (me : Nat) : ∀ (xs : List (Nat × Item)) (st : RankState),
    st.remote.Pairwise (fun a b => a.1 < b.1) → (recvFlat num me st xs).remote.Pairwise (fun a b => a.1 < b.1) :=
  fun xs st hs => (gain_recvFlat num me xs st hs).nbSorted

theorem RankInv.recvFlat {D : Decomp} {P me : Nat} (num : Int → Nat) (xs : List (Nat × Item)) (st : RankState)
    (h : RankInv D P me st) (ht : ∀ x ∈ xs, TrueItem D P me x.1 x.2) : RankInv D P me (recvFlat num me st xs) :=
  List.foldlRecOn xs _ h fun _ hs x hx => hs.receiveItem num x.1 x.2 (ht x hx)

end DV.C13
