import DuneVerif.Proofs.C13World
/-! C13: a sync on a sub-communicator.

The model numbers the processes `0 … w.length-1`; the real code numbers them as the communicator of the remote indices
does.  When that communicator is a proper part of all processes (`MPI_Comm_split`), the harness lets the remaining
processes appear in the world as processes `k, k+1, …` that know nobody and are known to nobody.  The lemmas here show
that such processes do not take part: the inbox of a process is its inbox in the world of the first `k` processes alone,
and the inbox of a process nobody lists is empty (`sync_subcommunicator` in Props/C13.lean draws the conclusion for the
sync: the first `k` processes get what they get among themselves, the others only pass through `finish`).  Core Lean only. -/
namespace DV.C13

theorem inboxOf_take (w : World) (k q p : Nat) (hp : p < k) : inboxOf (w.take k) q p = inboxOf w q p := by
  rw [inboxOf, inboxOf, List.getElem?_take, if_pos hp]

theorem inboxOf_none (w : World) (q p : Nat) (h : ∀ st : RankState, w[p]? = some st → isNeighbour st.remote q = false) :
    inboxOf w q p = none := by
  unfold inboxOf
  cases hst : w[p]? with
  | none => rfl
  | some st => simp [h st hst]

theorem inbox_take (w : World) (k q : Nat) (hidle : ∀ (p : Nat) (st : RankState), k ≤ p → w[p]? = some st → st.remote = []) :
    inbox w q = inbox (w.take k) q := by
  rw [inbox_eq, inbox_eq]
  rcases Nat.le_total k w.length with hk | hk
  · obtain ⟨n, hn⟩ := Nat.exists_eq_add_of_le hk
    -- the processes from `k` on contribute nothing
    have hrest : ((List.range n).map (k + ·)).filterMap (inboxOf w q) = [] :=
      List.filterMap_eq_nil_iff.2 fun p hp => by
        obtain ⟨i, _, rfl⟩ := List.mem_map.1 hp
        exact inboxOf_none w q _ fun st hst => by rw [hidle _ st (Nat.le_add_right k i) hst]; rfl
    rw [List.length_take, Nat.min_eq_left hk, hn, List.range_add, List.filterMap_append, hrest, List.append_nil]
    exact filterMap_congr _ fun p hp => (inboxOf_take w k q p (List.mem_range.1 hp)).symm
  · rw [List.take_of_length_le hk]

theorem inbox_unknown (w : World) (q : Nat) (h : ∀ (p : Nat) (st : RankState), w[p]? = some st → isNeighbour st.remote q = false) :
    inbox w q = [] := by
  rw [inbox_eq, List.filterMap_eq_nil_iff]
  exact fun p _ => inboxOf_none w q p (h p)

end DV.C13
