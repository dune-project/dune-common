/-
C14 — the vocabulary of the theorem statements of Props/C14.lean (`Valid`, `sumTo`, `prodFrom`, `bump`, `DescChain`,
`SortedUnique`, `countDyn`, `InjOn`, `lastWrite`; only `SpanOpG.wf` and `extOk` are defined there) and the lemmas behind
them.  The loops of Model/C14.lean are brought into closed form once: products and sums (`loop_prod`, `loop_sum`), the
offset loops of layout_left / layout_right as mixed-radix numbers (`horner`), and all three mappings as the dot product
of the indices with their own `stride(r)` (`Mapping.offset_eq_dot`).  Only core Lean is imported.
-/
import DuneVerif.Model.C14

namespace DV.C14
open DV.C14.Gen

/-- `I` is a multidimensional index in the extents `E` of rank `n` -/
def Valid (n : Nat) (E I : Arr) : Prop := ∀ k, k < n → I k < E k

/-- Σ_{k<n} f k -/
def sumTo : Nat → (Nat → Nat) → Nat
  | 0, _ => 0
  | n+1, f => sumTo n f + f n

/-- Π_{lo ≤ k < lo+n} E k -/
def prodFrom (E : Arr) : Nat → Nat → Nat
  | _, 0 => 1
  | lo, n+1 => E lo * prodFrom E (lo+1) n

/-- the index tuple `I + e_r` -/
def bump (I : Arr) (r : Nat) : Arr := fun k => if k = r then I k + 1 else I k

theorem sumTo_congr {n : Nat} {f g : Nat → Nat} (h : ∀ k, k < n → f k = g k) : sumTo n f = sumTo n g := by
  induction n with
  | zero => rfl
  | succ n ih =>
    simp only [sumTo]
    rw [ih (fun k hk => h k (Nat.lt_succ_of_lt hk)), h n (Nat.lt_succ_self n)]

theorem sumTo_succ_front (n : Nat) (f : Nat → Nat) : sumTo (n+1) f = f 0 + sumTo n (fun k => f (k+1)) := by
  induction n with
  | zero => simp [sumTo]
  | succ n ih =>
    rw [sumTo, ih, sumTo, Nat.add_assoc]

theorem sumTo_mul_left (n c : Nat) (f : Nat → Nat) : c * sumTo n f = sumTo n (fun k => c * f k) := by
  induction n with
  | zero => rfl
  | succ n ih => simp only [sumTo, Nat.mul_add, ih]

theorem sumTo_add (n : Nat) (f g : Nat → Nat) : sumTo n (fun k => f k + g k) = sumTo n f + sumTo n g := by
  induction n with
  | zero => rfl
  | succ n ih => simp only [sumTo, ih, Nat.add_add_add_comm]

theorem sumTo_mono {n : Nat} {f g : Nat → Nat} (h : ∀ k, k < n → f k ≤ g k) : sumTo n f ≤ sumTo n g := by
  induction n with
  | zero => exact Nat.le_refl _
  | succ n ih =>
    simp only [sumTo]
    exact Nat.add_le_add (ih (fun k hk => h k (Nat.lt_succ_of_lt hk))) (h n (Nat.lt_succ_self n))

theorem sumTo_zero (n : Nat) : sumTo n (fun _ => 0) = 0 := by
  induction n with
  | zero => rfl
  | succ n ih => simp [sumTo, ih]

theorem sumTo_bump {n r : Nat} (hr : r < n) (S I : Arr) :
    sumTo n (fun k => bump I r k * S k) = sumTo n (fun k => I k * S k) + S r := by
  induction n with
  | zero => exact absurd hr (Nat.not_lt_zero r)
  | succ n ih =>
    rw [sumTo, sumTo]
    rcases Nat.lt_succ_iff_lt_or_eq.mp hr with h | rfl
    · rw [ih h, bump, if_neg (Nat.ne_of_gt h), Nat.add_right_comm]
    · rw [sumTo_congr (fun k hk => by rw [bump, if_neg (Nat.ne_of_lt hk)]), bump, if_pos rfl, Nat.succ_mul, Nat.add_assoc]

theorem sumTo_prefix_le {t n : Nat} (h : t ≤ n) (f : Nat → Nat) : sumTo t f ≤ sumTo n f := by
  induction n with
  | zero => rw [Nat.le_zero.mp h]; exact Nat.le_refl _
  | succ n ih =>
    rcases Nat.le_succ_iff.mp h with h | rfl
    · exact Nat.le_trans (ih h) (Nat.le_add_right _ _)
    · exact Nat.le_refl _

theorem sumTo_term_le {n r : Nat} (hr : r < n) (f : Nat → Nat) : f r ≤ sumTo n f :=
  Nat.le_trans (Nat.le_add_left _ _) (sumTo_prefix_le (t := r + 1) hr f)

theorem sumTo_eq_range (n : Nat) (f : Nat → Nat) : sumTo n f = ((List.range n).map f).sum := by
  induction n with
  | zero => rfl
  | succ n ih => rw [sumTo, ih, List.range_succ, List.map_append, List.sum_append_nat]; simp

theorem prodFrom_add (E : Arr) (lo a b : Nat) : prodFrom E lo (a+b) = prodFrom E lo a * prodFrom E (lo+a) b := by
  induction a generalizing lo with
  | zero => simp [prodFrom]
  | succ a ih =>
    rw [Nat.succ_add a b, prodFrom, ih (lo+1), prodFrom, Nat.mul_assoc, Nat.succ_add_eq_add_succ lo a]

theorem prodFrom_snoc (E : Arr) (lo n : Nat) : prodFrom E lo (n+1) = prodFrom E lo n * E (lo+n) := by
  rw [prodFrom_add, prodFrom, prodFrom, Nat.mul_one]

theorem prodFrom_pos {E : Arr} {lo n N : Nat} (h : ∀ k, k < N → 0 < E k) (hN : lo + n ≤ N) : 0 < prodFrom E lo n := by
  induction n generalizing lo with
  | zero => exact Nat.one_pos
  | succ n ih =>
    rw [prodFrom]
    exact Nat.mul_pos (h lo (Nat.lt_of_lt_of_le (Nat.lt_add_of_pos_right (Nat.succ_pos n)) hN))
      (ih (Nat.succ_add_eq_add_succ lo n ▸ hN))

theorem prodFrom_congr {E F : Arr} {lo n N : Nat} (h : ∀ k, k < N → E k = F k) (hN : lo + n ≤ N) :
    prodFrom E lo n = prodFrom F lo n := by
  induction n generalizing lo with
  | zero => rfl
  | succ n ih =>
    rw [prodFrom, prodFrom, h lo (Nat.lt_of_lt_of_le (Nat.lt_add_of_pos_right (Nat.succ_pos n)) hN),
      ih (Nat.succ_add_eq_add_succ lo n ▸ hN)]

theorem prodFrom_split (E : Arr) (n i : Nat) (hi : i < n) :
    prodFrom E 0 n = prodFrom E 0 i * E i * prodFrom E (i + 1) (n - (i + 1)) := by
  conv => lhs; rw [← Nat.add_sub_of_le hi]
  rw [prodFrom_add, prodFrom_snoc, Nat.zero_add, Nat.zero_add]

theorem loopFrom_succ_last {σ : Type} (body : Nat → σ → σ) (n r : Nat) (s : σ) :
    loopFrom body (n+1) r s = body (r+n) (loopFrom body n r s) := by
  induction n generalizing r s with
  | zero => rfl
  | succ n ih =>
    rw [loopFrom, ih (r+1) (body r s), Nat.succ_add_eq_add_succ r n]
    rfl

theorem loopFrom_invariant {σ : Type} (P : Nat → σ → Prop) {body : Nat → σ → σ} {s : σ} (n : Nat)
    (h0 : P 0 s) (hstep : ∀ t st, t < n → P t st → P (t + 1) (body t st)) : P n (loopFrom body n 0 s) := by
  induction n with
  | zero => exact h0
  | succ n ih =>
    rw [loopFrom_succ_last, Nat.zero_add]
    exact hstep n _ (Nat.lt_succ_self n) (ih (fun t st ht => hstep t st (Nat.lt_succ_of_lt ht)))

theorem loopFrom_prefix_le {body : Nat → Nat → Nat} {lo t m s : Nat} (ht : t ≤ m)
    (h : ∀ r acc, r < lo + m → acc ≤ body r acc) : loopFrom body t lo s ≤ loopFrom body m lo s := by
  induction m with
  | zero => rw [Nat.le_zero.mp ht]; exact Nat.le_refl _
  | succ m ih =>
    rcases Nat.le_succ_iff.mp ht with ht | rfl
    · rw [loopFrom_succ_last]
      exact Nat.le_trans (ih ht (fun r acc hr => h r acc (Nat.lt_succ_of_lt hr))) (h _ _ (Nat.lt_succ_self _))
    · exact Nat.le_refl _

theorem downFrom_eq_loopFrom {σ : Type} (body : Nat → σ → σ) (n r : Nat) (s : σ) :
    downFrom body n r s = loopFrom (fun t => body (r - t)) n 0 s := by
  suffices h : ∀ d s, downFrom body n (r - d) s = loopFrom (fun t => body (r - t)) n d s from h 0 s
  induction n with
  | zero => exact fun _ _ => rfl
  | succ n ih => exact fun d s => by rw [downFrom, Nat.sub_sub, ih, loopFrom]

theorem loopFrom_congr {σ : Type} {body body' : Nat → σ → σ} (n r : Nat) (s : σ)
    (h : ∀ k t, r ≤ k → k < r + n → body k t = body' k t) : loopFrom body n r s = loopFrom body' n r s := by
  induction n generalizing r s with
  | zero => rfl
  | succ n ih =>
    rw [loopFrom, loopFrom, h r s (Nat.le_refl _) (Nat.lt_add_of_pos_right (Nat.succ_pos n))]
    exact ih (r+1) _ (fun k t h1 h2 => h k t (Nat.le_of_succ_le h1) (Nat.succ_add_eq_add_succ r n ▸ h2))

theorem loop_prod (E : Arr) (n lo : Nat) : loopFrom (fun r acc => acc * E r) n lo 1 = prodFrom E lo n := by
  induction n with
  | zero => rfl
  | succ n ih => rw [loopFrom_succ_last, ih, prodFrom_snoc]

theorem loop_sum (f : Nat → Nat) (n s : Nat) : loopFrom (fun r acc => acc + f r) n 0 s = s + sumTo n f := by
  induction n with
  | zero => rfl
  | succ n ih => rw [loopFrom_succ_last, ih, sumTo, Nat.add_assoc, Nat.zero_add]

/-! The five product loops `acc = 1; acc *= extent(r)`.  These proofs, and the `show` lines of `left_loop_inv`,
`offsetLeft_eq` and `offsetRight_eq` below, go through only while the loop pieces in Gen/C14.lean unfold to the text they
were written against: they are the lemmas that fail when a changed source is regenerated. -/

theorem product_eq (rank : Nat) (E : Arr) : product rank E = prodFrom E 0 rank :=
  loop_prod E rank 0

theorem strideLeft_eq (rank : Nat) (E : Arr) (i : Nat) : strideLeft rank E i = prodFrom E 0 i :=
  loop_prod E i 0

theorem strideRight_eq (rank : Nat) (E : Arr) (i : Nat) : strideRight rank E i = prodFrom E (i+1) (rank - (i+1)) :=
  loop_prod E (rank - (i+1)) (i+1)

theorem mdSize_eq (rank : Nat) (E : Arr) : mdSize rank E = prodFrom E 0 rank :=
  loop_prod E rank 0

theorem mdarraySize_eq (rank : Nat) (E : Arr) : mdarraySize rank E = prodFrom E 0 rank :=
  loop_prod E rank 0

theorem product_pos {n : Nat} {E : Arr} (h : ∀ k, k < n → 0 < E k) : 0 < product n E := by
  rw [product_eq]
  exact prodFrom_pos h (Nat.le_of_eq (Nat.zero_add n))

theorem product_eq_zero {n : Nat} {E : Arr} (h : ∃ k, k < n ∧ E k = 0) : product n E = 0 := by
  obtain ⟨k, hk, hz⟩ := h
  rw [product_eq, prodFrom_split E n k hk, hz, Nat.mul_zero, Nat.zero_mul]

/-! ### Horner forms

Both `layout_left` and `layout_right` compute a mixed-radix number: the digits are the indices, the radices the extents,
and the two layouts differ only in the order in which the dimensions are visited. -/

def horner (E I : Arr) : List Nat → Nat
  | [] => 0
  | a :: t => I a + E a * horner E I t

def prodList : List Nat → Nat
  | [] => 1
  | e :: es => e * prodList es

/-- the dimensions `n-1, …, 0` -/
def down : Nat → List Nat
  | 0 => []
  | n+1 => n :: down n

theorem mem_down {n a : Nat} : a ∈ down n ↔ a < n := by
  induction n with
  | zero => simp [down]
  | succ n ih => rw [down, List.mem_cons, ih, Nat.lt_succ_iff_lt_or_eq, or_comm]

theorem nodup_down (n : Nat) : (down n).Nodup := by
  induction n with
  | zero => exact List.nodup_nil
  | succ n ih => exact List.nodup_cons.mpr ⟨fun h => Nat.lt_irrefl n (mem_down.mp h), ih⟩

theorem prodList_map_down (E : Arr) (n : Nat) : prodList ((down n).map E) = prodFrom E 0 n := by
  induction n with
  | zero => rfl
  | succ n ih => rw [down, List.map_cons, prodList, ih, prodFrom_snoc, Nat.zero_add, Nat.mul_comm]

theorem prodList_map_range' (E : Arr) (n lo : Nat) : prodList ((List.range' lo n).map E) = prodFrom E lo n := by
  induction n generalizing lo with
  | zero => rfl
  | succ n ih => rw [List.range'_succ, List.map_cons, prodList, ih (lo + 1), prodFrom]

theorem prodList_toList (n : Nat) (E : Arr) : prodList (toList n E) = prodFrom E 0 n := by
  rw [toList, List.range_eq_range', prodList_map_range']

-- after `t` iterations the loop has visited the dimensions `d = rank - 1 - t, …, rank - 1`; `d` is a variable so that
-- the list of dimensions needs no truncated subtraction
theorem left_loop_inv (rank : Nat) (E I : Arr) : ∀ t d, d + t + 1 = rank →
    loopFrom (left_step rank I E) t 1 (I (rank - 1)) = horner E I (List.range' d (t + 1)) := by
  intro t
  induction t with
  | zero => intro d h; subst h; exact (Nat.add_zero (I d)).symm
  | succ t ih =>
    intro d h
    have e : rank - (1 + t) - 1 = d := by
      rw [← h, Nat.sub_sub, Nat.add_assoc d, Nat.add_comm t 1, Nat.add_sub_cancel]
    rw [loopFrom_succ_last, ih (d + 1) (by rw [Nat.add_right_comm d 1 t]; exact h)]
    show I (rank - (1 + t) - 1) + E (rank - (1 + t) - 1) * _ = _
    rw [e]
    rfl

theorem offsetLeft_eq (rank : Nat) (E I : Arr) : offsetLeft rank E I = horner E I (List.range rank) := by
  unfold offsetLeft
  by_cases h : rank = 0
  · subst h; rfl
  · rw [if_neg h, List.range_eq_range']
    show loopFrom (left_step rank I E) (rank - 1) 1 (I (rank - 1)) = _
    have hr := Nat.sub_add_cancel (Nat.pos_of_ne_zero h)
    rw [left_loop_inv rank E I (rank - 1) 0 (by rw [Nat.zero_add]; exact hr), hr]

theorem right_loop_inv (rank : Nat) (E I : Arr) (t : Nat) :
    loopFrom (right_step rank I E) t 0 (I 0) = horner E I (down (t + 1)) := by
  induction t with
  | zero => rfl
  | succ t ih =>
    rw [loopFrom_succ_last, ih, Nat.zero_add]
    rfl

theorem offsetRight_eq (rank : Nat) (E I : Arr) : offsetRight rank E I = horner E I (down rank) := by
  unfold offsetRight
  by_cases h : rank = 0
  · subst h; rfl
  · rw [if_neg h]
    show loopFrom (right_step rank I E) (rank - 1 - 0) 0 (I 0) = _
    rw [right_loop_inv, Nat.sub_zero, Nat.sub_add_cancel (Nat.pos_of_ne_zero h)]

theorem digit_lt {i e p q : Nat} (hi : i < e) (hp : p < q) : i + e * p < e * q := by
  have h1 : e * (p + 1) ≤ e * q := Nat.mul_le_mul_left e hp
  rw [Nat.mul_succ, Nat.add_comm] at h1
  exact Nat.lt_of_lt_of_le (Nat.add_lt_add_right hi _) h1

theorem digit_inj {i j e p q : Nat} (hi : i < e) (hj : j < e) (h : i + e * p = j + e * q) : i = j ∧ p = q := by
  have hm : (i + e * p) % e = (j + e * q) % e := by rw [h]
  rw [Nat.add_mul_mod_self_left, Nat.add_mul_mod_self_left, Nat.mod_eq_of_lt hi, Nat.mod_eq_of_lt hj] at hm
  subst hm
  exact ⟨rfl, Nat.eq_of_mul_eq_mul_left (Nat.zero_lt_of_lt hi) (Nat.add_left_cancel h)⟩

theorem horner_congr {E I J : Arr} {l : List Nat} (h : ∀ a, a ∈ l → I a = J a) : horner E I l = horner E J l := by
  induction l with
  | nil => rfl
  | cons a t ih => rw [horner, horner, h a (List.mem_cons_self ..), ih (fun b hb => h b (List.mem_cons_of_mem _ hb))]

theorem horner_inj {E I J : Arr} {l : List Nat} (hI : ∀ a, a ∈ l → I a < E a) (hJ : ∀ a, a ∈ l → J a < E a)
    (h : horner E I l = horner E J l) : ∀ a, a ∈ l → I a = J a := by
  induction l with
  | nil => intro a ha; cases ha
  | cons a t ih =>
    have ⟨h0, hr⟩ := digit_inj (hI a (List.mem_cons_self ..)) (hJ a (List.mem_cons_self ..)) h
    intro b hb
    rcases List.mem_cons.mp hb with rfl | hb
    · exact h0
    · exact ih (fun c hc => hI c (List.mem_cons_of_mem _ hc)) (fun c hc => hJ c (List.mem_cons_of_mem _ hc)) hr b hb

theorem horner_surj (E : Arr) {l : List Nat} (hl : l.Nodup) (o : Nat) (ho : o < prodList (l.map E)) :
    ∃ I : Arr, (∀ a, a ∈ l → I a < E a) ∧ horner E I l = o := by
  induction l generalizing o with
  | nil => exact ⟨fun _ => 0, fun _ ha => (nomatch ha), (Nat.lt_one_iff.mp ho).symm⟩
  | cons a t ih =>
    obtain ⟨hat, ht⟩ := List.nodup_cons.mp hl
    have he : 0 < E a := Nat.pos_of_ne_zero (fun h0 => by rw [List.map_cons, prodList, h0, Nat.zero_mul] at ho; cases ho)
    -- the digit of `a` is `o % E a`, the rest expands `o / E a`
    obtain ⟨I', hv, hp⟩ := ih ht (o / E a) (by
      rw [Nat.div_lt_iff_lt_mul he, Nat.mul_comm]; exact ho)
    have hne : ∀ b, b ∈ t → (if b = a then o % E a else I' b) = I' b := fun b hb => if_neg (fun e : b = a => hat (e ▸ hb))
    refine ⟨fun b => if b = a then o % E a else I' b, fun b hb => ?_, ?_⟩
    · show (if b = a then o % E a else I' b) < E b
      rcases List.mem_cons.mp hb with rfl | hb
      · rw [if_pos rfl]; exact Nat.mod_lt _ he
      · rw [hne b hb]; exact hv b hb
    · rw [horner, horner_congr hne, hp, if_pos rfl]
      exact Nat.mod_add_div o (E a)

theorem horner_last {E : Arr} {l : List Nat} (h : ∀ a, a ∈ l → 0 < E a) :
    horner E (fun k => E k - 1) l + 1 = prodList (l.map E) := by
  induction l with
  | nil => rfl
  | cons a t ih =>
    rw [List.map_cons, prodList, ← ih (fun b hb => h b (List.mem_cons_of_mem _ hb)), horner, Nat.mul_succ,
      Nat.add_right_comm, Nat.sub_add_cancel (h a (List.mem_cons_self ..)), Nat.add_comm]

theorem offsetLeft_last {n : Nat} {E : Arr} (h : ∀ k, k < n → 0 < E k) :
    offsetLeft n E (fun k => E k - 1) + 1 = product n E := by
  rw [offsetLeft_eq, product_eq, ← prodList_toList]
  exact horner_last (fun k hk => h k (List.mem_range.mp hk))

theorem offsetRight_last {n : Nat} {E : Arr} (h : ∀ k, k < n → 0 < E k) :
    offsetRight n E (fun k => E k - 1) + 1 = product n E := by
  rw [offsetRight_eq, product_eq, ← prodList_map_down]
  exact horner_last (fun k hk => h k (mem_down.mp hk))

theorem horner_range'_formula (E I : Arr) (lo n : Nat) :
    horner E I (List.range' lo n) = sumTo n (fun k => I (lo + k) * prodFrom E lo k) := by
  induction n generalizing lo with
  | zero => rfl
  | succ n ih =>
    rw [List.range'_succ, horner, ih, sumTo_succ_front, sumTo_mul_left]
    simp only [prodFrom, Nat.add_zero, Nat.mul_one]
    congr 1
    apply sumTo_congr
    intro k _
    rw [Nat.succ_add_eq_add_succ lo k, Nat.mul_left_comm]

theorem horner_down_formula (E I : Arr) (n : Nat) :
    horner E I (down n) = sumTo n (fun k => I k * prodFrom E (k+1) (n - (k+1))) := by
  induction n with
  | zero => rfl
  | succ n ih =>
    rw [down, horner, ih, sumTo, sumTo_mul_left]
    simp only [Nat.sub_self, prodFrom, Nat.mul_one]
    rw [Nat.add_comm]
    congr 1
    apply sumTo_congr
    intro k hk
    rw [Nat.succ_sub hk, prodFrom_snoc, Nat.add_sub_of_le hk, Nat.mul_left_comm, Nat.mul_comm (E n)]

theorem dotFrom_eq (S I : Arr) (n r : Nat) : dotFrom S I n r = sumTo n (fun k => I (r + k) * S (r + k)) := by
  induction n generalizing r with
  | zero => rfl
  | succ n ih =>
    rw [dotFrom, ih, sumTo_succ_front]
    simp only [Nat.add_zero, Gen.stride_fold_term]
    congr 1
    apply sumTo_congr
    intro k _
    rw [Nat.succ_add_eq_add_succ r k]

theorem offsetStride_eq (n : Nat) (S I : Arr) : offsetStride n S I = sumTo n (fun k => I k * S k) := by
  unfold offsetStride
  rw [dotFrom_eq]
  simp

theorem requiredSpanStride_pos_ext {n : Nat} {E : Arr} (S : Arr) (h : ∀ k, k < n → 0 < E k) :
    requiredSpanStride n E S = 1 + sumTo n (fun k => (E k - 1) * S k) := by
  unfold requiredSpanStride
  by_cases hn : n = 0
  · subst hn; rfl
  · rw [if_neg hn, if_neg (Nat.ne_of_gt (product_pos h))]
    exact loop_sum (fun r => (E r - 1) * S r) n 1

theorem requiredSpanStride_zero_ext {n : Nat} {E : Arr} (S : Arr) (h : ∃ k, k < n ∧ E k = 0) :
    requiredSpanStride n E S = 0 := by
  unfold requiredSpanStride
  have hn : n ≠ 0 := fun h0 => by
    obtain ⟨k, hk, _⟩ := h
    exact Nat.not_lt_zero k (h0 ▸ hk)
  rw [if_neg hn, if_pos (product_eq_zero h)]
  rfl

theorem valid_pos {n : Nat} {E I : Arr} (h : Valid n E I) : ∀ k, k < n → 0 < E k :=
  fun k hk => Nat.lt_of_le_of_lt (Nat.zero_le _) (h k hk)

def dotList (S I : Arr) (l : List Nat) : Nat := (l.map fun a => I a * S a).sum

/-- the dimensions listed from the largest stride downwards: every stride covers the whole span of the
    dimensions after it (`S b * E b ≤ S a` for consecutive `a, b`), the smallest stride is at least 1 -/
def DescChain (E S : Arr) : List Nat → Prop
  | [] => True
  | [a] => 1 ≤ S a
  | a :: b :: t => S b * E b ≤ S a ∧ DescChain E S (b :: t)

theorem offsetStride_eq_dotList {n : Nat} (S I : Arr) {p : List Nat} (hp : p.Perm (List.range n)) :
    offsetStride n S I = dotList S I p := by
  rw [offsetStride_eq, sumTo_eq_range]
  exact ((hp.map _).sum_nat).symm

theorem descChain_tail {E S : Arr} {a : Nat} {t : List Nat} (h : DescChain E S (a :: t)) : DescChain E S t := by
  cases t with
  | nil => trivial
  | cons b t => exact h.2

-- the factors are swapped so that `digit_lt` / `digit_inj` apply with the tail as digit, `S a` as radix and `I a` as quotient
theorem dotList_cons (S I : Arr) (a : Nat) (t : List Nat) : dotList S I (a :: t) = dotList S I t + S a * I a := by
  rw [dotList, List.map_cons, List.sum_cons, Nat.add_comm, Nat.mul_comm]
  rfl

theorem dotList_tail_lt {E S I : Arr} {a : Nat} {t : List Nat} (hc : DescChain E S (a :: t))
    (hv : ∀ b, b ∈ t → I b < E b) : dotList S I t < S a := by
  induction t generalizing a with
  | nil => exact hc
  | cons b t ih =>
    rw [dotList_cons]
    exact Nat.lt_of_lt_of_le
      (digit_lt (ih hc.2 (fun c hcm => hv c (List.mem_cons_of_mem _ hcm))) (hv b (List.mem_cons_self ..))) hc.1

/-- the dimensions after the head of a chain stay below the head's stride (`dotList_tail_lt`), so the index of the head
    is the quotient of the offset by that stride and the rest is the remainder -/
theorem dotList_inj {E S I J : Arr} {l : List Nat} (hc : DescChain E S l)
    (hI : ∀ b, b ∈ l → I b < E b) (hJ : ∀ b, b ∈ l → J b < E b)
    (h : dotList S I l = dotList S J l) : ∀ b, b ∈ l → I b = J b := by
  induction l with
  | nil => intro b hb; cases hb
  | cons a t ih =>
    have hI' := fun c hcm => hI c (List.mem_cons_of_mem a hcm)
    have hJ' := fun c hcm => hJ c (List.mem_cons_of_mem a hcm)
    rw [dotList_cons, dotList_cons] at h
    have ⟨hr, hq⟩ := digit_inj (dotList_tail_lt hc hI') (dotList_tail_lt hc hJ') h
    intro b hb
    rcases List.mem_cons.mp hb with rfl | hb
    · exact hq
    · exact ih (descChain_tail hc) hI' hJ' hr b hb

instance decDescChain (E S : Arr) : (l : List Nat) → Decidable (DescChain E S l)
  | [] => isTrue trivial
  | [a] => inferInstanceAs (Decidable (1 ≤ S a))
  | _ :: b :: t => @instDecidableAnd _ _ _ (decDescChain E S (b :: t))

theorem dotList_filter (S I : Arr) (q : Nat → Bool) (l : List Nat) (h : ∀ a, a ∈ l → q a = false → I a = 0) :
    dotList S I (l.filter q) = dotList S I l := by
  induction l with
  | nil => rfl
  | cons a t ih =>
    have iht := ih (fun b hb => h b (List.mem_cons_of_mem _ hb))
    cases hq : q a with
    | true => rw [List.filter_cons_of_pos hq, dotList_cons, dotList_cons, iht]
    | false =>
      rw [List.filter_cons_of_neg (by rw [hq]; exact Bool.false_ne_true), dotList_cons, iht, h a (List.mem_cons_self ..) hq]
      rfl

/-- the dimensions that matter for uniqueness: those whose extent is not 1 -/
def bigDims (n : Nat) (E : Arr) : List Nat := (List.range n).filter (fun k => E k != 1)

theorem mem_bigDims {n : Nat} {E : Arr} {k : Nat} : k ∈ bigDims n E ↔ k < n ∧ E k ≠ 1 := by
  simp [bigDims, List.mem_filter]

theorem offsetStride_eq_dotList_big {n : Nat} (E S I : Arr) (hI : Valid n E I) {p : List Nat}
    (hp : p.Perm (bigDims n E)) : offsetStride n S I = dotList S I p := by
  rw [offsetStride_eq_dotList S I (List.Perm.refl (List.range n)),
    ← dotList_filter S I (fun k => E k != 1) (List.range n) (fun a ha hq => ?_)]
  · exact ((hp.map _).sum_nat).symm
  · have h1 : E a = 1 := by simpa using hq
    exact Nat.lt_one_iff.mp (h1 ▸ hI a (List.mem_range.mp ha))

/-- the sorted-stride criterion `DescChain`, asked only of the dimensions of extent ≠ 1 (the index of the others is
    always 0, so their stride does not matter) -/
def SortedUnique (n : Nat) (E S : Arr) : Prop := ∃ p : List Nat, p.Perm (bigDims n E) ∧ DescChain E S p

/-- the assertion loop of the two from-stride constructors, for any order `pos 0, pos 1, …` of visiting the dimensions:
    `prod = 1; for (t < n) { assert(S[pos t] == prod); prod *= E[pos t]; } assert(S[pos n] == prod);` passes iff every stride
    visited is the product `W t` of the extents visited before it -/
theorem assert_loop (E S : Arr) (pos W : Nat → Nat) (n : Nat) (h0 : W 0 = 1) (hW : ∀ t, t < n → W (t + 1) = W t * E (pos t)) :
    let st := loopFrom (fun t (st : Bool × Nat) => (st.1 && S (pos t) == st.2, st.2 * E (pos t))) n 0 (true, 1)
    (st.1 && S (pos n) == st.2) = true ↔ ∀ t, t < n + 1 → S (pos t) = W t := by
  obtain ⟨h1, h2⟩ := loopFrom_invariant
    (fun t (st : Bool × Nat) => st.2 = W t ∧ (st.1 = true ↔ ∀ k, k < t → S (pos k) = W k))
    (body := fun t st => (st.1 && S (pos t) == st.2, st.2 * E (pos t))) (s := (true, 1)) n
    ⟨h0.symm, iff_of_true rfl (fun k hk => absurd hk (Nat.not_lt_zero k))⟩
    (fun t st ht ⟨h1, h2⟩ => ⟨by rw [hW t ht, ← h1],
      by simp only [Bool.and_eq_true, beq_iff_eq, h1, h2, Nat.forall_lt_succ_right]⟩)
  simp only [Bool.and_eq_true, beq_iff_eq, h1, h2, Nat.forall_lt_succ_right]

theorem checkFromStrideLeft_iff (n : Nat) (E S : Arr) :
    checkFromStrideLeft n E S = true ↔ ∀ k, k < n → S k = strideLeft n E k := by
  unfold checkFromStrideLeft
  by_cases hn : n = 0
  · subst hn; simp
  · have := assert_loop E S (fun t => t) (prodFrom E 0) (n - 1) rfl (fun t _ => by rw [prodFrom_snoc, Nat.zero_add])
    rw [Nat.sub_add_cancel (Nat.pos_of_ne_zero hn)] at this
    simp only [if_neg hn, strideLeft_eq]
    exact this

theorem checkFromStrideRight_iff (n : Nat) (E S : Arr) :
    checkFromStrideRight n E S = true ↔ ∀ k, k < n → S k = strideRight n E k := by
  unfold checkFromStrideRight
  cases n with
  | zero => simp
  | succ m =>
    -- the dimensions are visited as `m, m-1, …, 0`; before dimension `m - t` the product of the last `t` extents
    have := assert_loop E S (fun t => m - t) (fun t => prodFrom E (m - t + 1) t) m rfl (fun t ht => by
      rw [Nat.sub_add_eq, Nat.sub_add_cancel (Nat.sub_pos_of_lt ht), prodFrom, Nat.mul_comm])
    rw [Nat.sub_self] at this
    simp only [forDown, Nat.add_sub_cancel, Nat.sub_zero, Nat.succ_ne_zero, if_false, strideRight_eq, Nat.add_sub_add_right,
      downFrom_eq_loopFrom]
    refine this.trans ⟨fun h k hk => ?_, fun h j hj => ?_⟩
    · have := h (m - k) (Nat.lt_succ_of_le (Nat.sub_le m k))
      rwa [Nat.sub_sub_self (Nat.le_of_lt_succ hk)] at this
    · have := h (m - j) (Nat.lt_succ_of_le (Nat.sub_le m j))
      rwa [Nat.sub_sub_self (Nat.le_of_lt_succ hj)] at this

/-! ### every mapping is strided

`layout_left` and `layout_right` are strided mappings too (`is_always_strided()`): for all three layouts the offset is the dot
product of the indices with the mapping's own `stride(r)`, and the required span is one more than the offset of the last
index tuple.  So rank, extents and strides determine how a mapping addresses. -/

theorem Mapping.offset_eq_dot (m : Mapping) (I : Arr) : m.offset I = sumTo m.rank (fun k => I k * m.stride k) := by
  cases m with | mk lay rank ext str =>
  cases lay
  · show offsetLeft rank ext I = sumTo rank (fun k => I k * strideLeft rank ext k)
    rw [offsetLeft_eq, List.range_eq_range', horner_range'_formula]
    exact sumTo_congr (fun k _ => by rw [strideLeft_eq, Nat.zero_add])
  · show offsetRight rank ext I = sumTo rank (fun k => I k * strideRight rank ext k)
    rw [offsetRight_eq, horner_down_formula]
    exact sumTo_congr (fun k _ => by rw [strideRight_eq])
  · exact offsetStride_eq rank str I

theorem Mapping.offset_congr (m : Mapping) {I J : Arr} (h : ∀ k, k < m.rank → I k = J k) : m.offset I = m.offset J := by
  rw [Mapping.offset_eq_dot, Mapping.offset_eq_dot]
  exact sumTo_congr (fun k hk => by rw [h k hk])

theorem Mapping.requiredSpan_tight (m : Mapping) (h : ∀ k, k < m.rank → 0 < m.ext k) :
    m.requiredSpan = m.offset (fun k => m.ext k - 1) + 1 := by
  cases m with | mk lay rank ext str =>
  cases lay
  · exact (offsetLeft_last h).symm
  · exact (offsetRight_last h).symm
  · show requiredSpanStride rank ext str = offsetStride rank str _ + 1
    rw [offsetStride_eq, requiredSpanStride_pos_ext str h, Nat.add_comm]

theorem Mapping.requiredSpan_empty (m : Mapping) (h : ∃ k, k < m.rank ∧ m.ext k = 0) : m.requiredSpan = 0 := by
  cases m with | mk lay rank ext str =>
  cases lay
  · exact product_eq_zero h
  · exact product_eq_zero h
  · exact requiredSpanStride_zero_ext str h

theorem Mapping.offset_lt_requiredSpan (m : Mapping) {I : Arr} (h : Valid m.rank m.ext I) : m.offset I < m.requiredSpan := by
  -- the offset grows with every index, and the last index tuple maps to the required span - 1
  rw [Mapping.requiredSpan_tight m (valid_pos h), Mapping.offset_eq_dot, Mapping.offset_eq_dot]
  exact Nat.lt_succ_of_le (sumTo_mono (fun k hk => Nat.mul_le_mul_right _ (Nat.le_sub_one_of_lt (h k hk))))

theorem Mapping.same_addressing {m m' : Mapping} (hr : m'.rank = m.rank) (he : ∀ k, k < m.rank → m'.ext k = m.ext k)
    (hs : ∀ k, k < m.rank → m'.stride k = m.stride k) :
    (∀ I, m'.offset I = m.offset I) ∧ m'.requiredSpan = m.requiredSpan := by
  have ho : ∀ I, m'.offset I = m.offset I := fun I => by
    rw [Mapping.offset_eq_dot, Mapping.offset_eq_dot, hr]
    exact sumTo_congr (fun k hk => by rw [hs k hk])
  refine ⟨ho, ?_⟩
  by_cases hz : ∃ k, k < m.rank ∧ m.ext k = 0
  · obtain ⟨k, hk, hz⟩ := hz
    rw [Mapping.requiredSpan_empty m ⟨k, hk, hz⟩, Mapping.requiredSpan_empty m' ⟨k, hr ▸ hk, (he k hk).trans hz⟩]
  · have hpos : ∀ k, k < m.rank → 0 < m.ext k := fun k hk => Nat.pos_of_ne_zero (fun h0 => hz ⟨k, hk, h0⟩)
    rw [Mapping.requiredSpan_tight m hpos, Mapping.requiredSpan_tight m' (fun k hk => he k (hr ▸ hk) ▸ hpos k (hr ▸ hk)), ho]
    exact congrArg (· + 1) (m.offset_congr (fun k hk => congrArg (· - 1) (he k hk)))

theorem Mapping.stride_congr_ext (lay : Layout) {n : Nat} {E F : Arr} (S : Arr) (h : ∀ k, k < n → E k = F k) (k : Nat) (hk : k < n) :
    (Mapping.mk lay n E S).stride k = (Mapping.mk lay n F S).stride k := by
  cases lay
  · show strideLeft n E k = strideLeft n F k
    rw [strideLeft_eq, strideLeft_eq]
    exact prodFrom_congr h (Nat.le_of_lt ((Nat.zero_add k).symm ▸ hk))
  · show strideRight n E k = strideRight n F k
    rw [strideRight_eq, strideRight_eq]
    exact prodFrom_congr h (Nat.le_of_eq (Nat.add_sub_of_le hk))
  · rfl

theorem Mapping.requiredSpan_of_ne_stride {m : Mapping} (hm : m.lay ≠ .stride) : m.requiredSpan = prodFrom m.ext 0 m.rank := by
  cases m with | mk lay rank ext str =>
  cases lay
  · exact product_eq rank ext
  · exact product_eq rank ext
  · exact absurd rfl hm

/-- the `set` loops of extents.hh fill an array from the front: writing the next value at the fill front `j` moves the front by one -/
theorem fill_step {d : List Nat} {L j : Nat} {spec : Nat → Nat} (hj : j < L)
    (h : d.length = L ∧ ∀ k, k < j → d.getD k 0 = spec k) :
    (d.set j (spec j)).length = L ∧ ∀ k, k < j + 1 → (d.set j (spec j)).getD k 0 = spec k := by
  simp only [List.getD_eq_getElem?_getD] at h ⊢
  refine ⟨by rw [List.length_set, h.1], Nat.forall_lt_succ_right.mpr ⟨fun k hk => ?_, ?_⟩⟩
  · rw [List.getElem?_set_ne (Nat.ne_of_gt hk)]; exact h.2 k hk
  · rw [List.getElem?_set_self (h.1 ▸ hj)]; rfl

/-- number of dynamic extents among the first `r` entries of the pattern -/
def countDyn (p : Pattern) (r : Nat) : Nat := rankDynamic (p.take r)

theorem rankDynamic_eq_countP (p : Pattern) : rankDynamic p = p.countP Option.isNone := by
  induction p with
  | nil => rfl
  | cons e es ih => rw [rankDynamic, ih, List.countP_cons, Nat.add_comm]

theorem countDyn_succ (p : Pattern) (r : Nat) (hr : r < p.length) :
    countDyn p (r+1) = countDyn p r + (if isDyn p r then 1 else 0) := by
  simp only [countDyn, rankDynamic_eq_countP, List.take_succ_eq_append_getElem hr, List.countP_append, List.countP_singleton,
    isDyn, List.getD_eq_getElem?_getD, List.getElem?_eq_getElem hr, Option.getD_some]

theorem countDyn_le (p : Pattern) (r : Nat) : countDyn p r ≤ rankDynamic p := by
  rw [countDyn, rankDynamic_eq_countP, rankDynamic_eq_countP]
  exact (List.take_sublist r p).countP_le

theorem countDyn_lt (p : Pattern) (r : Nat) (hr : r < p.length) (hd : isDyn p r = true) :
    countDyn p r < rankDynamic p := by
  have h1 := countDyn_succ p r hr
  rw [if_pos hd] at h1
  exact Nat.lt_of_lt_of_le (h1 ▸ Nat.lt_succ_self _) (countDyn_le p (r+1))

theorem countDyn_all_dyn (p : Pattern) (h : rankDynamic p = p.length) (k : Nat) (hk : k ≤ p.length) : countDyn p k = k := by
  rw [rankDynamic_eq_countP, List.countP_eq_length] at h
  rw [countDyn, rankDynamic_eq_countP, List.countP_eq_length.mpr (fun a ha => h a (List.mem_of_mem_take ha)),
    List.length_take, Nat.min_eq_left hk]

theorem makeDynamicIndex_getD (p : Pattern) (r : Nat) (hr : r ≤ p.length) :
    (makeDynamicIndex p).getD r 0 = countDyn p r := by
  have := loopFrom_invariant
    (fun t (di : List Nat) => di.length = p.length + 1 ∧ ∀ r, r < t + 1 → di.getD r 0 = countDyn p r)
    (body := fun i di => di.set (i+1) (di.getD i 0 + (if isDyn p i then 1 else 0)))
    (s := List.replicate (p.length + 1) 0) p.length
    ⟨List.length_replicate, fun r hr => by rw [Nat.lt_one_iff.mp hr]; rfl⟩
    (fun t di ht h => by
      rw [h.2 t (Nat.lt_succ_self t), ← countDyn_succ p t ht]
      exact fill_step (Nat.succ_lt_succ ht) h)
  exact this.2 r (Nat.lt_succ_of_le hr)

theorem compatible_length (p : Pattern) (c : List Nat) (h : compatible p c = true) : c.length = p.length := by
  fun_induction compatible p c with
  | case1 => rfl
  | case2 e es v vs ih => exact congrArg (· + 1) (ih ((Bool.and_eq_true _ _).mp h).2)
  | case3 => exact nomatch h

theorem compatible_static (p : Pattern) (c : List Nat) (h : compatible p c = true) :
    ∀ r s, p[r]? = some (some s) → c.getD r 0 = s := by
  fun_induction compatible p c with
  | case1 => exact fun r s hs => nomatch hs
  | case2 e es v vs ih =>
    have h' := (Bool.and_eq_true _ _).mp h
    intro r s hs
    cases r with
    | zero => cases hs; exact (beq_iff_eq.mp h'.1).symm
    | succ r => exact ih h'.2 r s hs
  | case3 => exact nomatch h

theorem countDyn_cons (e : Option Nat) (p : Pattern) (r : Nat) :
    countDyn (e :: p) (r + 1) = countDyn p r + (if e.isNone then 1 else 0) := Nat.add_comm _ _

theorem dynPart_spec (p : Pattern) (c : List Nat) (h : compatible p c = true) :
    (dynPart p c).length = rankDynamic p ∧
    ∀ r, r < p.length → isDyn p r = true → (dynPart p c).getD (countDyn p r) 0 = c.getD r 0 := by
  fun_induction compatible p c with
  | case1 => exact ⟨rfl, fun r hr => absurd hr (Nat.not_lt_zero r)⟩
  | case2 e es v vs ih =>
    have ⟨ihl, ihv⟩ := ih ((Bool.and_eq_true _ _).mp h).2
    cases e with
    | none =>
      exact ⟨by rw [rankDynamic, ← ihl]; exact Nat.add_comm _ 1, fun r hr hd => match r with
        | 0 => rfl
        | r + 1 => by rw [countDyn_cons]; exact ihv r (Nat.lt_of_succ_lt_succ hr) hd⟩
    | some s =>
      exact ⟨by rw [rankDynamic, ← ihl]; exact (Nat.zero_add _).symm, fun r hr hd => match r with
        | 0 => nomatch hd
        | r + 1 => by rw [countDyn_cons]; exact ihv r (Nat.lt_of_succ_lt_succ hr) hd⟩
  | case3 => exact nomatch h

theorem initFromDyn_getD (p : Pattern) (c : List Nat) (k : Nat) (hk : k < rankDynamic p) :
    (initFromDyn p c).getD k 0 = c.getD k 0 :=
  (loopFrom_invariant
    (fun t (d : List Nat) => d.length = rankDynamic p ∧ ∀ k, k < t → d.getD k 0 = c.getD k 0)
    (body := fun i d => d.set i (c.getD i 0)) (s := List.replicate (rankDynamic p) 0) (rankDynamic p)
    ⟨List.length_replicate, fun k hk => absurd hk (Nat.not_lt_zero k)⟩
    (fun _ _ ht h => fill_step (spec := fun k => c.getD k 0) ht h)).2 k hk

theorem initFromFull_getD (p : Pattern) (c : List Nat) (hc : compatible p c = true) (j : Nat) (hj : j < rankDynamic p) :
    (initFromFull p c).getD j 0 = (dynPart p c).getD j 0 := by
  -- after `t` iterations: `j` counts the dynamic dimensions passed, and the positions below `j` hold their values
  have := loopFrom_invariant
    (fun t (st : List Nat × Nat) => st.2 = countDyn p t ∧ st.1.length = rankDynamic p ∧
      ∀ j, j < countDyn p t → st.1.getD j 0 = (dynPart p c).getD j 0)
    (body := fun i st => if isDyn p i then (st.1.set st.2 (c.getD i 0), st.2 + 1) else st)
    (s := (List.replicate (rankDynamic p) 0, 0)) p.length
    ⟨rfl, List.length_replicate, fun j hj => absurd hj (Nat.not_lt_zero j)⟩
    (fun t st ht ⟨h1, h2⟩ => by
      have hs := countDyn_succ p t ht
      by_cases hd : isDyn p t = true
      · rw [if_pos hd] at hs ⊢
        rw [hs, h1, ← (dynPart_spec p c hc).2 t ht hd]
        exact ⟨rfl, fill_step (countDyn_lt p t ht hd) h2⟩
      · rw [if_neg hd] at hs ⊢
        rw [hs]
        exact ⟨h1, h2⟩)
  exact this.2.2 j (by rw [countDyn, List.take_length]; exact hj)

theorem initDynamic_pat {p : Pattern} {c : List Nat} {e : Extents} (h : initDynamic p c = some e) : e.pat = p := by
  unfold initDynamic at h
  by_cases h1 : c.length = rankDynamic p
  · rw [if_pos h1] at h; cases h; rfl
  · rw [if_neg h1] at h
    by_cases h2 : c.length = p.length
    · rw [if_pos h2] at h; cases h; rfl
    · rw [if_neg h2] at h; cases h

theorem extent_static (e : Extents) (r s : Nat) (h : e.pat[r]? = some (some s)) : e.extent r = s := by
  unfold Extents.extent staticExtent
  rw [List.getD_eq_getElem?_getD, h]
  rfl

theorem extent_dynamic (e : Extents) (r : Nat) (hr : r < e.pat.length) (h : e.pat[r]? = some none) :
    e.extent r = e.dyn.getD (countDyn e.pat r) 0 := by
  unfold Extents.extent staticExtent
  rw [List.getD_eq_getElem?_getD, h, makeDynamicIndex_getD e.pat r (Nat.le_of_lt hr)]
  rfl

theorem isDyn_of_getElem? {p : Pattern} {r : Nat} (h : p[r]? = some none) : isDyn p r = true := by
  unfold isDyn
  rw [List.getD_eq_getElem?_getD, h]
  rfl

/-- both constructor forms at once: from all `rank` values, and from the dynamic values only -/
theorem extent_of_initDynamic (p : Pattern) (c : List Nat) (hc : compatible p c = true) (e : Extents)
    (he : initDynamic p c = some e ∨ initDynamic p (dynPart p c) = some e) :
    ∀ r, r < p.length → e.extent r = c.getD r 0 := by
  intro r hr
  have hl := compatible_length p c hc
  obtain ⟨hdl, hdv⟩ := dynPart_spec p c hc
  obtain ⟨pat, dyn⟩ := e
  obtain rfl : pat = p := by rcases he with he | he <;> exact initDynamic_pat he
  cases hpr : pat[r]'hr with
  | some s =>
    have h1 : pat[r]? = some (some s) := by rw [List.getElem?_eq_getElem hr, hpr]
    rw [extent_static _ r s h1]
    exact (compatible_static pat c hc r s h1).symm
  | none =>
    have h1 : pat[r]? = some none := by rw [List.getElem?_eq_getElem hr, hpr]
    have hd := isDyn_of_getElem? h1
    have hlt := countDyn_lt pat r hr hd
    have hrd : rankDynamic pat ≠ 0 := Nat.ne_of_gt (Nat.lt_of_le_of_lt (Nat.zero_le _) hlt)
    rw [extent_dynamic _ r hr h1]
    show dyn.getD (countDyn pat r) 0 = _
    unfold initDynamic at he
    rcases he with he | he
    · by_cases h2 : c.length = rankDynamic pat
      · -- all extents are dynamic: the two constructor forms coincide
        rw [if_pos h2, if_neg hrd] at he
        cases he
        have hall : rankDynamic pat = pat.length := h2.symm.trans hl
        rw [countDyn_all_dyn pat hall r (Nat.le_of_lt hr)]
        exact initFromDyn_getD pat c r (hall ▸ hr)
      · rw [if_neg h2, if_pos hl, if_neg hrd] at he
        cases he
        rw [initFromFull_getD pat c hc _ hlt]
        exact hdv r hr hd
    · rw [if_pos hdl, if_neg hrd] at he
      cases he
      rw [initFromDyn_getD pat _ _ hlt]
      exact hdv r hr hd

theorem extent_default_dynamic (p : Pattern) (r : Nat) (hr : r < p.length) (h : p[r]? = some none) :
    (Extents.dflt p).extent r = 0 := by
  rw [extent_dynamic (Extents.dflt p) r hr h]
  simp only [Extents.dflt, List.getD_eq_getElem?_getD, List.getElem?_replicate]
  split <;> rfl

theorem toList_length (n : Nat) (a : Arr) : (toList n a).length = n := by simp [toList]

theorem arr_toList (n : Nat) (a : Arr) (k : Nat) (hk : k < n) : arr (toList n a) k = a k := by
  simp [arr, toList, List.getD_eq_getElem?_getD, hk]

theorem mem_allTuples {es t : List Nat} :
    t ∈ allTuples es ↔ t.length = es.length ∧ ∀ k, k < es.length → t.getD k 0 < es.getD k 0 := by
  induction es generalizing t with
  | nil => cases t <;> simp [allTuples]
  | cons e es ih =>
    cases t with
    | nil => simp [allTuples]
    | cons i t =>
      simp only [allTuples, List.mem_flatMap, List.mem_range, List.mem_map, List.cons.injEq, List.length_cons,
        Nat.add_right_cancel_iff, Nat.forall_lt_succ_left, List.getD_cons_zero, List.getD_cons_succ, ih]
      constructor
      · rintro ⟨_, hi, _, ht, rfl, rfl⟩; exact ⟨ht.1, hi, ht.2⟩
      · rintro ⟨hl, hi, hv⟩; exact ⟨i, hi, t, ⟨hl, hv⟩, rfl, rfl⟩

theorem mem_allTuples_toList {n : Nat} {E : Arr} {t : List Nat} :
    t ∈ allTuples (toList n E) ↔ t.length = n ∧ Valid n E (arr t) := by
  rw [mem_allTuples, toList_length]
  exact and_congr_right (fun _ => forall_congr' (fun k => imp_congr_right (fun hk => by rw [← arr_toList n E k hk]; rfl)))

theorem allTuples_length (es : List Nat) : (allTuples es).length = prodList es := by
  induction es with
  | nil => rfl
  | cons e es ih =>
    simp only [allTuples, prodList, List.length_flatMap, List.length_map, ih, List.map_const', List.sum_replicate_nat,
      List.length_range]

theorem allTuples_toList_length (n : Nat) (E : Arr) : (allTuples (toList n E)).length = prodFrom E 0 n := by
  rw [allTuples_length, prodList_toList]

/-- one step of `init_from_mdspan` -/
def initStep (other : View) (acc : Md) (t : List Nat) : Md :=
  match other.get? (arr t) with
  | some v => acc.set (arr t) v
  | none => acc

theorem initFromView_eq (a : Md) (other : View) (tuples : List (List Nat)) :
    initFromView a other tuples = tuples.foldl (initStep other) a := rfl

theorem initFromMdspan_eq (a other : Md) (tuples : List (List Nat)) :
    initFromMdspan a other tuples = tuples.foldl (initStep other.toView) a := rfl

/-- the mapping is unique: valid index tuples with equal offsets agree below the rank -/
def InjOn (m : Mapping) : Prop :=
  ∀ I J, Valid m.rank m.ext I → Valid m.rank m.ext J → m.offset I = m.offset J → ∀ k, k < m.rank → I k = J k

theorem Md.get?_set_eq (a : Md) {I J : Arr} (v : Int) (h : a.map.offset I = a.map.offset J)
    (hlt : a.map.offset I < a.data.length) : (a.set I v).get? J = some v := by
  show (a.data.set _ v)[a.map.offset J]? = some v
  rw [← h]
  exact List.getElem?_set_self hlt

theorem Md.get?_set_ne (a : Md) {I J : Arr} (v : Int) (h : a.map.offset I ≠ a.map.offset J) :
    (a.set I v).get? J = a.get? J :=
  List.getElem?_set_ne h

/-- what a history of assignments leaves at index `J` (specification): the value of the LAST assignment to an index
    tuple that agrees with `J` in all `n` dimensions, `none` if there was no such assignment -/
def lastWrite (n : Nat) (J : Arr) : List (List Nat × Int) → Option Int
  | [] => none
  | w :: ws => match lastWrite n J ws with
    | some v => some v
    | none => if (List.range n).all (fun k => arr w.1 k == J k) then some w.2 else none

theorem all_beq_iff {n : Nat} {I J : Arr} : (List.range n).all (fun k => I k == J k) = true ↔ ∀ k, k < n → I k = J k := by
  simp only [List.all_eq_true, List.mem_range, beq_iff_eq]

theorem Md.writes_map (a : Md) (ws : List (List Nat × Int)) : (a.writes ws).map = a.map := by
  induction ws generalizing a with
  | nil => rfl
  | cons w ws ih => rw [Md.writes, ih]; rfl

theorem Md.writes_length (a : Md) (ws : List (List Nat × Int)) : (a.writes ws).data.length = a.data.length := by
  induction ws generalizing a with
  | nil => rfl
  | cons w ws ih => rw [Md.writes, ih]; simp [Md.set]

theorem lastWrite_cases (n : Nat) (J : Arr) (ws : List (List Nat × Int)) :
    (∃ w, w ∈ ws ∧ (∀ k, k < n → arr w.1 k = J k) ∧ lastWrite n J ws = some w.2) ∨
    (lastWrite n J ws = none ∧ ∀ w, w ∈ ws → ¬ ∀ k, k < n → arr w.1 k = J k) := by
  induction ws with
  | nil => exact Or.inr ⟨rfl, fun w hw => nomatch hw⟩
  | cons w ws ih =>
    rw [lastWrite]
    rcases ih with ⟨w', hw', hag, he⟩ | ⟨he, hno⟩
    · rw [he]
      exact Or.inl ⟨w', List.mem_cons_of_mem _ hw', hag, rfl⟩
    · rw [he]
      by_cases hag : ∀ k, k < n → arr w.1 k = J k
      · exact Or.inl ⟨w, List.mem_cons_self .., hag, if_pos (all_beq_iff.mpr hag)⟩
      · exact Or.inr ⟨if_neg (fun h => hag (all_beq_iff.mp h)), List.forall_mem_cons.mpr ⟨hag, hno⟩⟩

/-- the assignments `init_from_mdspan` makes: one for every tuple the view can read -/
def copyWrites (other : View) (tuples : List (List Nat)) : List (List Nat × Int) :=
  tuples.filterMap fun t => (other.get? (arr t)).map fun v => (t, v)

theorem initFromView_eq_writes (a : Md) (other : View) (tuples : List (List Nat)) :
    initFromView a other tuples = a.writes (copyWrites other tuples) := by
  induction tuples generalizing a with
  | nil => rfl
  | cons t ts ih =>
    rw [initFromView, List.foldl_cons, copyWrites, List.filterMap_cons]
    cases other.get? (arr t) with
    | none => exact ih a
    | some v => exact ih (a.set (arr t) v)

theorem mem_copyWrites {other : View} {tuples : List (List Nat)} {w : List Nat × Int} :
    w ∈ copyWrites other tuples ↔ w.1 ∈ tuples ∧ other.get? (arr w.1) = some w.2 := by
  rw [copyWrites, List.mem_filterMap]
  constructor
  · rintro ⟨t, ht, h⟩
    obtain ⟨v, hv, rfl⟩ := Option.map_eq_some_iff.mp h
    exact ⟨ht, hv⟩
  · rintro ⟨ht, hv⟩
    exact ⟨w.1, ht, by rw [hv]; rfl⟩

theorem elems_getElem? {α : Type} (s : Span) (mem : List α) (i : Nat) (hi : i < s.size) :
    (s.elems mem)[i]? = mem[s.off + i]? := by
  unfold Span.elems
  rw [List.getElem?_take, List.getElem?_drop]
  simp [hi]

theorem elems_sub {α : Type} (mem : List α) {s t : Span} {o : Nat} (ho : t.off = s.off + o) (hs : o + t.size ≤ s.size)
    (i : Nat) (hi : i < t.size) : (t.elems mem)[i]? = (s.elems mem)[o + i]? := by
  rw [elems_getElem? _ _ _ hi, elems_getElem? _ _ _ (Nat.lt_of_lt_of_le (Nat.add_lt_add_left hi o) hs), ho, Nat.add_assoc]

theorem elems_length {α : Type} (s : Span) (mem : List α) (h : s.off + s.size ≤ mem.length) :
    (s.elems mem).length = s.size := by
  unfold Span.elems
  rw [List.length_take, List.length_drop]
  exact Nat.min_eq_left (Nat.le_sub_of_add_le (Nat.add_comm s.off s.size ▸ h))

theorem choose_below {α : Type} [Inhabited α] {P : Nat} {p : Nat → α → Prop} (h : ∀ q, q < P → ∃ a, p q a) :
    ∃ T : Nat → α, ∀ q, q < P → p q (T q) :=
  ⟨fun q => if hq : q < P then Classical.choose (h q hq) else default,
    fun q hq => by
      show p q (if hq : q < P then Classical.choose (h q hq) else default)
      rw [dif_pos hq]; exact Classical.choose_spec (h q hq)⟩

theorem nodup_map_range {P : Nat} {f : Nat → Nat} (hinj : ∀ q q', q < P → q' < P → f q = f q' → q = q') :
    ((List.range P).map f).Nodup :=
  List.pairwise_map.mpr (List.nodup_range.imp_of_mem (fun hq hq' hne e =>
    hne (hinj _ _ (List.mem_range.mp hq) (List.mem_range.mp hq') e)))

theorem pigeon : ∀ (n P : Nat) (f : Nat → Nat), (∀ q, q < P → f q < n) →
    (∀ q q', q < P → q' < P → f q = f q' → q = q') → P ≤ n := by
  intro n P f hr hinj
  have h := (nodup_map_range hinj).length_le_of_subset (l₂ := List.range n) (fun x hx => by
    obtain ⟨q, hq, rfl⟩ := List.mem_map.mp hx
    exact List.mem_range.mpr (hr q (List.mem_range.mp hq)))
  rwa [List.length_map, List.length_range, List.length_range] at h

theorem pigeon_surj (n : Nat) (f : Nat → Nat) (hr : ∀ q, q < n → f q < n)
    (hinj : ∀ q q', q < n → q' < n → f q = f q' → q = q') (o : Nat) (ho : o < n) : ∃ q, q < n ∧ f q = o := by
  apply Classical.byContradiction
  intro hno
  -- otherwise the `n` distinct values lie in `[0, n)` without `o`
  have h := (nodup_map_range hinj).length_le_of_subset (l₂ := (List.range n).erase o) (fun x hx => by
    obtain ⟨q, hq, rfl⟩ := List.mem_map.mp hx
    have hq := List.mem_range.mp hq
    exact (List.mem_erase_of_ne (fun e => hno ⟨q, hq, e⟩)).mpr (List.mem_range.mpr (hr q hq)))
  rw [List.length_map, List.length_range, List.length_erase_of_mem (List.mem_range.mpr ho), List.length_range] at h
  exact Nat.not_succ_le_self (n - 1) (Nat.sub_add_cancel (Nat.lt_of_le_of_lt (Nat.zero_le o) ho) ▸ h)

theorem inj_onto_iff {P R : Nat} {f : Nat → Nat} (hr : ∀ q, q < P → f q < R)
    (hinj : ∀ q q', q < P → q' < P → f q = f q' → q = q') :
    P ≤ R ∧ (R = P ↔ ∀ o, o < R → ∃ q, q < P ∧ f q = o) := by
  have hPR := pigeon R P f hr hinj
  refine ⟨hPR, fun h => ?_, fun h => ?_⟩
  · subst h
    exact pigeon_surj R f hr hinj
  · -- a right inverse of `f` is an injection of `[0, R)` into `[0, P)`
    obtain ⟨g, hg⟩ := choose_below h
    exact Nat.le_antisymm
      (pigeon P R g (fun o ho => (hg o ho).1) (fun o o' ho ho' e => by rw [← (hg o ho).2, ← (hg o' ho').2, e])) hPR

end DV.C14
