/-
C10: the carry loops `+=` and `-=`, each one induction with `Rep.cons`, which gives width, digit bound and value at
once; `++` is `+=` with a zero operand and carry-in 1.  Core Lean only.
-/
import DuneVerif.Proofs.C10Basic

namespace DV.C10

theorem addLoop_rep {n : Nat} {a x : List Nat} (ha : Wf n a) (hx : Wf n x) :
    ∀ c, c ≤ 1 → Rep n (addLoop a x c) (val a + val x + c) := by
  refine wf_ind₂ (fun _ _ => Rep.nil _) ?_ ha hx
  intro n a x as xs ha hx _ _ ih c hc
  have hc' : (a + x + c) / B ≤ 1 := Nat.le_of_lt_succ <| Nat.div_lt_of_lt_mul <| Nat.lt_of_le_of_lt
    (Nat.add_le_add_left hc _) (Nat.mul_two B ▸ Nat.add_lt_add_of_lt_of_le ha hx : a + (x + 1) < B * 2)
  have e : val (a :: as) + val (x :: xs) + c = (a + x + c) + B * (val as + val xs) := by
    rw [val_cons, val_cons, Nat.mul_add, Nat.add_add_add_comm, Nat.add_right_comm]
  rw [e, addLoop]
  simp only [and_bitmask, shr_bits, and_overflowmask hc']
  exact Rep.cons (ih _ hc')

theorem add_rep {n : Nat} {a x : List Nat} (ha : Wf n a) (hx : Wf n x) : Rep n (add a x) (val a + val x) :=
  addLoop_rep ha hx 0 (Nat.zero_le 1)

theorem incrLoop_eq_addLoop (a : List Nat) (c : Nat) : incrLoop a c = addLoop a (zeros a.length) c := by
  induction a generalizing c with
  | nil => rfl
  | cons _ _ ih => exact congrArg (_ :: ·) (ih _)

theorem incr_rep {n : Nat} {a : List Nat} (ha : Wf n a) : Rep n (incr a) (val a + 1) := by
  have h := addLoop_rep ha (wf_zeros n) 1 (Nat.le_refl 1)
  rw [val_zeros, Nat.add_zero] at h
  rwa [incr, incrLoop_eq_addLoop, ha.1]

theorem subLoop_rep {n : Nat} {a x : List Nat} (ha : Wf n a) (hx : Wf n x) :
    ∀ c e, c ≤ 1 → e + (val x + c) = val a + W n → Rep n (subLoop a x c) e := by
  refine wf_ind₂ (fun _ _ _ _ => Rep.nil _) ?_ ha hx
  intro n a x as xs ha hx _ hxs ih c E hc hE
  have step : ∀ {d} c', c' ≤ 1 → d < B → d + (x + c) = a + B * c' → Rep (n + 1) (d :: subLoop as xs c') E := by
    intro d c' hc' hd hs
    -- `e` is the number the higher digits stand for once the borrow `c'` is taken from them
    obtain ⟨e, he⟩ : ∃ e, e + (val xs + c') = val as + W n :=
      ⟨_, Nat.sub_add_cancel (Nat.le_add_left_of_le (Nat.le_trans (Nat.add_le_add_left hc' _) (val_lt hxs)))⟩
    have hE' : E = d + B * e := by
      apply Nat.add_right_cancel (m := val (x :: xs) + c)
      rw [hE, val_cons, val_cons, W_succ, Nat.add_right_comm x, Nat.add_add_add_comm, hs, Nat.add_assoc a, Nat.add_assoc a,
        ← Nat.mul_add, ← Nat.mul_add, ← Nat.mul_add, ← he, Nat.add_left_comm c', Nat.add_comm c']
    have h := Rep.cons (s := d) (e := e) (by rw [Nat.div_eq_of_lt hd]; exact ih c' e hc' he)
    rwa [Nat.mod_eq_of_lt hd, ← hE'] at h
  have hle : x + c ≤ a + B := Nat.le_trans (Nat.add_le_add_left hc x) (Nat.le_trans hx (Nat.le_add_left B a))
  rw [subLoop, Nat.add_assoc a, bitmask_succ]
  split
  next h => exact step 0 (Nat.zero_le 1) (Nat.lt_of_le_of_lt (Nat.sub_le _ _) ha) (Nat.sub_add_cancel h)
  next h =>
    exact step 1 (Nat.le_refl 1) (Nat.sub_lt_left_of_lt_add hle (Nat.add_lt_add_right (Nat.lt_of_not_le h) B))
      ((Nat.sub_add_cancel hle).trans (congrArg (a + ·) (Nat.mul_one B).symm))

theorem sub_rep {n : Nat} {a x : List Nat} (ha : Wf n a) (hx : Wf n x) : Rep n (sub a x) (val a + W n - val x) :=
  subLoop_rep ha hx 0 _ (Nat.zero_le 1) (Nat.sub_add_cancel (Nat.le_add_left_of_le (Nat.le_of_lt (val_lt hx))))

theorem sub_val_of_le {n : Nat} {a x : List Nat} (ha : Wf n a) (hx : Wf n x) (h : val x ≤ val a) :
    val (sub a x) = val a - val x := by
  rw [(sub_rep ha hx).2, Nat.sub_add_comm h, Nat.add_mod_right,
    Nat.mod_eq_of_lt (Nat.lt_of_le_of_lt (Nat.sub_le _ _) (val_lt ha))]

end DV.C10
