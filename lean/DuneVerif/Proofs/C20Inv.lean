import DuneVerif.Proofs.C20View
import DuneVerif.Proofs.C20Slice
/-! The store invariant `Inv` of programs over vectors, the side conditions `EffOK` under which an effect keeps it, and
    `vecEff_ok`: every bound operation yields an effect that meets them (`FvLen`: the length a new `FieldVector<K,n>` must
    have). -/
namespace DV.C20

/-- What holds in every state a program of bound vector operations can reach (`kd` is `fv n` or `dyn`):
    registers name existing vectors, a `FieldVector<K,n>` has exactly `n` cells, every NumPy view denotes cells
    inside an existing vector / array, and (DynamicVector has no buffer protocol) no array aliases a DynamicVector. -/
structure Inv (kd : Kind) (s : State) : Prop where
  xs_lt : ∀ x b, s.xs x = some b → b < s.blocks.length
  xs_len : ∀ n, kd = .fv n → ∀ x b, s.xs x = some b → (s.read b).length = n
  arrs_ok : ∀ a v, s.arrs a = some v → ViewOK s v
  arrs_sep : kd = .dyn → ∀ a v x, s.arrs a = some v → s.xs x ≠ some v.blk

theorem inv_init (kd : Kind) : Inv kd {} where
  xs_lt := by intro x b h; cases h
  xs_len := by intro n _ x b h; cases h
  arrs_ok := by intro a v h; cases h
  arrs_sep := by intro _ a v x h; cases h

/-- side conditions under which an effect keeps the invariant (`bindA`, a view of a vector's own cells, only for a
    FieldVector: the other side of `Inv.arrs_sep`) -/
def EffOK (kd : Kind) (s : State) : Eff → Prop
  | .obs _ => True
  | .newX _ v => ∀ n, kd = .fv n → v.length = n
  | .aliasX _ b => ∃ y, s.xs y = some b
  | .writeB b v => (∃ x, s.xs x = some b) ∧ (kd = .dyn ∨ v.length = (s.read b).length)
  | .bindA _ v => ViewOK s v ∧ kd.isFv = true
  | .newA _ _ => True
  | .newAV _ mem off step len _ m =>
    step ≠ 0 ∧ 0 < m.rsz ∧ ∀ j, j < len → 0 ≤ off + (j : Int) * step ∧ off + (j : Int) * step < (mem.length : Int)
  | .writeCell v p _ => (∃ a, s.arrs a = some v) ∧ p < v.len
  | .writeView v vals => (∃ a, s.arrs a = some v) ∧ vals.length = v.len

theorem viewOK_of_same (s s' : State) (v : View) (hlen : s.blocks.length ≤ s'.blocks.length)
    (hrd : (s'.read v.blk).length = (s.read v.blk).length) (h : ViewOK s v) : ViewOK s' v := by
  refine ⟨Nat.lt_of_lt_of_le h.1 hlen, h.2.1, h.2.2.1, ?_⟩
  intro j hj
  rw [hrd]
  exact h.2.2.2 j hj

theorem Inv.mono {kd : Kind} {s s' : State} (h : Inv kd s) (hg : Grows s s') (hxs : s'.xs = s.xs)
    (harrs : s'.arrs = s.arrs) : Inv kd s' := by
  refine ⟨?_, ?_, ?_, ?_⟩
  · intro x b hx
    rw [hxs] at hx
    exact Nat.lt_of_lt_of_le (h.xs_lt x b hx) hg.1
  · intro n hn x b hx
    rw [hxs] at hx
    rw [hg.2 b (h.xs_lt x b hx)]
    exact h.xs_len n hn x b hx
  · intro a v ha
    rw [harrs] at ha
    have hv := h.arrs_ok a v ha
    exact viewOK_of_same s s' v hg.1 (hg.2 _ hv.1) hv
  · intro hd a v x ha hx
    rw [harrs] at ha
    rw [hxs] at hx
    exact h.arrs_sep hd a v x ha hx

theorem inv_bindX (kd : Kind) (s : State) (x b : Nat) (h : Inv kd s) (hb : b < s.blocks.length)
    (hlen : ∀ n, kd = .fv n → (s.read b).length = n) (hsep : kd = .dyn → ∀ a v, s.arrs a = some v → v.blk ≠ b) :
    Inv kd (s.bindX x b) := by
  refine ⟨?_, ?_, h.arrs_ok, ?_⟩
  · intro y c hy
    rcases bindX_xs_cases hy with hy | rfl
    · exact h.xs_lt y c hy
    · exact hb
  · intro n hn y c hy
    rcases bindX_xs_cases hy with hy | rfl
    · exact h.xs_len n hn y c hy
    · exact hlen n hn
  · intro hd a w y ha hy
    rcases bindX_xs_cases hy with hy | e
    · exact h.arrs_sep hd a w y ha hy
    · exact hsep hd a w ha e.symm

/-- overwriting the cells of a DynamicVector (possibly with another length: `assign` resizes) -/
theorem inv_write_dyn (s : State) (b x : Nat) (R : List Int) (h : Inv .dyn s) (hx : s.xs x = some b) :
    Inv .dyn (s.write b R) := by
  have hb := h.xs_lt x b hx
  refine ⟨?_, ?_, ?_, ?_⟩
  · intro y c hy
    rw [write_blocks_length]
    exact h.xs_lt y c hy
  · intro n hn; cases hn
  · intro a w ha
    have hne : b ≠ w.blk := by
      intro he
      exact h.arrs_sep rfl a w x ha (by rw [hx, he])
    exact viewOK_of_same s _ w (by rw [write_blocks_length]; omega) (by rw [read_write_other s b w.blk R hne])
      (h.arrs_ok a w ha)
  · intro hd a w y ha hy
    exact h.arrs_sep hd a w y ha hy

theorem inv_bindA (kd : Kind) (s : State) (a : Nat) (v : View) (h : Inv kd s) (hv : ViewOK s v)
    (hsep : kd = .dyn → ∀ x, s.xs x ≠ some v.blk) : Inv kd (s.bindA a v) := by
  refine ⟨h.xs_lt, h.xs_len, ?_, ?_⟩
  · intro c w hc
    rcases bindA_arrs_cases hc with hc | rfl
    · exact h.arrs_ok c w hc
    · exact hv
  · intro hd c w x hc hx
    rcases bindA_arrs_cases hc with hc | rfl
    · exact h.arrs_sep hd c w x hc hx
    · exact hsep hd x hx

/-- a fresh buffer object shown through a view that stays inside it; `newA` is the contiguous instance -/
theorem inv_newAV {kd : Kind} {s : State} {a : Nat} {mem : List Int} {off step : Int} {len dt : Nat} {m : MemLay}
    (h : Inv kd s) (he : EffOK kd s (.newAV a mem off step len dt m)) :
    Inv kd (Eff.apply s (.newAV a mem off step len dt m)).1 := by
  obtain ⟨hstep, hr, hin⟩ := he
  refine inv_bindA kd _ a _ (h.mono (grows_alloc s mem) rfl rfl) ⟨alloc_fresh_lt s mem, hstep, hr, fun j hj => ?_⟩ ?_
  · rw [read_alloc_new]
    exact hin j hj
  · intro _ x hx
    exact Nat.lt_irrefl _ (h.xs_lt x _ hx)

theorem apply_inv (kd : Kind) (s : State) (e : Eff) (h : Inv kd s) (he : EffOK kd s e) : Inv kd (e.apply s).1 := by
  cases e with
  | obs o => exact h
  | newX x v =>
    refine inv_bindX kd _ x _ (h.mono (grows_alloc s v) rfl rfl) (alloc_fresh_lt s v)
      (fun n hn => by rw [read_alloc_new]; exact he n hn) ?_
    intro _ a w ha e
    have := (h.arrs_ok a w ha).1
    rw [alloc_fresh] at e
    omega
  | aliasX x b =>
    obtain ⟨y, hy⟩ := he
    exact inv_bindX kd s x b h (h.xs_lt y b hy) (fun n hn => h.xs_len n hn y b hy)
      (fun hd a w ha e => h.arrs_sep hd a w y ha (by rw [e]; exact hy))
  | writeB b v =>
    obtain ⟨⟨x, hx⟩, hl⟩ := he
    cases hl with
    | inl hd => subst hd; exact inv_write_dyn s b x v h hx
    | inr hl => exact h.mono (grows_write s b v (h.xs_lt x b hx) hl) rfl rfl
  | bindA a v =>
    refine inv_bindA kd s a v h he.1 ?_
    intro hd
    rw [hd] at he
    exact absurd he.2 (by simp [Kind.isFv])
  | newA a v => exact inv_newAV h ⟨by decide, by decide, fun j hj => by omega⟩
  | newAV a mem off step len dt m => exact inv_newAV h he
  | writeCell v p k =>
    obtain ⟨⟨a, ha⟩, _⟩ := he
    exact h.mono (grows_write s v.blk _ (h.arrs_ok a v ha).1 List.length_set) rfl rfl
  | writeView v vals =>
    obtain ⟨⟨a, ha⟩, _⟩ := he
    have hb := (h.arrs_ok a v ha).1
    show Inv kd (s.viewWrite v vals)
    rw [viewWrite_eq s v vals hb]
    exact h.mono (grows_write s v.blk _ hb (writeCells_length _ _ _ _)) rfl rfl

/-- "a vector that may become a `FieldVector<K,n>` object has `n` entries" -/
def FvLen (kd : Kind) (R : List Int) : Prop := ∀ n, kd = .fv n → R.length = n

theorem fvLen_read {kd : Kind} {s : State} (h : Inv kd s) {x b : Nat} (hx : s.xs x = some b) : FvLen kd (s.read b) :=
  fun n hn => h.xs_len n hn x b hx

theorem fvLen_zip {kd : Kind} (f : Int → Int → Int) {A B : List Int} (hA : FvLen kd A) (hB : FvLen kd B) :
    FvLen kd (List.zipWith f A B) := by
  intro n hn
  rw [List.length_zipWith, hA n hn, hB n hn, Nat.min_self]

theorem fvLen_map {kd : Kind} (f : Int → Int) {A : List Int} (hA : FvLen kd A) : FvLen kd (A.map f) := by
  intro n hn
  rw [List.length_map, hA n hn]

theorem fvLen_operand (kd : Kind) (ok : OKind) (L : List Int) : FvLen kd (kd.operand ok L) := by
  intro n hn
  subst hn
  cases ok <;> simp [Kind.operand, constructLoop_length, constructBuf_length]

theorem fvLen_dyn (R : List Int) : FvLen .dyn R := fun _ hn => by cases hn

theorem fvLen_fv {n : Nat} {R : List Int} (h : R.length = n) : FvLen (.fv n) R := fun _ hn => by cases hn; exact h

theorem fvLen_addsub {kd : Kind} {A B : List Int} (hA : FvLen kd A) (hB : FvLen kd B) (isSub : Bool) :
    FvLen kd (if isSub then vsub A B else vadd A B) := by
  split <;> exact fvLen_zip _ hA hB

theorem fvLen_scalar {kd : Kind} (hs : kd.scalarMode = true) (e : Int) : FvLen kd [e] := by
  intro n hn
  subst hn
  match n, hs with
  | 1, _ => rfl

theorem fvLen_setItem {kd : Kind} {l v : List Int} {j k : Int} (hl : FvLen kd l) (h : setItem l j k = .ok v) : FvLen kd v :=
  fun n hn => (setItem_length h).trans (hl n hn)

/-! ### `EffOK` along the control structure of `vecEff`

`vecEff` is built from guards that skip or report (`if b then .obs _ else …`; every guard is a `Bool`, so the branches
get `b = false`, or `b = true` past a guard `!b`), look-ups of vector and array registers (`optCases`), and the status of
an operand.  One lemma per shape carries `EffOK` to the leaves, so that `vecEff_ok` reads,
operation by operation, as the branch structure of `vecEff` with the reason for each effect at its leaf. -/
section combinators
variable {kd : Kind} {s : State}

theorem effOK_ite {b : Bool} {e₁ e₂ : Eff} (h₁ : b = true → EffOK kd s e₁) (h₂ : b = false → EffOK kd s e₂) :
    EffOK kd s (if b then e₁ else e₂) := by
  cases b
  · exact h₂ rfl
  · exact h₁ rfl

theorem effOK_else {b : Bool} {o : String} {e : Eff} (h : b = false → EffOK kd s e) :
    EffOK kd s (if b then .obs o else e) :=
  effOK_ite (fun _ => trivial) h

theorem effOK_unless {b : Bool} {o : String} {e : Eff} (h : b = true → EffOK kd s e) :
    EffOK kd s (if !b then .obs o else e) :=
  effOK_else fun hb => h (by simpa using hb)

theorem effOK_status {st : OStat} {F : OStat → Eff} (hF : ∀ st, EffOK kd s (F st)) :
    EffOK kd s (match (generalizing := false) st with | .na => effNa | st => F st) := by
  cases st <;> first | exact trivial | exact hF _

theorem effNew_ok {x : Nat} {R : List Int} (h : FvLen kd R) : EffOK kd s (effNew x R) :=
  effOK_else fun _ => h

theorem writeB_ok (hk : kd.isVec = true) (h : Inv kd s) {x b : Nat} (hx : s.xs x = some b)
    {R : List Int} (hR : FvLen kd R) : EffOK kd s (.writeB b R) := by
  refine ⟨⟨x, hx⟩, ?_⟩
  cases kd with
  | fv n => right; rw [hR n rfl, h.xs_len n rfl x b hx]
  | dyn => left; rfl
  | tup sh r => cases hk

theorem effWrite_ok (hk : kd.isVec = true) (h : Inv kd s) {x b : Nat} (hx : s.xs x = some b)
    {R : List Int} (hR : FvLen kd R) : EffOK kd s (effWrite b R) :=
  effOK_else fun _ => writeB_ok hk h hx hR

theorem nvWrite_ok {a : Nat} {v : View} (ha : s.arrs a = some v) {R : List Int} (hR : R.length = v.len) :
    EffOK kd s (nvWrite s v R) :=
  effOK_else fun _ => effOK_else fun _ => ⟨⟨a, ha⟩, hR⟩

theorem nvWriteCell_ok {a : Nat} {v : View} (ha : s.arrs a = some v) {p : Nat} (k : Int) (hp : p < v.len) :
    EffOK kd s (nvWriteCell s v p k) :=
  effOK_else fun _ => effOK_else fun _ => ⟨⟨a, ha⟩, hp⟩

end combinators

theorem sliceView_ok (s : State) (b : Nat) (hb : b < s.blocks.length) (i j : Option Int) (st : Int) (hst : st ≠ 0) :
    ViewOK s { blk := b, off := (sliceIdx (s.read b).length i j st).1, step := st,
               len := (sliceIdx (s.read b).length i j st).2 } :=
  ⟨hb, hst, by show 0 < 8; omega, fun k hk => slice_in_bounds (s.read b).length i j st hst k hk⟩

theorem vecEff_ok (kd : Kind) (hk : kd.isVec = true) (s : State) (h : Inv kd s) (op : VOp) :
    EffOK kd s (vecEff kd s op) := by
  cases op <;> dsimp only [vecEff]
  case new x how L =>
    -- `exact trivial`: on the two alternatives that are not `True` the tactic `trivial` would try `decide` before it fails
    split <;> try exact trivial
    · refine effOK_else fun _ => ?_
      split <;> first | exact trivial | exact fvLen_dyn _ | exact effOK_else fun _ => trivial
    · refine effOK_else fun _ => effOK_else fun _ => ?_
      split
      · exact effOK_else fun _ => trivial
      · exact effOK_else fun _ => fvLen_fv (constructBuf_length _ _ _ _)
      · exact fvLen_fv (constructLoop_length _ _)
  case copy x y | mcopy x y => exact effOK_unless fun _ => optCases (s.xs y) trivial fun b hb => fvLen_read h hb
  case mcopya x y L =>
    exact effOK_unless fun _ => optCases (s.xs y) trivial fun b hb => effOK_else fun _ =>
      effOK_ite (fun _ => fvLen_read h hb) fun _ => fvLen_operand kd .list L
  case alias x y => exact optCases (s.xs y) trivial fun b hb => ⟨y, hb⟩
  case binvv isSub x y z =>
    exact optCases (s.xs y) trivial fun _ hy => optCases (s.xs z) trivial fun _ hz => effOK_else fun _ =>
      effNew_ok (fvLen_addsub (fvLen_read h hy) (fvLen_read h hz) isSub)
  case binvl isSub r ok x y L =>
    refine effOK_status fun st => optCases (s.xs y) trivial fun _ hy => effOK_else fun _ => effOK_else fun _ =>
      effOK_else fun _ => effOK_else fun _ => ?_
    have hA := fvLen_read h hy
    have hB := fvLen_operand kd ok L
    cases isSub <;> cases r <;> first | exact fvLen_zip _ hA hB | exact fvLen_zip _ hB hA
  case scal w isInt x y k =>
    refine optCases (s.xs y) trivial fun _ hy => effOK_else fun _ => ?_
    have hA := fvLen_read h hy
    cases w with
    | div => exact effOK_else fun _ => effNew_ok (fvLen_map _ hA)
    | _ => exact effOK_else fun _ => effOK_else fun _ => fvLen_map _ hA
  case neg x y => exact optCases (s.xs y) trivial fun _ hy => effNew_ok (fvLen_map _ (fvLen_read h hy))
  case intscal isSub r isFloat x y k =>
    exact optCases (s.xs y) trivial fun _ hy => effOK_else fun _ =>
      effOK_ite (fun hs => effNew_ok (fvLen_scalar hs _)) fun _ => effOK_else fun _ => effOK_else fun _ =>
        effOK_ite (fun _ => fvLen_map _ (fvLen_read h hy)) fun _ => ⟨y, hy⟩
  case inplaceV isSub x y =>
    exact optCases (s.xs x) trivial fun _ hx => optCases (s.xs y) trivial fun _ hy => effOK_else fun _ =>
      effWrite_ok hk h hx (fvLen_addsub (fvLen_read h hx) (fvLen_read h hy) isSub)
  case inplaceL isSub ok x L =>
    exact optCases (s.xs x) trivial fun _ hx => effOK_status fun st => effOK_else fun _ => effOK_else fun _ =>
      effOK_else fun _ => effOK_else fun _ =>
        writeB_ok hk h hx (fvLen_addsub (fvLen_read h hx) (fvLen_operand kd ok L) isSub)
  case inplaceS w x k =>
    refine optCases (s.xs x) trivial fun _ hx => effOK_else fun _ => ?_
    have hR := fun f => effWrite_ok hk h hx (fvLen_map f (fvLen_read h hx))
    cases w with
    | div => exact effOK_else fun _ => hR _
    | _ => exact hR _
  case assign x y =>
    exact optCases (s.xs x) trivial fun _ hx => optCases (s.xs y) trivial fun _ hy => writeB_ok hk h hx (fvLen_read h hy)
  case assignL ok x L =>
    exact effOK_status fun st => optCases (s.xs x) trivial fun _ hx => effOK_else fun _ => effOK_else fun _ =>
      writeB_ok hk h hx (fvLen_operand kd ok L)
  case set npidx x i k =>
    refine optCases (s.xs x) trivial fun _ hx => effOK_else fun _ => effOK_else fun _ => ?_
    split
    · trivial
    · exact writeB_ok hk h hx (fvLen_setItem (fvLen_read h hx) ‹_›)
  case get npidx x i => exact optCases (s.xs x) trivial fun _ _ => effOK_else fun _ => by split <;> trivial
  case len x | iter x | str x | norms x | npcopy a x => exact optCases (s.xs x) trivial fun _ _ => trivial
  case slice x i j st => exact effOK_unless fun _ => optCases (s.xs x) trivial fun _ _ => effOK_else fun _ => trivial
  case cmpv neg x y | dot x y =>
    exact optCases (s.xs x) trivial fun _ _ => optCases (s.xs y) trivial fun _ _ => effOK_else fun _ => trivial
  case cmpl neg ok x L =>
    split
    · exact optCases (s.xs x) trivial fun _ _ => effOK_else fun _ => effOK_else fun _ => trivial
    · trivial
  case dotl ok x L =>
    exact effOK_status fun st => optCases (s.xs x) trivial fun _ _ => effOK_else fun _ => effOK_else fun _ =>
      effOK_else fun _ => trivial
  case float x => exact effOK_else fun _ => optCases (s.xs x) trivial fun _ _ => trivial
  case view a x =>
    exact effOK_unless fun hfv => optCases (s.xs x) trivial fun bx hx => ⟨fullView_ok s bx (h.xs_lt x bx hx), hfv⟩
  case sl a x i j st =>
    exact effOK_unless fun hfv => optCases (s.xs x) trivial fun bx hx => effOK_else fun hst =>
      ⟨sliceView_ok s bx (h.xs_lt x bx hx) i j _ (ne_of_beq_false hst), hfv⟩
  case aget a i =>
    exact optCases (s.arrs a) trivial fun v _ => effOK_else fun _ => optCases (normIndex v.len i) trivial fun _ _ => trivial
  case aset a i k =>
    exact optCases (s.arrs a) trivial fun v ha => effOK_else fun _ => effOK_else fun _ =>
      optCases (normIndex v.len i) trivial fun p hp => ⟨⟨a, ha⟩, normIndex_lt _ _ p hp⟩
  case alist a => exact optCases (s.arrs a) trivial fun _ _ => trivial
  case nnorms a | nint a k => exact optCases (s.arrs a) trivial fun _ _ => effOK_else fun _ => trivial
  case nscale a k =>
    exact optCases (s.arrs a) trivial fun v ha => effOK_else fun _ =>
      nvWrite_ok ha ((List.length_map _).trans (viewVals_length s v))
  case nset a i k =>
    refine optCases (s.arrs a) trivial fun v ha => effOK_else fun hc => nvWriteCell_ok ha k ?_
    simp only [Bool.or_eq_false_iff, decide_eq_false_iff_not] at hc
    omega
  case nget a i => exact optCases (s.arrs a) trivial fun _ _ => effOK_else fun _ => effOK_else fun _ => trivial
  case naxpy a k b =>
    refine optCases (s.arrs a) trivial fun va ha => optCases (s.arrs b) trivial fun vb _ => effOK_else fun hc =>
      effOK_else fun _ => effOK_else fun _ => effOK_else fun _ => nvWrite_ok ha ?_
    simp only [Bool.or_eq_false_iff, bne_eq_false_iff_eq] at hc
    rw [vadd, List.length_zipWith, vscale, List.length_map, viewVals_length, viewVals_length, ← hc.1, Nat.min_self]
  case nadd a b =>
    refine optCases (s.arrs a) trivial fun va ha => optCases (s.arrs b) trivial fun vb _ => effOK_else fun hc =>
      effOK_else fun _ => effOK_else fun _ => effOK_else fun _ => nvWrite_ok ha ?_
    rw [vadd, List.length_zipWith, viewVals_length, viewVals_length, ← bne_eq_false_iff_eq.mp hc, Nat.min_self]
  case nnew a b k => exact optCases (s.arrs b) trivial fun _ _ => effOK_else fun _ => effOK_else fun _ => trivial
  case nrun a =>
    exact optCases (s.arrs a) trivial fun v ha => effOK_else fun _ =>
      nvWrite_ok ha (by rw [List.length_map, List.length_range, viewVals_length])
  case ndt a b dt lay special =>
    exact effOK_else fun _ => effOK_unless fun hfit => optCases (s.arrs b) trivial fun vb _ => effOK_else fun _ =>
      ⟨lay.stride_ne_zero, memLay_rsz_pos lay dt hfit, stridedMem_inside _ lay.stride_ne_zero _⟩
  case nvscale x k =>
    exact optCases (s.xs x) trivial fun _ hx => effOK_else fun _ => effOK_else fun _ =>
      writeB_ok hk h hx (fvLen_map _ (fvLen_read h hx))

theorem tupStep_vec (kd : Kind) (hk : kd.isVec = true) (s : State) (o : TOp) : tupStep kd s o = (s, "na") := by
  cases kd with
  | tup sh r => cases hk
  | _ => cases o <;> rfl

theorem step_inv (kd : Kind) (hk : kd.isVec = true) (s : State) (h : Inv kd s) (op : Op) : Inv kd (step kd s op).1 := by
  cases op with
  | v o =>
    rw [step_v kd hk]
    exact apply_inv kd s _ h (vecEff_ok kd hk s h o)
  | t o =>
    simp only [step]
    rw [tupStep_vec kd hk]
    exact h

theorem run_inv (kd : Kind) (hk : kd.isVec = true) : ∀ (ops : List Op) (s : State), Inv kd s → Inv kd (run kd s ops).1 :=
  run_keeps kd (step_inv kd hk)

theorem run_append (kd : Kind) : ∀ (ops1 ops2 : List Op) (s : State),
    (run kd s (ops1 ++ ops2)).1 = (run kd (run kd s ops1).1 ops2).1
  | [], _, _ => rfl
  | op :: ops1, ops2, s => by
    simp only [List.cons_append, run]
    exact run_append kd ops1 ops2 _

end DV.C20
