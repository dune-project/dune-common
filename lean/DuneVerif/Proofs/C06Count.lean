import DuneVerif.Proofs.C06Sched
import DuneVerif.Common.Lists
/-! C06: what both rank-level systems count with: `countSel` against `sumSel`, the counter of a rank as the number of its open
    requests (`counter_step`, `counter_zero`, `counter_pos`), lists of counters and program positions after `set`, `phaseSum`. -/
namespace DV.C06

section count
variable {γ δ : Type}

theorem countSel_eq_sumSel (sel : γ → δ → Bool) (ls : List γ) (xs : List δ) :
    countSel sel ls xs = sumSel (fun l x => if sel l x then 1 else 0) ls xs := by
  induction ls generalizing xs with
  | nil => rfl
  | cons _ ls ih =>
    cases xs with
    | nil => rfl
    | cons _ xs => exact congrArg (_ + ·) (ih xs)

theorem countSel_set (sel : γ → δ → Bool) : ∀ (ls : List (γ)) (xs : List (δ)) (i : Nat)
    (l : γ) (x x' : δ), ls[i]? = some l → xs[i]? = some x →
    countSel sel ls (xs.set i x') + (if sel l x then 1 else 0) = countSel sel ls xs + (if sel l x' then 1 else 0) := by
  intro ls xs i l x x' hl hx
  rw [countSel_eq_sumSel, countSel_eq_sumSel]
  exact sumSel_set _ ls xs i l x x' hl hx

theorem countSel_set_same (sel : γ → δ → Bool) {ls : List (γ)} {xs : List (δ)} {i : Nat}
    {l : γ} {x : δ} (x' : δ) (hl : ls[i]? = some l) (hx : xs[i]? = some x) (he : sel l x' = sel l x) :
    countSel sel ls (xs.set i x') = countSel sel ls xs := by
  have := countSel_set sel ls xs i l x x' hl hx
  rw [he] at this
  exact Nat.add_right_cancel this

theorem countSel_eq_zero (sel : γ → δ → Bool) : ∀ (ls : List γ) (xs : List δ),
    countSel sel ls xs = 0 ↔ ∀ (i : Nat) l x, ls[i]? = some l → xs[i]? = some x → sel l x = false := by
  intro ls
  induction ls with
  | nil => exact fun _ => ⟨fun _ _ _ _ hl => (by cases hl), fun _ => rfl⟩
  | cons l0 ls ih =>
    intro xs
    cases xs with
    | nil => exact ⟨fun _ _ _ _ _ hx => (by cases hx), fun _ => rfl⟩
    | cons x0 xs =>
      rw [countSel, Nat.add_eq_zero_iff, ih xs]
      constructor
      · rintro ⟨h0, h⟩ i l x hl hx
        cases i with
        | zero =>
          cases hl; cases hx
          cases hs : sel l0 x0 with
          | false => rfl
          | true => rw [hs] at h0; cases h0
        | succ i => exact h i l x hl hx
      · intro h
        exact ⟨by rw [h 0 l0 x0 rfl rfl]; rfl, fun i => h (i + 1)⟩

theorem countSel_zipWith (sel : γ → δ → Bool) (f : γ → δ → δ) (hf : ∀ l x, sel l (f l x) = sel l x) :
    ∀ (ls : List γ) (xs : List δ), countSel sel ls (List.zipWith f ls xs) = countSel sel ls xs := by
  intro ls
  induction ls with
  | nil => exact fun _ => rfl
  | cons l0 ls ih =>
    intro xs
    cases xs with
    | nil => rfl
    | cons x0 xs => rw [List.zipWith_cons_cons, countSel, countSel, hf, ih xs]

theorem sumSel_zipWith_le {R : γ → δ → Prop} (m : γ → δ → Nat) (f : γ → δ → δ)
    (hf : ∀ l x, R l x → m l (f l x) ≤ m l x) :
    ∀ (ls : List γ) (xs : List δ), Rel2 R ls xs → sumSel m ls (List.zipWith f ls xs) ≤ sumSel m ls xs := by
  intro ls
  induction ls with
  | nil => exact fun _ _ => Nat.le_refl 0
  | cons l0 ls ih =>
    intro xs h
    cases xs with
    | nil => exact Nat.le_refl 0
    | cons x0 xs =>
      exact Nat.add_le_add (hf l0 x0 (h.2 0 l0 x0 rfl rfl))
        (ih xs ⟨Nat.succ.inj h.1, fun i l x hl hx => h.2 (i + 1) l x hl hx⟩)

end count

theorem getD_set_ne (cs : List Nat) {p q : Nat} (v d : Nat) (hpq : p ≠ q) : (cs.set p v).getD q d = cs.getD q d := by
  rw [List.getD_eq_getElem?_getD, List.getElem?_set_ne hpq, List.getD_eq_getElem?_getD]

theorem getD_set {cs : List Nat} {p : Nat} (q v : Nat) {d : Nat} (hp : p < cs.length) :
    (cs.set p v).getD q d = if q = p then v else cs.getD q d := by
  by_cases h : q = p
  · rw [if_pos h, h, List.getD_eq_getElem?_getD, List.getElem?_set_self hp, Option.getD_some]
  · rw [if_neg h, getD_set_ne _ _ _ (Ne.symm h)]

theorem getD_decIf_self (cs : List Nat) (c : Bool) (p : Nat) :
    (decIf c p cs).getD p 0 = if c then cs.getD p 0 - 1 else cs.getD p 0 := by
  cases c
  · rfl
  · rw [decIf, if_pos rfl, List.getD_eq_getElem?_getD, List.getElem?_set_self', List.getD_eq_getElem?_getD]
    cases cs[p]? with
    | none => rfl   -- no such rank: nothing is set, and the counter read is the default, `0 = 0 - 1`
    | some _ => rfl

theorem length_decIf (cs : List Nat) (c : Bool) (p : Nat) : (decIf c p cs).length = cs.length := by
  cases c
  · rfl
  · exact List.length_set

theorem getD_decIf_of (cs : List Nat) {c : Bool} {p q : Nat} (h : c = true → p ≠ q) :
    (decIf c p cs).getD q 0 = cs.getD q 0 := by
  cases c
  · rfl
  · exact getD_set_ne cs _ 0 (h rfl)

/-- the counter update of `checkAndContinue` keeps "counter of rank `p` = number of open requests of `p`" (`sel p`
    selects the open requests of `p`; a request of link `l` belongs to rank `key l`): link `i` changes from `x` to `x'`, a
    closed request stays closed, and the counter of the link's rank drops iff the request closes.  `hsel` is discharged by
    `rfl` at every call: the eight selectors (`sizeSendOpen` … `fScalarPending`) are literally of this shape. -/
theorem counter_step {γ δ : Type} (sel : Nat → γ → δ → Bool) (key : γ → Nat) (opn : δ → Bool)
    {specs : List γ} {links : List δ} {i : Nat} {l : γ} {x : δ} (x' : δ)
    (hl : specs[i]? = some l) (hx : links[i]? = some x) (cs : List Nat)
    (hclosed : opn x = false → opn x' = false)
    (p : Nat) (hcnt : cs.getD p 0 = countSel (sel p) specs links)
    (hsel : ∀ p l x, sel p l x = (key l == p && opn x) := by intros; rfl) :
    (decIf (opn x && !opn x') (key l) cs).getD p 0 = countSel (sel p) specs (links.set i x') := by
  have hset := countSel_set (sel p) specs links i l x x' hl hx
  rw [hsel, hsel] at hset
  generalize opn x = o, opn x' = o' at hset hclosed ⊢
  by_cases hp : key l = p
  · subst hp
    rw [getD_decIf_self, hcnt]
    rw [beq_self_eq_true] at hset
    cases o with
    | false =>
      rw [hclosed rfl] at hset
      exact (Nat.add_right_cancel hset).symm
    | true =>
      cases o' with
      | true => exact (Nat.add_right_cancel hset).symm
      | false => exact Nat.sub_eq_of_eq_add hset.symm   -- the request closes
  · rw [getD_decIf_of _ fun _ => hp, hcnt]
    rw [beq_false_of_ne hp, Bool.false_and, Bool.false_and] at hset
    exact (Nat.add_right_cancel hset).symm

theorem counter_zero {γ δ : Type} (sel : Nat → γ → δ → Bool) (key : γ → Nat) (opn : δ → Bool)
    {specs : List γ} {links : List δ} {p i : Nat} {l : γ} {x : δ}
    (hz : countSel (sel p) specs links = 0) (hl : specs[i]? = some l) (hx : links[i]? = some x) (e : key l = p)
    (hsel : ∀ p l x, sel p l x = (key l == p && opn x) := by intros; rfl) : opn x = false := by
  have := (countSel_eq_zero _ _ _).1 hz i l x hl hx
  rwa [hsel, e, beq_self_eq_true, Bool.true_and] at this

theorem countSel_closed {γ δ : Type} (sel : Nat → γ → δ → Bool) (key : γ → Nat) (opn : δ → Bool)
    {specs : List γ} {links : List δ} (p : Nat)
    (h : ∀ (i : Nat) l x, specs[i]? = some l → links[i]? = some x → opn x = false)
    (hsel : ∀ p l x, sel p l x = (key l == p && opn x) := by intros; rfl) : countSel (sel p) specs links = 0 :=
  (countSel_eq_zero _ specs links).2 fun i l x hl hx => by rw [hsel, h i l x hl hx, Bool.and_false]

theorem counter_pos {γ δ : Type} (sel : Nat → γ → δ → Bool) (key : γ → Nat) (opn : δ → Bool)
    {specs : List γ} {links : List δ} {i : Nat} {l : γ} {x : δ} (hl : specs[i]? = some l) (hx : links[i]? = some x)
    (ho : opn x = true) {c : Nat} (hcnt : c = countSel (sel (key l)) specs links)
    (hsel : ∀ p l x, sel p l x = (key l == p && opn x) := by intros; rfl) : c ≠ 0 := fun hc => by
  have := counter_zero sel key opn (hcnt ▸ hc) hl hx rfl hsel
  rw [ho] at this
  cases this

theorem all_eq_of_getD (ph : List Nat) (c : Nat) (h : ∀ p, p < ph.length → ph.getD p 3 = c) : ph.all (· == c) = true := by
  rw [List.all_eq_true, List.forall_mem_iff_forall_getElem]
  intro p hp
  rw [List.getElem_eq_getD 3, h p hp, beq_self_eq_true]

/-- the program positions' share of the termination measures `gMeasure` and `fMeasure`: it drops whenever a rank moves on
    (`phaseSum_step`) -/
def phaseSum (ph : List Nat) : Nat := (ph.map fun k => 2 - k).sum

theorem phaseSum_step {ph : List Nat} {p v : Nat} (hp : p < ph.length) (hv : ph.getD p 3 < v) (h2 : v ≤ 2) :
    phaseSum (ph.set p v) < phaseSum ph := by
  induction ph generalizing p with
  | nil => cases hp
  | cons k ph ih =>
    cases p with
    | zero => exact Nat.add_lt_add_right (Nat.sub_lt_sub_left (Nat.lt_of_lt_of_le hv h2) hv) _
    | succ p => exact Nat.add_lt_add_left (ih (Nat.lt_of_succ_lt_succ hp) hv) _

theorem phaseSum_replicate (n : Nat) : phaseSum (List.replicate n 0) = 2 * n := by
  rw [phaseSum, List.map_replicate, List.sum_replicate_nat, Nat.mul_comm]

theorem getD_replicate_zero (n p : Nat) (hp : p < n) : (List.replicate n 0).getD p 3 = 0 := by
  simp [List.getD_eq_getElem?_getD, hp]

theorem getD_set_phase_ne {ph : List Nat} {p q v c : Nat} (hp : p < ph.length) (h : (ph.set p v).getD q 3 = c)
    (hcv : c ≠ v) : q ≠ p ∧ ph.getD q 3 = c := by
  rw [getD_set _ _ hp] at h
  split at h
  · exact absurd h.symm hcv
  · exact ⟨‹_›, h⟩

theorem getD_set_phase_eq {ph : List Nat} {p q v c : Nat} (hp : p < ph.length) (h : (ph.set p v).getD q 3 = c) :
    q = p ∨ ph.getD q 3 = c := by
  rw [getD_set _ _ hp] at h
  split at h
  · exact Or.inl ‹_›
  · exact Or.inr h

theorem getD_set_phase_other {ph : List Nat} {p q v c : Nat} (hp : p < ph.length) (hq : ph.getD q 3 = c)
    (hpc : ph.getD p 3 ≠ c) : (ph.set p v).getD q 3 = c := by
  rw [getD_set _ _ hp, if_neg (fun (e : q = p) => hpc (e ▸ hq)), hq]

theorem phle_set {ph : List Nat} {n k p v : Nat} (hp : p < ph.length) (h : ∀ q, q < n → ph.getD q 3 ≤ k) (hv : v ≤ k) :
    ∀ q, q < n → (ph.set p v).getD q 3 ≤ k := by
  intro q hq
  rw [getD_set _ _ hp]
  split
  · exact hv
  · exact h q hq

end DV.C06
