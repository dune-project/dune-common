import DuneVerif.Proofs.C13Recv
/-! C13: the collective operation on all ranks: what is packed (`holders`, `itemsFor`, `inbox`) is true of the decomposition,
so the sync keeps the invariant `PartialView`; the state after receiving depends on the set of items received, not on their
order (`recvFlat_ext`). Core Lean only. -/
namespace DV.C13

/-- every rank's state is a partial view of the decomposition `D` (see `RankInv`) -/
def PartialView (D : Decomp) (w : World) : Prop :=
  ∀ q st, w[q]? = some st → RankInv D w.length q st

theorem find_of_mem_sorted (en : RemEntry) (l : List RemEntry) (hp : l.Pairwise (fun a b => a.g < b.g)) (h : en ∈ l) :
    l.find? (fun x => x.g == en.g) = some en := by
  obtain ⟨l₁, l₂, rfl⟩ := List.append_of_mem h
  refine List.find?_eq_some_iff_append.2 ⟨beq_self_eq_true _, l₁, l₂, rfl, fun a ha => ?_⟩
  rw [Bool.not_eq_true', beq_eq_false_iff_ne]
  exact Int.ne_of_lt ((List.pairwise_append.1 hp).2.2 a ha en List.mem_cons_self)

theorem mem_holders_iff {D : Decomp} {P q : Nat} {idx : List IdxEntry} {remote : List (Nat × List RemEntry)}
    (h : RemInv D P q idx remote) (g : Int) (y ya : Nat) :
    (y, ya) ∈ holders remote g ↔ ∃ en, en ∈ listOf remote y ∧ en.g = g ∧ en.rem = ya := by
  simp only [holders, List.mem_filterMap, Option.map_eq_some_iff, Prod.mk.injEq]
  constructor
  · rintro ⟨⟨y', l⟩, h1, en, h2, rfl, h4⟩
    have hg := List.find?_some h2
    rw [listOf_of_mem _ h.nbSorted _ l h1]
    exact ⟨en, List.mem_of_find?_eq_some h2, beq_iff_eq.1 hg, h4⟩
  · rintro ⟨en, h1, rfl, h3⟩
    obtain ⟨l, hl, hen⟩ := mem_of_mem_listOf remote y en h1
    exact ⟨(y, l), hl, en, find_of_mem_sorted en l (h.nbOk _ hl).2.2 hen, rfl, h3⟩

theorem mem_itemsFor (st : RankState) (q : Nat) (it : Item) :
    it ∈ itemsFor st q ↔ ∃ e ∈ st.idx, it = ⟨e.g, e.attr, holders st.remote e.g⟩ ∧
      (holders st.remote e.g).any (fun h => h.1 == q) = true := by
  simp only [itemsFor, List.mem_filterMap, Option.ite_none_right_eq_some, Option.some.injEq]
  exact exists_congr fun e => and_congr Iff.rfl (and_comm.trans (and_congr eq_comm Iff.rfl))

/-- the contribution of process `p` to the inbox of `q` -/
def inboxOf (w : World) (q p : Nat) : Option (Nat × List Item) :=
  match w[p]? with
  | some st => if isNeighbour st.remote q then some (p, itemsFor st q) else none
  | none => none

theorem inbox_eq (w : World) (q : Nat) : inbox w q = (List.range w.length).filterMap (inboxOf w q) := rfl

theorem inboxOf_eq_some (w : World) (q p : Nat) (m : Nat × List Item) :
    inboxOf w q p = some m ↔ ∃ st, w[p]? = some st ∧ isNeighbour st.remote q = true ∧ (p, itemsFor st q) = m := by
  unfold inboxOf
  cases w[p]? with
  | none => exact ⟨fun h => (nomatch h), fun ⟨_, h, _⟩ => (nomatch h)⟩
  | some st => simp only [Option.ite_none_right_eq_some, Option.some.injEq, exists_eq_left']

theorem inboxOf_fst {w : World} {q p : Nat} {m : Nat × List Item} (h : inboxOf w q p = some m) : m.1 = p := by
  obtain ⟨_, _, _, rfl⟩ := (inboxOf_eq_some w q p m).1 h
  rfl

theorem mem_inbox (w : World) (q : Nat) (m : Nat × List Item) :
    m ∈ inbox w q ↔ ∃ st, w[m.1]? = some st ∧ isNeighbour st.remote q = true ∧ m.2 = itemsFor st q := by
  simp only [inbox_eq, List.mem_filterMap, List.mem_range, inboxOf_eq_some]
  constructor
  · rintro ⟨p, _, st, h1, h2, rfl⟩
    exact ⟨st, h1, h2, rfl⟩
  · rintro ⟨st, h1, h2, h3⟩
    exact ⟨m.1, (List.getElem?_eq_some_iff.1 h1).1, st, h1, h2, by rw [← h3]⟩

theorem trueItem_of_view {D : Decomp} {P p q : Nat} {sp : RankState} (h : RankInv D P p sp)
    (hq : isNeighbour sp.remote q = true) (hp : p < P) (it : Item) (hit : it ∈ itemsFor sp q) : TrueItem D P q p it := by
  obtain ⟨e, he, rfl, _⟩ := (mem_itemsFor sp q it).1 hit
  obtain ⟨l, hl⟩ := (isNeighbour_iff sp.remote q).1 hq
  refine ⟨h.idxTrue e he, fun hc => (h.rem.nbOk _ hl).1 hc.symm, hp, fun pr hpr => ?_⟩
  obtain ⟨en, h1, h2, h3⟩ := (mem_holders_iff h.rem e.g pr.1 pr.2).1 hpr
  obtain ⟨lr, hlr, _⟩ := mem_of_mem_listOf _ pr.1 en h1
  exact ⟨h2 ▸ h3 ▸ (h.rem.listOf_true pr.1 en h1).1, (h.rem.nbOk _ hlr).2.1⟩

theorem trueItems_inbox {D : Decomp} {w : World} (hw : PartialView D w) (q : Nat) :
    ∀ x ∈ flatMsgs (inbox w q), TrueItem D w.length q x.1 x.2 := by
  intro x hx
  obtain ⟨m, hm, h1, h2⟩ := (mem_flatMsgs _ x).1 hx
  obtain ⟨st, hst, hn, hit⟩ := (mem_inbox w q m).1 hm
  rw [← h1]
  exact trueItem_of_view (hw _ _ hst) hn (List.getElem?_eq_some_iff.1 hst).1 x.2 (hit ▸ h2)

theorem sync_getElem? (num : Int → Nat) (w : World) (q : Nat) :
    (sync num w)[q]? = (w[q]?).map (fun st => syncRank num w q st) :=
  List.getElem?_mapIdx

theorem sync_getElem?_some (num : Int → Nat) {w : World} {q : Nat} {st : RankState} (h : w[q]? = some st) :
    (sync num w)[q]? = some (syncRank num w q st) := by
  rw [sync_getElem?, h]; rfl

theorem sync_getElem?_inv {num : Int → Nat} {w : World} {q : Nat} {st' : RankState} (h : (sync num w)[q]? = some st') :
    ∃ st, w[q]? = some st ∧ syncRank num w q st = st' :=
  Option.map_eq_some_iff.1 ((sync_getElem? num w q).symm.trans h)

theorem sync_length (num : Int → Nat) (w : World) : (sync num w).length = w.length := List.length_mapIdx

theorem syncOrd_getElem? (ord : Nat → List (Nat × List Item) → List (Nat × List Item)) (num : Int → Nat) (w : World)
    (q : Nat) : (syncOrd ord num w)[q]? = (w[q]?).map (fun st => finish (recvAll num q st (ord q (inbox w q)))) :=
  List.getElem?_mapIdx

theorem finish_idx_remote (st : RankState) : (finish st).idx = st.idx ∧ (finish st).remote = st.remote := ⟨rfl, rfl⟩

theorem RankInv.finish {D : Decomp} {P q : Nat} {st : RankState} (h : RankInv D P q st) : RankInv D P q (finish st) :=
  ⟨h.idxSorted, h.idxTrue, h.rem⟩

theorem partialView_sync {D : Decomp} {w : World} (num : Int → Nat) (hw : PartialView D w) :
    PartialView D (sync num w) := by
  intro q st' hst'
  obtain ⟨st, hst, rfl⟩ := sync_getElem?_inv hst'
  rw [sync_length, syncRank, recvAll_eq_flat]
  exact (RankInv.recvFlat num _ st (hw q st hst) (trueItems_inbox hw q)).finish

/-- states reached from the same state by receiving the same *set* of true items are equal -/
theorem recvFlat_ext {D : Decomp} {P me : Nat} (num : Int → Nat) (st : RankState) (hI : RankInv D P me st)
    (xs ys : List (Nat × Item)) (hy : ∀ x ∈ ys, TrueItem D P me x.1 x.2) (hxy : ∀ x, x ∈ xs ↔ x ∈ ys) :
    recvFlat num me st xs = recvFlat num me st ys := by
  have h1 := RankInv.recvFlat num xs st hI fun x h => hy x ((hxy x).1 h)
  have h2 := RankInv.recvFlat num ys st hI hy
  have hex : ∀ (Q : Nat × Item → Prop), (∃ x ∈ xs, Q x) ↔ (∃ x ∈ ys, Q x) :=
    fun Q => exists_congr fun x => and_congr (hxy x) Iff.rfl
  have g1 := (gain_recvFlat num me xs st hI.rem.nbSorted).congr (fun _ _ => hex _) (fun _ _ => hex _)
  have g2 := gain_recvFlat num me ys st hI.rem.nbSorted
  exact RankState.eq_of
    (ext_of_sorted IdxEntry.g h1.idxSorted h2.idxSorted fun e => by rw [g1.idx, g2.idx])
    (remote_ext _ _ g1.nbSorted g2.nbSorted (fun y => by rw [g1.nb, g2.nb])
      fun y => ext_of_sorted RemEntry.g (h1.rem.listOf_pairwise y) (h2.rem.listOf_pairwise y) fun en => by rw [g1.rem, g2.rem])
    (g1.idxSeq.trans g2.idxSeq.symm) (g1.remSeq.trans g2.remSeq.symm)

theorem resolve_of_hasKey (idx : List IdxEntry) (en : RemEntry) (h : hasKey idx en.g en.own = true) :
    ∃ k e, resolve idx en = some k ∧ idx[k]? = some e ∧ e.g = en.g ∧ e.attr = en.own := by
  obtain ⟨k, hf⟩ := Option.isSome_iff_exists.1 (List.findIdx?_isSome.trans h)
  obtain ⟨hk, hp, _⟩ := List.findIdx?_eq_some_iff_getElem.1 hf
  rw [Bool.and_eq_true, beq_iff_eq, beq_iff_eq] at hp
  exact ⟨k, idx[k], hf, List.getElem?_eq_getElem hk, hp⟩

end DV.C13
