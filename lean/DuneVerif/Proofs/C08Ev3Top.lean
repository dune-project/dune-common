import DuneVerif.Proofs.C08Ev3Vec
/-!
# C08 — the 3x3 entry points `eigenValues3d` / `eigenValuesVectors3d` on the unscaled matrix: branch conditions,
agreement of the two entry points, un-scaling of eigenpairs, the diagonal special case
-/
namespace DV.C08

/-- the eigenvector routine and the eigenvalue routine take the diagonal shortcut under the same condition
(`offDiagNorm = p1`, and the two translated thresholds coincide) -/
theorem diagBranchVec_iff (eps : ℝ) (S : M3 ℝ) : diagBranchVec eps S = true ↔ DiagBranch eps S := by
  unfold diagBranchVec DiagBranch
  rw [decide_eq_true_eq, norm2_3_eq, p1Of_eq]
  unfold Gen.ev3_vecThreshold Gen.ev3_diagThreshold
  exact Iff.rfl

theorem not_diagBranch_of_vec {eps : ℝ} {S : M3 ℝ} (h : diagBranchVec eps S = false) : ¬ DiagBranch eps S :=
  fun hd => Bool.false_ne_true (h.symm.trans ((diagBranchVec_iff eps S).mpr hd))

theorem mulVec3_shift_unscale (A : M3 ℝ) (m l : ℝ) (v : V3 ℝ) (hm : m ≠ 0)
    (h : mulVec3 (shift3 (sdiv3 A m) l) v = ⟨0, 0, 0⟩) : mulVec3 (shift3 A (l * m)) v = ⟨0, 0, 0⟩ := by
  rw [← smul3_sdiv3 A m hm, shift3_smul3, mulVec3_smul3, h]
  simp only [mul_zero]

theorem EigTriple_unscale (A : M3 ℝ) (m l0 l1 l2 : ℝ) (v0 v1 v2 : V3 ℝ) (hm : m ≠ 0)
    (h : EigTriple (sdiv3 A m) l0 l1 l2 v0 v1 v2) : EigTriple A (l0 * m) (l1 * m) (l2 * m) v0 v1 v2 :=
  ⟨h.n0, h.n1, h.n2, h.o01, h.o02, h.o12, mulVec3_shift_unscale A m l0 v0 hm h.k0,
    mulVec3_shift_unscale A m l1 v1 hm h.k1, mulVec3_shift_unscale A m l2 v2 hm h.k2⟩

theorem vectors3d_trig (sqrt acos cos : ℝ → ℝ) (pi eps : ℝ) (A : M3 ℝ)
    (hb : diagBranchVec eps (sdiv3 A (maxAbsElement A)) = false) :
    eigenValuesVectors3d sqrt acos cos pi eps A =
      (let m := maxAbsElement A
       let S := sdiv3 A m
       let lr := eigenValues3dImpl sqrt acos cos pi eps S
       let t := trigVectors sqrt S lr.1 lr.2
       ((t.1.1 * m, t.2.1.1 * m, t.2.2.1 * m), (t.1.2, t.2.1.2, t.2.2.2))) := by
  unfold eigenValuesVectors3d
  simp only [hb]
  rfl

/-- one step of the network: `swapIf` with the comparison of the code -/
noncomputable def cswapP (a b : ℝ × V3 ℝ) : (ℝ × V3 ℝ) × (ℝ × V3 ℝ) := swapIf (decide (b.1 < a.1)) (a, b)

/-- the network (0,1), (1,2), (0,1) on three (value, vector) pairs -/
noncomputable def bubble3 (e0 e1 e2 : ℝ × V3 ℝ) : (ℝ × V3 ℝ) × (ℝ × V3 ℝ) × (ℝ × V3 ℝ) :=
  let p := cswapP e0 e1
  let q := cswapP p.2 e2
  let r := cswapP p.1 q.1
  (r.1, r.2, q.2)

theorem cswapP_keys (a b : ℝ × V3 ℝ) : ((cswapP a b).1.1, (cswapP a b).2.1) = cswap (a.1, b.1) := by
  unfold cswapP swapIf cswap
  by_cases h : b.1 < a.1 <;> simp [h]

/-- on the values the network is `sort3`: both run the same three compare-and-swap steps -/
theorem bubble3_keys (e0 e1 e2 : ℝ × V3 ℝ) :
    ((bubble3 e0 e1 e2).1.1, (bubble3 e0 e1 e2).2.1.1, (bubble3 e0 e1 e2).2.2.1) = sort3 e0.1 e1.1 e2.1 := by
  unfold bubble3 sort3
  simp only [← cswapP_keys]

theorem vectors3d_diag (sqrt acos cos : ℝ → ℝ) (pi eps : ℝ) (A : M3 ℝ)
    (hb : diagBranchVec eps (sdiv3 A (maxAbsElement A)) = true) :
    eigenValuesVectors3d sqrt acos cos pi eps A =
      (let m := maxAbsElement A
       let S := sdiv3 A m
       let b := bubble3 (S.a00, ⟨1, 0, 0⟩) (S.a11, ⟨0, 1, 0⟩) (S.a22, ⟨0, 0, 1⟩)
       ((b.1.1 * m, b.2.1.1 * m, b.2.2.1 * m), (b.1.2, b.2.1.2, b.2.2.2))) := by
  unfold eigenValuesVectors3d bubble3 cswapP
  simp only [hb, if_true, zero, one, Nat.cast_zero, Nat.cast_one]

/-- the two 3x3 entry points return the same values, for any matrix and any elementary functions -/
theorem entry_points_agree3 (sqrt acos cos : ℝ → ℝ) (pi eps : ℝ) (A : M3 ℝ) :
    (eigenValuesVectors3d sqrt acos cos pi eps A).1 = eigenValues3d sqrt acos cos pi eps A := by
  by_cases hb : diagBranchVec eps (sdiv3 A (maxAbsElement A)) = true
  · rw [vectors3d_diag sqrt acos cos pi eps A hb]
    unfold eigenValues3d
    simp only
    rw [impl_diag sqrt acos cos pi eps _ ((diagBranchVec_iff eps _).mp hb),
      ← bubble3_keys (_, ⟨1, 0, 0⟩) (_, ⟨0, 1, 0⟩) (_, ⟨0, 0, 1⟩)]
  · rw [vectors3d_trig sqrt acos cos pi eps A (Bool.eq_false_iff.mpr hb)]
    have hasc := impl_asc sqrt acos cos pi eps (sdiv3 A (maxAbsElement A))
    unfold eigenValues3d trigVectors
    simp only
    split_ifs with hr
    · rw [sortPairs3_sorted _ _ _ hasc.1 hasc.2]
    · rw [sortPairs3_sorted _ _ _ hasc.1 hasc.2]

/-- squared length of the residual `(A - λ I) v` -/
noncomputable def resid2 (A : M3 ℝ) (l : ℝ) (v : V3 ℝ) : ℝ := norm2_3 (mulVec3 (shift3 A l) v)

theorem resid_unit_x (A : M3 ℝ) : resid2 A A.a00 ⟨1, 0, 0⟩ = A.a10 * A.a10 + A.a20 * A.a20 := by
  unfold resid2 mulVec3 dot3 shift3
  rw [norm2_3_eq]
  simp only
  ring

theorem resid_unit_y (A : M3 ℝ) : resid2 A A.a11 ⟨0, 1, 0⟩ = A.a01 * A.a01 + A.a21 * A.a21 := by
  unfold resid2 mulVec3 dot3 shift3
  rw [norm2_3_eq]
  simp only
  ring

theorem resid_unit_z (A : M3 ℝ) : resid2 A A.a22 ⟨0, 0, 1⟩ = A.a02 * A.a02 + A.a12 * A.a12 := by
  unfold resid2 mulVec3 dot3 shift3
  rw [norm2_3_eq]
  simp only
  ring

def GoodPair (S : M3 ℝ) (p : ℝ × V3 ℝ) : Prop :=
  norm2_3 p.2 = 1 ∧ resid2 S p.1 p.2 ≤ p1Of S

theorem goodPair_x (S : M3 ℝ) (hs : Sym3 S) : GoodPair S (S.a00, ⟨1, 0, 0⟩) := by
  obtain ⟨h1, h2, h3⟩ := hs
  refine ⟨by rw [norm2_3_eq]; norm_num, ?_⟩
  show resid2 S S.a00 ⟨1, 0, 0⟩ ≤ p1Of S
  rw [resid_unit_x, p1Of_eq, h1, h2]
  exact le_add_of_nonneg_right (mul_self_nonneg _)

theorem goodPair_y (S : M3 ℝ) (hs : Sym3 S) : GoodPair S (S.a11, ⟨0, 1, 0⟩) := by
  obtain ⟨h1, h2, h3⟩ := hs
  refine ⟨by rw [norm2_3_eq]; norm_num, ?_⟩
  show resid2 S S.a11 ⟨0, 1, 0⟩ ≤ p1Of S
  rw [resid_unit_y, p1Of_eq, h3]
  linarith [mul_self_nonneg S.a02]

theorem goodPair_z (S : M3 ℝ) : GoodPair S (S.a22, ⟨0, 0, 1⟩) := by
  refine ⟨by rw [norm2_3_eq]; norm_num, ?_⟩
  show resid2 S S.a22 ⟨0, 0, 1⟩ ≤ p1Of S
  rw [resid_unit_z, p1Of_eq, add_assoc]
  exact le_add_of_nonneg_left (mul_self_nonneg _)

theorem swapIf_cases (c : Bool) (p : (ℝ × V3 ℝ) × (ℝ × V3 ℝ)) : swapIf c p = p ∨ swapIf c p = (p.2, p.1) := by
  unfold swapIf
  cases c <;> simp

/-- three good pairs with mutually orthogonal vectors; this does not depend on their order -/
structure GoodTriple (S : M3 ℝ) (a b c : ℝ × V3 ℝ) : Prop where
  g0 : GoodPair S a
  g1 : GoodPair S b
  g2 : GoodPair S c
  o01 : dot3 a.2 b.2 = 0
  o02 : dot3 a.2 c.2 = 0
  o12 : dot3 b.2 c.2 = 0

theorem goodTriple_diag (S : M3 ℝ) (hs : Sym3 S) :
    GoodTriple S (S.a00, ⟨1, 0, 0⟩) (S.a11, ⟨0, 1, 0⟩) (S.a22, ⟨0, 0, 1⟩) :=
  ⟨goodPair_x S hs, goodPair_y S hs, goodPair_z S, by norm_num [dot3_eq], by norm_num [dot3_eq],
    by norm_num [dot3_eq]⟩

section
variable {S : M3 ℝ} {a b c : ℝ × V3 ℝ}

theorem GoodTriple.swap01 (h : GoodTriple S a b c) : GoodTriple S b a c :=
  ⟨h.g1, h.g0, h.g2, (dot3_comm _ _).trans h.o01, h.o12, h.o02⟩

theorem GoodTriple.swap12 (h : GoodTriple S a b c) : GoodTriple S a c b :=
  ⟨h.g0, h.g2, h.g1, h.o02, h.o01, (dot3_comm _ _).trans h.o12⟩

theorem GoodTriple.cswap01 (h : GoodTriple S a b c) : GoodTriple S (cswapP a b).1 (cswapP a b).2 c := by
  unfold cswapP
  rcases swapIf_cases (decide (b.1 < a.1)) (a, b) with e | e <;> rw [e]
  · exact h
  · exact h.swap01

theorem GoodTriple.cswap12 (h : GoodTriple S a b c) : GoodTriple S a (cswapP b c).1 (cswapP b c).2 := by
  unfold cswapP
  rcases swapIf_cases (decide (c.1 < b.1)) (b, c) with e | e <;> rw [e]
  · exact h
  · exact h.swap12

/-- each step of the network exchanges two neighbours or nothing, so the network returns a good triple -/
theorem GoodTriple.bubble3 (h : GoodTriple S a b c) :
    GoodTriple S (bubble3 a b c).1 (bubble3 a b c).2.1 (bubble3 a b c).2.2 :=
  h.cswap01.cswap12.cswap01

end

theorem resid2_unscale (A : M3 ℝ) (m l : ℝ) (v : V3 ℝ) (hm : m ≠ 0) :
    resid2 A (l * m) v = m * m * resid2 (sdiv3 A m) l v := by
  unfold resid2
  conv_lhs => rw [← smul3_sdiv3 A m hm, shift3_smul3, mulVec3_smul3]
  rw [norm2_3_eq, norm2_3_eq]
  ring

end DV.C08
