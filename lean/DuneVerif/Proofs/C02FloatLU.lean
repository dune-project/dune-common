import DuneVerif.Proofs.C02Float
import DuneVerif.Proofs.C02Func
import DuneVerif.Proofs.C02Tri
/-!
# C02 — `luDecomposition` and the triangular sweeps under rounded arithmetic, and how their errors combine

Rounded arithmetic is an instance `flModel` of the error calculus of C02Outer.lean: the entry-wise invariant of Higham's
Theorem 9.3 for the in-place elimination with row exchanges (`MatInv`) is `MatInvG (flModel R)`, so its steps are those of
the column invariant shown there, and a run of `luDecomp` under rounding is `DV.C02.lu_run_model` at `flModel R`.
`SignInv` is what `ElimDet` adds to such a run.  After a complete run the invariant reads in the computed factors `L̂`, `Û`
(`MatInv_rows`); the rows of the back substitution and of the forward sweep have the same form (`bs_rows_fn`, `fw_rows_fn`:
Higham's Lemma 8.4 and Theorem 8.5 for the loops of the source), and the three error sources combine into one perturbation
of `A` (`combine_rows`, `solve_rows_backward_error`: Theorem 9.4).  `pert_factor` is the perturbed factorisation in matrix
form.
-/
namespace DV.C02.Flt
open DV.C02

variable {R : Rounding} {n : Nat}

/-- entry-wise invariant after `m` outer steps (Higham, proof of Thm 9.3, for the in-place algorithm):
every entry of the row-permuted input is the current entry (times the pivot, for a stored multiplier) plus the
products multiplier × pivot-row entry already subtracted, each with a relative perturbation `≤ γ_m`.
This is `MatInvG (flModel R)` written out (`MatInv_iff`); a run carries the latter (`RunInv`). -/
def MatInv (A₀ : Mat n (FlR R)) (m : ℕ) (σ : Equiv.Perm (Fin n)) (A : Mat n (FlR R)) : Prop :=
  ∀ r c : Fin n, ∃ (p : ℝ) (θ : Fin n → ℝ), |p| ≤ gamma R.u m ∧ (∀ i, |θ i| ≤ gamma R.u m) ∧
    (A₀.f (σ r) c).val =
      (if c.1 < m ∧ c < r then (A.f r c).val * (A.f c c).val else (A.f r c).val) * (1 + p)
      + ∑ i : Fin n, if i.1 < m ∧ i < r ∧ i < c then (A.f r i).val * (A.f i c).val * (1 + θ i) else 0

/-- rounded arithmetic as an arithmetic with an error calculus: errors accumulated over `k` operations are bounded by
`γ_k`, as long as `k u < 1` -/
noncomputable def flModel (R : Rounding) : ErrModel (FlR R) ℝ where
  val := FlR.val
  ok k := (k : ℝ) * R.u < 1
  E k θ := |θ| ≤ gamma R.u k
  E_zero := by rw [gamma_zero, abs_zero]
  E_mono hk h := h.trans (gamma_mono R.u_nonneg (Nat.le_succ _) hk)
  sub_mul acc a x _ _ _ hk hp h := sub_mul_step hk acc a x hp h
  div acc d _ hk hd hp := div_step hk acc d hd hp

theorem MatInv_iff {A₀ A : Mat n (FlR R)} {σ : Equiv.Perm (Fin n)} {m : ℕ} :
    MatInv A₀ m σ A ↔ MatInvG (flModel R) A₀ m σ A := by
  unfold MatInvG ColInv
  simp only [pivOf_fin]
  -- what is left differs in the order of `r`, `c` and in `c < r` against `c.1 < r.1`, which is the same by definition
  exact forall_comm

theorem MatInv_zero (A₀ : Mat n (FlR R)) : MatInv A₀ 0 1 A₀ :=
  MatInv_iff.mpr (MatInvG_zero A₀)

theorem MatInv_swap {A₀ A : Mat n (FlR R)} {σ : Equiv.Perm (Fin n)} {i p : Fin n} (hip : i ≤ p)
    (h : MatInv A₀ i.1 σ A) : MatInv A₀ i.1 (σ * Equiv.swap i p) (swapRows A i p) :=
  MatInv_iff.mpr (MatInvG_swap hip (MatInv_iff.mp h))

theorem MatInv_elim {A₀ B : Mat n (FlR R)} {σ : Equiv.Perm (Fin n)} {i : Fin n} (hn : (n : ℝ) * R.u < 1)
    (hne : (B.f i i).val ≠ 0) (h : MatInv A₀ i.1 σ B) : MatInv A₀ (i.1 + 1) σ (elimAll B i) :=
  MatInv_iff.mpr (MatInvG_elim (nat_mul_lt R.u_nonneg (Nat.succ_le_of_lt i.2) hn) hne (MatInv_iff.mp h))

theorem flModel_ok (hn : (n : ℝ) * R.u < 1) (k : ℕ) (hk : k ≤ n) : (flModel R).ok k :=
  nat_mul_lt R.u_nonneg hk hn

/-- the sign kept by `ElimDet`: the sign of the accumulated row permutation up to a relative factor -/
def SignInv (m : ℕ) (σ : Equiv.Perm (Fin n)) (s : FlR R) : Prop :=
  ∃ θ : ℝ, |θ| ≤ gamma R.u m ∧ s.val = ((Equiv.Perm.sign σ : ℤ) : ℝ) * (1 + θ)

theorem SignInv_mul {m : ℕ} (hk : ((m + 1 : ℕ) : ℝ) * R.u < 1) {σ τ : Equiv.Perm (Fin n)} {s g : FlR R}
    (hg : g.val = ((Equiv.Perm.sign τ : ℤ) : ℝ)) (h : SignInv m σ s) : SignInv (m + 1) (σ * τ) (s * g) := by
  obtain ⟨θ, hθ, hs⟩ := h
  rw [SignInv, Equiv.Perm.sign_mul, Units.val_mul, Int.cast_mul, ← hg]
  exact mul_step hk s g hθ hs

theorem SignInv_zero : SignInv 0 (1 : Equiv.Perm (Fin n)) (1 : FlR R) :=
  ⟨0, by rw [gamma_zero, abs_zero], by simp [one_val]⟩

/-- one outer step on the sign kept by `ElimDet`: multiplied by `-1` when two different rows are exchanged -/
theorem SignInv_step (piv : Bool) {σ : Equiv.Perm (Fin n)} {s : FlR R} {i p : Fin n} (hp : piv = false → p = i)
    (hk : ((i.1 + 1 : ℕ) : ℝ) * R.u < 1) (B : Mat n (FlR R)) (h : SignInv i.1 σ s) :
    SignInv (i.1 + 1) (σ * Equiv.swap i p) (elimLoop detFunc B (swapS piv detFunc s i p) i).2 := by
  rw [elimLoop_snd_of_elim_id detFunc (fun _ _ _ _ => rfl)]
  cases piv
  · obtain rfl := hp rfl
    obtain ⟨θ, hθ, hs⟩ := h
    exact ⟨θ, hθ.trans (gamma_mono R.u_nonneg (Nat.le_succ _) hk), by simpa [swapS] using hs⟩
  · refine SignInv_mul hk ?_ h
    rw [sign_cast_swap]
    split_ifs
    · exact one_val
    · exact neg_one_val

/-- the values of a matrix of rounded numbers as a model matrix: `(flModel R).valMat A` -/
def valMat (A : Mat n (FlR R)) : Mat n ℝ := Mat.ofFn fun r c => (A.f r c).val

@[simp] theorem valMat_f (A : Mat n (FlR R)) (r c : Fin n) : (valMat A).f r c = (A.f r c).val := by
  simp [valMat]

/-- `MatInvG_partial` for `MatInv` -/
theorem MatInv_partial {A₀ A : Mat n (FlR R)} {σ : Equiv.Perm (Fin n)} {m : ℕ} (h : MatInv A₀ m σ A) (r c : Fin n) :
    ∃ Θ : Fin n → ℝ, (∀ k, |Θ k| ≤ gamma R.u m) ∧
      (A₀.f (σ r) c).val = ∑ k, Lview m (valMat A) r k * Wview m (valMat A) k c * (1 + Θ k) :=
  MatInvG_partial (MatInv_iff.mp h) r c

/-- `L̂`: unit lower triangular, the stored multipliers -/
def Lr (A : Mat n (FlR R)) (r c : Fin n) : ℝ := if c < r then (A.f r c).val else if r = c then 1 else 0
/-- `Û`: the upper triangle -/
def Ur (A : Mat n (FlR R)) (r c : Fin n) : ℝ := if r ≤ c then (A.f r c).val else 0

/-- at the end of a complete run the views of the values are the computed factors -/
theorem Lview_valMat (A : Mat n (FlR R)) : Lview n (valMat A) = Lr A := by
  funext r c
  simp [Lview, Lr, c.2]

theorem Wview_valMat (A : Mat n (FlR R)) : Wview n (valMat A) = Ur A := by
  funext r c
  simp only [Wview, Ur, valMat_f, c.2, true_and, ← not_lt, ite_not]

theorem MatInv_rows {A₀ A : Mat n (FlR R)} {σ : Equiv.Perm (Fin n)} (h : MatInvG (flModel R) A₀ n σ A) (r c : Fin n) :
    ∃ Θ : Fin n → ℝ, (∀ k, |Θ k| ≤ gamma R.u n) ∧
      (A₀.f (σ r) c).val = ∑ k, Lr A r k * Ur A k c * (1 + Θ k) := by
  rw [← Lview_valMat, ← Wview_valMat]
  exact MatInvG_partial h r c

theorem RhsInv_rows {b₀ s : Vec n (FlR R)} {A : Mat n (FlR R)} {σ : Equiv.Perm (Fin n)}
    (h : RhsInvG (flModel R) b₀ n σ A s) (r : Fin n) :
    ∃ Θ : Fin n → ℝ, (∀ k, |Θ k| ≤ gamma R.u n) ∧
      (b₀.f (σ r)).val = ∑ k, Lr A r k * (s.f k).val * (1 + Θ k) := by
  rw [← Lview_valMat]
  exact RhsInvG_rows h r

/-- one pass of a guarded subtraction loop: `sub_mul_step` if the guard holds, and only a wider bound if not -/
theorem sub_mul_step_if (P : Prop) [Decidable P] {k : ℕ} (hk : ((k + 1 : ℕ) : ℝ) * R.u < 1) (acc a x : FlR R)
    {t S p : ℝ} (hp : |p| ≤ gamma R.u k) (h : t = acc.val * (1 + p) + S) :
    ∃ p' θ : ℝ, |p'| ≤ gamma R.u (k + 1) ∧ |θ| ≤ gamma R.u (k + 1) ∧
      t = (if P then acc - a * x else acc).val * (1 + p') + (S + if P then a.val * x.val * (1 + θ) else 0) := by
  split_ifs
  · exact sub_mul_step hk acc a x hp h
  · have hp' := hp.trans (gamma_mono R.u_nonneg (Nat.le_succ _) hk)
    exact ⟨p, p, hp', hp', by rw [add_zero]; exact h⟩

/-- a loop `for j: if P j: acc -= a[j]*x[j]` under rounding, in backward form (Higham, Lemma 8.4) -/
theorem inner_loop_pred (hn : (n : ℝ) * R.u < 1) (P : Fin n → Prop) [DecidablePred P] (a x : Fin n → FlR R) (c : FlR R) :
    ∃ (p : ℝ) (θ : Fin n → ℝ), |p| ≤ gamma R.u n ∧ (∀ j, |θ j| ≤ gamma R.u n) ∧
      c.val = (forUp n c (fun j acc => if P j then acc - a j * x j else acc)).val * (1 + p)
        + ∑ j, if P j then (a j).val * (x j).val * (1 + θ j) else 0 := by
  induction n with
  | zero =>
    exact ⟨0, Fin.elim0, by rw [gamma_zero, abs_zero], (·.elim0),
      by rw [Fin.sum_univ_zero, add_zero, add_zero, mul_one]; rfl⟩
  | succ n ih =>
    -- the loop over `n + 1` is the pass `n` after the loop over `n`, and so is the sum
    obtain ⟨p, θ, hp, hθ, heq⟩ := ih (nat_mul_lt R.u_nonneg (Nat.le_succ n) hn) (fun j => P j.castSucc)
      (fun j => a j.castSucc) fun j => x j.castSucc
    obtain ⟨p', θ', hp', hθ', heq'⟩ := sub_mul_step_if (P (Fin.last n)) hn _ (a (Fin.last n)) (x (Fin.last n)) hp heq
    refine ⟨p', Fin.snoc θ θ', hp', Fin.lastCases (by rwa [Fin.snoc_last]) fun j => ?_, ?_⟩
    · rw [forUp_succ, Fin.sum_univ_castSucc]
      simp only [Fin.snoc_castSucc, Fin.snoc_last]
      exact heq'
    · rw [Fin.snoc_castSucc]
      exact (hθ j).trans (gamma_mono R.u_nonneg (Nat.le_succ _) hn)

/-- row `r` of an upper triangular matrix with relative perturbations `θ` right of the diagonal and `p` on it: the
columns `≥ r` are the diagonal and the columns `> r` -/
theorem upper_row_sum (r : Fin n) (u x θ : Fin n → ℝ) (p : ℝ) :
    ∑ c, (if r ≤ c then u c else 0) * (1 + Function.update θ r p c) * x c =
      x r * u r * (1 + p) + ∑ c, if r < c then u c * x c * (1 + θ c) else 0 := by
  refine (sum_split_at r (r < ·) _ (fun c => u c * x c * (1 + θ c)) (lt_irrefl r) fun c hc => ?_).trans ?_
  · rw [Function.update_of_ne hc]
    by_cases hrc : r < c
    · rw [if_pos hrc, if_pos hrc.le]
      ring
    · rw [if_neg hrc, if_neg fun h => hrc (lt_of_le_of_ne h (Ne.symm hc)), zero_mul, zero_mul]
  · rw [Function.update_self, if_pos le_rfl]
    ring

/-- every row of the triangular system holds for the computed solution with relatively perturbed coefficients
(Higham, Thm 8.5, for the loop order of `DenseMatrix::solve`) -/
theorem bs_rows_fn (hn : ((n + 1 : ℕ) : ℝ) * R.u < 1) (U : Mat n (FlR R)) (y : Fin n → FlR R)
    (hd : ∀ j, (U.f j j).val ≠ 0) :
    ∀ r : Fin n, ∃ θ : Fin n → ℝ, (∀ c, |θ c| ≤ gamma R.u (n + 1)) ∧
      (y r).val = ∑ c, Ur U r c * (1 + θ c) * ((forDown n y (bsStep U)) c).val := by
  have hu := R.u_nonneg
  have hn' : (n : ℝ) * R.u < 1 := nat_mul_lt hu (Nat.le_succ n) hn
  intro r
  have hxr := bs_fix U y r
  generalize forDown n y (bsStep U) = x at hxr ⊢
  -- the subtraction loop of row `r` in backward form, then the division
  obtain ⟨p, θ, hp, hθ, heq⟩ := inner_loop_pred hn' (fun j => r < j) (U.f r) x (y r)
  obtain ⟨p', hp', hdiv⟩ := div_step hn
    (forUp n (y r) fun j acc => if r < j then acc - U.f r j * x j else acc) (U.f r r) (hd r) hp
  rw [← hxr] at hdiv
  exact ⟨Function.update θ r p', abs_update_le r hp' hθ (gamma_mono hu (Nat.le_succ _) hn),
    by rw [heq, hdiv]; exact (upper_row_sum r (fun c => (U.f r c).val) (fun c => (x c).val) θ p').symm⟩

/-- forward substitution with the stored unit lower factor under rounding: `(L̂ + ΔL) ŷ = y`, `|ΔL| ≤ γ_n |L̂|` -/
theorem fw_rows_fn (hn : (n : ℝ) * R.u < 1) (L : Mat n (FlR R)) (y : Fin n → FlR R) :
    ∀ r : Fin n, ∃ Θ : Fin n → ℝ, (∀ k, |Θ k| ≤ gamma R.u n) ∧
      (y r).val = ∑ k, Lr L r k * ((forUp n y (fwRow L)) k).val * (1 + Θ k) := by
  intro r
  have hyr := fw_fix L y r
  generalize forUp n y (fwRow L) = y' at hyr ⊢
  obtain ⟨p, θ, hp, hθ, heq⟩ := inner_loop_pred hn (fun j => j < r) (L.f r) y' (y r)
  rw [← hyr] at heq
  refine ⟨Function.update θ r p, abs_update_le r hp hθ le_rfl, heq.trans ?_⟩
  rw [← Lview_valMat, Lview_row_sum]
  simp only [valMat_f]

/-- the values of `A` as a Mathlib matrix: `toMatrix (valMat A)` entry by entry -/
def realMat (A : Mat n (FlR R)) : Matrix (Fin n) (Fin n) ℝ := Matrix.of fun r c => (A.f r c).val

theorem abs_pert_le {θ φ ψ g : ℝ} (h1 : |θ| ≤ g) (h2 : |φ| ≤ g) (h3 : |ψ| ≤ g) :
    |(1 + θ) * (1 + φ) - (1 + ψ)| ≤ 3 * g + g ^ 2 := by
  rw [← sub_sub]
  exact ((abs_sub _ _).trans (add_le_add (abs_pert_mul h1 h2) h3)).trans_eq (by ring)

theorem abs_sum_mul_le (a b θ : Fin n → ℝ) {g : ℝ} (hθ : ∀ k, |θ k| ≤ g) :
    |∑ k, a k * b k * θ k| ≤ g * ∑ k, |a k| * |b k| := by
  rw [Finset.mul_sum]
  refine (Finset.abs_sum_le_sum_abs _ _).trans (Finset.sum_le_sum fun k _ => ?_)
  rw [abs_mul, abs_mul, mul_comm]
  exact mul_le_mul_of_nonneg_right (hθ k) (mul_nonneg (abs_nonneg _) (abs_nonneg _))

/-- entry-wise relative perturbations of a product read as one perturbation of the matrix: `a + ΔA = L·U`,
`|ΔA| ≤ g |L||U|` -/
theorem pert_factor (L U : Matrix (Fin n) (Fin n) ℝ) (a : Fin n → Fin n → ℝ) {g : ℝ}
    (h : ∀ r c, ∃ Θ : Fin n → ℝ, (∀ k, |Θ k| ≤ g) ∧ a r c = ∑ k, L r k * U k c * (1 + Θ k)) :
    ∃ ΔA : Matrix (Fin n) (Fin n) ℝ, (∀ r c, |ΔA r c| ≤ g * ∑ k, |L r k| * |U k c|) ∧
      (Matrix.of fun r c => a r c + ΔA r c) = L * U := by
  choose Θ hΘ hA using h
  refine ⟨Matrix.of fun r c => -∑ k, L r k * U k c * Θ r c k, fun r c => ?_, ?_⟩
  · rw [Matrix.of_apply, abs_neg]
    exact abs_sum_mul_le _ _ _ (hΘ r c)
  · ext r c
    rw [Matrix.of_apply, Matrix.of_apply, Matrix.mul_apply, hA r c, ← Finset.sum_neg_distrib, ← Finset.sum_add_distrib]
    exact Finset.sum_congr rfl fun k _ => by ring

/-- the three error sources `L̂Û = PA + ΔA₁`, `(L̂+ΔL) ŷ = Pb`, `(Û+ΔU) x̂ = ŷ`, each given row by row with relative
perturbations, combine into one perturbation `ΔA` of `A` -/
theorem combine_rows (L U a : Fin n → Fin n → ℝ) (bv y x : Fin n → ℝ) (g₁ g₂ : ℝ) (hg12 : g₁ ≤ g₂)
    (Ψ : Fin n → Fin n → Fin n → ℝ) (Θ Φ : Fin n → Fin n → ℝ)
    (hΨ : ∀ r c k, |Ψ r c k| ≤ g₁) (hΘ : ∀ r k, |Θ r k| ≤ g₁) (hΦ : ∀ k c, |Φ k c| ≤ g₂)
    (hA : ∀ r c, a r c = ∑ k, L r k * U k c * (1 + Ψ r c k))
    (hb : ∀ r, bv r = ∑ k, L r k * y k * (1 + Θ r k))
    (hy : ∀ k, y k = ∑ c, U k c * (1 + Φ k c) * x c) :
    ∃ ΔA : Fin n → Fin n → ℝ, (∀ r, ∑ c, (a r c + ΔA r c) * x c = bv r) ∧
      ∀ r c, |ΔA r c| ≤ (3 * g₂ + g₂ ^ 2) * ∑ k, |L r k| * |U k c| := by
  refine ⟨fun r c => ∑ k, L r k * U k c * ((1 + Θ r k) * (1 + Φ k c) - (1 + Ψ r c k)), ?_, ?_⟩
  · intro r
    rw [hb r]
    simp only [hy, hA r]
    simp only [← Finset.sum_add_distrib, Finset.sum_mul, Finset.mul_sum]
    rw [Finset.sum_comm]
    apply Finset.sum_congr rfl
    intro k _
    apply Finset.sum_congr rfl
    intro c _
    ring
  · exact fun r c => abs_sum_mul_le _ _ _ fun k =>
      abs_pert_le ((hΘ r k).trans hg12) (hΦ k c) ((hΨ r c k).trans hg12)

/-- Gaussian elimination followed by back substitution (Higham, Thm 9.4): given the invariant of a complete run and a
`ŷ` that satisfies the rows of the forward sweep for the right-hand side `bv`, the back-substituted `x̂` solves a system
whose matrix differs from `P·A` entry-wise by at most `(3γ + γ²) |L̂||Û|`, `γ = γ_{n+1}` -/
theorem solve_rows_backward_error (hn : ((n + 1 : ℕ) : ℝ) * R.u < 1) {A LU : Mat n (FlR R)} {σ : Equiv.Perm (Fin n)}
    (hM : RunInv (flModel R) A n σ LU) (bv : Fin n → ℝ) (y : Fin n → FlR R)
    (hb : ∀ r, ∃ Θ : Fin n → ℝ, (∀ k, |Θ k| ≤ gamma R.u n) ∧ bv r = ∑ k, Lr LU r k * (y k).val * (1 + Θ k)) :
    ∃ ΔA : Fin n → Fin n → ℝ,
      (∀ r, ∑ c, ((A.f (σ r) c).val + ΔA r c) * ((forDown n y (bsStep LU)) c).val = bv r) ∧
      ∀ r c, |ΔA r c| ≤ (3 * gamma R.u (n + 1) + gamma R.u (n + 1) ^ 2) * ∑ k, |Lr LU r k| * |Ur LU k c| := by
  choose Ψ hΨ hA using fun r c => MatInv_rows hM.inv r c
  choose Θ hΘ hb using hb
  choose Φ hΦ hy using bs_rows_fn hn LU y fun j => hM.diag j j.2
  exact combine_rows (Lr LU) (Ur LU) (fun r c => (A.f (σ r) c).val) bv (fun k => (y k).val) _ (gamma R.u n)
    (gamma R.u (n + 1)) (gamma_mono R.u_nonneg (Nat.le_succ _) hn) Ψ Θ Φ hΨ hΘ hΦ hA hb hy

end DV.C02.Flt
