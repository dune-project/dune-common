import DuneVerif.Model.C04L
/-!
C04 — lemmas about the construction variants of a local index and about the chunked storage (`DV.C04.L`).
Core Lean only.
-/
namespace DV.C04.L
open DV.C04 DV.C04.GenL

theorem build_eq : ∀ (how l a : Nat) (pub : Bool),
    build how l a pub = { localIndex_ := l, attribute_ := a, public_ := pub, valid := true }
  | 0, _, _, _ => rfl
  | 1, _, _, _ => rfl
  | 2, _, _, pub => by cases pub <;> rfl
  | 3, _, a, pub => by cases a <;> cases pub <;> rfl
  | _ + 4, _, _, _ => rfl

theorem mkPair_eq (how : Nat) (g : Int) (l a : Nat) (pub : Bool) :
    mkPair how g l a pub = { g := g, l := l, a := a, pub := pub } := by
  rw [mkPair, build_eq]
  rfl

theorem build_valid (how l a : Nat) (pub : Bool) : (build how l a pub).valid = true := by
  rw [build_eq]

theorem chunked_go_flatten (N fuel : Nat) (l : List α) (h : l.length ≤ fuel) : (chunked.go N fuel l).flatten = l := by
  fun_induction chunked.go N fuel l with
  | case1 l => rw [List.eq_nil_of_length_eq_zero (Nat.le_zero.mp h)]; rfl
  | case2 => rfl
  | case3 fuel x xs ih =>
    rw [List.flatten_cons, ih, List.take_append_drop]
    exact List.length_drop ▸ Nat.sub_le_of_le_add (Nat.le_trans h (Nat.add_le_add_left (Nat.le_max_right N 1) fuel))

theorem chunked_go_sizes (N fuel : Nat) (l : List α) : ∀ c ∈ chunked.go N fuel l, c ≠ [] ∧ c.length ≤ max N 1 := by
  fun_induction chunked.go N fuel l with
  | case1 => exact fun c hc => nomatch hc
  | case2 => exact fun c hc => nomatch hc
  | case3 fuel x xs ih =>
    refine List.forall_mem_cons.mpr ⟨⟨fun h0 => ?_, List.length_take_le _ _⟩, ih⟩
    rcases List.take_eq_nil_iff.mp h0 with h | h
    · exact absurd (Nat.le_max_right N 1) (by rw [h]; decide)
    · cases h

theorem packAt_one {c : List α} {off : Nat} (h : off < c.length) : packAt c off 1 = some [c[off]] := by
  rw [packAt, if_pos (Nat.succ_le_of_lt h), List.drop_eq_getElem_cons h]
  rfl

theorem packChunk_one (pub : α → Bool) (c : List α) (fuel off : Nat) :
    packChunk pub 1 c fuel off = some (((c.drop off).take fuel).filter pub) := by
  induction fuel generalizing off with
  | zero => rfl
  | succ fuel ih =>
    rw [packChunk]
    by_cases hge : off ≥ c.length
    · rw [if_pos hge, List.drop_eq_nil_of_le hge]
      rfl
    · have hlt : off < c.length := Nat.lt_of_not_ge hge
      rw [if_neg hge, List.getElem?_eq_getElem hlt, List.drop_eq_getElem_cons hlt, List.take_succ_cons,
        List.filter_cons, ih, packAt_one hlt]
      dsimp only
      cases pub c[off] <;> rfl

theorem packWalk_one (pub : α → Bool) (cs : List (List α)) : packWalk pub 1 cs = some (cs.flatten.filter pub) := by
  induction cs with
  | nil => rfl
  | cons c cs ih =>
    rw [packWalk, packChunk_one, List.drop_zero, List.take_length, ih, List.flatten_cons, List.filter_append]

end DV.C04.L
