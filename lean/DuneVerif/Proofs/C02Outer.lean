import DuneVerif.Proofs.C02Elim
import Mathlib.LinearAlgebra.Matrix.Determinant.Basic
import Mathlib.LinearAlgebra.Matrix.Block
import Mathlib.Tactic.Ring
import Mathlib.Tactic.FieldSimp
/-! C02: one pass of the outer loop of `luDecomposition`, analysed once for every arithmetic.

`ErrModel K F` is an arithmetic on `K`, read in a field `F`, with a calculus of relative errors: what one rounded
`acc - a*x` and one rounded `acc / d` do to an accumulated error.  `ColInv` is the invariant of one column of the working
matrix (the right-hand side of `solve` is the column `n`), `ColInv_swap` / `ColInv_elim` what the row exchange and the
elimination loop do to it.  `MatInvG_partial` reads the invariant in the factor views
`Lview m A` (unit lower triangular, the stored factors of the columns `< m`) and
`Wview m A` (the matrix still being reduced: stored factors read as exact zeros):
every entry of `P·A₀` is `Σ_k L[r,k] W[k,c] (1+Θ_k)`.  Rounded arithmetic is one instance (`Flt.flModel`, C02FloatLU.lean);
exact arithmetic over a field is the other (`exactModel`: the only admissible error is `0`), and there the invariant is
`L·W = P·A₀` (`AInv`).  `RunInv` is what a run carries in either.  `det_of_fact` / `det_zero_of_fail` read the determinant
of the input off the factorisation of a complete run, respectively of a run stopped by the singularity test. -/
namespace DV.C02
open Matrix
set_option linter.unusedSectionVars false

section Sums
variable {n : Nat}

/-- a sum whose terms vanish outside a guard `q`, apart from the term `j` -/
theorem sum_split_at {ι F : Type} [Fintype ι] [DecidableEq ι] [AddCommMonoid F] (j : ι) (q : ι → Prop)
    [DecidablePred q] (f h : ι → F) (hq : ¬ q j) (hk : ∀ k, k ≠ j → f k = if q k then h k else 0) :
    ∑ k, f k = f j + ∑ k, if q k then h k else 0 := by
  rw [← Finset.add_sum_erase _ f (Finset.mem_univ j),
    ← Finset.sum_erase (f := fun k => if q k then h k else 0) Finset.univ (if_neg hq)]
  exact congrArg _ (Finset.sum_congr rfl fun k hk' => hk k (Finset.ne_of_mem_erase hk'))

/-- the terms with index `< i+1` are those with index `< i`, which may be rewritten, and the term `i` -/
theorem sum_lt_succ {F : Type} [AddCommMonoid F] (i : Fin n) (p : Fin n → Prop) [DecidablePred p] (f f' : Fin n → F)
    (h : ∀ k : Fin n, k.1 < i.1 → f' k = f k) :
    (∑ k, if k.1 < i.1 + 1 ∧ p k then f' k else 0) =
      (∑ k, if k.1 < i.1 ∧ p k then f k else 0) + if p i then f' i else 0 := by
  rw [sum_split_at i (fun k => k.1 < i.1 ∧ p k) _ f (fun h => lt_irrefl _ h.1) fun k hk =>
      if_ctx_congr (and_congr_left' ⟨fun h' => lt_of_le_of_ne (Nat.le_of_lt_succ h') (Fin.val_ne_of_ne hk),
        Nat.lt_succ_of_lt⟩) (fun hc => h k hc.1) fun _ => rfl, add_comm]
  exact congrArg _ (if_congr (and_iff_right (Nat.lt_succ_self _)) rfl rfl)

end Sums

section Columns
variable {n : Nat} {K F : Type} [Field F] [Add K] [Sub K] [Mul K] [Div K] [Neg K] [OfNat K 0] [OfNat K 1]

/-- An arithmetic with an error calculus: `val` reads a scalar as an element of the field `F`; `E k θ` says that `θ` is
an admissible relative error accumulated over `k` operations (`ok k`: the calculus is valid up to `k`). -/
structure ErrModel (K F : Type) [Field F] [Sub K] [Mul K] [Div K] where
  val : K → F
  ok : ℕ → Prop
  E : ℕ → F → Prop
  E_zero : E 0 0
  E_mono : ∀ {k : ℕ} {θ : F}, ok (k + 1) → E k θ → E (k + 1) θ
  sub_mul : ∀ {k : ℕ} (acc a x : K) {t S p : F}, ok (k + 1) → E k p → t = val acc * (1 + p) + S →
    ∃ p' θ : F, E (k + 1) p' ∧ E (k + 1) θ ∧ t = val (acc - a * x) * (1 + p') + (S + val a * val x * (1 + θ))
  div : ∀ {k : ℕ} (acc d : K) {p : F}, ok (k + 1) → val d ≠ 0 → E k p →
    ∃ p' : F, E (k + 1) p' ∧ val acc * (1 + p) = val (acc / d) * val d * (1 + p')

variable {M : ErrModel K F}

/-- the pivot of column `cn` (the right-hand side, `cn = n`, has none) -/
def ErrModel.pivOf (M : ErrModel K F) (A : Mat n K) (cn : ℕ) : F := if h : cn < n then M.val (A.f ⟨cn, h⟩ ⟨cn, h⟩) else 0

theorem pivOf_fin (A : Mat n K) (c : Fin n) : M.pivOf A c.1 = M.val (A.f c c) := by
  simp [ErrModel.pivOf]

theorem pivOf_congr {A A' : Mat n K} {cn : ℕ} (h : ∀ r c : Fin n, r.1 = cn → A'.f r c = A.f r c) :
    M.pivOf A' cn = M.pivOf A cn := by
  unfold ErrModel.pivOf
  by_cases hlt : cn < n
  · rw [dif_pos hlt, dif_pos hlt, h _ _ rfl]
  · rw [dif_neg hlt, dif_neg hlt]

/-- The invariant of one column after `m` outer steps with working matrix `A`: `a₀` is the column of the row-permuted
input, `a` what has become of it, `cn` its index.  The columns of the matrix have `cn < n`; the right-hand side of
`solve` goes through the same recurrences as a column right of all others (`cn = n`), which never holds a pivot. -/
def ColInv (M : ErrModel K F) (m : ℕ) (A : Mat n K) (cn : ℕ) (a₀ : Fin n → F) (a : Fin n → K) : Prop :=
  ∀ r : Fin n, ∃ (p : F) (θ : Fin n → F), M.E m p ∧ (∀ i, M.E m (θ i)) ∧
    a₀ r = (if cn < m ∧ cn < r.1 then M.val (a r) * M.pivOf A cn else M.val (a r)) * (1 + p)
      + ∑ i : Fin n, if i.1 < m ∧ i < r ∧ i.1 < cn then M.val (A.f r i) * M.val (a i) * (1 + θ i) else 0

/-- the invariant of the working matrix: every column satisfies `ColInv` -/
def MatInvG (M : ErrModel K F) (A₀ : Mat n K) (m : ℕ) (σ : Equiv.Perm (Fin n)) (A : Mat n K) : Prop :=
  ∀ c : Fin n, ColInv M m A c.1 (fun r => M.val (A₀.f (σ r) c)) (fun r => A.f r c)

theorem ColInv_zero (A : Mat n K) (cn : ℕ) (a : Fin n → K) : ColInv M 0 A cn (fun r => M.val (a r)) a := by
  intro r
  exact ⟨0, fun _ => 0, M.E_zero, fun _ => M.E_zero, by
    simp only [Nat.not_lt_zero, false_and, if_false, add_zero, mul_one, Finset.sum_const_zero]⟩

theorem ColInv_swap {A : Mat n K} {cn : ℕ} {a₀ : Fin n → F} {a : Fin n → K} {i p : Fin n} (hip : i ≤ p)
    (h : ColInv M i.1 A cn a₀ a) :
    ColInv M i.1 (swapRows A i p) cn (a₀ ∘ Equiv.swap i p) (a ∘ Equiv.swap i p) := by
  intro r
  obtain ⟨q, θ, hq, hθ, heq⟩ := h (Equiv.swap i p r)
  refine ⟨q, θ, hq, hθ, ?_⟩
  rw [Function.comp, heq]
  -- the rows `< i` stay where they are, and which rows lie below them does not change
  refine congrArg₂ (· * (1 + q) + ·)
    (if_ctx_congr (and_congr_right fun hc => swap_lt_iff (c := ⟨cn, Nat.lt_trans hc i.2⟩) hip hc) (fun h => ?_)
      fun _ => rfl)
    (Finset.sum_congr rfl fun k _ => if_ctx_congr (and_congr_right fun hk => and_congr_left' (swap_lt_iff hip hk))
      (fun h => ?_) fun _ => rfl)
  · rw [pivOf_congr fun r' c hr => (swapRows_f A i p r' c).trans (by rw [swap_fix hip (hr ▸ h.1)])]
    rfl
  · rw [swapRows_f, Function.comp, swap_fix hip h.1]

/-- a column after the elimination loop of outer step `i` -/
def colElim (B : Mat n K) (i : Fin n) (cn : ℕ) (a : Fin n → K) : Fin n → K :=
  fun r => if i < r then
      (if cn = i.1 then a r / B.f i i else if i.1 < cn then a r - (B.f r i / B.f i i) * a i else a r)
    else a r

theorem elimAll_col (B : Mat n K) (i c : Fin n) :
    (fun r => (elimAll B i).f r c) = colElim B i c.1 (fun r => B.f r c) := by
  funext r
  by_cases hci : c = i
  · subst hci; simp [elimAll_f, elimEntry, colElim]
  · have : c.1 ≠ i.1 := fun h => hci (Fin.ext h)
    simp only [elimAll_f, elimEntry, colElim, hci, this, if_false, Fin.lt_def]

/-- step `i` changes no summand with index `< i` -/
theorem ColInv_term_old (B : Mat n K) (i r : Fin n) (cn : ℕ) (a : Fin n → K) {θ θ' : Fin n → F}
    (hθ : ∀ k, k ≠ i → θ' k = θ k) (k : Fin n) (hk : k.1 < i.1) :
    M.val ((elimAll B i).f r k) * M.val (colElim B i cn a k) * (1 + θ' k) = M.val (B.f r k) * M.val (a k) * (1 + θ k) := by
  have hrk : (elimAll B i).f r k = B.f r k := by
    by_cases hir : i < r
    · exact elimAll_f_left B i r k hir hk
    · exact elimAll_f_row B i r k hir
  have hak : colElim B i cn a k = a k := if_neg fun h => Nat.lt_asymm hk h
  rw [hrk, hak, hθ k (Fin.ne_of_lt hk)]

theorem ColInv_elim {B : Mat n K} {cn : ℕ} {a₀ : Fin n → F} {a : Fin n → K} {i : Fin n}
    (hok : M.ok (i.1 + 1)) (hne : M.val (B.f i i) ≠ 0) (h : ColInv M i.1 B cn a₀ a) :
    ColInv M (i.1 + 1) (elimAll B i) cn a₀ (colElim B i cn a) := by
  intro r
  obtain ⟨q, θ, hq, hθ, heq⟩ := h r
  have hii : ¬ i < i := lt_irrefl _
  have hai : colElim B i cn a i = a i := if_neg hii
  have hmono := fun k => M.E_mono hok (hθ k)
  -- the sum after step `i`: the old sum and, below the pivot row and right of the pivot column, the product of this step
  have hsum : ∀ θ' : Fin n → F, (∀ k, k ≠ i → θ' k = θ k) →
      (∑ k : Fin n, if k.1 < i.1 + 1 ∧ k < r ∧ k.1 < cn then
        M.val ((elimAll B i).f r k) * M.val (colElim B i cn a k) * (1 + θ' k) else 0) =
      (∑ k : Fin n, if k.1 < i.1 ∧ k < r ∧ k.1 < cn then M.val (B.f r k) * M.val (a k) * (1 + θ k) else 0) +
        if i < r ∧ i.1 < cn then M.val ((elimAll B i).f r i) * M.val (a i) * (1 + θ' i) else 0 :=
    fun θ' hθ' => by rw [sum_lt_succ i (fun k => k < r ∧ k.1 < cn) _ _ (ColInv_term_old B i r cn a hθ'), hai]
  by_cases hic : i < r ∧ i.1 < cn
  · -- below the pivot row, right of the pivot column: one more product is subtracted
    obtain ⟨hir, hic⟩ := hic
    rw [if_neg fun h => Nat.lt_asymm hic h.1] at heq
    obtain ⟨q', θ', hq', hθ', heq'⟩ := M.sub_mul (a r) (B.f r i / B.f i i) (a i) hok hq heq
    refine ⟨q', Function.update θ i θ', hq', update_forall i hθ' hmono, ?_⟩
    have har : colElim B i cn a r = a r - (B.f r i / B.f i i) * a i :=
      (if_pos hir).trans ((if_neg (Nat.ne_of_gt hic)).trans (if_pos hic))
    rw [hsum _ (fun k hk => Function.update_of_ne hk _ _),
      if_neg fun h => Nat.lt_irrefl _ (Nat.lt_of_lt_of_le hic (Nat.le_of_lt_succ h.1)),
      if_pos (show i < r ∧ i.1 < cn from ⟨hir, hic⟩), Function.update_self, har, elimAll_f_piv B i r hir]
    exact heq'
  · have hs := hsum θ (fun _ _ => rfl)
    rw [if_neg hic, add_zero] at hs
    rw [← hs] at heq
    by_cases hci : cn = i.1 ∧ i < r
    · -- the pivot column below the pivot: the multiplier of this step is stored
      obtain ⟨rfl, hir⟩ := hci
      obtain ⟨q', hq', hdiv⟩ := M.div (a r) (B.f i i) hok hne hq
      refine ⟨q', θ, hq', hmono, ?_⟩
      have har : colElim B i i.1 a r = a r / B.f i i := (if_pos hir).trans (if_pos rfl)
      rw [heq, if_neg fun h => Nat.lt_irrefl _ h.1, if_pos ⟨Nat.lt_succ_self _, hir⟩, har, pivOf_fin,
        elimAll_f_row B i i i hii, hdiv]
    · -- nothing this entry's equation mentions is touched
      refine ⟨q, θ, M.E_mono hok hq, hmono, ?_⟩
      have har : colElim B i cn a r = a r := by
        by_cases hir : i < r
        · exact (if_pos hir).trans ((if_neg fun h => hci ⟨h, hir⟩).trans (if_neg fun h => hic ⟨hir, h⟩))
        · exact if_neg hir
      rw [heq, har]
      congr 2
      by_cases hcr : cn < i.1 ∧ cn < r.1
      · rw [if_pos hcr, if_pos ⟨Nat.lt_succ_of_lt hcr.1, hcr.2⟩, pivOf_congr fun r' c hrc =>
          elimAll_f_row B i r' c fun hlt => Nat.lt_asymm hcr.1 (Nat.lt_of_lt_of_eq hlt hrc)]
      · rw [if_neg hcr, if_neg fun h : cn < i.1 + 1 ∧ cn < r.1 =>
          (Nat.lt_succ_iff_lt_or_eq.mp h.1).elim (fun h' => hcr ⟨h', h.2⟩) fun e => hci ⟨e, show i.1 < r.1 from e ▸ h.2⟩]

theorem MatInvG_zero (A₀ : Mat n K) : MatInvG M A₀ 0 1 A₀ :=
  fun c => ColInv_zero A₀ c.1 fun r => A₀.f r c

theorem MatInvG_swap {A₀ A : Mat n K} {σ : Equiv.Perm (Fin n)} {i p : Fin n} (hip : i ≤ p)
    (h : MatInvG M A₀ i.1 σ A) : MatInvG M A₀ i.1 (σ * Equiv.swap i p) (swapRows A i p) := by
  intro c
  have e : (fun r => (swapRows A i p).f r c) = (fun r => A.f r c) ∘ Equiv.swap i p :=
    funext fun r => swapRows_f A i p r c
  rw [e]
  exact ColInv_swap hip (h c)

theorem MatInvG_elim {A₀ B : Mat n K} {σ : Equiv.Perm (Fin n)} {i : Fin n} (hok : M.ok (i.1 + 1))
    (hne : M.val (B.f i i) ≠ 0) (h : MatInvG M A₀ i.1 σ B) : MatInvG M A₀ (i.1 + 1) σ (elimAll B i) := by
  intro c
  rw [elimAll_col]
  exact ColInv_elim hok hne (h c)

/-- what a run of `luDecomposition` carries from pass to pass, in any arithmetic: the entry-wise invariant of the
working matrix, and the pivots met so far are nonzero -/
structure RunInv (M : ErrModel K F) (A₀ : Mat n K) (m : ℕ) (σ : Equiv.Perm (Fin n)) (A : Mat n K) : Prop where
  inv : MatInvG M A₀ m σ A
  diag : ∀ j : Fin n, j.1 < m → M.val (A.f j j) ≠ 0

theorem RunInv_zero (A₀ : Mat n K) : RunInv M A₀ 0 1 A₀ :=
  ⟨MatInvG_zero A₀, fun _ hj => absurd hj (Nat.not_lt_zero _)⟩

theorem RunInv_step {A₀ A : Mat n K} {σ : Equiv.Perm (Fin n)} {i p : Fin n} (hok : M.ok (i.1 + 1)) (hip : i ≤ p)
    (h : RunInv M A₀ i.1 σ A) (hne : M.val ((swapRows A i p).f i i) ≠ 0) :
    RunInv M A₀ (i.1 + 1) (σ * Equiv.swap i p) (elimAll (swapRows A i p) i) :=
  ⟨MatInvG_elim hok hne (MatInvG_swap hip h.inv), diag_step (P := fun x => M.val x ≠ 0) hip h.diag hne⟩

/-- the right-hand side of `solve` (functor `Elim`) as the column `n` -/
def RhsInvG (M : ErrModel K F) (b₀ : Vec n K) (m : ℕ) (σ : Equiv.Perm (Fin n)) (A : Mat n K) (s : Vec n K) : Prop :=
  ColInv M m A n (fun r => M.val (b₀.f (σ r))) s.f

def ErrModel.valMat (M : ErrModel K F) (A : Mat n K) : Mat n F := Mat.ofFn fun r c => M.val (A.f r c)

@[simp] theorem ErrModel.valMat_f (M : ErrModel K F) (A : Mat n K) (r c : Fin n) :
    (M.valMat A).f r c = M.val (A.f r c) := by
  simp [ErrModel.valMat]

end Columns

section Views
variable {n : Nat} {K : Type} [Field K]

/-- unit lower triangular matrix of the factors stored in the columns `< m` of `A` -/
def Lview (m : Nat) (A : Mat n K) : Matrix (Fin n) (Fin n) K :=
  fun r c => if c.1 < m ∧ c < r then A.f r c else if r = c then 1 else 0

/-- the matrix under reduction after `m` steps: the stored factors are exact zeros -/
def Wview (m : Nat) (A : Mat n K) : Matrix (Fin n) (Fin n) K :=
  fun r c => if c.1 < m ∧ c < r then 0 else A.f r c

theorem Lview_stored {m : Nat} (A : Mat n K) {r c : Fin n} (hc : c.1 < m) (h : c < r) : Lview m A r c = A.f r c :=
  if_pos ⟨hc, h⟩

theorem Lview_diag (m : Nat) (A : Mat n K) (j : Fin n) : Lview m A j j = 1 :=
  (if_neg fun h => lt_irrefl j h.2).trans (if_pos rfl)

theorem Lview_of_lt (m : Nat) (A : Mat n K) {r c : Fin n} (h : r < c) : Lview m A r c = 0 :=
  (if_neg fun h' => lt_asymm h h'.2).trans (if_neg (ne_of_lt h))

theorem Wview_of_lt {m : Nat} (A : Mat n K) {r c : Fin n} (hc : c.1 < m) (h : c < r) : Wview m A r c = 0 :=
  if_pos ⟨hc, h⟩

theorem Wview_of_not {m : Nat} (A : Mat n K) {r c : Fin n} (h : ¬ (c.1 < m ∧ c < r)) : Wview m A r c = A.f r c :=
  if_neg h

theorem Wview_diag (m : Nat) (A : Mat n K) (j : Fin n) : Wview m A j j = A.f j j :=
  Wview_of_not A fun h => lt_irrefl j h.2

end Views

section Partial
variable {n : Nat} {K F : Type} [Field F] [Add K] [Sub K] [Mul K] [Div K] [Neg K] [OfNat K 0] [OfNat K 1]
variable {M : ErrModel K F}

/-- the invariant after `m` complete steps in terms of the partial factors `L̃ = Lview m`, `W̃ = Wview m` of the
current working matrix -/
theorem MatInvG_partial {A₀ A : Mat n K} {σ : Equiv.Perm (Fin n)} {m : ℕ} (h : MatInvG M A₀ m σ A) (r c : Fin n) :
    ∃ Θ : Fin n → F, (∀ k, M.E m (Θ k)) ∧
      M.val (A₀.f (σ r) c) = ∑ k, Lview m (M.valMat A) r k * Wview m (M.valMat A) k c * (1 + Θ k) := by
  obtain ⟨p, θ, hp, hθ, heq⟩ := h c r
  simp only [pivOf_fin, ← Fin.lt_def] at heq
  -- the term that carries `p` is the one of the pivot `c` for a stored multiplier and the one of the row `r` itself
  -- otherwise; the other terms that do not vanish are those of the sum of the invariant
  by_cases hcr : c.1 < m ∧ c < r
  · refine ⟨Function.update θ c p, update_forall c hp hθ, heq.trans (Eq.symm ?_)⟩
    refine (sum_split_at c (fun k : Fin n => k.1 < m ∧ k < r ∧ k < c) _
      (fun k => M.val (A.f r k) * M.val (A.f k c) * (1 + θ k)) (fun h => lt_irrefl _ h.2.2) fun k hk => ?_).trans ?_
    · rw [Function.update_of_ne hk]
      rcases lt_or_gt_of_ne hk with hkc | hck
      · have hkm : k.1 < m := Nat.lt_trans hkc hcr.1
        rw [if_pos ⟨hkm, hkc.trans hcr.2, hkc⟩, Lview_stored _ hkm (hkc.trans hcr.2),
          Wview_of_not _ fun h => lt_asymm hkc h.2, M.valMat_f, M.valMat_f]
      · rw [if_neg fun h => lt_asymm hck h.2.2, Wview_of_lt _ hcr.1 hck, mul_zero, zero_mul]
    · rw [Function.update_self, if_pos hcr, Lview_stored _ hcr.1 hcr.2, Wview_diag, M.valMat_f, M.valMat_f]
  · refine ⟨Function.update θ r p, update_forall r hp hθ, heq.trans (Eq.symm ?_)⟩
    refine (sum_split_at r (fun k : Fin n => k.1 < m ∧ k < r ∧ k < c) _
      (fun k => M.val (A.f r k) * M.val (A.f k c) * (1 + θ k)) (fun h => lt_irrefl _ h.2.1) fun k hk => ?_).trans ?_
    · rw [Function.update_of_ne hk]
      by_cases hkr : k.1 < m ∧ k < r
      · -- `(r, k)` holds a stored factor and `(r, c)` does not, so `k < c`
        have hkc : k < c := lt_of_not_ge fun h => hcr ⟨Nat.lt_of_le_of_lt h hkr.1, lt_of_le_of_lt h hkr.2⟩
        rw [if_pos ⟨hkr.1, hkr.2, hkc⟩, Lview_stored _ hkr.1 hkr.2, Wview_of_not _ fun h => lt_asymm hkc h.2,
          M.valMat_f, M.valMat_f]
      · rw [if_neg fun h => hkr ⟨h.1, h.2.1⟩, Lview, if_neg hkr, if_neg (Ne.symm hk), zero_mul, zero_mul]
    · rw [Function.update_self, if_neg hcr, Lview_diag, one_mul, Wview_of_not _ hcr, M.valMat_f]

/-- row `r` of `L` with relative perturbations `θ` off the diagonal and `p` on it, applied to `v` -/
theorem Lview_row_sum (A : Mat n F) (r : Fin n) (v θ : Fin n → F) (p : F) :
    ∑ k, Lview n A r k * v k * (1 + Function.update θ r p k) =
      v r * (1 + p) + ∑ k, if k < r then A.f r k * v k * (1 + θ k) else 0 := by
  refine (sum_split_at r (· < r) _ (fun k => A.f r k * v k * (1 + θ k)) (lt_irrefl r) fun k hk => ?_).trans ?_
  · rw [Function.update_of_ne hk]
    by_cases hkr : k < r
    · rw [if_pos hkr, Lview_stored _ k.2 hkr]
    · rw [if_neg hkr, Lview_of_lt _ _ (lt_of_le_of_ne (not_lt.mp hkr) (Ne.symm hk)), zero_mul, zero_mul]
  · rw [Function.update_self, Lview_diag, one_mul]

theorem RhsInvG_rows {b₀ s : Vec n K} {A : Mat n K} {σ : Equiv.Perm (Fin n)}
    (h : RhsInvG M b₀ n σ A s) (r : Fin n) :
    ∃ Θ : Fin n → F, (∀ k, M.E n (Θ k)) ∧
      M.val (b₀.f (σ r)) = ∑ k, Lview n (M.valMat A) r k * M.val (s.f k) * (1 + Θ k) := by
  obtain ⟨p, θ, hp, hθ, heq⟩ := h r
  simp only [lt_irrefl, false_and, if_false, Fin.is_lt, true_and, and_true] at heq
  refine ⟨Function.update θ r p, update_forall r hp hθ, heq.trans ?_⟩
  rw [Lview_row_sum]
  simp only [ErrModel.valMat_f]

end Partial

variable {n : Nat} {K : Type} [Field K]

/-- the model matrix as a Mathlib matrix -/
def toMatrix (A : Mat n K) : Matrix (Fin n) (Fin n) K := Matrix.of A.f

@[simp] theorem toMatrix_apply (A : Mat n K) (r c : Fin n) : toMatrix A r c = A.f r c := rfl

/-- invariant of the matrix after `m` outer steps: `L·W = P·A₀` (rows of `A₀` permuted by `σ`) and the
pivots found so far are nonzero -/
structure AInv (A₀ : Mat n K) (m : Nat) (A : Mat n K) (σ : Equiv.Perm (Fin n)) : Prop where
  fact : Lview m A * Wview m A = (toMatrix A₀).submatrix σ id
  diag : ∀ j : Fin n, j.1 < m → A.f j j ≠ 0

/-- Exact arithmetic over a field as an arithmetic whose only admissible error is `0`.  The exact development needs no
elimination analysis of its own: its invariant `L·W = P·A₀` is the entry-wise invariant of the rounded one (`MatInvG`,
through `MatInvG_partial`) read at error `0`. -/
def exactModel (K : Type) [Field K] : ErrModel K K where
  val := id
  ok _ := True
  E _ θ := θ = 0
  E_zero := rfl
  E_mono _ h := h
  sub_mul acc a x t S p _ hp h := ⟨0, 0, rfl, rfl, by
    subst hp
    rw [h]
    simp only [id]
    ring⟩
  div acc d p _ hd hp := ⟨0, rfl, by
    subst hp
    simp only [id] at hd ⊢
    rw [div_mul_cancel₀ _ hd]⟩

theorem valMat_exact (A : Mat n K) : (exactModel K).valMat A = A :=
  Mat.ext fun r c => (exactModel K).valMat_f A r c

/-- without error the entry-wise invariant is `L·W = P·A₀` -/
theorem MatInvG_exact_fact {A₀ A : Mat n K} {σ : Equiv.Perm (Fin n)} {m : ℕ} (h : MatInvG (exactModel K) A₀ m σ A) :
    Lview m A * Wview m A = (toMatrix A₀).submatrix σ id := by
  ext r c
  obtain ⟨Θ, hΘ, heq⟩ := MatInvG_partial h r c
  have hΘ' : ∀ k, Θ k = 0 := hΘ
  simp only [valMat_exact, hΘ', add_zero, mul_one] at heq
  rw [Matrix.mul_apply, ← heq]
  rfl

theorem RunInv.aInv {A₀ A : Mat n K} {σ : Equiv.Perm (Fin n)} {m : Nat} (h : RunInv (exactModel K) A₀ m σ A) :
    AInv A₀ m A σ :=
  ⟨MatInvG_exact_fact h.inv, h.diag⟩

theorem Lview_zero (A : Mat n K) : Lview 0 A = 1 := by
  ext r c; simp [Lview, Matrix.one_apply]

theorem Wview_zero (A : Mat n K) : Wview 0 A = toMatrix A := by
  ext r c; simp [Wview]

theorem det_Lview (m : Nat) (A : Mat n K) : (Lview m A).det = 1 := by
  rw [det_of_isLowerTriangular _ fun _ _ h => Lview_of_lt m A h]
  exact Finset.prod_eq_one fun j _ => Lview_diag m A j

theorem det_Wview_full (A : Mat n K) : (Wview n A).det = ∏ j, A.f j j := by
  rw [det_of_isUpperTriangular (M := Wview n A) fun _ c h => Wview_of_lt A c.2 h]
  exact Finset.prod_congr rfl fun j _ => Wview_diag n A j

/-- a zero pivot column (from the diagonal down) makes the matrix under reduction singular -/
theorem det_Wview_fail (B : Mat n K) (i : Fin n) (hcol : ∀ r, i ≤ r → B.f r i = 0) :
    (Wview i.1 B).det = 0 := by
  -- the block of the rows and columns `≥ i` has the zero column `i`; left of it the rows `≥ i` are zero
  rw [twoBlockTriangular_det (Wview i.1 B) (fun j : Fin n => j.1 < i.1) fun r hr c hc =>
      Wview_of_lt B hc (lt_of_lt_of_le hc (not_lt.mp hr)),
    det_eq_zero_of_column_eq_zero (⟨i, lt_irrefl _⟩ : {j : Fin n // ¬ j.1 < i.1}) fun r =>
      (Wview_of_not B fun h => lt_irrefl _ h.1).trans (hcol r.1 (not_lt.mp r.2)), mul_zero]

theorem sign_cast_mul_self (σ : Equiv.Perm (Fin n)) :
    ((Equiv.Perm.sign σ : ℤ) : K) * ((Equiv.Perm.sign σ : ℤ) : K) = 1 := by
  rw [← Int.cast_mul, ← Units.val_mul]
  simp

theorem det_of_views {P : Matrix (Fin n) (Fin n) K} {A : Mat n K} {σ : Equiv.Perm (Fin n)} {m : ℕ}
    (h : Lview m A * Wview m A = P.submatrix σ id) : P.det = (Equiv.Perm.sign σ : ℤ) * (Wview m A).det := by
  have h1 := congrArg Matrix.det h
  rw [Matrix.det_mul, det_Lview, one_mul, det_permute] at h1
  rw [h1, ← mul_assoc, sign_cast_mul_self, one_mul]

/-- a matrix whose rows, permuted by `σ`, factor into the views of a complete run has determinant `sign σ · ∏ pivots`
(`P` may be `A₀` itself, or `A₀` with a perturbation) -/
theorem det_of_fact {P : Matrix (Fin n) (Fin n) K} {A : Mat n K} {σ : Equiv.Perm (Fin n)}
    (h : Lview n A * Wview n A = P.submatrix σ id) : P.det = (Equiv.Perm.sign σ : ℤ) * ∏ j, A.f j j := by
  rw [det_of_views h, det_Wview_full]

theorem AInv_det {A₀ A : Mat n K} {σ : Equiv.Perm (Fin n)} (h : AInv A₀ n A σ) :
    (toMatrix A₀).det = (Equiv.Perm.sign σ : ℤ) * ∏ j, A.f j j :=
  det_of_fact h.fact

theorem AInv_det_ne_zero {A₀ A : Mat n K} {σ : Equiv.Perm (Fin n)} (h : AInv A₀ n A σ) :
    (toMatrix A₀).det ≠ 0 := by
  rw [AInv_det h]
  exact mul_ne_zero (left_ne_zero_of_mul_eq_one (sign_cast_mul_self σ))
    (Finset.prod_ne_zero_iff.mpr fun j _ => h.diag j j.2)

/-- a failed singularity test with a zero column from the diagonal down means that the matrix whose permuted rows the
partial views factor is singular (`A₀` in exact arithmetic; under rounding `P·A₀ + ΔA` itself, with `τ` the identity) -/
theorem det_zero_of_fail {P : Matrix (Fin n) (Fin n) K} {B : Mat n K} {τ : Equiv.Perm (Fin n)} {i : Fin n}
    (hf : Lview i.1 B * Wview i.1 B = P.submatrix τ id)
    (hcol : ∀ r, i ≤ r → B.f r i = 0) : P.det = 0 := by
  rw [det_of_views hf, det_Wview_fail B i hcol, mul_zero]

end DV.C02
