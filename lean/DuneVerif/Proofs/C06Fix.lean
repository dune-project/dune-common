import DuneVerif.Model.C06Fix
import DuneVerif.Proofs.C06Count
/-! C06: the rank-level system of `communicateFixedSize` (`FixSys`): link invariant `FLinkInv`, system invariant `FInv`. -/
namespace DV.C06
variable {α : Type}

theorem isEmpty_eq_length (l : List Nat) : (!l.isEmpty) = decide (l.length ≠ 0) := by
  cases l <;> simp

/-- what `dst` does when the scalar has arrived turns the half-started machine into the state `dataInit` describes
    (the sender cannot have moved: its first message needs the receive that is posted only now) -/
theorem seenRecv_init (B : Nat) (l : FLinkSpec α) (hf : l.f ≠ 0) :
    seenRecv (fixInitDt B l) l.f = (dataInit B l.pair).state := by
  cases hr : l.recvIdx <;>
    simp [seenRecv, fixInitDt, startSend, Pair.blank, dataInit, Pair.init, dataCfg, PairSpec.recvTracker, FLinkSpec.pair, hf, hr,
      Tracker.setFixedSize, Tracker.skipZeroIndices, Tracker.mk', Tracker.finished, setupRecv, Tracker.indicesLeft,
      MessageBuffer.new, MessageBuffer.reset]

theorem fixInitDt_sendOpen (B : Nat) (l : FLinkSpec α) : (fixInitDt B l).sendOpen = (dataInit B l.pair).state.sendOpen := rfl

theorem seenRecv_sendOpen (x : Pair α (List (Call α))) (rf : Nat) : (seenRecv x rf).sendOpen = x.sendOpen :=
  (apply_ite Pair.sendOpen ..).trans (ite_self _)

theorem seenRecv_recvOpen (x : Pair α (List (Call α))) (rf : Nat) : (seenRecv x rf).recvOpen = x.recvOpen :=
  (apply_ite Pair.recvOpen ..).trans (ite_self _)

/-- a send request exists exactly for the non-empty send lists (the "skip empty interfaces" loop counts the lists) -/
theorem fixInitDt_sendOpen_iff (B : Nat) (l : FLinkSpec α) (hf : l.f ≠ 0) (hfit : Fits l.h B l.f l.sendIdx) :
    (fixInitDt B l).sendOpen = !l.sendIdx.isEmpty := by
  obtain ⟨_, _, h3⟩ := setupSend_sendT l.h B l.f 0 0 l.sendIdx (MessageBuffer.new B) rfl hfit
  have hs : (fixInitDt B l).sendOpen
      = (setupSend l.h (sendT 0 0 l.sendIdx l.f) (MessageBuffer.new B)).message.isSome := by
    simp [fixInitDt, startSend, FLinkSpec.pair, mk'_send]
  rw [hs, h3]
  cases hl : l.sendIdx with
  | nil => simp [round1, hf]
  | cons i is =>
    -- the first index has `f ≥ 1` items, so the first round is not empty
    have ht : 0 < total l.h l.sendIdx := by
      rcases hfit with ⟨h0, _⟩ | ⟨_, _, hsz⟩
      · exact absurd h0 hf
      · rw [hl, total_cons, hsz i (by rw [hl]; exact List.mem_cons_self)]; omega
    rw [← hl, if_pos (total_round_pos hfit ht), hl]
    rfl

@[simp] theorem scalar_ps : (Scalar.pending != Scalar.seen) = true := by decide
@[simp] theorem scalar_ss : (Scalar.seen != Scalar.seen) = false := by decide

structure FLinkInv (B n : Nat) (ph : List Nat) (l : FLinkSpec α) (x : FLinkSt α) : Prop where
  src_lt : l.src < n
  dst_lt : l.dst < n
  hlen : l.recvIdx.length = l.sendIdx.length
  fits : Fits l.h B l.f l.sendIdx
  fpos : l.f ≠ 0
  /-- until `dst` has seen the scalar the data machine rests in its half-started state -/
  pre : x.sc ≠ .seen → x.dt = fixInitDt B l
  /-- the delivered scalar is the sender's size -/
  rfok : x.sc = .matched → x.rf = l.f
  post : x.sc = .seen → GoodData B l.pair ⟨dataCfg l.pair, x.dt⟩
  /-- a rank returns only with every scalar seen and every data request closed, and after `MPI_Waitall` -/
  rret : ph.getD l.dst 3 = 1 → x.sc = .seen ∧ x.dt.recvOpen = false
  sret : ph.getD l.src 3 = 1 → x.sc ≠ .pending ∧ x.dt.sendOpen = false

def flinkMeasure (l : FLinkSpec α) (x : FLinkSt α) : Nat :=
  x.sc.weight + (if x.sc = .seen then x.dt.measure else 3 * (l.sendIdx.length + l.recvIdx.length) + 4)

/-- the moves of a link: MPI matches the scalar; a receiver in its loop sees it and posts the data receive; the data
    machine steps -/
inductive FLinkMove (ph : List Nat) (l : FLinkSpec α) (x : FLinkSt α) : FLinkSt α → Prop
  | scalar : x.sc = .pending → FLinkMove ph l x { x with sc := .matched, rf := l.f }
  | seen : x.sc = .matched → ph.getD l.dst 3 = 0 → FLinkMove ph l x { x with sc := .seen, dt := seenRecv x.dt x.rf }
  | data (a : Action) (s' : Pair α (List (Call α))) :
    Pair.step (dataCfg l.pair) x.dt a = some s' → FLinkMove ph l x { x with dt := s' }

/-- what the three counters count (scalar not seen, send open, receive open) is not reopened by any move -/
theorem FLinkMove.mono {ph : List Nat} {l : FLinkSpec α} {x x' : FLinkSt α} (hmv : FLinkMove ph l x x') :
    ((x.sc != .seen) = false → (x'.sc != .seen) = false) ∧ (x.dt.sendOpen = false → x'.dt.sendOpen = false) ∧
      (x.dt.recvOpen = false → x'.dt.recvOpen = false) := by
  cases hmv with
  | scalar hp => exact ⟨fun h => (by rw [hp] at h; cases h), id, id⟩
  | seen => exact ⟨fun _ => rfl, (seenRecv_sendOpen ..).trans, (seenRecv_recvOpen ..).trans⟩
  | data a s' hs => exact ⟨id, step_sendClosed hs, step_recvClosed hs⟩

theorem flinkInv_move {B n : Nat} {ph : List Nat} {l : FLinkSpec α} {x x' : FLinkSt α} (hI : FLinkInv B n ph l x)
    (hmv : FLinkMove ph l x x') : FLinkInv B n ph l x' ∧ flinkMeasure l x' < flinkMeasure l x := by
  cases hmv with
  | scalar hp =>
    refine ⟨{ hI with pre := fun _ => hI.pre (by rw [hp]; decide), rfok := fun _ => rfl, post := fun h => (by cases h),
                      rret := fun h => (by have := (hI.rret h).1; rw [hp] at this; cases this),
                      sret := fun h => absurd hp (hI.sret h).1 }, ?_⟩
    simp [flinkMeasure, hp, Scalar.weight]
  | seen hm hph =>
    have hnew : seenRecv x.dt x.rf = (dataInit B l.pair).state := by
      rw [hI.pre (by rw [hm]; decide), hI.rfok hm]; exact seenRecv_init B l hI.fpos
    have hmeas : (dataInit B l.pair).state.measure ≤ 3 * (l.sendIdx.length + l.recvIdx.length) + 4 :=
      dataInit_measure_le B l.pair hI.fits
    refine ⟨{ hI with pre := fun h => absurd rfl h, rfok := fun h => (by cases h),
                      post := fun _ => hnew ▸ dataInit_good B l.pair hI.hlen hI.fits,
                      rret := fun h => (by rw [hph] at h; cases h),
                      sret := fun h => ⟨by simp, (seenRecv_sendOpen ..).trans (hI.sret h).2⟩ }, ?_⟩
    simp [flinkMeasure, hm, hnew, Scalar.weight]
    omega
  | data a s' hs =>
    by_cases hseen : x.sc = .seen
    · obtain ⟨h1, h2⟩ := (goodData_closed B).step l.pair ⟨dataCfg l.pair, x.dt⟩ a s' (hI.post hseen) hs
      exact ⟨{ hI with pre := fun h => absurd hseen h, post := fun _ => h1,
                       rret := fun hp => ⟨(hI.rret hp).1, step_recvClosed hs (hI.rret hp).2⟩,
                       sret := fun hp => ⟨(hI.sret hp).1, step_sendClosed hs (hI.sret hp).2⟩ },
        by simp only [flinkMeasure, hseen, if_true]; exact Nat.add_lt_add_left h2 _⟩
    · -- before the scalar is seen the data machine cannot step
      rw [hI.pre hseen, fixInitDt, startSend_stuck _ _ _ _ rfl] at hs; cases hs

def fMeasure (specs : List (FLinkSpec α)) (g : FixSys α) : Nat := sumSel flinkMeasure specs g.links + phaseSum g.phase

structure FInv (B n : Nat) (specs : List (FLinkSpec α)) (g : FixSys α) : Prop where
  lenP : g.phase.length = n
  ph01 : ∀ p, p < n → g.phase.getD p 3 = 0 ∨ g.phase.getD p 3 = 1
  links : Rel2 (FLinkInv B n g.phase) specs g.links
  /-- the three counters of a rank in its loop: scalars not yet seen, send requests open, receive lists not yet done -/
  cnt : ∀ p, p < n → g.phase.getD p 3 = 0 →
    g.noSize.getD p 0 = countSel (fNotSeen p) specs g.links ∧
    g.toSend.getD p 0 = countSel (fSendOpen p) specs g.links ∧
    g.toRecv.getD p 0 = countSel (fRecvOpen p) specs g.links

theorem fixStep_scalar_eq {B : Nat} {specs : List (FLinkSpec α)} {g g' : FixSys α} {i : Nat}
    (hs : fixStep B specs g (.scalar i) = some g') :
    ∃ l x, specs[i]? = some l ∧ g.links[i]? = some x ∧ x.sc = .pending ∧
      g' = { g with links := g.links.set i { x with sc := .matched, rf := l.f } } := by
  simp only [fixStep] at hs
  split at hs
  · obtain ⟨h, rfl⟩ := guarded_some hs
    exact ⟨_, _, ‹_›, ‹_›, h, rfl⟩
  · cases hs

theorem fixStep_seen_eq {B : Nat} {specs : List (FLinkSpec α)} {g g' : FixSys α} {i : Nat}
    (hs : fixStep B specs g (.seen i) = some g') :
    ∃ l x, specs[i]? = some l ∧ g.links[i]? = some x ∧
      (g.phase.getD l.dst 3 = 0 ∧ g.noSize.getD l.dst 0 ≠ 0 ∧ x.sc = .matched) ∧
      g' = { g with links := g.links.set i { x with sc := .seen, dt := seenRecv x.dt x.rf },
                    noSize := decIf true l.dst g.noSize } := by
  simp only [fixStep] at hs
  split at hs
  · obtain ⟨h, rfl⟩ := guarded_some hs
    exact ⟨_, _, ‹_›, ‹_›, h, rfl⟩
  · cases hs

theorem fixStep_ret_eq {B : Nat} {specs : List (FLinkSpec α)} {g g' : FixSys α} {p : Nat}
    (hs : fixStep B specs g (.ret p) = some g') :
    (p < g.phase.length ∧ g.phase.getD p 3 = 0 ∧ g.noSize.getD p 0 + g.toSend.getD p 0 + g.toRecv.getD p 0 = 0 ∧
      countSel (fScalarPending p) specs g.links = 0) ∧
    g' = { g with phase := g.phase.set p 1 } := by
  simp only [fixStep] at hs
  exact guarded_some hs

/-- the data machine of link `i` inside the system: a send completion is processed by a rank in its loop with
    `no_to_send ≠ 0`, a receive completion by a rank in its loop -/
abbrev fixDataStep (g : FixSys α) (i : Nat) (l : FLinkSpec α) (x : FLinkSt α) : Action → Option (FixSys α) :=
  embedStep (dataCfg l.pair) x.dt True (g.phase.getD l.src 3 = 0 ∧ g.toSend.getD l.src 0 ≠ 0) (g.phase.getD l.dst 3 = 0)
    fun s' cs cr => { g with links := g.links.set i { x with dt := s' }, toSend := decIf cs l.src g.toSend,
                             toRecv := decIf cr l.dst g.toRecv }

theorem fixStep_data (B : Nat) {specs : List (FLinkSpec α)} {g : FixSys α} {i : Nat} {l : FLinkSpec α} {x : FLinkSt α}
    (a : Action) (hl : specs[i]? = some l) (hx : g.links[i]? = some x) :
    fixStep B specs g (.data i a) = fixDataStep g i l x a := by
  simp only [fixStep, hl, hx]
  cases a <;> rfl

theorem fixStep_data_eq {B : Nat} {specs : List (FLinkSpec α)} {g g' : FixSys α} {i : Nat} {a : Action}
    (hs : fixStep B specs g (.data i a) = some g') :
    ∃ l x, specs[i]? = some l ∧ g.links[i]? = some x ∧ fixDataStep g i l x a = some g' := by
  simp only [fixStep] at hs
  split at hs
  · exact ⟨_, _, ‹_›, ‹_›, by cases a <;> exact hs⟩
  · cases hs

/-- one link makes a move, and each counter of its two ranks drops iff what it counts closes on this link -/
theorem finv_move {B n : Nat} {specs : List (FLinkSpec α)} {g g' : FixSys α} (hI : FInv B n specs g) {i : Nat}
    {l : FLinkSpec α} {x x' : FLinkSt α} (hl : specs[i]? = some l) (hx : g.links[i]? = some x)
    (hmv : FLinkMove g.phase l x x')
    (hg : g' = { g with links := g.links.set i x',
                        noSize := decIf (x.sc != .seen && !(x'.sc != .seen)) l.dst g.noSize,
                        toSend := decIf (x.dt.sendOpen && !x'.dt.sendOpen) l.src g.toSend,
                        toRecv := decIf (x.dt.recvOpen && !x'.dt.recvOpen) l.dst g.toRecv }) :
    FInv B n specs g' ∧ fMeasure specs g' < fMeasure specs g := by
  subst hg
  have hL := hI.links.2 i l x hl hx
  obtain ⟨hL', hm⟩ := flinkInv_move hL hmv
  obtain ⟨m1, m2, m3⟩ := hmv.mono
  refine ⟨{ hI with links := hI.links.set i l _ hl hL', cnt := fun p hp hph => ?_ },
    Nat.add_lt_add_right (sumSel_set_lt flinkMeasure hl hx hm) _⟩
  obtain ⟨c1, c2, c3⟩ := hI.cnt p hp hph
  exact ⟨counter_step fNotSeen (·.dst) (fun (y : FLinkSt α) => y.sc != .seen) x' hl hx g.noSize m1 p c1,
    counter_step fSendOpen (·.src) (·.dt.sendOpen) x' hl hx g.toSend m2 p c2,
    counter_step fRecvOpen (·.dst) (·.dt.recvOpen) x' hl hx g.toRecv m3 p c3⟩

theorem fstep_inv {B n : Nat} {specs : List (FLinkSpec α)} {g g' : FixSys α} (hI : FInv B n specs g)
    (a : FAct) (hs : fixStep B specs g a = some g') : FInv B n specs g' ∧ fMeasure specs g' < fMeasure specs g := by
  cases a with
  | scalar i =>
    -- a move of link `i`.  `finv_move` states all three counters as `decIf (flag x && !flag x')`; for a counter that `fixStep`
    -- leaves alone the flag does not change, and `decIf false p cs` is `cs` by `rfl`
    obtain ⟨l, x, hl, hx, hpend, rfl⟩ := fixStep_scalar_eq hs
    exact finv_move hI hl hx (.scalar hpend) (by rw [hpend, Bool.and_not_self, Bool.and_not_self]; rfl)
  | seen i =>
    obtain ⟨l, x, hl, hx, ⟨hph, _, hmat⟩, rfl⟩ := fixStep_seen_eq hs
    exact finv_move hI hl hx (.seen hmat hph)
      (by rw [hmat, seenRecv_sendOpen, seenRecv_recvOpen, Bool.and_not_self, Bool.and_not_self]; rfl)
  | data i act =>
    obtain ⟨l, x, hl, hx, he⟩ := fixStep_data_eq hs
    obtain ⟨s', hst, rfl, -, -⟩ := embedStep_some he
    exact finv_move hI hl hx (.data _ s' hst) (by rw [Bool.and_not_self]; rfl)
  | ret p =>
    obtain ⟨⟨hpl, hph, hzero, hwait⟩, rfl⟩ := fixStep_ret_eq hs
    obtain ⟨c1, c2, c3⟩ := hI.cnt p (hI.lenP ▸ hpl) hph
    obtain ⟨h12, hz3⟩ := Nat.add_eq_zero_iff.1 hzero
    obtain ⟨hz1, hz2⟩ := Nat.add_eq_zero_iff.1 h12
    rw [c1] at hz1; rw [c2] at hz2; rw [c3] at hz3
    -- the guard says that the links of `p` are closed on its side
    refine ⟨{ hI with lenP := by simpa using hI.lenP, ph01 := fun q hq => ?_,
                      links := ⟨hI.links.1, fun i l x hl hx => ?_⟩,
                      cnt := fun q hq hqph => hI.cnt q hq (getD_set_phase_ne hpl hqph (by decide)).2 },
      Nat.add_lt_add_left (phaseSum_step hpl (by rw [hph]; decide) (by decide)) _⟩
    · rw [getD_set q 1 hpl]
      split
      · exact Or.inr rfl
      · exact hI.ph01 q hq
    have hL := hI.links.2 i l x hl hx
    exact { hL with
      rret := fun h => (getD_set_phase_eq hpl h).elim (fun e =>
        ⟨bne_eq_false_iff_eq.1 (counter_zero fNotSeen (·.dst) (fun (y : FLinkSt α) => y.sc != .seen) hz1 hl hx e),
          counter_zero fRecvOpen (·.dst) (·.dt.recvOpen) hz3 hl hx e⟩) hL.rret
      sret := fun h => (getD_set_phase_eq hpl h).elim (fun e =>
        ⟨beq_eq_false_iff_ne.1 (counter_zero fScalarPending (·.src) (fun (y : FLinkSt α) => y.sc == .pending) hwait hl hx e),
          counter_zero fSendOpen (·.src) (·.dt.sendOpen) hz2 hl hx e⟩) hL.sret }

/-- what the theorems assume about the links of a fixed-size communication: ranks in range, matching list lengths, one
    size `1 ≤ f ≤ B` for all indices of the send list -/
def ValidFLinks (B n : Nat) (specs : List (FLinkSpec α)) : Prop :=
  ∀ l ∈ specs, l.src < n ∧ l.dst < n ∧ l.recvIdx.length = l.sendIdx.length ∧ l.f ≠ 0 ∧ l.f ≤ B ∧
    ∀ i ∈ l.sendIdx, l.h.size i = l.f

/-- a count over the descriptions alone equals the count over (description, state) when the states are a function of
    the descriptions -/
theorem countSel_map_of_mem {γ δ : Type} (sel : γ → δ → Bool) (sel' : γ → Unit → Bool) (g : γ → δ) (ls : List γ)
    (h : ∀ l ∈ ls, sel l (g l) = sel' l ()) : countSel sel' ls (ls.map fun _ => ()) = countSel sel ls (ls.map g) := by
  induction ls with
  | nil => rfl
  | cons l ls ih =>
    rw [List.map_cons, List.map_cons, countSel, countSel, h l List.mem_cons_self, ih fun q hq => h q (List.mem_cons_of_mem l hq)]

theorem countSel_map_unit {γ δ : Type} (sel : γ → δ → Bool) (sel' : γ → Unit → Bool) (g : γ → δ)
    (h : ∀ l, sel l (g l) = sel' l ()) : ∀ (ls : List γ),
    countSel sel' ls (ls.map fun _ => ()) = countSel sel ls (ls.map g) :=
  fun ls => countSel_map_of_mem sel sel' g ls fun l _ => h l

theorem fixInit_inv (B n : Nat) (specs : List (FLinkSpec α)) (hv : ValidFLinks B n specs) :
    FInv B n specs (fixInit B n specs) := by
  refine { lenP := by simp [fixInit], ph01 := fun p hp => Or.inl (getD_replicate_zero n p hp), links := ?_, cnt := ?_ }
  · simp only [fixInit]
    refine Rel2.of_map _ specs (fun l hl => ?_)
    obtain ⟨h1, h2, h3, h4, h5, h6⟩ := hv l hl
    exact { src_lt := h1, dst_lt := h2, hlen := h3, fits := Or.inr ⟨h4, h5, h6⟩, fpos := h4,
            pre := fun _ => rfl, rfok := fun h => (by cases h), post := fun h => (by cases h),
            rret := fun h => (by rw [getD_replicate_zero n l.dst h2] at h; cases h),
            sret := fun h => (by rw [getD_replicate_zero n l.src h1] at h; cases h) }
  · intro p hp _
    simp only [fixInit]
    rw [getD_map_range _ _ hp, getD_map_range _ _ hp, getD_map_range _ _ hp]
    -- over the initial links the three counts are the numbers of neighbours / non-empty send lists / non-empty receive lists
    refine ⟨countSel_map_of_mem (fNotSeen p) _ _ specs fun l _ => by simp only [fNotSeen, scalar_ps, Bool.and_true],
      countSel_map_of_mem (fSendOpen p) _ _ specs fun l hl => ?_,
      countSel_map_of_mem (fRecvOpen p) _ _ specs fun l _ => rfl⟩
    -- a non-empty send list does produce a message: this needs `f ≤ B`
    obtain ⟨_, _, _, h4, h5, h6⟩ := hv l hl
    simp only [fSendOpen, fixInitDt_sendOpen_iff B l h4 (Or.inr ⟨h4, h5, h6⟩)]

theorem fixInit_measure (B n : Nat) (specs : List (FLinkSpec α)) :
    fMeasure specs (fixInit B n specs) ≤ (specs.map fun l => 3 * (l.sendIdx.length + l.recvIdx.length) + 6).sum + 2 * n := by
  have h1 := sumSel_map_le flinkMeasure
    (fun l => ({ sc := .pending, rf := l.own, dt := fixInitDt B l } : FLinkSt α))
    (fun l => 3 * (l.sendIdx.length + l.recvIdx.length) + 6) specs (fun l _ => by
      simp [flinkMeasure, Scalar.weight]
      omega)
  simp only [fMeasure, fixInit, phaseSum_replicate]
  omega

theorem fexec_inv {B n : Nat} {specs : List (FLinkSpec α)} : ∀ (sched : List FAct) (g g' : FixSys α),
    FInv B n specs g → fixExec B specs g sched = some g' →
    FInv B n specs g' ∧ sched.length + fMeasure specs g' ≤ fMeasure specs g :=
  exec_measure (fixStep B specs) (fixExec B specs) (fun _ => rfl) (fun _ _ _ => rfl) _ _
    (fun _ _ a hI hs => fstep_inv hI a hs)

theorem fstuck_final {B n : Nat} {specs : List (FLinkSpec α)} {g : FixSys α} (hI : FInv B n specs g)
    (hstuck : ∀ a, fixStep B specs g a = none) :
    (∀ p, p < n → g.phase.getD p 3 = 1) ∧
    (∀ (i : Nat) l x, specs[i]? = some l → g.links[i]? = some x →
      x.sc = .seen ∧ x.dt.final = true ∧ x.dt.acc = callsOf l.h l.sendIdx l.recvIdx) := by
  -- a link that is not at its end enables an action: its rank is still in the loop (`rret`/`sret`) and counts it (`cnt`)
  have hlk : ∀ (i : Nat) l x, specs[i]? = some l → g.links[i]? = some x →
      x.sc = .seen ∧ x.dt.final = true ∧ x.dt.acc = callsOf l.h l.sendIdx l.recvIdx := by
    intro i l x hl hx
    have hL := hI.links.2 i l x hl hx
    have hseen : x.sc = .seen := by
      cases hsc : x.sc with
      | seen => rfl
      | pending =>
        have := hstuck (.scalar i)
        simp [fixStep, hl, hx, hsc] at this
      | matched =>
        have hph : g.phase.getD l.dst 3 = 0 := (hI.ph01 l.dst hL.dst_lt).resolve_right fun h => by
          have := (hL.rret h).1; rw [hsc] at this; cases this
        have := hstuck (.seen i)
        simp only [fixStep, hl, hx] at this
        rw [if_pos ⟨hph, counter_pos fNotSeen (·.dst) (·.sc != .seen) hl hx (by rw [hsc]; rfl) (hI.cnt l.dst hL.dst_lt hph).1, hsc⟩] at this
        cases this
    have hG := hL.post hseen
    have hfin : x.dt.final = true := by
      refine (goodData_closed B).stuck l.pair ⟨dataCfg l.pair, x.dt⟩ hG
        (embedStep_stuck hG.2.2.2 (fun act => (fixStep_data B act hl hx).symm.trans (hstuck (.data i act))) trivial
          (fun hopen => ?_) fun hopen => ?_)
      · have hph : g.phase.getD l.src 3 = 0 := (hI.ph01 l.src hL.src_lt).resolve_right fun h => by
          rw [(hL.sret h).2] at hopen; cases hopen
        exact ⟨hph, counter_pos fSendOpen (·.src) (·.dt.sendOpen) hl hx hopen (hI.cnt l.src hL.src_lt hph).2.1⟩
      · exact (hI.ph01 l.dst hL.dst_lt).resolve_right fun h => by rw [(hL.rret h).2] at hopen; cases hopen
    exact ⟨hseen, hfin, goodData_recvClosed B l.pair _ hG (Pair.final_closed hfin).2.1⟩
  -- hence the counters of a rank in its loop are zero: it leaves the loop and passes `MPI_Waitall`
  refine ⟨fun p hp => (hI.ph01 p hp).resolve_left fun h => ?_, hlk⟩
  obtain ⟨c1, c2, c3⟩ := hI.cnt p hp h
  have z1 : countSel (fNotSeen p) specs g.links = 0 :=
    countSel_closed fNotSeen (·.dst) (·.sc != .seen) p fun i l x hl hx => by rw [(hlk i l x hl hx).1]; rfl
  have z2 : countSel (fSendOpen p) specs g.links = 0 :=
    countSel_closed fSendOpen (·.src) (·.dt.sendOpen) p fun i l x hl hx => (Pair.final_closed (hlk i l x hl hx).2.1).1
  have z3 : countSel (fRecvOpen p) specs g.links = 0 :=
    countSel_closed fRecvOpen (·.dst) (·.dt.recvOpen) p fun i l x hl hx => (Pair.final_closed (hlk i l x hl hx).2.1).2.1
  have z4 : countSel (fScalarPending p) specs g.links = 0 :=
    countSel_closed fScalarPending (·.src) (·.sc == .pending) p fun i l x hl hx => by rw [(hlk i l x hl hx).1]; rfl
  have := hstuck (.ret p)
  simp only [fixStep] at this
  rw [if_pos ⟨by rw [hI.lenP]; exact hp, h, by rw [c1, c2, c3, z1, z2, z3], z4⟩] at this
  cases this

end DV.C06
