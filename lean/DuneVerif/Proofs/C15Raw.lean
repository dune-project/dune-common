/-
C15 — the allocators that hand every request to the C library or the OS ("raw" in the harness).
MallocAllocator/AlignedAllocator: the request validation.  DebugMemory::AllocationManager, default configuration: the
page arithmetic of the generated formulas; the invariant `DInvG` of the allocation list, under which `deallocate` finds
its entry and which every valid history keeps, with the balance of OS calls.  Core Lean only.
-/
import DuneVerif.Model.C15

namespace DV.C15
open DV.C15.Gen

theorem wrap_of_le {x : Nat} (h : x ≤ sizeMax) : wrap x = x :=
  Nat.mod_eq_of_lt (Nat.lt_succ_of_le h)

theorem maxSize_lt_of_overflow {sz n : Nat} (h : sizeMax < n * sz) : mallocMaxSize sz < n :=
  Nat.div_lt_of_lt_mul (Nat.mul_comm n sz ▸ h)

/-- the request validation `MallocAllocator` and `AlignedAllocator` share — the bound on `n`, then the call that may
    fail —, read backwards from a served request: the product did not wrap and the C library said yes -/
theorem served_exact {sz n a0 a bytes : Nat} (hsz : 0 < sz) {os : Nat → Bool}
    (h : (if n > mallocMaxSize sz then Except.error Err.alloc
          else if os (wrap (n * sz)) = true then .ok (a0, wrap (n * sz)) else .error .alloc) = .ok (a, bytes)) :
    a = a0 ∧ bytes = n * sz ∧ os bytes = true ∧ n * sz ≤ sizeMax := by
  split at h
  · exact nomatch h
  · have hle : n * sz ≤ sizeMax := (Nat.le_div_iff_mul_le hsz).1 (Nat.le_of_not_gt ‹_›)
    split at h
    · obtain ⟨rfl, rfl⟩ := Prod.mk.inj (Except.ok.inj h)
      exact ⟨rfl, wrap_of_le hle, ‹_›, hle⟩
    · exact nomatch h

theorem mallocBytesFor_eq (sz al n : Nat) : mallocBytesFor sz al n = wrap (n * sz) := by
  unfold mallocBytesFor mallocOverBytes mallocBytes; split <;> rfl

theorem mallocAllocate_eq (sz al n : Nat) (os : Nat → Bool) :
    mallocAllocate sz al n os =
      if n > mallocMaxSize sz then .error .alloc
      else if os (wrap (n * sz)) = true then .ok (mallocAlignment al, wrap (n * sz)) else .error .alloc := by
  unfold mallocAllocate; rw [mallocBytesFor_eq]; rfl

theorem alignedAllocate_eq (sz al A n : Nat) (os : Nat → Bool) :
    alignedAllocate sz al A n os =
      if n > mallocMaxSize sz then .error .alloc
      else if os (wrap (n * sz)) = true then .ok (alignedAlignment al A, wrap (n * sz)) else .error .alloc := rfl

theorem dbg_ptr_off {cap page : Nat} :
    dbgPtrOff cap page = (if cap % page ≠ 0 then page - cap % page else 0) := by
  unfold dbgPtrOff dbgOverlap; rfl

theorem dbgPtrOff_lt (cap : Nat) {page : Nat} (hp : 0 < page) : dbgPtrOff cap page < page := by
  rw [dbg_ptr_off]; split
  · exact Nat.sub_lt hp (Nat.pos_of_ne_zero ‹_›)
  · exact hp

theorem dvd_dbgPtrOff {al cap page : Nat} (h1 : al ∣ cap) (h2 : al ∣ page) : al ∣ dbgPtrOff cap page := by
  rw [dbg_ptr_off]; split
  · exact Nat.dvd_sub h2 ((Nat.dvd_mod_iff h2).2 h1)
  · exact Nat.dvd_zero al

theorem dbgPages_pos (cap page : Nat) : 1 ≤ dbgPages cap page := by
  unfold dbgPages; split <;> exact Nat.succ_le_succ (Nat.zero_le _)

/-- the guard page is the last page of the mapping -/
theorem dbgGuardOff_add_page (cap page : Nat) : dbgGuardOff cap page + page = dbgPages cap page * page := by
  unfold dbgGuardOff
  rw [← Nat.add_one_mul, Nat.sub_add_cancel (dbgPages_pos cap page)]

/-- the block ends exactly where the guard page begins -/
theorem dbgGuardOff_eq (cap : Nat) {page : Nat} (hp : 0 < page) :
    dbgGuardOff cap page = dbgPtrOff cap page + cap := by
  have hdm := Nat.div_add_mod' cap page
  have hlt := Nat.mod_lt cap hp
  unfold dbgGuardOff dbgPages
  rw [dbg_ptr_off]
  unfold dbgOverlap
  -- cap = d * page + r with r < page
  generalize cap / page = d at hdm ⊢
  generalize cap % page = r at hdm hlt ⊢
  subst hdm
  split
  · show (d + 1) * page = page - r + (d * page + r)
    rw [Nat.add_one_mul, Nat.add_left_comm, Nat.sub_add_cancel (Nat.le_of_lt hlt)]
  · have : r = 0 := Decidable.not_not.1 ‹_›
    rw [Nat.add_sub_cancel, Nat.zero_add, this, Nat.add_zero]

theorem dbgPages_mul_le (cap : Nat) {page : Nat} (hp : 0 < page) : dbgPages cap page * page ≤ cap + 2 * page := by
  rw [← dbgGuardOff_add_page, dbgGuardOff_eq cap hp, Nat.add_comm _ cap, Nat.add_assoc, Nat.two_mul]
  exact Nat.add_le_add_left (Nat.add_le_add_right (Nat.le_of_lt (dbgPtrOff_lt cap hp)) _) _

theorem dbgAllocate_eq (sz page n : Nat) (mmap : Nat → Option Nat) (l : List AInfo) :
    dbgAllocate sz page n mmap l =
      if n > dbgMaxCount sz page then .error .alloc else
      match mmap (dbgMapLen (dbgCapacity sz n) page) with
      | none => .error .alloc
      | some pp =>
        let ai : AInfo := ⟨pp, pp + dbgPtrOff (dbgCapacity sz n) page, dbgPages (dbgCapacity sz n) page, dbgCapacity sz n, n⟩
        .ok (ai, l ++ [ai]) := rfl

theorem dbgMapLen_eq {cap page : Nat} (h : dbgPages cap page * page ≤ sizeMax) :
    dbgMapLen cap page = dbgPages cap page * page :=
  wrap_of_le h

/-- an accepted request, taken apart: the count passed the bound, so neither the byte size nor the mapping length
    wraps; `mmap` answered `pp`; the entry is the record built from `pp` and the byte size, appended to the list -/
theorem dbgAllocate_ok {sz page n : Nat} (hsz : 0 < sz) (hp : 0 < page) (hp2 : 2 * page ≤ sizeMax)
    {mmap : Nat → Option Nat} {l l' : List AInfo} {ai : AInfo} (h : dbgAllocate sz page n mmap l = .ok (ai, l')) :
    dbgPages (n * sz) page * page ≤ sizeMax ∧ ∃ pp, mmap (dbgMapLen (n * sz) page) = some pp ∧
      ai = ⟨pp, pp + dbgPtrOff (n * sz) page, dbgPages (n * sz) page, n * sz, n⟩ ∧ l' = l ++ [ai] := by
  rw [dbgAllocate_eq] at h
  split at h
  · exact nomatch h
  · have hle : n * sz ≤ sizeMax - 2 * page := (Nat.le_div_iff_mul_le hsz).1 (Nat.le_of_not_gt ‹_›)
    rw [show dbgCapacity sz n = n * sz from wrap_of_le (Nat.le_trans hle (Nat.sub_le _ _))] at h
    split at h
    · exact nomatch h
    · obtain ⟨rfl, rfl⟩ := Prod.mk.inj (Except.ok.inj h)
      exact ⟨Nat.le_trans (dbgPages_mul_le _ hp) (Nat.add_le_of_le_sub hp2 hle), _, ‹_›, rfl, rfl⟩

/-- what is recorded about one block: its lookup key is its own page_ptr; the block lies in its mapping and ends where
    the guard page — the last page of the mapping — begins; the mapping length does not wrap -/
structure EntryOK (page : Nat) (it : AInfo) : Prop where
  key : dbgLookupKey it.ptr page = it.pagePtr
  ptr_ge : it.pagePtr ≤ it.ptr
  ends : it.ptr + it.cap + page = it.pagePtr + it.pages * page
  pages_pos : 1 ≤ it.pages
  no_wrap : it.pages * page ≤ sizeMax

theorem EntryOK.ends_at_guard {page : Nat} {it : AInfo} (h : EntryOK page it) :
    it.ptr + it.cap = it.pagePtr + (it.pages - 1) * page :=
  Nat.add_right_cancel (m := page) <| by
    rw [Nat.add_assoc it.pagePtr, ← Nat.add_one_mul, Nat.sub_add_cancel h.pages_pos]; exact h.ends

theorem EntryOK.block_le {page : Nat} {it : AInfo} (h : EntryOK page it) {x : Nat}
    (hx : it.pagePtr + it.pages * page ≤ x) : it.ptr + it.cap ≤ x :=
  Nat.le_trans (Nat.le_add_right _ page) (Nat.le_trans (Nat.le_of_eq h.ends) hx)

theorem dbgUnmapLen_eq {page : Nat} {it : AInfo} (h : EntryOK page it) : dbgUnmapLen it.pages page = it.pages * page := by
  unfold dbgUnmapLen; exact wrap_of_le h.no_wrap

theorem dbgDtorUnmapLen_eq {page : Nat} {it : AInfo} (h : EntryOK page it) :
    dbgDtorUnmapLen it.pages page = it.pages * page := by
  unfold dbgDtorUnmapLen; exact wrap_of_le h.no_wrap

theorem lookupKey_block {page pp off : Nat} (hd : page ∣ pp) (ho : off < page) : dbgLookupKey (pp + off) page = pp := by
  obtain ⟨k, rfl⟩ := hd
  unfold dbgLookupKey
  rw [Nat.mul_add_mod, Nat.mod_eq_of_lt ho, Nat.add_sub_cancel]

/-- the record `allocate` builds for a page-aligned mapping whose length does not wrap -/
theorem entryOK_mk {page pp : Nat} (cap n : Nat) (hp : 0 < page) (hd : page ∣ pp)
    (hnw : dbgPages cap page * page ≤ sizeMax) :
    EntryOK page ⟨pp, pp + dbgPtrOff cap page, dbgPages cap page, cap, n⟩ :=
  ⟨lookupKey_block hd (dbgPtrOff_lt cap hp), Nat.le_add_right _ _,
    by rw [Nat.add_assoc, Nat.add_assoc, ← Nat.add_assoc _ cap, ← dbgGuardOff_eq cap hp, dbgGuardOff_add_page],
    dbgPages_pos _ _, hnw⟩

/-- what the two state machines need of an accepted request -/
theorem dbgAllocate_entry {sz page n : Nat} (hsz : 0 < sz) (hp : 0 < page) (hp2 : 2 * page ≤ sizeMax)
    {mmap : Nat → Option Nat} {l l' : List AInfo} {ai : AInfo} (h : dbgAllocate sz page n mmap l = .ok (ai, l')) :
    l' = l ++ [ai] ∧ dbgMapLen ai.cap page = ai.pages * page ∧ (page ∣ ai.pagePtr → EntryOK page ai) := by
  obtain ⟨hnw, pp, _, rfl, hl⟩ := dbgAllocate_ok hsz hp hp2 h
  exact ⟨hl, dbgMapLen_eq hnw, fun hd => entryOK_mk _ n hp hd hnw⟩

/-- invariant of the allocation list relative to the relation `R` assumed between an older and a newer mapping -/
structure DInvG (page : Nat) (R : AInfo → AInfo → Prop) (l : List AInfo) : Prop where
  entry : ∀ it ∈ l, EntryOK page it
  rel : l.Pairwise R

/-- the least that is assumed of `mmap` (as in `DValid`): recorded mappings start at different addresses, which is what
    the lookup by page address needs -/
abbrev DInv (page : Nat) := DInvG page (fun it ai => it.pagePtr ≠ ai.pagePtr)

theorem dinv_nil (page : Nat) (R : AInfo → AInfo → Prop) : DInvG page R [] := ⟨fun _ h => (nomatch h), List.Pairwise.nil⟩

theorem dinv_erase {page : Nat} {R : AInfo → AInfo → Prop} {l : List AInfo} (hi : DInvG page R l) (it : AInfo) :
    DInvG page R (l.erase it) :=
  ⟨fun x hx => hi.entry x (List.mem_of_mem_erase hx), hi.rel.sublist (List.erase_sublist)⟩

theorem dinv_append {page : Nat} {R : AInfo → AInfo → Prop} {l : List AInfo} (hi : DInvG page R l) {ai : AInfo}
    (hk : EntryOK page ai) (hfresh : ∀ it ∈ l, R it ai) : DInvG page R (l ++ [ai]) :=
  ⟨fun x hx => (List.mem_append.1 hx).elim (hi.entry x) fun h => List.mem_singleton.1 h ▸ hk,
    List.pairwise_append.2 ⟨hi.rel, List.pairwise_singleton _ _, fun a ha _ hb => List.mem_singleton.1 hb ▸ hfresh a ha⟩⟩

/-- the relations used: each makes the start addresses of two recorded mappings different -/
def Separates (R : AInfo → AInfo → Prop) : Prop :=
  ∀ a b, 1 ≤ a.pages → 1 ≤ b.pages → R a b → a.pagePtr ≠ b.pagePtr

theorem separates_ne : Separates (fun it ai => it.pagePtr ≠ ai.pagePtr) := fun _ _ _ _ h => h

theorem separates_apart {page : Nat} (hp : 0 < page) : Separates (apart page) := by
  -- a mapping of at least one page does not end before its own start
  have pos : ∀ {x pages : Nat}, 1 ≤ pages → ¬ x + pages * page ≤ x := fun h h' =>
    Nat.not_succ_le_self _ (Nat.le_trans (Nat.add_le_add_left (Nat.mul_pos h hp) _) h')
  intro a b ha hb h heq
  rw [apart, heq] at h
  exact h.elim (pos ha) (pos hb)

theorem dinv_of_separates {page : Nat} {R : AInfo → AInfo → Prop} (hR : Separates R) {l : List AInfo}
    (hi : DInvG page R l) : DInv page l :=
  ⟨hi.entry, hi.rel.imp_of_mem fun ha hb h => hR _ _ (hi.entry _ ha).pages_pos (hi.entry _ hb).pages_pos h⟩

theorem dbgSizeOk_iff (n size : Nat) : dbgSizeOk n size = true ↔ (n = 0 ∨ n = size) := by
  unfold dbgSizeOk
  rw [decide_eq_true_eq, Decidable.not_not]

theorem dbgDeallocate_finds {page : Nat} {l : List AInfo} (hi : DInv page l) (it : AInfo) (hit : it ∈ l) (n : Nat)
    (hn : n = 0 ∨ n = it.size) : dbgDeallocate page l it.ptr n = some (it, l.erase it) := by
  have hkey := (hi.entry it hit).key
  have hd := hi.rel
  clear hi
  induction l with
  | nil => exact nomatch hit
  | cons x rest ih =>
    rw [List.pairwise_cons] at hd
    unfold dbgDeallocate
    by_cases heq : x = it
    · subst heq
      rw [if_pos hkey.symm, if_pos ⟨(dbgSizeOk_iff n x.size).2 hn, rfl⟩, List.erase_cons_head]
    · have hin : it ∈ rest := (List.mem_cons.1 hit).resolve_left (Ne.symm heq)
      rw [if_neg (by rw [hkey]; exact hd.1 it hin), ih hin hd.2, List.erase_cons_tail fun h => heq (eq_of_beq h)]
      rfl

theorem maps_append (a b : List OsEv) : maps (a ++ b) = maps a ++ maps b := by
  induction a with
  | nil => rfl
  | cons e es ih => cases e <;> simp [maps, ih]

theorem unmaps_append (a b : List OsEv) : unmaps (a ++ b) = unmaps a ++ unmaps b := by
  induction a with
  | nil => rfl
  | cons e es ih => cases e <;> simp [unmaps, ih]

theorem dbgStep_alloc_ok {sz page n : Nat} {mm : Option Nat} {l l' : List AInfo} {ai : AInfo}
    (h : dbgAllocate sz page n (fun _ => mm) l = .ok (ai, l')) :
    dbgStep sz page l (.alloc n mm) = some (l', [.map ai.pagePtr (dbgMapLen ai.cap page)]) := by
  simp only [dbgStep, h]

theorem dbgStep_alloc_error {sz page n : Nat} {mm : Option Nat} {l : List AInfo} {e : Err}
    (h : dbgAllocate sz page n (fun _ => mm) l = .error e) : dbgStep sz page l (.alloc n mm) = some (l, []) := by
  simp only [dbgStep, h]

theorem dbgStep_free {sz page ptr n : Nat} {l l' : List AInfo} {it : AInfo}
    (h : dbgDeallocate page l ptr n = some (it, l')) :
    dbgStep sz page l (.free ptr n) = some (l', [.unmap it.pagePtr (dbgUnmapLen it.pages page)]) := by
  simp only [dbgStep, h]

/-- one step of a valid history: the manager does not abort, the invariant is kept, the history stays valid, and the
    OS calls of the step keep the balance `recorded mappings + maps = unmaps + recorded mappings afterwards` -/
theorem dinv_step {sz page : Nat} {R : AInfo → AInfo → Prop} (hR : Separates R)
    (hsz : 0 < sz) (hp : 0 < page) (hp2 : 2 * page ≤ sizeMax) {l : List AInfo}
    (hi : DInvG page R l) (o : DOp) (os : List DOp) (hv : DValidG sz page R l (o :: os)) :
    ∃ st, dbgStep sz page l o = some st ∧ DInvG page R st.1 ∧ DValidG sz page R st.1 os ∧
      (l.map (AInfo.rng page) ++ maps st.2).Perm (unmaps st.2 ++ st.1.map (AInfo.rng page)) := by
  cases o with
  | alloc n mm =>
    obtain ⟨hfresh, hnext⟩ := hv
    cases hres : dbgAllocate sz page n (fun _ => mm) l with
    | error e =>
      have hs := dbgStep_alloc_error hres
      exact ⟨(l, []), hs, hi, hnext _ hs, by simp [maps, unmaps]⟩
    | ok r =>
      obtain ⟨ai, l'⟩ := r
      have hs := dbgStep_alloc_ok hres
      obtain ⟨rfl, hml, hok⟩ := dbgAllocate_entry hsz hp hp2 hres
      have hfr := hfresh ai _ hres
      refine ⟨_, hs, dinv_append hi (hok hfr.1) hfr.2, hnext _ hs, ?_⟩
      show (l.map (AInfo.rng page) ++ [(ai.pagePtr, dbgMapLen ai.cap page)]).Perm ((l ++ [ai]).map (AInfo.rng page))
      rw [List.map_append, hml]
      exact .refl _
  | free ptr n =>
    obtain ⟨⟨it, hit, rfl, hn⟩, hnext⟩ := hv
    have hs := dbgStep_free (sz := sz) (dbgDeallocate_finds (dinv_of_separates hR hi) it hit n hn)
    refine ⟨_, hs, dinv_erase hi it, hnext _ hs, ?_⟩
    show (l.map (AInfo.rng page) ++ []).Perm ((it.pagePtr, dbgUnmapLen it.pages page) :: (l.erase it).map (AInfo.rng page))
    rw [List.append_nil, dbgUnmapLen_eq (hi.entry it hit)]
    exact (List.perm_cons_erase hit).map (AInfo.rng page)

theorem dbgRun_ok {sz page : Nat} {R : AInfo → AInfo → Prop} (hR : Separates R)
    (hsz : 0 < sz) (hp : 0 < page) (hp2 : 2 * page ≤ sizeMax) (ops : List DOp) (l : List AInfo)
    (hi : DInvG page R l) (hv : DValidG sz page R l ops) :
    ∃ st, dbgRun sz page l ops = some st ∧ DInvG page R st.1 ∧
      (l.map (AInfo.rng page) ++ maps st.2).Perm (unmaps st.2 ++ st.1.map (AInfo.rng page)) := by
  induction ops generalizing l with
  | nil => exact ⟨(l, []), rfl, hi, by simp [maps, unmaps]⟩
  | cons o os ih =>
    obtain ⟨st1, hs, hi1, hv1, hp1⟩ := dinv_step hR hsz hp hp2 hi o os hv
    obtain ⟨st2, hr, hi2, hp2'⟩ := ih st1.1 hi1 hv1
    refine ⟨(st2.1, st1.2 ++ st2.2), by simp only [dbgRun, hs, hr], hi2, ?_⟩
    -- l ++ (m1 ++ m2) ~ (u1 ++ l1) ++ m2 = u1 ++ (l1 ++ m2) ~ u1 ++ (u2 ++ l2)
    rw [maps_append, unmaps_append, ← List.append_assoc, List.append_assoc (unmaps st1.2)]
    exact (hp1.append_right _).trans (by rw [List.append_assoc]; exact hp2'.append_left _)

theorem unmaps_dbgDestroy {page : Nat} {l : List AInfo} (h : ∀ it ∈ l, EntryOK page it) :
    unmaps (dbgDestroy page l).1 = l.map (AInfo.rng page) := by
  induction l with
  | nil => rfl
  | cons x xs ih =>
    show (x.pagePtr, dbgDtorUnmapLen x.pages page) :: unmaps (dbgDestroy page xs).1 = _
    rw [dbgDtorUnmapLen_eq (h x List.mem_cons_self), ih fun it hit => h it (List.mem_cons_of_mem _ hit)]
    rfl

/-- two recorded blocks whose mappings are apart do not overlap, and neither block reaches into the other's guard page -/
theorem pairwise_blocks_apart {page : Nat} {l : List AInfo} (hi : DInvG page (apart page) l) :
    l.Pairwise (fun a b =>
      (a.ptr + a.cap ≤ b.ptr ∨ b.ptr + b.cap ≤ a.ptr) ∧
      (a.ptr + a.cap ≤ b.pagePtr + (b.pages - 1) * page ∨ b.pagePtr + b.pages * page ≤ a.ptr) ∧
      (b.ptr + b.cap ≤ a.pagePtr + (a.pages - 1) * page ∨ a.pagePtr + a.pages * page ≤ b.ptr)) := by
  refine hi.rel.imp_of_mem fun {a b} ha hb hab => ?_
  have ha := hi.entry a ha
  have hb := hi.entry b hb
  -- whichever mapping comes first: its block ends below its guard page, hence below the other mapping
  rcases hab with h | h
  · have k := ha.block_le h
    exact ⟨.inl (Nat.le_trans k hb.ptr_ge), .inl (Nat.le_trans k (Nat.le_add_right _ _)), .inr (Nat.le_trans h hb.ptr_ge)⟩
  · have k := hb.block_le h
    exact ⟨.inr (Nat.le_trans k ha.ptr_ge), .inr (Nat.le_trans h ha.ptr_ge), .inl (Nat.le_trans k (Nat.le_add_right _ _))⟩

/-! `DValidG` of a concrete history, one operation at a time, for the examples of `Props/C15.lean` (`DValidG` quantifies
over the results of a step, so `decide` does not apply) -/

theorem dvalid_alloc_ok {sz page : Nat} {R : AInfo → AInfo → Prop} {l l' : List AInfo} {n : Nat} {mm : Option Nat}
    {ai : AInfo} {os : List DOp} (hres : dbgAllocate sz page n (fun _ => mm) l = .ok (ai, l'))
    (h1 : page ∣ ai.pagePtr) (h2 : ∀ it ∈ l, R it ai) (hnext : DValidG sz page R l' os) :
    DValidG sz page R l (.alloc n mm :: os) := by
  refine ⟨fun ai' l'' h => ?_, fun st hs => ?_⟩
  · obtain ⟨rfl, _⟩ := Prod.mk.inj (Except.ok.inj (hres.symm.trans h))
    exact ⟨h1, h2⟩
  · obtain rfl := Option.some.inj ((dbgStep_alloc_ok hres).symm.trans hs)
    exact hnext

theorem dvalid_alloc_refused {sz page : Nat} {R : AInfo → AInfo → Prop} {l : List AInfo} {n : Nat} {mm : Option Nat}
    {e : Err} {os : List DOp} (hres : dbgAllocate sz page n (fun _ => mm) l = .error e)
    (hnext : DValidG sz page R l os) : DValidG sz page R l (.alloc n mm :: os) := by
  refine ⟨fun ai' l'' h => ?_, fun st hs => ?_⟩
  · exact nomatch hres.symm.trans h
  · obtain rfl := Option.some.inj ((dbgStep_alloc_error hres).symm.trans hs)
    exact hnext

theorem dvalid_free {sz page : Nat} {R : AInfo → AInfo → Prop} {l l' : List AInfo} {ptr n : Nat} {it : AInfo}
    {os : List DOp} (hfind : dbgDeallocate page l ptr n = some (it, l')) (hit : it ∈ l) (hptr : it.ptr = ptr)
    (hn : n = 0 ∨ n = it.size) (hnext : DValidG sz page R l' os) : DValidG sz page R l (.free ptr n :: os) := by
  refine ⟨⟨it, hit, hptr, hn⟩, fun st hs => ?_⟩
  obtain rfl := Option.some.inj ((dbgStep_free hfind).symm.trans hs)
  exact hnext

end DV.C15
