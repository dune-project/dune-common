import DuneVerif.Proofs.C06Pair
/-! C06: the small-step machine of one directed neighbour relation: invariant (five phases of the rendezvous cycle),
    measure, enabledness; then the composed system of all neighbour relations of one phase. -/
namespace DV.C06

/-- the executor is given by its two equations (every caller passes `fun _ => rfl`, `fun _ _ _ => rfl`), so that this and
    `exec_measure` serve `Pair.exec`, `sysExec`, `varExec` and `fixExec` alike -/
theorem exec_preserved {σ A : Type} (step : σ → A → Option σ) (exec : σ → List A → Option σ)
    (h0 : ∀ s, exec s [] = some s) (h1 : ∀ s a as, exec s (a :: as) = (step s a).bind fun s' => exec s' as)
    (I : σ → Prop) (hstep : ∀ s s' a, I s → step s a = some s' → I s') :
    ∀ (as : List A) (s s' : σ), I s → exec s as = some s' → I s' := by
  intro as
  induction as with
  | nil => intro s s' hI he; rw [h0, Option.some.injEq] at he; exact he ▸ hI
  | cons a as ih =>
    intro s s' hI he
    rw [h1] at he
    cases hst : step s a with
    | none => rw [hst] at he; cases he
    | some s1 => rw [hst] at he; exact ih s1 s' (hstep s s1 a hI hst) he

theorem exec_measure {σ A : Type} (step : σ → A → Option σ) (exec : σ → List A → Option σ)
    (h0 : ∀ s, exec s [] = some s) (h1 : ∀ s a as, exec s (a :: as) = (step s a).bind fun s' => exec s' as)
    (I : σ → Prop) (μ : σ → Nat) (hstep : ∀ s s' a, I s → step s a = some s' → I s' ∧ μ s' < μ s) :
    ∀ (as : List A) (s s' : σ), I s → exec s as = some s' → I s' ∧ as.length + μ s' ≤ μ s := by
  intro as
  induction as with
  | nil => intro s s' hI he; rw [h0, Option.some.injEq] at he; subst he; exact ⟨hI, by simp⟩
  | cons a as ih =>
    intro s s' hI he
    rw [h1] at he
    cases hst : step s a with
    | none => rw [hst] at he; cases he
    | some s1 =>
      rw [hst] at he
      obtain ⟨hI1, hm1⟩ := hstep s s1 a hI hst
      obtain ⟨hI', hm'⟩ := ih s1 s' hI1 he
      exact ⟨hI', by simp only [List.length_cons]; omega⟩

def SendReq.weight : SendReq → Nat
  | .null => 0
  | _ => 1

def RecvReq.weight {β : Type} : RecvReq β → Nat
  | .null => 0
  | _ => 1

/-- decreases with every step of a reachable state -/
def Pair.measure {β σ : Type} (s : Pair β σ) : Nat :=
  3 * (s.st.indicesLeft + s.rt.indicesLeft) + 2 * s.chan.length + s.sreq.weight + s.rreq.weight

theorem Pair.final_closed {β σ : Type} {s : Pair β σ} (h : s.final = true) :
    s.sendOpen = false ∧ s.recvOpen = false ∧ s.chan.isEmpty = true := by
  simp only [Pair.final, Bool.and_eq_true, Bool.not_eq_eq_eq_not, Bool.not_true] at h
  exact ⟨h.1.1.1.1, h.1.1.1.2, h.1.1.2⟩

section step
variable {β σ : Type} {c : PairCfg β σ} {s s' : Pair β σ}

theorem step_deliver_inv (h : Pair.step c s .deliver = some s') :
    s.rreq = .posted ∧ s.chan ≠ [] ∧ s'.sendOpen = s.sendOpen ∧ s'.recvOpen = s.recvOpen ∧ s'.acc = s.acc := by
  simp only [Pair.step] at h
  split at h
  · rename_i m ms hc hr
    simp only [Option.some.injEq] at h
    subst h
    simp [hc, hr]
  · simp at h

theorem step_sendDone_inv (h : Pair.step c s .sendDone = some s') :
    s.sreq = .complete ∧ s'.recvOpen = s.recvOpen ∧ s'.acc = s.acc ∧ s'.rreq = s.rreq ∧ (s.sendOpen = false → s'.sendOpen = false) := by
  simp only [Pair.step] at h
  split at h
  · rename_i hr
    split at h
    · simp only [Option.some.injEq] at h; subst h; simp [hr]
    · simp only [Option.some.injEq] at h; subst h; simp [hr]
  · simp at h

theorem step_recvDone_inv (h : Pair.step c s .recvDone = some s') :
    (∃ m, s.rreq = .complete m) ∧ s'.sendOpen = s.sendOpen ∧ s'.chan = s.chan ∧ s'.sreq = s.sreq ∧
      (s.recvOpen = false → s'.recvOpen = false) := by
  simp only [Pair.step] at h
  split at h
  · rename_i m hr
    refine ⟨⟨m, hr⟩, ?_⟩
    generalize (if c.getCount = true then m.length else 0) = cnt at h
    split at h <;> cases h
    · exact ⟨rfl, rfl, rfl, fun _ => rfl⟩
    · exact ⟨rfl, rfl, rfl, id⟩
  · cases h

theorem step_sendClosed {a : Action} (h : Pair.step c s a = some s') (hc : s.sendOpen = false) : s'.sendOpen = false := by
  cases a with
  | deliver => rw [(step_deliver_inv h).2.2.1]; exact hc
  | sendDone => exact (step_sendDone_inv h).2.2.2.2 hc
  | recvDone => rw [(step_recvDone_inv h).2.1]; exact hc

theorem step_recvClosed {a : Action} (h : Pair.step c s a = some s') (hc : s.recvOpen = false) : s'.recvOpen = false := by
  cases a with
  | deliver => rw [(step_deliver_inv h).2.2.2.1]; exact hc
  | sendDone => rw [(step_sendDone_inv h).2.1]; exact hc
  | recvDone => exact (step_recvDone_inv h).2.2.2.2 hc

end step

theorem guarded_some {γ : Type} {P : Prop} [Decidable P] {v r : γ} (h : (if P then some v else none) = some r) :
    P ∧ r = v := by
  split at h
  · exact ⟨‹P›, (Option.some.inj h).symm⟩
  · cases h

/-- the shape of a guarded machine step inside a system step -/
theorem guarded_map_some {β γ : Type} {P : Prop} [Decidable P] {o : Option β} {F : β → γ} {r : γ}
    (h : (if P then o.map F else none) = some r) : P ∧ ∃ s', o = some s' ∧ F s' = r := by
  split at h
  · exact ⟨‹P›, Option.map_eq_some_iff.1 h⟩
  · cases h

/-- a machine of a link inside a rank-level system: `deliver` needs `D`, the completions need `S` resp. `R` (the rank
    that processes the completion is in the right loop); `upd s' cs cr` is the state of the system after the machine has
    moved to `s'`, where `cs` / `cr` say whether the send / receive counter of the link's rank is decremented: iff that
    side closes, which only the completion of that side brings about -/
def embedStep {β σ G : Type} (c : PairCfg β σ) (m : Pair β σ) (D S R : Prop) [Decidable D] [Decidable S] [Decidable R]
    (upd : Pair β σ → Bool → Bool → G) : Action → Option G
  | .deliver => if D then (Pair.step c m .deliver).map fun s' => upd s' false false else none
  | .sendDone => if S then (Pair.step c m .sendDone).map fun s' => upd s' (m.sendOpen && !s'.sendOpen) false else none
  | .recvDone => if R then (Pair.step c m .recvDone).map fun s' => upd s' false (m.recvOpen && !s'.recvOpen) else none

section embed
variable {β σ G : Type} {c : PairCfg β σ} {m : Pair β σ} {D S R : Prop} [Decidable D] [Decidable S] [Decidable R]
  {upd : Pair β σ → Bool → Bool → G} {a : Action}

/-- whatever the action, both counters follow the one rule -/
theorem embedStep_some {g' : G} (h : embedStep c m D S R upd a = some g') :
    ∃ s', Pair.step c m a = some s' ∧ g' = upd s' (m.sendOpen && !s'.sendOpen) (m.recvOpen && !s'.recvOpen) ∧
      ((m.sendOpen && !s'.sendOpen) = true → S) ∧ ((m.recvOpen && !s'.recvOpen) = true → R) := by
  cases a <;> obtain ⟨hg, s', hst, rfl⟩ := guarded_map_some h <;> refine ⟨s', hst, ?_⟩
  · obtain ⟨_, _, hso, hro, _⟩ := step_deliver_inv hst
    rw [hso, hro, Bool.and_not_self, Bool.and_not_self]
    exact ⟨rfl, fun h => Bool.noConfusion h, fun h => Bool.noConfusion h⟩
  · rw [(step_sendDone_inv hst).2.1, Bool.and_not_self]
    exact ⟨rfl, fun _ => hg, fun h => Bool.noConfusion h⟩
  · rw [(step_recvDone_inv hst).2.1, Bool.and_not_self]
    exact ⟨rfl, fun h => Bool.noConfusion h, fun _ => hg⟩

end embed

theorem stuck_of_fields {β σ : Type} (c : PairCfg β σ) (s : Pair β σ) (hd : s.rreq ≠ .posted ∨ s.chan = [])
    (hs : s.sreq ≠ .complete) (hr : ∀ m, s.rreq ≠ .complete m) (a : Action) : Pair.step c s a = none := by
  cases hstep : Pair.step c s a with
  | none => rfl
  | some s' =>
    cases a with
    | deliver =>
      obtain ⟨h1, h2, _⟩ := step_deliver_inv hstep
      rcases hd with h | h
      · exact absurd h1 h
      · exact absurd h h2
    | sendDone => exact absurd (step_sendDone_inv hstep).1 hs
    | recvDone =>
      obtain ⟨⟨m, hm⟩, _⟩ := step_recvDone_inv hstep
      exact absurd hm (hr m)

/-- the sender's half of `Pair.init` alone: its message, if any, meets no receive -/
theorem startSend_stuck {α σ : Type} (c : PairCfg α σ) (B : Nat) (p : PairSpec α) (x : Pair α σ) (hx : x.rreq = .null)
    (a : Action) : Pair.step c (startSend B p x) a = none := by
  refine stuck_of_fields c _ (Or.inl (by simp [startSend, hx])) ?_ (by simp [startSend, hx]) a
  simp only [startSend]
  split <;> simp

theorem RecvReq.weight_le {β : Type} (r : RecvReq β) : r.weight ≤ 1 := by cases r <;> simp [RecvReq.weight]

theorem SendReq.weight_le (r : SendReq) : r.weight ≤ 1 := by cases r <;> simp [SendReq.weight]

theorem Pair.measure_le {β σ : Type} (s : Pair β σ) {a b : Nat} (h1 : s.st.indicesLeft ≤ a) (h2 : s.rt.indicesLeft ≤ b)
    (h3 : s.chan.length ≤ 1) : s.measure ≤ 3 * (a + b) + 4 := by
  have := s.sreq.weight_le
  have := s.rreq.weight_le
  simp only [Pair.measure]
  omega

theorem measure_recvDone {β σ : Type} (s : Pair β σ) (t : Tracker) (rb : MessageBuffer β) (acc : σ) (r : RecvReq β)
    (o : Bool) (m : List β) (ht : t.indicesLeft < s.rt.indicesLeft) (hreq : s.rreq = .complete m) :
    ({ s with rt := t, rb := rb, acc := acc, rreq := r, recvOpen := o } : Pair β σ).measure < s.measure := by
  have := r.weight_le
  have h1 : (RecvReq.complete m).weight = 1 := rfl
  simp only [Pair.measure, hreq, h1]
  omega

section generic
variable {β σ : Type} (hd : Handle β) (B f : Nat) (getCount : Bool)
  (unpack : Tracker → MessageBuffer β → Nat → σ → Tracker × MessageBuffer β × σ)
  (T : Nat → List Nat → List Nat → Tracker) (Inv : σ → Nat → List Nat → List Nat → Prop)

abbrev cfgOf : PairCfg β σ := ⟨true, getCount, hd, unpack⟩

/-- the message of the next round for the indices `is` -/
abbrev msg1 (is : List Nat) : List β := (round1 hd B f is).1.flatMap hd.data

abbrev rest1 (is : List Nat) : List Nat := (round1 hd B f is).2

/-- reachable states: `isR`/`jsR` is what the receiver has not yet unpacked.  `kS`, `rS` (the sender's index counter and
    rank field) are unconstrained: they are there because `sendT` has the fields; `kR` is the counter `Inv` speaks of. -/
def PInv (s : Pair β σ) : Prop :=
  ∃ (isR jsR : List Nat) (kR kS rS : Nat),
    jsR.length = isR.length ∧ Fits hd B f isR ∧ s.rt = T kR jsR isR ∧ s.sb.size = B ∧ s.rb.size = B ∧
    Inv s.acc kR isR jsR ∧
    ( -- A: the message is in the channel, the receive is posted
      (0 < total hd isR ∧ s.st = sendT rS kS (rest1 hd B f isR) f ∧ s.sreq = .active ∧ s.chan = [msg1 hd B f isR] ∧
        s.rreq = .posted ∧ s.sendOpen = true ∧ s.recvOpen = true ∧ s.rb.position = 0)
    ∨ -- B: matched, both completions can be reported
      (0 < total hd isR ∧ s.st = sendT rS kS (rest1 hd B f isR) f ∧ s.sreq = .complete ∧ s.chan = [] ∧
        s.rreq = .complete (msg1 hd B f isR) ∧ s.sendOpen = true ∧ s.recvOpen = true ∧ s.rb.position = 0)
    ∨ -- C: the receiver has unpacked, the sender has not yet seen its completion
      (s.st = sendT rS kS isR f ∧ s.sreq = .complete ∧ s.chan = [] ∧ s.sendOpen = true ∧
        ((0 < total hd isR ∧ s.rreq = .posted ∧ s.recvOpen = true ∧ s.rb.position = 0) ∨
         (isR = [] ∧ s.rreq = .null ∧ s.recvOpen = false)))
    ∨ -- D: the sender has continued, the receiver has not yet seen its completion
      (0 < total hd isR ∧ s.rreq = .complete (msg1 hd B f isR) ∧ s.recvOpen = true ∧ s.rb.position = 0 ∧
        ((rest1 hd B f isR = [] ∧ s.st = sendT rS kS [] f ∧ s.sreq = .null ∧ s.chan = [] ∧ s.sendOpen = false) ∨
         (rest1 hd B f isR ≠ [] ∧ s.st = sendT rS kS (rest1 hd B f (rest1 hd B f isR)) f ∧ s.sreq = .active ∧
            s.chan = [msg1 hd B f (rest1 hd B f isR)] ∧ s.sendOpen = true)))
    ∨ -- E: done
      (total hd isR = 0 ∧ s.st.finished = true ∧ s.sreq = .null ∧ s.chan = [] ∧ s.rreq = .null ∧
        s.sendOpen = false ∧ s.recvOpen = false))

variable {hd B f getCount unpack T Inv}

theorem sendDone_finish {c : PairCfg β σ} {s s' : Pair β σ} {rS kS : Nat} (hs : Pair.step c s .sendDone = some s')
    (hst : s.st = sendT rS kS [] f) : s' = { s with sreq := .null, sendOpen := false } ∧ s'.measure < s.measure := by
  have hreq := (step_sendDone_inv hs).1
  simp only [Pair.step, hreq, hst, sendT_skip, sendT_finished, List.isEmpty_nil, if_true, Option.some.injEq] at hs
  subst hs
  refine ⟨by rw [hst], ?_⟩
  simp only [Pair.measure, hreq, hst, SendReq.weight]
  omega

theorem sendDone_continue {c : PairCfg β σ} (hc : c.handle = hd) {s s' : Pair β σ} {rS kS : Nat} {is : List Nat}
    (hs : Pair.step c s .sendDone = some s') (hst : s.st = sendT rS kS is f) (hchan : s.chan = []) (hsb : s.sb.size = B)
    (hf : Fits hd B f is) (ht : 0 < total hd is) :
    ∃ sb' : MessageBuffer β, sb'.size = B ∧
      s' = { s with st := sendT rS (kS + (round1 hd B f is).1.length) (rest1 hd B f is) f, sb := sb', sreq := .active,
                    chan := [msg1 hd B f is] } ∧ s'.measure < s.measure := by
  have hreq := (step_sendDone_inv hs).1
  obtain ⟨h1, h2, h3⟩ := setupSend_sendT hd B f rS kS is s.sb hsb hf
  have hne : is ≠ [] := by rintro rfl; exact Nat.lt_irrefl 0 ht
  have hfin : (sendT rS kS is f).finished = false := by cases is <;> simp_all
  simp only [Pair.step, hreq, hst, sendT_skip, hfin, Bool.false_eq_true, if_false, hc, h1, h3,
    total_round_pos hf ht, ne_eq, not_false_eq_true, if_true, Option.isSome_some, Option.toList_some, hchan, List.nil_append,
    Option.some.injEq] at hs
  subst hs
  refine ⟨_, h2, rfl, ?_⟩
  have := round1_rest_length hd B f is hf hne
  simp only [Pair.measure, hreq, hst, hchan, sendT_left, SendReq.weight, List.length_nil, List.length_singleton]
  omega

theorem finished_left_zero (t : Tracker) (h : t.finished = true) : t.indicesLeft = 0 := by
  simpa [Tracker.finished, Tracker.indicesLeft] using h

theorem step_inv (hR : RecvSide hd B f getCount unpack T Inv) (s s' : Pair β σ) (a : Action) (hI : PInv hd B f T Inv s)
    (hs : Pair.step (cfgOf hd getCount unpack) s a = some s') : PInv hd B f T Inv s' ∧ s'.measure < s.measure := by
  obtain ⟨isR, jsR, kR, kS, rS, hl, hf, hrt, hsb, hrb, hacc, hcase⟩ := hI
  rcases hcase with hA | hB | hC | hD | hE
  · obtain ⟨ht, hst, hsreq, hchan, hrreq, hso, hro, hpos⟩ := hA
    cases a with
    | deliver =>
      simp only [Pair.step, hchan, hrreq, Option.some.injEq] at hs
      subst hs
      refine ⟨⟨isR, jsR, kR, kS, rS, hl, hf, hrt, hsb, hrb, hacc, Or.inr (Or.inl ⟨ht, hst, rfl, rfl, rfl, hso, hro, hpos⟩)⟩, ?_⟩
      simp [Pair.measure, hchan, hsreq, hrreq, SendReq.weight, RecvReq.weight]
    | sendDone => have := (step_sendDone_inv hs).1; rw [hsreq] at this; cases this
    | recvDone => obtain ⟨⟨m, hm⟩, _⟩ := step_recvDone_inv hs; rw [hrreq] at hm; cases hm
  · obtain ⟨ht, hst, hsreq, hchan, hrreq, hso, hro, hpos⟩ := hB
    cases a with
    | deliver => exact absurd hchan (step_deliver_inv hs).2.1
    | sendDone =>
      rcases rest_nil_or_pos hf with hr | hr
      · have hst' : s.st = sendT rS kS [] f := hr ▸ hst
        obtain ⟨rfl, hm⟩ := sendDone_finish hs hst'
        exact ⟨⟨isR, jsR, kR, kS, rS, hl, hf, hrt, hsb, hrb, hacc,
          Or.inr (Or.inr (Or.inr (Or.inl ⟨ht, hrreq, hro, hpos, Or.inl ⟨hr, hst', rfl, hchan, rfl⟩⟩)))⟩, hm⟩
      · obtain ⟨sb', hsb', rfl, hm⟩ := sendDone_continue (hd := hd) rfl hs hst hchan hsb hf.rest hr
        have hne : rest1 hd B f isR ≠ [] := fun e => by
          rw [show (round1 hd B f isR).2 = [] from e] at hr; cases hr
        exact ⟨⟨isR, jsR, kR, _, rS, hl, hf, hrt, hsb', hrb, hacc,
          Or.inr (Or.inr (Or.inr (Or.inl ⟨ht, hrreq, hro, hpos, Or.inr ⟨hne, rfl, rfl, rfl, hso⟩⟩)))⟩, hm⟩
    | recvDone =>
      obtain ⟨rb', acc', o, hrb', hacc', he, hsub⟩ := hR.round_cc kR isR jsR s.rb s.acc hl hf ht hrb hpos hacc
      rw [recvDone_cc _ s hrreq, hrt, he, recvDoneResult_eq, Option.some.injEq] at hs
      subst hs
      refine ⟨⟨rest1 hd B f isR, jsR.drop (round1 hd B f isR).1.length, kR + (round1 hd B f isR).1.length, kS, rS,
        drop_length_rest hl, hf.rest, rfl, hsb, hrb', hacc', Or.inr (Or.inr (Or.inl ⟨hst, hsreq, hchan, hso, ?_⟩))⟩,
        measure_recvDone s _ _ _ _ _ _ (by rw [hrt]; exact hR.left kR jsR isR hl hf ht) hrreq⟩
      rcases hsub with ⟨hr, rfl⟩ | ⟨hr, rfl, h4⟩
      · exact Or.inr ⟨hr, rfl, rfl⟩
      · exact Or.inl ⟨hr, rfl, hro, h4⟩
  · obtain ⟨hst, hsreq, hchan, hso, hsub⟩ := hC
    cases a with
    | deliver => exact absurd hchan (step_deliver_inv hs).2.1
    | recvDone =>
      obtain ⟨⟨m, hm⟩, _⟩ := step_recvDone_inv hs
      rcases hsub with ⟨_, hrreq, _, _⟩ | ⟨_, hrreq, _⟩ <;> rw [hrreq] at hm <;> cases hm
    | sendDone =>
      rcases hsub with ⟨ht, hrreq, hro, hpos⟩ | ⟨rfl, hrreq, hro⟩
      · obtain ⟨sb', hsb', rfl, hm⟩ := sendDone_continue (hd := hd) rfl hs hst hchan hsb hf ht
        exact ⟨⟨isR, jsR, kR, _, rS, hl, hf, hrt, hsb', hrb, hacc, Or.inl ⟨ht, rfl, rfl, rfl, hrreq, hso, hro, hpos⟩⟩, hm⟩
      · obtain ⟨rfl, hm⟩ := sendDone_finish hs hst
        exact ⟨⟨[], jsR, kR, kS, rS, hl, hf, hrt, hsb, hrb, hacc,
          Or.inr (Or.inr (Or.inr (Or.inr ⟨rfl, by rw [hst]; rfl, rfl, hchan, hrreq, rfl, hro⟩)))⟩, hm⟩
  · obtain ⟨ht, hrreq, hro, hpos, hsub⟩ := hD
    cases a with
    | deliver => have := (step_deliver_inv hs).1; rw [hrreq] at this; cases this
    | sendDone =>
      have := (step_sendDone_inv hs).1
      rcases hsub with ⟨_, _, hsreq, _, _⟩ | ⟨_, _, hsreq, _, _⟩ <;> rw [hsreq] at this <;> cases this
    | recvDone =>
      obtain ⟨rb', acc', o, hrb', hacc', he, hsubR⟩ := hR.round_cc kR isR jsR s.rb s.acc hl hf ht hrb hpos hacc
      rw [recvDone_cc _ s hrreq, hrt, he, recvDoneResult_eq, Option.some.injEq] at hs
      subst hs
      refine ⟨⟨rest1 hd B f isR, jsR.drop (round1 hd B f isR).1.length, kR + (round1 hd B f isR).1.length, kS, rS,
        drop_length_rest hl, hf.rest, rfl, hsb, hrb', hacc', ?_⟩,
        measure_recvDone s _ _ _ _ _ _ (by rw [hrt]; exact hR.left kR jsR isR hl hf ht) hrreq⟩
      -- the sender is done exactly if the receiver is: both stand in front of `rest1 isR`
      rcases hsubR with ⟨hr, rfl⟩ | ⟨hr, rfl, h4⟩
      · rcases hsub with ⟨_, hst, hsreq, hchan, hso⟩ | ⟨hne, _⟩
        · exact Or.inr (Or.inr (Or.inr (Or.inr ⟨congrArg (total hd) hr, by rw [hst]; rfl, hsreq, hchan, rfl, hso, rfl⟩)))
        · exact absurd hr hne
      · rcases hsub with ⟨hnil, _⟩ | ⟨_, hst, hsreq, hchan, hso⟩
        · rw [show (round1 hd B f isR).2 = [] from hnil] at hr; cases hr
        · exact Or.inl ⟨hr, hst, hsreq, hchan, rfl, hso, hro, h4⟩
  · obtain ⟨_, _, hsreq, hchan, hrreq, _, _⟩ := hE
    rw [stuck_of_fields _ s (Or.inr hchan) (by rw [hsreq]; intro h; cases h)
      (fun m => by rw [hrreq]; intro h; cases h) a] at hs
    cases hs

theorem exec_bound (hR : RecvSide hd B f getCount unpack T Inv) : ∀ (acts : List Action) (s s' : Pair β σ),
    PInv hd B f T Inv s → Pair.exec (cfgOf hd getCount unpack) s acts = some s' →
    PInv hd B f T Inv s' ∧ acts.length + s'.measure ≤ s.measure :=
  exec_measure (Pair.step _) (Pair.exec _) (fun _ => rfl) (fun _ _ _ => rfl) _ _ (fun s s' a => step_inv hR s s' a)

end generic

section pinv
variable {β σ : Type} {hd : Handle β} {B f : Nat} {T : Nat → List Nat → List Nat → Tracker}
  {Inv : σ → Nat → List Nat → List Nat → Prop}

theorem pinv_sendClosed (s : Pair β σ) (hI : PInv hd B f T Inv s) (hc : s.sendOpen = false) :
    s.sreq = .null ∧ s.chan = [] ∧ s.rreq.isPosted = false := by
  obtain ⟨isR, jsR, kR, kS, rS, hl, hf, hrt, hsb, hrb, hacc, hcase⟩ := hI
  rcases hcase with hA | hB | hC | hD | hE
  · simp [hA.2.2.2.2.2.1] at hc
  · simp [hB.2.2.2.2.2.1] at hc
  · simp [hC.2.2.2.1] at hc
  · obtain ⟨_, hrreq, _, _, hsub⟩ := hD
    rcases hsub with ⟨_, _, hsreq, hchan, _⟩ | ⟨_, _, _, _, hso⟩
    · exact ⟨hsreq, hchan, by simp [hrreq, RecvReq.isPosted]⟩
    · simp [hso] at hc
  · obtain ⟨_, _, hsreq, hchan, hrreq, _, _⟩ := hE
    exact ⟨hsreq, hchan, by simp [hrreq, RecvReq.isPosted]⟩

theorem pinv_recvClosed (s : Pair β σ) (hI : PInv hd B f T Inv s) (hc : s.recvOpen = false) :
    s.rreq = .null ∧ s.chan = [] ∧
      ∃ (kR : Nat) (isR jsR : List Nat), jsR.length = isR.length ∧ total hd isR = 0 ∧ Inv s.acc kR isR jsR := by
  obtain ⟨isR, jsR, kR, kS, rS, hl, hf, hrt, hsb, hrb, hacc, hcase⟩ := hI
  rcases hcase with hA | hB | hC | hD | hE
  · simp [hA.2.2.2.2.2.2.1] at hc
  · simp [hB.2.2.2.2.2.2.1] at hc
  · obtain ⟨_, _, hchan, _, hsub⟩ := hC
    rcases hsub with ⟨_, _, hro, _⟩ | ⟨hnil, hrreq, _⟩
    · simp [hro] at hc
    · subst hnil
      exact ⟨hrreq, hchan, kR, [], jsR, hl, by simp, hacc⟩
  · simp [hD.2.2.1] at hc
  · obtain ⟨hz, _, _, hchan, hrreq, _, _⟩ := hE
    exact ⟨hrreq, hchan, kR, isR, jsR, hl, hz, hacc⟩

theorem pinv_sendDone_open {c : PairCfg β σ} (s : Pair β σ) {s' : Pair β σ} (hI : PInv hd B f T Inv s)
    (hst : Pair.step c s .sendDone = some s') : s.sendOpen = true := by
  cases ho : s.sendOpen with
  | true => rfl
  | false => have := (pinv_sendClosed s hI ho).1; rw [(step_sendDone_inv hst).1] at this; cases this

theorem pinv_recvDone_open {c : PairCfg β σ} (s : Pair β σ) {s' : Pair β σ} (hI : PInv hd B f T Inv s)
    (hst : Pair.step c s .recvDone = some s') : s.recvOpen = true := by
  cases ho : s.recvOpen with
  | true => rfl
  | false =>
    obtain ⟨⟨m, hm⟩, _⟩ := step_recvDone_inv hst
    have := (pinv_recvClosed s hI ho).1
    rw [hm] at this; cases this

theorem embedStep_stuck {G : Type} {c : PairCfg β σ} {m : Pair β σ} {D S R : Prop} [Decidable D] [Decidable S] [Decidable R]
    {upd : Pair β σ → Bool → Bool → G} (hI : PInv hd B f T Inv m) (hstuck : ∀ a, embedStep c m D S R upd a = none) (hD : D)
    (hS : m.sendOpen = true → S) (hR : m.recvOpen = true → R) (a : Action) : Pair.step c m a = none :=
  Option.eq_none_iff_forall_ne_some.2 fun _ hst => by
    have h := hstuck a
    cases a
    · simp [embedStep, hst, hD] at h
    · simp [embedStep, hst, hS (pinv_sendDone_open m hI hst)] at h
    · simp [embedStep, hst, hR (pinv_recvDone_open m hI hst)] at h

theorem pinv_final_of_closed (s : Pair β σ) (hR : RecvSide hd B f getCount unpack T Inv) (hI : PInv hd B f T Inv s)
    (h1 : s.sendOpen = false) (h2 : s.recvOpen = false) : s.final = true := by
  obtain ⟨isR, jsR, kR, kS, rS, hl, hf, hrt, hsb, hrb, hacc, hcase⟩ := hI
  rcases hcase with hA | hB | hC | hD | hE
  · simp [hA.2.2.2.2.2.1] at h1
  · simp [hB.2.2.2.2.2.1] at h1
  · simp [hC.2.2.2.1] at h1
  · simp [hD.2.2.1] at h2
  · obtain ⟨hz, hfin, _, hchan, _, hso, hro⟩ := hE
    have : s.rt.finished = true := by rw [hrt, hR.fin _ _ _ hl hf]; simp [hz]
    simp [Pair.final, hso, hro, hchan, hfin, this]

theorem stuck_final (hR : RecvSide hd B f getCount unpack T Inv) (s : Pair β σ) (hI : PInv hd B f T Inv s)
    (hstuck : ∀ a, Pair.step (cfgOf hd getCount unpack) s a = none) : s.final = true := by
  have hfinal := pinv_final_of_closed s hR hI
  -- a reported completion is always processed
  have hS : s.sreq ≠ .complete := fun h => by
    have := hstuck .sendDone
    simp only [Pair.step, h] at this
    split at this <;> cases this
  have hRc : ∀ m, s.rreq ≠ .complete m := fun m h => by
    have := recvDone_cc (cfgOf hd getCount unpack) s h
    rw [hstuck .recvDone] at this
    cases this
  obtain ⟨isR, jsR, kR, kS, rS, hl, hf, hrt, hsb, hrb, hacc, hcase⟩ := hI
  rcases hcase with hA | hB | hC | hD | hE
  · obtain ⟨_, _, _, hchan, hrreq, _⟩ := hA
    have := hstuck .deliver
    simp [Pair.step, hchan, hrreq] at this
  · exact absurd hB.2.2.1 hS
  · exact absurd hC.2.1 hS
  · exact absurd hD.2.1 (hRc _)
  · exact hfinal hE.2.2.2.2.2.1 hE.2.2.2.2.2.2

end pinv

section init
variable {β σ : Type} {hd : Handle β} {B f : Nat} {getCount : Bool}
  {unpack : Tracker → MessageBuffer β → Nat → σ → Tracker × MessageBuffer β × σ}
  {T : Nat → List Nat → List Nat → Tracker} {Inv : σ → Nat → List Nat → List Nat → Prop}

theorem init_inv (hR : RecvSide hd B f getCount unpack T Inv) (IS JS : List Nat) (hl : JS.length = IS.length)
    (hf : Fits hd B f IS) (rS : Nat) (rt0 : Tracker) (hrt0 : rt0.skipZeroIndices = T 0 JS IS) (acc : σ)
    (hacc : Inv acc 0 IS JS) :
    PInv hd B f T Inv (Pair.init (cfgOf hd getCount unpack) (sendT rS 0 IS f) rt0 B acc) := by
  obtain ⟨h1, h2, h3⟩ := setupSend_sendT hd B f rS 0 IS (MessageBuffer.new B) rfl hf
  have hfin := hR.fin 0 JS IS hl hf
  have hsplit := congrArg (total hd) (round1_append hd B f IS)
  rw [total_append] at hsplit
  refine ⟨IS, JS, 0, 0 + (round1 hd B f IS).1.length, rS, hl, hf, ?_, h2, rfl, hacc, ?_⟩
  · simp only [Pair.init, setupRecv_true, hrt0]
  by_cases hz : total hd IS = 0
  · -- nothing to send: no message, no receive posted, both sides closed from the start (phase E)
    have hz1 : total hd (round1 hd B f IS).1 = 0 := by omega
    refine Or.inr (Or.inr (Or.inr (Or.inr ?_)))
    simp [Pair.init, setupRecv_true, hrt0, hfin, h1, h3, hz, hz1, round1_zero hd B f IS hf hz1]
  · -- the first message is in the channel and the first receive is posted (phase A)
    have ht : 0 < total hd IS := Nat.pos_of_ne_zero hz
    refine Or.inl ?_
    simp [Pair.init, setupRecv_true, hrt0, hfin, h1, h3, hz, ht, total_round_pos hf ht]

end init

variable {α : Type}

def Rel2 {γ δ : Type} (R : γ → δ → Prop) (ls : List γ) (xs : List δ) : Prop :=
  ls.length = xs.length ∧ ∀ (i : Nat) l x, ls[i]? = some l → xs[i]? = some x → R l x

theorem Rel2.set {γ δ : Type} {R : γ → δ → Prop} {ls : List γ} {xs : List δ} (h : Rel2 R ls xs) (i : Nat) (l : γ)
    (x' : δ) (hl : ls[i]? = some l) (hx : R l x') : Rel2 R ls (xs.set i x') := by
  refine ⟨by simpa using h.1, ?_⟩
  intro j l2 x2 hl2 hx2
  by_cases hij : i = j
  · subst hij
    rw [List.getElem?_set_self (by
      have := (List.getElem?_eq_some_iff.1 hl).1
      rw [← h.1]; exact this)] at hx2
    rw [hl] at hl2
    cases hl2; cases hx2
    exact hx
  · rw [List.getElem?_set_ne hij] at hx2
    exact h.2 j l2 x2 hl2 hx2

theorem Rel2.mono {γ δ : Type} {R R' : γ → δ → Prop} {ls : List γ} {xs : List δ} (h : Rel2 R ls xs)
    (hm : ∀ l x, R l x → R' l x) : Rel2 R' ls xs :=
  ⟨h.1, fun i l x hl hx => hm l x (h.2 i l x hl hx)⟩

theorem Rel2.get {γ δ : Type} {R : γ → δ → Prop} {ls : List γ} {xs : List δ} (h : Rel2 R ls xs) {i : Nat} {l : γ}
    (hl : ls[i]? = some l) : ∃ x, xs[i]? = some x ∧ R l x := by
  have hi := (List.getElem?_eq_some_iff.1 hl).1
  have hi' : i < xs.length := by rw [← h.1]; exact hi
  exact ⟨xs[i], List.getElem?_eq_getElem hi', h.2 i l xs[i] hl (List.getElem?_eq_getElem hi')⟩

theorem Rel2.of_mem {γ δ : Type} {R : γ → δ → Prop} {ls : List γ} {xs : List δ} (h : Rel2 R ls xs) (x : δ) (hx : x ∈ xs) :
    ∃ l, R l x := by
  obtain ⟨i, hi, rfl⟩ := List.mem_iff_getElem.1 hx
  have hi' : i < ls.length := by rw [h.1]; exact hi
  exact ⟨ls[i], h.2 i ls[i] xs[i] (List.getElem?_eq_getElem hi') (List.getElem?_eq_getElem hi)⟩

theorem Rel2.map_eq {γ δ ε : Type} {R : γ → δ → Prop} {ls : List γ} {xs : List δ} (h : Rel2 R ls xs) (f : δ → ε) (g : γ → ε)
    (hfg : ∀ (i : Nat) l x, ls[i]? = some l → xs[i]? = some x → f x = g l) : xs.map f = ls.map g := by
  apply List.ext_getElem?
  intro i
  rw [List.getElem?_map, List.getElem?_map]
  cases hl : ls[i]? with
  | none =>
    have : xs[i]? = none := by
      rw [List.getElem?_eq_none_iff] at hl ⊢
      rw [← h.1]; exact hl
    rw [this]; rfl
  | some l =>
    obtain ⟨x, hx, _⟩ := h.get hl
    rw [hx, Option.map_some, Option.map_some, hfg i l x hl hx]

theorem Rel2.all_of {γ δ : Type} {R : γ → δ → Prop} {ls : List γ} {xs : List δ} (h : Rel2 R ls xs) (p : δ → Bool)
    (hp : ∀ (i : Nat) l x, ls[i]? = some l → xs[i]? = some x → p x = true) : xs.all p = true := by
  rw [List.all_eq_true]
  intro x hx
  obtain ⟨i, hi, rfl⟩ := List.mem_iff_getElem.1 hx
  have hi' : i < ls.length := by rw [h.1]; exact hi
  exact hp i ls[i] xs[i] (List.getElem?_eq_getElem hi') (List.getElem?_eq_getElem hi)

theorem Rel2.zipWith {γ δ : Type} {R R' : γ → δ → Prop} {ls : List γ} {xs : List δ} (f : γ → δ → δ) (h : Rel2 R ls xs)
    (hf : ∀ l x, R l x → R' l (f l x)) : Rel2 R' ls (List.zipWith f ls xs) := by
  refine ⟨by simp [h.1], ?_⟩
  intro i l y hl hy
  obtain ⟨x, hx, hr⟩ := h.get hl
  rw [List.getElem?_zipWith, hl, hx] at hy
  simp at hy
  subst hy
  exact hf l x hr

theorem Rel2.of_map {γ δ : Type} {R : γ → δ → Prop} (g : γ → δ) (ls : List γ) (h : ∀ l ∈ ls, R l (g l)) :
    Rel2 R ls (ls.map g) := by
  refine ⟨by simp, ?_⟩
  intro i l x hl hx
  rw [List.getElem?_map, hl] at hx
  simp at hx
  subst hx
  exact h l (List.mem_of_getElem? hl)

section sum
variable {γ δ : Type}

def sumSel (m : γ → δ → Nat) : List (γ) → List (δ) → Nat
  | l :: ls, x :: xs => m l x + sumSel m ls xs
  | _, _ => 0

theorem sumSel_set (m : γ → δ → Nat) : ∀ (ls : List γ) (xs : List δ) (i : Nat) (l : γ) (x x' : δ),
    ls[i]? = some l → xs[i]? = some x → sumSel m ls (xs.set i x') + m l x = sumSel m ls xs + m l x' := by
  -- `induction`, not a recursive definition over both lists, which is slow to check
  intro ls
  induction ls with
  | nil => intro xs i l x x' hl; cases hl
  | cons l0 ls ih =>
    intro xs i l x x' hl hx
    cases xs with
    | nil => cases hx
    | cons x0 xs =>
      cases i with
      | zero =>
        cases hl; cases hx
        simp only [List.set_cons_zero, sumSel]
        rw [Nat.add_right_comm, Nat.add_comm (m _ x'), Nat.add_right_comm]
      | succ i =>
        simp only [List.set_cons_succ, sumSel]
        rw [Nat.add_assoc, ih xs i l x x' hl hx, Nat.add_assoc]

theorem sumSel_set_lt (m : γ → δ → Nat) {ls : List γ} {xs : List δ} {i : Nat} {l : γ} {x x' : δ}
    (hl : ls[i]? = some l) (hx : xs[i]? = some x) (hlt : m l x' < m l x) : sumSel m ls (xs.set i x') < sumSel m ls xs := by
  have := sumSel_set m ls xs i l x x' hl hx
  omega

theorem sumSel_map_le (m : γ → δ → Nat) (g : γ → δ) (bound : γ → Nat) :
    ∀ (ls : List γ), (∀ l ∈ ls, m l (g l) ≤ bound l) → sumSel m ls (ls.map g) ≤ (ls.map bound).sum
  | [], _ => Nat.le_refl 0
  | l :: ls, h => by
    have h1 := h l List.mem_cons_self
    have h2 := sumSel_map_le m g bound ls fun q hq => h q (List.mem_cons_of_mem l hq)
    simp only [List.map_cons, sumSel, List.sum_cons]
    omega

end sum

abbrev sysMeasure {γ β σ : Type} (specs : List γ) (ss : List (Comp β σ)) : Nat :=
  sumSel (fun _ x => x.state.measure) specs ss

/-- a relation between the description `p` of a component and its state that every step preserves -/
structure Closed {γ β σ : Type} (R : γ → Comp β σ → Prop) : Prop where
  step : ∀ p x a s', R p x → Pair.step x.cfg x.state a = some s' →
    R p { x with state := s' } ∧ s'.measure < x.state.measure
  stuck : ∀ p x, R p x → (∀ a, Pair.step x.cfg x.state a = none) → x.state.final = true

theorem sys_step_rel {γ β σ : Type} {R : γ → Comp β σ → Prop} (hR : Closed R) (specs : List γ)
    (ss ss' : List (Comp β σ)) (i : Nat) (a : Action) (hrel : Rel2 R specs ss) (hs : sysStep ss i a = some ss') :
    Rel2 R specs ss' ∧ sysMeasure specs ss' < sysMeasure specs ss := by
  simp only [sysStep] at hs
  cases hx : ss[i]? with
  | none => rw [hx] at hs; cases hs
  | some x =>
    rw [hx] at hs
    obtain ⟨s', hst, rfl⟩ := Option.map_eq_some_iff.1 hs
    have hi : i < specs.length := hrel.1 ▸ (List.getElem?_eq_some_iff.1 hx).1
    have hl : specs[i]? = some specs[i] := List.getElem?_eq_getElem hi
    obtain ⟨h1, h2⟩ := hR.step specs[i] x a s' (hrel.2 i _ x hl hx) hst
    have : sysMeasure specs (ss.set i { x with state := s' }) + x.state.measure = sysMeasure specs ss + s'.measure :=
      sumSel_set (fun _ (x : Comp β σ) => x.state.measure) specs ss i specs[i] x { x with state := s' } hl hx
    exact ⟨hrel.set i _ _ hl h1, by omega⟩

/-- all schedules of a composed system whose components start in states related to their descriptions by a relation
    that every step preserves: the length is bounded by the sum of the bounds of the initial measures, and a schedule
    that cannot be extended ends with every component final, with the result `res` the relation fixes for a component
    whose receiving side is closed -/
theorem closed_schedules {γ β σ : Type} {R : γ → Comp β σ → Prop} (hR : Closed R) (init : γ → Comp β σ) (bound : γ → Nat)
    (res : γ → σ) (hres : ∀ p x, R p x → x.state.recvOpen = false → x.state.acc = res p)
    (specs : List γ) (hinit : ∀ p ∈ specs, R p (init p) ∧ (init p).state.measure ≤ bound p)
    (sched : List (Nat × Action)) (ss' : List (Comp β σ)) (he : sysExec (specs.map init) sched = some ss') :
    sched.length ≤ (specs.map bound).sum ∧
    ((∀ i a, sysStep ss' i a = none) →
      (∀ x ∈ ss', x.state.final = true) ∧ ss'.map (fun x => x.state.acc) = specs.map res) := by
  obtain ⟨hrel, hm⟩ := exec_measure (fun ss ia => sysStep ss ia.1 ia.2) sysExec (fun _ => rfl) (fun _ _ _ => rfl) _ _
    (fun ss ss' ia => sys_step_rel hR specs ss ss' ia.1 ia.2) sched _ ss'
    (Rel2.of_map init specs fun p hp => (hinit p hp).1) he
  have hb : sysMeasure specs (specs.map init) ≤ _ :=
    sumSel_map_le (fun _ x => x.state.measure) init bound specs fun p hp => (hinit p hp).2
  refine ⟨by omega, fun hstuck => ?_⟩
  have hfin : ∀ (i : Nat) p x, specs[i]? = some p → ss'[i]? = some x → x.state.final = true := fun i p x hl hx =>
    hR.stuck p x (hrel.2 i p x hl hx) fun a => by
      have := hstuck i a
      simp only [sysStep, hx] at this
      cases h : Pair.step x.cfg x.state a with
      | none => rfl
      | some s' => rw [h] at this; cases this
  exact ⟨List.all_eq_true.1 (hrel.all_of (·.state.final) hfin), hrel.map_eq _ _ fun i p x hl hx =>
    hres p x (hrel.2 i p x hl hx) (Pair.final_closed (hfin i p x hl hx)).2.1⟩

/-- reachable states of the data-phase component described by `p` -/
def GoodData (B : Nat) (p : PairSpec α) (x : Comp α (List (Call α))) : Prop :=
  x.cfg = dataCfg p ∧ p.recvIdx.length = p.sendIdx.length ∧ Fits p.h B p.f p.sendIdx ∧
  PInv p.h B p.f (fun k js is => rcvT p.h p.f 0 k js is)
    (fun acc _ is js => acc ++ callsOf p.h is js = callsOf p.h p.sendIdx p.recvIdx) x.state

def GoodSize (B : Nat) (p : PairSpec α) (x : Comp Nat (List Nat)) : Prop :=
  x.cfg = sizeCfg p ∧ p.recvIdx.length = p.sendIdx.length ∧
  PInv (sizeHandle p.h) B 1 (fun k js _ => sendT 0 k js 1)
    (fun dst k is _ => ∃ done : List Nat, dst = done ++ List.replicate is.length 0 ∧ done.length = k ∧
        done ++ is.map p.h.size = p.sendIdx.map p.h.size) x.state

theorem goodData_closed (B : Nat) : Closed (GoodData (α := α) B) where
  step := by
    intro p x a s' ⟨hc, hl, hf, hI⟩ hst
    rw [hc] at hst
    obtain ⟨h1, h2⟩ := step_inv (dataSide p.h B p.f 0 (p.f == 0) (by simp) _) x.state s' a hI hst
    exact ⟨⟨hc, hl, hf, h1⟩, h2⟩
  stuck := by
    intro p x ⟨hc, hl, hf, hI⟩ hstuck
    rw [hc] at hstuck
    exact stuck_final (dataSide p.h B p.f 0 (p.f == 0) (by simp) _) x.state hI hstuck

theorem goodSize_closed (B : Nat) : Closed (GoodSize (α := α) B) where
  step := by
    intro p x a s' ⟨hc, hl, hI⟩ hst
    rw [hc] at hst
    obtain ⟨h1, h2⟩ := step_inv (sizeSide p.h B _) x.state s' a hI hst
    exact ⟨⟨hc, hl, h1⟩, h2⟩
  stuck := by
    intro p x ⟨hc, hl, hI⟩ hstuck
    rw [hc] at hstuck
    exact stuck_final (sizeSide p.h B _) x.state hI hstuck

theorem recvTracker_skip (p : PairSpec α) :
    p.recvTracker.skipZeroIndices = rcvT p.h p.f 0 0 p.recvIdx p.sendIdx := by
  unfold PairSpec.recvTracker
  by_cases h0 : p.f = 0
  · simp only [h0, if_true, mk'_recv, recvT_skip, rcvT, ne_eq, not_true_eq_false, if_false]
  · simp only [h0, if_false, mk'_send, Tracker.setFixedSize, rcvT, ne_eq, not_false_eq_true, if_true]
    simp [sendT, Tracker.skipZeroIndices]

theorem dataInit_good (B : Nat) (p : PairSpec α) (hl : p.recvIdx.length = p.sendIdx.length)
    (hf : Fits p.h B p.f p.sendIdx) : GoodData B p (dataInit B p) := by
  refine ⟨rfl, hl, hf, ?_⟩
  have := init_inv (dataSide p.h B p.f 0 (p.f == 0) (by simp) (callsOf p.h p.sendIdx p.recvIdx)) p.sendIdx p.recvIdx hl hf
    0 p.recvTracker (recvTracker_skip p) ([] : List (Call α)) (by simp)
  simpa [dataInit, dataCfg, cfgOf, mk'_send] using this

theorem sizeInit_good (B : Nat) (hB : 0 < B) (p : PairSpec α) (hl : p.recvIdx.length = p.sendIdx.length) :
    GoodSize B p (sizeInit B p) := by
  refine ⟨rfl, hl, ?_⟩
  have := init_inv (sizeSide p.h B (p.sendIdx.map p.h.size)) p.sendIdx p.recvIdx hl
    (sizeHandle_fits p.h B hB p.sendIdx) 0 (sendT 0 0 p.recvIdx 1) (sendT_skip ..) (List.replicate p.recvIdx.length 0)
    ⟨[], by simp [hl], rfl, by simp⟩
  simpa [sizeInit, sizeCfg, mk'_send] using this

theorem goodData_recvClosed (B : Nat) (p : PairSpec α) (x : Comp α (List (Call α))) (hg : GoodData B p x)
    (hc : x.state.recvOpen = false) : x.state.acc = callsOf p.h p.sendIdx p.recvIdx := by
  obtain ⟨_, _, kR, isR, jsR, _, hz, hacc⟩ := pinv_recvClosed x.state hg.2.2.2 hc
  simpa [callsOf_allzero p.h isR jsR hz] using hacc

theorem goodSize_recvClosed (B : Nat) (p : PairSpec α) (x : Comp Nat (List Nat)) (hg : GoodSize B p x)
    (hc : x.state.recvOpen = false) : x.state.acc = p.sendIdx.map p.h.size := by
  obtain ⟨_, _, kR, isR, jsR, _, hz, done, hd1, _, hd3⟩ := pinv_recvClosed x.state hg.2.2 hc
  rw [sizeHandle_total] at hz
  have : isR = [] := List.eq_nil_of_length_eq_zero hz
  subst this
  simpa [hd1] using hd3

theorem init_measure_le {β σ : Type} (hd : Handle β) (B f : Nat) (getCount : Bool)
    (unpack : Tracker → MessageBuffer β → Nat → σ → Tracker × MessageBuffer β × σ) (IS : List Nat) (hf : Fits hd B f IS)
    (rt0 : Tracker) (n : Nat) (hrt : rt0.skipZeroIndices.indicesLeft ≤ n) (acc : σ) :
    (Pair.init (cfgOf hd getCount unpack) (sendT 0 0 IS f) rt0 B acc).measure ≤ 3 * (IS.length + n) + 4 := by
  obtain ⟨h1, _, _⟩ := setupSend_sendT hd B f 0 0 IS (MessageBuffer.new B) rfl hf
  refine Pair.measure_le _ ?_ hrt ?_
  · show (setupSend hd (sendT 0 0 IS f) (MessageBuffer.new B)).tracker.indicesLeft ≤ IS.length
    have := round1_length hd B f IS
    rw [h1, sendT_left]
    omega
  · show (setupSend hd (sendT 0 0 IS f) (MessageBuffer.new B)).message.toList.length ≤ 1
    cases (setupSend hd (sendT 0 0 IS f) (MessageBuffer.new B)).message <;> simp

theorem dataInit_measure_le (B : Nat) (p : PairSpec α) (hf : Fits p.h B p.f p.sendIdx) :
    (dataInit B p).state.measure ≤ 3 * (p.sendIdx.length + p.recvIdx.length) + 4 := by
  have := init_measure_le p.h B p.f (p.f == 0) unpackEntries p.sendIdx hf p.recvTracker p.recvIdx.length
    (by rw [recvTracker_skip]; exact rcvT_left_le ..) ([] : List (Call α))
  simpa [dataInit, dataCfg, cfgOf, mk'_send] using this

theorem sizeInit_measure_le (B : Nat) (hB : 0 < B) (p : PairSpec α) :
    (sizeInit B p).state.measure ≤ 3 * (p.sendIdx.length + p.recvIdx.length) + 4 := by
  have := init_measure_le (sizeHandle p.h) B 1 false unpackSizes p.sendIdx (sizeHandle_fits p.h B hB p.sendIdx)
    (sendT 0 0 p.recvIdx 1) p.recvIdx.length (by simp) (List.replicate p.recvIdx.length 0)
  simpa [sizeInit, sizeCfg, mk'_send] using this

end DV.C06
