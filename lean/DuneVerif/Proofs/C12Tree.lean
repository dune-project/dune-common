/-
C12 — the tree: association lists, get-after-set, the order of keys, groups versus dotted keys, the non-const
`sub()`, rebuilding a tree from its entries.
-/
import DuneVerif.Proofs.C12Str

namespace DV.C12

def names {α} (l : List (Str × α)) : List Str := l.map (·.1)

def addNew' (acc : List Str) (k : Str) : List Str := if k ∈ acc then acc else acc ++ [k]

theorem aHas_eq_isSome {α} (k : Str) (l : List (Str × α)) : aHas k l = (aGet? k l).isSome := by
  fun_induction aGet? k l with
  | case1 => rfl
  | case2 k' v r hk => simp [aHas, hk]
  | case3 k' v r hk ih => simpa [aHas, hk] using ih

theorem aHas_eq_mem {α} (k : Str) (l : List (Str × α)) : aHas k l = true ↔ k ∈ names l := by
  simp only [aHas, names, List.any_eq_true, beq_iff_eq, List.mem_map]

theorem aHas_false_iff {α} (k : Str) (l : List (Str × α)) : aHas k l = false ↔ k ∉ names l := by
  rw [← aHas_eq_mem]; simp

theorem aHas_false_of_nodup {α} {V r : List (Str × α)} {e : Str × α} (h : (names (V ++ e :: r)).Nodup) :
    aHas e.1 V = false := by
  rw [names, List.map_append] at h
  exact (aHas_false_iff e.1 V).mpr fun hm => (List.nodup_append.mp h).2.2 _ hm _ List.mem_cons_self rfl

theorem aGet?_none_iff {α} (k : Str) (l : List (Str × α)) : aGet? k l = none ↔ aHas k l = false := by
  rw [aHas_eq_isSome, Option.isSome_eq_false_iff, Option.isNone_iff_eq_none]

theorem aSet_of_not_has {α} (k : Str) (v : α) (l : List (Str × α)) (h : aHas k l = false) : aSet k v l = l ++ [(k, v)] := by
  fun_induction aSet k v l with
  | case1 => rfl
  | case2 k' v' r hk => simp [aHas, hk] at h
  | case3 k' v' r hk ih =>
    simp only [aHas, List.any_cons, Bool.or_eq_false_iff] at h
    rw [ih h.2, List.cons_append]

theorem aGet?_aSet_self {α} (k : Str) (v : α) : ∀ (l : List (Str × α)), aGet? k (aSet k v l) = some v := by
  intro l
  fun_induction aSet k v l with
  | case1 => simp [aGet?]
  | case2 k' v' r hk => simp [aGet?, hk]
  | case3 k' v' r hk ih => simp [aGet?, hk, ih]

theorem aGet?_aSet_ne {α} {k' k : Str} (v : α) (hne : k' ≠ k) : ∀ (l : List (Str × α)), aGet? k' (aSet k v l) = aGet? k' l := by
  intro l
  fun_induction aSet k v l with
  | case1 => simp [aGet?, Ne.symm hne]
  | case2 k0 v0 r hk => simp [aGet?, beq_iff_eq.mp hk, Ne.symm hne]
  | case3 k0 v0 r hk ih => simp [aGet?, ih]

theorem aHas_aSet {α} (k' k : Str) (v : α) (l : List (Str × α)) : aHas k' (aSet k v l) = (k' == k || aHas k' l) := by
  simp only [aHas_eq_isSome]
  by_cases h : k' = k
  · simp [h, aGet?_aSet_self]
  · simp [h, aGet?_aSet_ne v h]

theorem aSet_aSet {α} (k : Str) (v w : α) (l : List (Str × α)) : aSet k w (aSet k v l) = aSet k w l := by
  fun_induction aSet k v l with
  | case1 => simp [aSet]
  | case2 k0 v0 r hk => simp [aSet, hk]
  | case3 k0 v0 r hk ih => simp [aSet, hk, ih]

theorem aSet_of_aGet? {α} (k : Str) (s : α) : ∀ (l : List (Str × α)), aGet? k l = some s → aSet k s l = l := by
  intro l h
  fun_induction aSet k s l with
  | case1 => cases h
  | case2 k0 v0 r hk => simp_all [aGet?]
  | case3 k0 v0 r hk ih => simp_all [aGet?]

theorem names_aSet {α} (k : Str) (v : α) (l : List (Str × α)) :
    names (aSet k v l) = if k ∈ names l then names l else names l ++ [k] := by
  fun_induction aSet k v l with
  | case1 => rfl
  | case2 k0 v0 r hk => simp_all [names]
  | case3 k0 v0 r hk ih =>
    have hne : ¬ k = k0 := fun e => hk (by simp [e])
    simp only [names, List.map_cons, List.mem_cons, hne, false_or] at ih ⊢
    rw [ih]
    split <;> simp [*]

theorem addNew_some (acc : List Str) (k : Str) :
    (if k ∈ acc then acc else acc ++ [k]) = addNew' acc k := rfl

/-- the sub-tree `g` of a node (an empty tree when missing, as `sub()` creates it) -/
def child (g : Str) (t : Tree) : Tree := (aGet? g t.subs).getD .empty

/-- the name an assignment to the path `p` adds to the value keys (`leafOf p`) or to the sub keys (`groupOf p`) of the node it
    starts from; `addNew` appends it if it is new -/
def leafOf : List Str → Option Str
  | [k] => some k
  | _ => none

def groupOf : List Str → Option Str
  | k :: _ :: _ => some k
  | _ => none

def addNew (acc : List Str) (k : Option Str) : List Str :=
  match k with
  | none => acc
  | some k => addNew' acc k

/-- the recursion of the path functions: a path of one component is looked up in the node, a longer one continues in the
    child named by its first component, a missing child being the empty tree -/
theorem path_induction {motive : List Str → Tree → Prop} (nil : ∀ t, motive [] t)
    (leaf : ∀ k vals subs, motive [k] (.node vals subs))
    (inner : ∀ k k2 rest vals subs, motive (k2 :: rest) ((aGet? k subs).getD .empty) → motive (k :: k2 :: rest) (.node vals subs)) :
    ∀ p t, motive p t
  | [], t => nil t
  | [k], .node vals subs => leaf k vals subs
  | k :: k2 :: rest, .node vals subs => inner k k2 rest vals subs (path_induction nil leaf inner (k2 :: rest) _)

theorem setPath_leaf_ok {k v : Str} {vals : List (Str × Str)} {subs : List (Str × Tree)} {t' : Tree}
    (h : setPath [k] v (.node vals subs) = .ok t') : t' = .node (aSet k v vals) subs := by
  simp only [setPath] at h
  split at h
  · split at h
    · simp at h
    · injection h with h; exact h.symm
  · injection h with h; exact h.symm

theorem setPath_inner_ok {k k2 v : Str} {rest : List Str} {vals : List (Str × Str)} {subs : List (Str × Tree)} {t' : Tree}
    (h : setPath (k :: k2 :: rest) v (.node vals subs) = .ok t') :
    aHas k vals = false ∧ ∃ s', setPath (k2 :: rest) v ((aGet? k subs).getD .empty) = .ok s' ∧
      t' = .node vals (aSet k s' subs) := by
  simp only [setPath] at h
  split at h
  · simp at h
  · rename_i hv
    split at h
    · simp at h
    · rename_i s' hs
      injection h with h
      exact ⟨by simpa using hv, s', hs, h.symm⟩

theorem setPath_root_names (p : List Str) (v : Str) (t t' : Tree) (h : setPath p v t = .ok t') :
    names t'.vals = addNew (names t.vals) (leafOf p) ∧ names t'.subs = addNew (names t.subs) (groupOf p) := by
  induction p, t using path_induction with
  | nil t => cases h; simp [leafOf, groupOf, addNew]
  | leaf k vals subs =>
    rw [setPath_leaf_ok h]
    simp [Tree.vals, Tree.subs, leafOf, groupOf, addNew, names_aSet, addNew_some]
  | inner k k2 rest vals subs =>
    obtain ⟨_, s', _, rfl⟩ := setPath_inner_ok h
    simp [Tree.vals, Tree.subs, leafOf, groupOf, addNew, names_aSet, addNew_some]

/-- the part of an assignment that concerns the group `g` -/
def under (g : Str) (e : List Str × Str) : Option (List Str × Str) :=
  match e.1 with
  | k :: k2 :: r => if k = g then some (k2 :: r, e.2) else none
  | _ => none

theorem setPath_child (g : Str) (p : List Str) (v : Str) (t t' : Tree) (h : setPath p v t = .ok t') :
    (match under g (p, v) with
     | none => child g t' = child g t
     | some (q, w) => setPath q w (child g t) = .ok (child g t')) := by
  induction p, t using path_induction with
  | nil t => cases h; rfl
  | leaf k vals subs => rw [setPath_leaf_ok h]; rfl
  | inner k k2 rest vals subs =>
    obtain ⟨_, s', hs, rfl⟩ := setPath_inner_ok h
    by_cases hk : k = g
    · subst hk
      simp only [under, if_true, child, Tree.subs, aGet?_aSet_self, Option.getD_some]
      exact hs
    · simp only [under, hk, if_false, child, Tree.subs]
      rw [aGet?_aSet_ne _ (fun e => hk e.symm)]

/-- `setPath` along a list of (path, value); `setAll` (`C12Opt`) is the same recursion over dotted keys, and no lemma relates
    the two -/
def setAllP : List (List Str × Str) → Tree → Except Err Tree
  | [], t => .ok t
  | (p, v) :: r, t => andThen (setPath p v t) (setAllP r)

theorem setAllP_append (a b : List (List Str × Str)) (t : Tree) :
    setAllP (a ++ b) t = andThen (setAllP a t) (setAllP b) := by
  induction a generalizing t with
  | nil => rfl
  | cons e r ih =>
    simp only [List.cons_append, setAllP]
    cases setPath e.1 e.2 t with
    | error e => rfl
    | ok t' => exact ih t'

/-- keys listed in order of first appearance, after those already present -/
def firstApp (base : List Str) (new : List (Option Str)) : List Str := new.foldl addNew base

theorem setAllP_root_names {ps : List (List Str × Str)} {t t' : Tree} (h : setAllP ps t = .ok t') :
    names t'.vals = firstApp (names t.vals) (ps.map (fun e => leafOf e.1)) ∧
    names t'.subs = firstApp (names t.subs) (ps.map (fun e => groupOf e.1)) := by
  induction ps generalizing t with
  | nil => cases h; exact ⟨rfl, rfl⟩
  | cons e r ih =>
    obtain ⟨t1, hs, h⟩ := andThen_eq_ok.mp h
    have h1 := setPath_root_names e.1 e.2 t t1 hs
    simp only [List.map_cons, firstApp, List.foldl_cons]
    rw [← h1.1, ← h1.2]
    exact ih h

theorem setAllP_child (g : Str) (ps : List (List Str × Str)) (t t' : Tree) (h : setAllP ps t = .ok t') :
    setAllP (ps.filterMap (under g)) (child g t) = .ok (child g t') := by
  induction ps generalizing t with
  | nil => cases h; rfl
  | cons e r ih =>
    obtain ⟨t1, hs, h⟩ := andThen_eq_ok.mp h
    have h1 := setPath_child g e.1 e.2 t t1 hs
    simp only [List.filterMap_cons]
    split at h1
    · rename_i hu
      rw [hu, ← h1]
      exact ih t1 h
    · rename_i q w hu
      rw [hu]
      simp only [setAllP, h1, andThen_ok]
      exact ih t1 h

/-- the node reached through the groups `gs` -/
def nodeAt : List Str → Tree → Tree
  | [], t => t
  | g :: gs, t => nodeAt gs (child g t)

/-- the assignments below the group path `gs`, with that prefix removed -/
def descend : List Str → List (List Str × Str) → List (List Str × Str)
  | [], ps => ps
  | g :: gs, ps => descend gs (ps.filterMap (under g))

theorem setAllP_nodeAt (gs : List Str) {ps : List (List Str × Str)} {t t' : Tree} (h : setAllP ps t = .ok t') :
    setAllP (descend gs ps) (nodeAt gs t) = .ok (nodeAt gs t') := by
  induction gs generalizing ps t t' with
  | nil => exact h
  | cons g gs ih => exact ih (setAllP_child g ps t t' h)

def pathsOf (es : List (Str × Str)) : List (List Str × Str) := es.map (fun e => (comps e.1, e.2))

/-- the leaf of the path names a group at its node (the only way an accepted assignment can make a name
    both value and group) -/
def leafClash : List Str → Tree → Bool
  | [], _ => false
  | [k], .node _ subs => aHas k subs
  | k :: rest, .node _ subs =>
    match aGet? k subs with
    | none => false
    | some s => leafClash rest s

theorem leafClash_empty : ∀ (p : List Str), leafClash p .empty = false
  | [] => rfl
  | [k] => by simp [leafClash, Tree.empty, aHas]
  | k :: k2 :: rest => by simp [leafClash, Tree.empty, aGet?]

theorem getPath_empty : ∀ (p : List Str), getPath p .empty = none
  | [] => rfl
  | [k] => by simp [getPath, Tree.empty, aHas]
  | k :: k2 :: rest => by simp [getPath, Tree.empty, aHas, aGet?]

theorem hasKeyPath_empty : ∀ (p : List Str), hasKeyPath p .empty = .ok false
  | [] => rfl
  | [k] => by simp [hasKeyPath, Tree.empty, aHas]
  | k :: k2 :: rest => by simp [hasKeyPath, Tree.empty, aGet?]

theorem leafClash_cons_cons (k k2 : Str) (rest : List Str) (vals : List (Str × Str)) (subs : List (Str × Tree)) :
    leafClash (k :: k2 :: rest) (.node vals subs) = leafClash (k2 :: rest) ((aGet? k subs).getD .empty) := by
  simp only [leafClash]
  cases aGet? k subs <;> simp [leafClash_empty]

theorem getPath_cons_cons (k k2 : Str) (rest : List Str) (vals : List (Str × Str)) (subs : List (Str × Tree)) :
    getPath (k :: k2 :: rest) (.node vals subs) =
      if aHas k vals then none else getPath (k2 :: rest) ((aGet? k subs).getD .empty) := by
  simp only [getPath]
  cases aGet? k subs <;> simp [getPath_empty]

theorem hasKeyPath_cons_cons {k : Str} {vals : List (Str × Str)} (hv : aHas k vals = false) (k2 : Str) (rest : List Str)
    (subs : List (Str × Tree)) :
    hasKeyPath (k :: k2 :: rest) (.node vals subs) = hasKeyPath (k2 :: rest) ((aGet? k subs).getD .empty) := by
  simp only [hasKeyPath, hv]
  cases aGet? k subs <;> simp [hasKeyPath_empty]

theorem getPath_congr {k : Str} {r : List Str} {vals vals' : List (Str × Str)} {subs subs' : List (Str × Tree)}
    (hv : aGet? k vals' = aGet? k vals) (hs : aGet? k subs' = aGet? k subs) :
    getPath (k :: r) (.node vals' subs') = getPath (k :: r) (.node vals subs) := by
  cases r <;> simp only [getPath, aHas_eq_isSome, hv, hs]

theorem leafClash_congr {k : Str} {r : List Str} {vals vals' : List (Str × Str)} {subs subs' : List (Str × Tree)}
    (hs : aGet? k subs' = aGet? k subs) :
    leafClash (k :: r) (.node vals' subs') = leafClash (k :: r) (.node vals subs) := by
  cases r <;> simp only [leafClash, aHas_eq_isSome, hs]

theorem getPath_subs_aSet {k : Str} {vals : List (Str × Str)} (subs : List (Str × Tree)) (s' : Tree)
    (hv : aHas k vals = false) (q : List Str)
    (hq : ∀ k2 r, q = k :: k2 :: r → getPath (k2 :: r) s' = getPath (k2 :: r) ((aGet? k subs).getD .empty)) :
    getPath q (.node vals (aSet k s' subs)) = getPath q (.node vals subs) := by
  match q with
  | [] => rfl
  | k' :: r =>
    by_cases hk : k' = k
    · subst hk
      cases r with
      | nil => simp [getPath, hv]
      | cons k2 r => simp only [getPath_cons_cons, aGet?_aSet_self, Option.getD_some, hq k2 r rfl]
    · exact getPath_congr rfl (aGet?_aSet_ne s' hk subs)

theorem getPath_setPath_self (p : List Str) (v : Str) (t t' : Tree) : p ≠ [] → setPath p v t = .ok t' →
    leafClash p t = false → getPath p t' = some v := by
  induction p, t using path_induction generalizing t' with
  | nil => exact fun h => absurd rfl h
  | leaf k vals subs =>
    intro _ h hc
    rw [setPath_leaf_ok h]
    simp only [leafClash] at hc
    simp [getPath, aHas_aSet, hc, aGet?_aSet_self]
  | inner k k2 rest vals subs ih =>
    intro _ h hc
    obtain ⟨hv, s', hs, rfl⟩ := setPath_inner_ok h
    rw [leafClash_cons_cons] at hc
    simp only [getPath, hv, Bool.false_eq_true, if_false, aGet?_aSet_self]
    exact ih s' (by simp) hs hc

theorem getPath_setPath_ne (p : List Str) (v : Str) (t t' : Tree) (p' : List Str) : setPath p v t = .ok t' →
    leafClash p t = false → p' ≠ p → getPath p' t' = getPath p' t := by
  induction p, t using path_induction generalizing t' p' with
  | nil => intro h; cases h; exact fun _ _ => rfl
  | leaf k vals subs =>
    intro h hc hne
    rw [setPath_leaf_ok h]
    simp only [leafClash] at hc
    match p' with
    | [] => rfl
    | k' :: r =>
      by_cases hk : k' = k
      · -- a longer path through `k`: `k` is a value afterwards, and was no group before
        subst hk
        cases r with
        | nil => exact absurd rfl hne
        | cons k2 r => simp [getPath_cons_cons, aHas_aSet, (aGet?_none_iff k' subs).mpr hc, getPath_empty]
      · exact getPath_congr (aGet?_aSet_ne v hk vals) rfl
  | inner k k2 rest vals subs ih =>
    intro h hc hne
    obtain ⟨hv, s', hs, rfl⟩ := setPath_inner_ok h
    rw [leafClash_cons_cons] at hc
    exact getPath_subs_aSet subs s' hv p' fun k2' r e => ih s' (k2' :: r) hs hc (fun e' => hne (by rw [e, e']))

theorem getPath_isSome_iff (p : List Str) (t : Tree) : (getPath p t).isSome = true ↔ hasKeyPath p t = .ok true := by
  induction p, t using path_induction with
  | nil => simp [getPath, hasKeyPath]
  | leaf k vals subs =>
    cases hv : aHas k vals <;> cases hs : aHas k subs <;> simp [getPath, hasKeyPath, hv, hs, ← aHas_eq_isSome]
  | inner k k2 rest vals subs ih =>
    cases hv : aHas k vals
    · rw [hasKeyPath_cons_cons hv, getPath_cons_cons, hv]
      exact ih
    · simp only [hasKeyPath, getPath, hv, if_true]
      cases aGet? k subs <;> simp

theorem hasKeyPath_of_getPath {p : List Str} {t : Tree} {s : Str} (h : getPath p t = some s) : hasKeyPath p t = .ok true :=
  (getPath_isSome_iff p t).mp (h ▸ rfl)

theorem getPath_isSome_of_hasKeyPath {p : List Str} {t : Tree} {b : Bool} (h : hasKeyPath p t = .ok b) :
    (getPath p t).isSome = b := by
  cases b
  · exact Bool.eq_false_iff.mpr fun hs => nomatch ((getPath_isSome_iff p t).mp hs).symm.trans h
  · exact (getPath_isSome_iff p t).mpr h

theorem getPath_leaf_some {k s : Str} {vals : List (Str × Str)} {subs : List (Str × Tree)}
    (h : getPath [k] (.node vals subs) = some s) : aHas k vals = true ∧ aHas k subs = false ∧ aGet? k vals = some s := by
  simp only [getPath] at h
  split at h
  · rename_i hc
    simp only [Bool.and_eq_true, Bool.not_eq_true'] at hc
    exact ⟨hc.1, hc.2, h⟩
  · cases h

theorem getPath_inner_some {k k2 s : Str} {rest : List Str} {vals : List (Str × Str)} {subs : List (Str × Tree)}
    (h : getPath (k :: k2 :: rest) (.node vals subs) = some s) :
    aHas k vals = false ∧ ∃ sub, aGet? k subs = some sub ∧ getPath (k2 :: rest) sub = some s := by
  simp only [getPath] at h
  split at h
  · cases h
  · rename_i hv
    split at h
    · cases h
    · rename_i sub hg
      exact ⟨by simpa using hv, sub, hg, h⟩

theorem setPath_same : ∀ (p : List Str) (t : Tree) (s : Str), getPath p t = some s → setPath p s t = .ok t := by
  intro p t
  induction p, t using path_induction with
  | nil => exact fun _ h => nomatch h
  | leaf k vals subs =>
    intro s h
    obtain ⟨h1, h2, hg⟩ := getPath_leaf_some h
    simp [setPath, h1, h2, aSet_of_aGet? k s vals hg]
  | inner k k2 rest vals subs ih =>
    intro s h
    obtain ⟨h1, sub, hg, hs⟩ := getPath_inner_some h
    rw [hg, Option.getD_some] at ih
    simp [setPath, h1, hg, ih s hs, aSet_of_aGet? k sub subs hg]

/-- the part of a key path that concerns the group `g` -/
def underK (g : Str) (p : List Str) : Option (List Str) :=
  match p with
  | k :: k2 :: r => if k = g then some (k2 :: r) else none
  | _ => none

theorem under_fst (g : Str) (e : List Str × Str) : (under g e).map (·.1) = underK g e.1 := by
  obtain ⟨p, v⟩ := e
  match p with
  | [] => rfl
  | [_] => rfl
  | k :: k2 :: r =>
    simp only [under, underK]
    by_cases hk : k = g <;> simp [hk]

theorem filterMap_under_fst (g : Str) (ps : List (List Str × Str)) :
    (ps.filterMap (under g)).map (·.1) = (ps.map (·.1)).filterMap (underK g) := by
  rw [List.map_filterMap, List.filterMap_map]
  exact congrArg (List.filterMap · ps) (funext (under_fst g))

/-- what `descend gs` keeps of the paths depends on the paths only, not on the values: this moves the key order from the `ps` of
    `applyAll_setAllP_any` to the paths of the document (`keys_in_first_appearance_order`) -/
theorem descend_fst {β} (f : List Str → β) : ∀ (gs : List Str) {ps ps' : List (List Str × Str)},
    ps.map Prod.fst = ps'.map Prod.fst → (descend gs ps).map (fun e => f e.1) = (descend gs ps').map (fun e => f e.1) := by
  intro gs
  induction gs with
  | nil => exact fun h => by simpa only [descend, List.map_map, Function.comp_def] using congrArg (List.map f) h
  | cons g gs ih => exact fun h => ih (by rw [filterMap_under_fst, filterMap_under_fst, h])

theorem comps_ne_nil (k : Str) : comps k ≠ [] := splitOnC_ne_nil '.' k

theorem comps_injective {a b : Str} (h : comps a = comps b) : a = b := splitOnC_injective '.' h

theorem comps_dot (g k : Str) : comps (g ++ '.' :: k) = comps g ++ comps k := splitOnC_append '.' g k

theorem get?_setPath {k w : Str} {t t' : Tree} (hs : setPath (comps k) w t = .ok t') (hc : leafClash (comps k) t = false)
    (q : Str) : t'.get? q = if q = k then some w else t.get? q := by
  unfold Tree.get?
  split
  · next hq => exact hq ▸ getPath_setPath_self _ w _ _ (comps_ne_nil k) hs hc
  · next hq => exact getPath_setPath_ne _ w _ _ _ hs hc fun e => hq (comps_injective e)

theorem subPath_cons_ok {f : Bool} {k : Str} {g : List Str} {vals : List (Str × Str)} {subs : List (Str × Tree)} {s : Tree}
    (h : subPath f (k :: g) (.node vals subs) = .ok s) :
    aHas k vals = false ∧ subPath f g ((aGet? k subs).getD .empty) = .ok s := by
  have hv : aHas k vals = false := by
    cases hv : aHas k vals with
    | false => rfl
    | true => cases g <;> simp [subPath, hv] at h
  refine ⟨hv, ?_⟩
  cases g with
  | nil =>
    simp only [subPath, hv, Bool.false_eq_true, if_false] at h ⊢
    cases hg : aGet? k subs with
    | none => rw [hg] at h; cases f <;> simp_all
    | some s' => rw [hg] at h; exact h
  | cons g2 gr =>
    simp only [subPath, hv, Bool.false_eq_true, if_false] at h
    cases hg : aGet? k subs <;> (rw [hg] at h; exact h)

theorem subPath_getPath {f : Bool} {g p : List Str} {t s : Tree} (hp : p ≠ []) (h : subPath f g t = .ok s) :
    getPath (g ++ p) t = getPath p s ∧ hasKeyPath (g ++ p) t = hasKeyPath p s := by
  induction g generalizing t with
  | nil => cases h; exact ⟨rfl, rfl⟩
  | cons k g ih =>
    obtain ⟨vals, subs⟩ := t
    obtain ⟨hv, hs⟩ := subPath_cons_ok h
    obtain ⟨x, xs, hx⟩ := List.exists_cons_of_ne_nil (l := g ++ p) (by simp [hp])
    rw [List.cons_append, hx, getPath_cons_cons, hasKeyPath_cons_cons hv, hv, ← hx]
    exact ih hs

/-! the non-const `sub`, by the clauses of `mkSubPath`: no component left; the component is a value; the rest fails below; the rest
gives `s'` below, which is put back under the component -/

theorem mkSubPath_hasSub {g : List Str} {t t1 : Tree} (hne : g ≠ []) (h : mkSubPath g t = .ok t1) :
    hasSubPath g t1 = .ok true := by
  fun_induction mkSubPath g t generalizing t1 with
  | case1 => exact absurd rfl hne
  | case2 => cases h
  | case3 => cases h
  | case4 k rest vals subs hv s' hs ih =>
    cases h
    cases rest with
    | nil => simp [hasSubPath, hv, aHas_aSet]
    | cons k2 r => simp [hasSubPath, aGet?_aSet_self, hv, ih (by simp) hs]

theorem mkSubPath_getPath {g : List Str} {t t1 : Tree} (h : mkSubPath g t = .ok t1) (q : List Str) :
    getPath q t1 = getPath q t := by
  fun_induction mkSubPath g t generalizing t1 q with
  | case1 => cases h; rfl
  | case2 => cases h
  | case3 => cases h
  | case4 k rest vals subs hv s' hs ih =>
    cases h
    exact getPath_subs_aSet subs s' (by simpa using hv) q fun k2 r _ => ih hs _

theorem mkSubPath_then_setPath {g p : List Str} (v : Str) {t t1 : Tree} (hp : p ≠ []) (h : mkSubPath g t = .ok t1) :
    setPath (g ++ p) v t1 = setPath (g ++ p) v t := by
  fun_induction mkSubPath g t generalizing t1 with
  | case1 => cases h; rfl
  | case2 => cases h
  | case3 => cases h
  | case4 k rest vals subs hv s' hs ih =>
    cases h
    obtain ⟨x, xs, hx⟩ := List.exists_cons_of_ne_nil (l := rest ++ p) (by simp [hp])
    simp only [List.cons_append, hx] at ih ⊢
    simp only [setPath, hv, aGet?_aSet_self, Option.getD_some, ih hs]
    cases setPath (x :: xs) v ((aGet? k subs).getD .empty) with
    | error e => rfl
    | ok s'' => simp [aSet_aSet]

mutual
/-- the entries of a tree as (path, value), value keys first, then group by group, in key-list order -/
def flat : Tree → List (List Str × Str)
  | .node vals subs => vals.map (fun kv => ([kv.1], kv.2)) ++ flatSubs subs
def flatSubs : List (Str × Tree) → List (List Str × Str)
  | [] => []
  | (n, s) :: r => (flat s).map (fun e => (n :: e.1, e.2)) ++ flatSubs r
end

mutual
/-- a hierarchy as a parsed document produces it: distinct names per node, no name both value and group,
    no empty group, no dot inside a name -/
def WFT : Tree → Prop
  | .node vals subs =>
    (names vals).Nodup ∧ (names subs).Nodup ∧ (∀ k ∈ names vals, k ∉ names subs) ∧
    (∀ k ∈ names vals, '.' ∉ k) ∧ WFS subs
def WFS : List (Str × Tree) → Prop
  | [] => True
  | (n, s) :: r => '.' ∉ n ∧ WFT s ∧ flat s ≠ [] ∧ WFS r
end

/-- induction over the nested inductive: the sub-trees of a node are the trees of its `subs` list -/
theorem Tree.induction {P : Tree → Prop} (node : ∀ vals subs, (∀ ns ∈ subs, P ns.2) → P (.node vals subs)) (t : Tree) : P t :=
  Tree.rec (motive_1 := P) (motive_2 := fun l => ∀ ns ∈ l, P ns.2) (motive_3 := fun ns => P ns.2)
    node (fun _ hn => nomatch hn) (fun _ _ ih1 ih2 => List.forall_mem_cons.mpr ⟨ih1, ih2⟩) (fun _ _ ih => ih) t

theorem flatSubs_eq (subs : List (Str × Tree)) :
    flatSubs subs = subs.flatMap fun ns => (flat ns.2).map fun e => (ns.1 :: e.1, e.2) := by
  induction subs with
  | nil => rfl
  | cons ns r ih => rw [flatSubs, ih, List.flatMap_cons]

theorem WFS_iff (subs : List (Str × Tree)) : WFS subs ↔ ∀ ns ∈ subs, '.' ∉ ns.1 ∧ WFT ns.2 ∧ flat ns.2 ≠ [] := by
  induction subs with
  | nil => simp [WFS]
  | cons ns r ih => simp only [WFS, ih, List.forall_mem_cons, and_assoc]

theorem mem_flatSubs {subs : List (Str × Tree)} {e : List Str × Str} :
    e ∈ flatSubs subs ↔ ∃ ns ∈ subs, ∃ e' ∈ flat ns.2, (ns.1 :: e'.1, e'.2) = e := by
  simp only [flatSubs_eq, List.mem_flatMap, List.mem_map]

theorem flat_paths_ne_nil : ∀ (t : Tree), ∀ e ∈ flat t, e.1 ≠ []
  | .node vals subs, e, he => by
    simp only [flat, List.mem_append, List.mem_map, mem_flatSubs] at he
    obtain ⟨_, _, rfl⟩ | ⟨_, _, _, _, rfl⟩ := he <;> exact List.cons_ne_nil _ _

theorem rebuild_lift (n : Str) (V : List (Str × Str)) (hV : aHas n V = false) (es : List (List Str × Str)) (S : List (Str × Tree))
    (c1 : Tree) (hne : es ≠ []) (hp : ∀ e ∈ es, e.1 ≠ []) (h : setAllP es ((aGet? n S).getD .empty) = .ok c1) :
    setAllP (es.map (fun e => (n :: e.1, e.2))) (.node V S) = .ok (.node V (aSet n c1 S)) := by
  induction es generalizing S with
  | nil => exact absurd rfl hne
  | cons e r ih =>
    obtain ⟨c', hs, hr⟩ := andThen_eq_ok.mp h
    obtain ⟨p, v⟩ := e
    obtain ⟨k2, rest, rfl⟩ := List.exists_cons_of_ne_nil (hp (p, v) List.mem_cons_self)
    simp only [List.map_cons, setAllP, setPath, hV, Bool.false_eq_true, if_false, hs, andThen_ok]
    cases r with
    | nil =>
      cases hr
      rfl
    | cons e' r' =>
      rw [ih (aSet n c' S) (List.cons_ne_nil _ _) (fun x hx => hp x (List.mem_cons_of_mem _ hx))
        (by rwa [aGet?_aSet_self]), aSet_aSet]

/-- `mk acc` is a node as a function of one of its two key lists, `ent x` the entries that append `x` to that list when its
    key is new: the entries of a list of distinct keys, block by block, build the list -/
theorem setAllP_flatMap_fresh {β} (ent : Str × β → List (List Str × Str)) (mk : List (Str × β) → Tree) (xs acc : List (Str × β))
    (hnd : (names (acc ++ xs)).Nodup)
    (h : ∀ x ∈ xs, ∀ acc, aHas x.1 acc = false → setAllP (ent x) (mk acc) = .ok (mk (acc ++ [x]))) :
    setAllP (xs.flatMap ent) (mk acc) = .ok (mk (acc ++ xs)) := by
  induction xs generalizing acc with
  | nil => rw [List.append_nil]; rfl
  | cons x r ih =>
    obtain ⟨hx, hr⟩ := List.forall_mem_cons.mp h
    rw [List.flatMap_cons, setAllP_append, hx acc (aHas_false_of_nodup hnd), andThen_ok,
      ih _ (by rwa [List.append_assoc]) hr, List.append_assoc, List.singleton_append]

theorem rebuild : ∀ (t : Tree), WFT t → setAllP (flat t) .empty = .ok t := by
  intro t
  induction t using Tree.induction with
  | node vals subs ih =>
    intro h
    simp only [WFT, WFS_iff] at h
    obtain ⟨hv, hs, hdis, _, hw⟩ := h
    rw [flat, setAllP_append, List.map_eq_flatMap, Tree.empty,
      setAllP_flatMap_fresh (fun kv => [([kv.1], kv.2)]) (.node · []) vals [] hv fun kv _ V hV => by
        simp only [setAllP, setPath, hV, Bool.false_eq_true, if_false, andThen_ok, aSet_of_not_has _ _ V hV],
      andThen_ok, flatSubs_eq]
    refine setAllP_flatMap_fresh _ (.node vals ·) subs [] hs fun ns hns S hS => ?_
    -- the entries of a sub-tree build it in its group, which is new and goes to the end
    have hV : aHas ns.1 vals = false := (aHas_false_iff _ _).mpr fun hm => hdis _ hm (List.mem_map_of_mem hns)
    rw [rebuild_lift ns.1 _ hV (flat ns.2) S ns.2 (hw ns hns).2.2 (flat_paths_ne_nil ns.2)
      (by rw [(aGet?_none_iff _ S).mpr hS]; exact ih ns hns (hw ns hns).2.1), aSet_of_not_has _ _ S hS]

theorem flat_comps_nodot (t : Tree) : WFT t → ∀ e ∈ flat t, ∀ c ∈ e.1, '.' ∉ c := by
  induction t using Tree.induction with
  | node vals subs ih =>
    intro h e he c hc
    simp only [WFT, WFS_iff] at h
    simp only [flat, List.mem_append, List.mem_map, mem_flatSubs] at he
    obtain ⟨kv, hkv, rfl⟩ | ⟨ns, hns, e', he', rfl⟩ := he
    · rw [List.mem_singleton.mp hc]
      exact h.2.2.2.1 _ (List.mem_map_of_mem hkv)
    · rcases List.mem_cons.mp hc with rfl | hc
      · exact (h.2.2.2.2 ns hns).1
      · exact ih ns hns (h.2.2.2.2 ns hns).2.1 e' he' c hc

theorem flatSubs_comps_nodot : ∀ (subs : List (Str × Tree)), WFS subs → ∀ e ∈ flatSubs subs, ∀ c ∈ e.1, '.' ∉ c := by
  intro subs h e he c hc
  obtain ⟨ns, hns, e', he', rfl⟩ := mem_flatSubs.mp he
  have hw := (WFS_iff subs).mp h ns hns
  rcases List.mem_cons.mp hc with rfl | hc
  · exact hw.1
  · exact flat_comps_nodot ns.2 hw.2.1 e' he' c hc

/-- the paths of the entries are distinct: within the values and within each group by the distinct names of the node,
    a value against a group entry by its length, two groups by their names -/
theorem flat_pairwise (t : Tree) : WFT t → (flat t).Pairwise fun a b => a.1 ≠ b.1 := by
  induction t using Tree.induction with
  | node vals subs ih =>
    intro h
    simp only [WFT, WFS_iff] at h
    obtain ⟨hv, hs, _, _, hw⟩ := h
    rw [flat, flatSubs_eq, List.pairwise_append, List.pairwise_map, List.pairwise_flatMap]
    refine ⟨(List.pairwise_map.mp hv).imp fun hne e => hne (List.cons.inj e).1,
      ⟨fun ns hns => List.pairwise_map.mpr ((ih ns hns (hw ns hns).2.1).imp fun hne e => hne (List.cons.inj e).2),
       (List.pairwise_map.mp hs).imp fun hne x hx y hy e => ?_⟩, fun a ha b hb e => ?_⟩
    · obtain ⟨_, _, rfl⟩ := List.mem_map.mp hx
      obtain ⟨_, _, rfl⟩ := List.mem_map.mp hy
      exact hne (List.cons.inj e).1
    · obtain ⟨_, _, rfl⟩ := List.mem_map.mp ha
      obtain ⟨ns, _, hb⟩ := List.mem_flatMap.mp hb
      obtain ⟨e', he', rfl⟩ := List.mem_map.mp hb
      exact flat_paths_ne_nil ns.2 e' he' (List.cons.inj e).2.symm

def joinDots (p : List Str) : Str := joinC '.' p

/-- the entries of a tree with their full dotted keys -/
def flatten (t : Tree) : List (Str × Str) := (flat t).map (fun e => (joinDots e.1, e.2))

theorem comps_joinDots_flat {t : Tree} (h : WFT t) {e : List Str × Str} (he : e ∈ flat t) : comps (joinDots e.1) = e.1 :=
  splitOnC_joinC '.' e.1 (flat_paths_ne_nil t e he) (flat_comps_nodot t h e he)

theorem pathsOf_flatten (t : Tree) (h : WFT t) : pathsOf (flatten t) = flat t := by
  rw [pathsOf, flatten, List.map_map]
  refine (List.map_congr_left fun e he => ?_).trans (List.map_id _)
  show (comps (joinDots e.1), e.2) = e
  rw [comps_joinDots_flat h he]

theorem flatten_keys_nodup (t : Tree) (h : WFT t) : ((flatten t).map (·.1)).Nodup := by
  rw [flatten, List.map_map]
  refine List.pairwise_map.mpr ((flat_pairwise t h).imp_of_mem fun {a b} ha hb hne e => hne ?_)
  rw [← comps_joinDots_flat h ha, ← comps_joinDots_flat h hb]
  exact congrArg comps e

end DV.C12
