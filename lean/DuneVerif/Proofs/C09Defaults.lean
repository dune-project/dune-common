import DuneVerif.Proofs.C09Layer
/-!
# C09 — the defaults of the abstraction layer (defaults.hh) and the type-level functions (no Mathlib, no Std)

`mask`, `maskOr`, `maskAnd`, the default reductions through `anyTrue`, the horizontal `max`/`min`, `implCast`
and `Scalar`/`Rebind`/`lanes`.  The functions of `Model/C09X.lean` run what the translator regenerates: `Gen.maskCmp`,
`Gen.maskOrOp`, `Gen.maskAndOp`, `Gen.Ty.*` occur in the statements; `defaultReduce_eq` is about every `DefRed`, and the
generated `Gen.defred_*`, `Gen.hloop_*`, `Gen.implCastSrc/Dst` enter where a caller unifies them with the record a lemma is
stated for (`hreduce_eq`, `implCastLanes_eq`).
-/
namespace DV.C09
open Gen

section Mask
variable {α : Type} {S S₂ : Nat}

theorem zipWith_replicate_right {β γ : Type} (f : α → β → γ) (v : Vec α S) (z : β) :
    Vector.zipWith f v (Vector.replicate S z) = v.map fun x => f x z := by
  apply Vector.ext
  intro i hi
  simp

/-- `mask(v)` is `v[l] != 0` in every lane -/
theorem mask_lanewise (sem : CmpOp → α → α → Option Bool) (zero : α) (v : Vec α S) :
    LanewiseUn (Simd.mask sem zero v) (fun x => sem .ne x zero) v := by
  have h : CmpOp.ofName maskCmp = some .ne := by decide
  unfold Simd.mask LanewiseUn
  rw [h]
  simp only [Option.bind_some]
  rw [lanewise_compareVV]
  simp only [Simd.broadcast, zipWith_replicate_right]

theorem mask_total (cmp : CmpOp → α → α → Bool) (zero : α) (v : Vec α S) :
    Simd.mask (fun o x y => some (cmp o x y)) zero v = some (v.map fun x => cmp .ne x zero) := by
  rw [mask_lanewise]
  exact allSome_map_some _ v

/-- `mask(v1) OP mask(v2)` for the operator of that name, where `bool OP bool` is the total `f`, is `f` lane by lane -/
theorem maskCombine_lanes {name : BoolOpName} {op : BoolOp} (hop : BoolOp.ofName name = some op) {f : Bool → Bool → Bool}
    (hf : ∀ a b, Simd.boolSem op a b = some (f a b)) (ma mb : Vec Bool S) :
    Simd.maskCombine name Simd.boolSem (some ma) (some mb) = some (Vector.zipWith f ma mb) := by
  simp only [Simd.maskCombine, Option.bind_some, hop]
  rw [lanewise_logicVV, funext fun a => funext (hf a), allSome_zipWith_some]

/-- `maskOr(v1, v2)` / `maskAnd(v1, v2)` combine the two masks lane by lane with `||` / `&&` -/
theorem maskOr_lanes (ma mb : Vec Bool S) :
    Simd.maskCombine maskOrOp Simd.boolSem (some ma) (some mb) = some (Vector.zipWith (fun a b => a || b) ma mb) :=
  maskCombine_lanes (op := .lor) (by decide) (fun _ _ => rfl) ma mb

theorem maskAnd_lanes (ma mb : Vec Bool S) :
    Simd.maskCombine maskAndOp Simd.boolSem (some ma) (some mb) = some (Vector.zipWith (fun a b => a && b) ma mb) :=
  maskCombine_lanes (op := .land) (by decide) (fun _ _ => rfl) ma mb

end Mask

section DefaultReductions
variable {S : Nat}

theorem lnot_bool (m : Vec Bool S) : Simd.lnot (fun b => some b) m = some (m.map (!·)) := by
  rw [lanewise_lnot]
  exact allSome_map_some _ m

/-- `[!] anyTrue([!] mask)` is `[!] ∃ lane, [!] lane` -/
theorem defaultReduce_eq (D : DefRed) (m : Vec Bool S) :
    Simd.defaultReduce D (Simd.reduceFlat .anyTrue) (Simd.lnot fun b => some b) m =
      some (let r := m.toList.any (if D.innerNot then (!·) else id); if D.outerNot then !r else r) := by
  unfold Simd.defaultReduce
  cases D.innerNot
  · exact congrArg (Option.map _) (reduceFlat_eq .anyTrue m)
  · rw [if_pos rfl, lnot_bool, Option.bind_some, reduceFlat_eq, Vector.toList_map]
    exact congrArg (fun r => some (if D.outerNot = true then !r else r)) List.any_map

/-- a mask type that provides only `anyTrue` (and `operator!`) gets the other three reductions from defaults.hh;
    they compute the same ∃/∀ over the lanes as LoopSIMD's own overloads -/
theorem reduceDefault_eq (k : RedKind) (m : Vec Bool S) : Simd.reduceDefault k m = some (redSpec k m.toList) := by
  cases k with
  | anyTrue => exact reduceFlat_eq _ m
  | allTrue =>
    exact (defaultReduce_eq _ m).trans
      (congrArg some (List.not_any_eq_all_not.trans (congrArg m.toList.all (funext Bool.not_not))))
  | anyFalse => exact defaultReduce_eq _ m
  | allFalse => exact (defaultReduce_eq _ m).trans (congrArg some List.not_any_eq_all_not)

theorem not_decide_exists_not {L : Nat} (p : Fin L → Bool) (v : Bool) :
    (!decide (∃ l, p l = !v)) = decide (∀ l, p l = v) := by
  rw [← decide_not]
  exact decide_eq_decide.mpr (not_exists.trans (forall_congr' fun _ => Bool.not_eq_not))

end DefaultReductions

section Horizontal
variable {α : Type} {S S₂ : Nat}

/-- the running maximum is one of the values seen; it is below nothing its start was not below and below nothing it was
    compared with -/
theorem foldl_max_spec (lt : α → α → Bool) (hirr : ∀ a, lt a a = false)
    (htr : ∀ a b c, lt a b = true → lt b c = true → lt a c = true) (ys : List α) (a m : α)
    (h : ys.foldl (fun m y => if lt m y then y else m) a = m) :
    (m = a ∨ m ∈ ys) ∧ ∀ z, lt a z = false ∨ z ∈ ys → lt m z = false := by
  induction ys generalizing a with
  | nil => exact ⟨Or.inl h.symm, fun z hz => h ▸ hz.resolve_right List.not_mem_nil⟩
  | cons y ys ih =>
    obtain ⟨hm, hz⟩ := ih (if lt a y then y else a) h
    by_cases c : lt a y = true
    · rw [if_pos c] at hm hz
      refine ⟨Or.inr (List.mem_cons.mpr hm), fun z h => hz z ?_⟩
      rcases h with h | h
      · exact Or.inl (Bool.eq_false_iff.mpr fun hyz => Bool.eq_false_iff.mp h (htr a y z c hyz))
      · exact (List.mem_cons.mp h).imp (fun e : z = y => e ▸ hirr y) id
    · rw [if_neg c] at hm hz
      refine ⟨hm.imp_right (List.mem_cons_of_mem y), fun z h => hz z ?_⟩
      rcases h with h | h
      · exact Or.inl h
      · exact (List.mem_cons.mp h).imp (fun e : z = y => e ▸ Bool.eq_false_iff.mpr c) id

theorem hmin_eq_hmax (lt : α → α → Bool) (l : List α) : Simd.hmin lt l = Simd.hmax (fun a b => lt b a) l := by
  cases l <;> rfl

/-- the horizontal maximum is one of the lanes, and no lane is strictly greater, for every irreflexive transitive `<`
    (so also for IEEE `<` with NaNs) -/
theorem hmax_spec (lt : α → α → Bool) (hirr : ∀ a, lt a a = false)
    (htr : ∀ a b c, lt a b = true → lt b c = true → lt a c = true) {l : List α} {m : α} (h : Simd.hmax lt l = some m) :
    m ∈ l ∧ ∀ x ∈ l, lt m x = false := by
  cases l with
  | nil => cases h
  | cons x xs =>
    obtain ⟨hm, hz⟩ := foldl_max_spec lt hirr htr xs x m (Option.some.inj h)
    exact ⟨List.mem_cons.mpr hm, fun z h => hz z ((List.mem_cons.mp h).imp (fun e : z = x => e ▸ hirr x) id)⟩

theorem hmin_spec (lt : α → α → Bool) (hirr : ∀ a, lt a a = false)
    (htr : ∀ a b c, lt a b = true → lt b c = true → lt a c = true) {l : List α} {m : α} (h : Simd.hmin lt l = some m) :
    m ∈ l ∧ ∀ x ∈ l, lt x m = false :=
  hmax_spec (fun a b => lt b a) hirr (fun a b c hab hbc => htr c b a hbc hab) (hmin_eq_hmax lt l ▸ h)

/-- the translated loop of defaults.hh, run over the lanes `xs` (the accessor is the list's own indexing), is the fold over `xs`:
    `max` if the accumulator is the left operand of `<`, `min` otherwise.  The record is written out; `hmaxFlat_eq` … unify
    `Gen.hloop_max`, `Gen.hloop_min` with it by unfolding (as `implCastToFlat_eq` … do with `Gen.implCastSrc/Dst` for
    `implCastLanes_eq`), so a changed generated value breaks those proofs and not only `defaults_shape`. -/
theorem hreduce_eq (accLeft : Bool) (lt : α → α → Bool) (xs : List α) {n : Nat} {get : Nat → Option α} (hn : xs.length = n)
    (hget : ∀ l, get l = xs[l]?) :
    Simd.hreduce { init := 0, lo := 1, hiMinus := 0, accLeft := accLeft } lt n get = if accLeft then Simd.hmax lt xs else Simd.hmin lt xs := by
  obtain rfl : get = (xs[·]?) := funext hget
  subst hn
  cases xs with
  | nil => cases accLeft <;> rfl
  | cons x ys =>
    -- lane `0` is read, the loop runs over the lanes `1 …`, that is, over `ys`
    refine (foldl_range'_get _ _ ys 1 (fun i => by rw [Nat.add_comm, List.getElem?_cons_succ]) rfl x).trans ?_
    cases accLeft <;> rfl

theorem lane_eq_getElem? (v : Vec α S) (l : Nat) : Simd.lane l v = v.toList[l]? :=
  (lane_flat v l).trans Vector.getElem?_toList.symm

theorem hmaxFlat_eq (lt : α → α → Bool) (v : Vec α S) : Simd.hmaxFlat lt v = Simd.hmax lt v.toList :=
  hreduce_eq true lt v.toList (v.length_toList.trans (Nat.mul_one S).symm) (lane_eq_getElem? v)
theorem hminFlat_eq (lt : α → α → Bool) (v : Vec α S) : Simd.hminFlat lt v = Simd.hmin lt v.toList :=
  hreduce_eq false lt v.toList (v.length_toList.trans (Nat.mul_one S).symm) (lane_eq_getElem? v)

/-- the lanes in storage order are core's `Vector.flatten`, so `Vector.getElem?_flatten` indexes them -/
theorem laneNested_eq_getElem? (v : Vec (Vec α S₂) S) (l : Nat) : Simd.laneNested l v = (Simd.flatten v)[l]? := by
  rw [flatten_eq_toList, Vector.getElem?_toList, Vector.getElem?_flatten]
  by_cases h : l < S * S₂
  · rw [dif_pos h]
    exact laneNested_instance v ⟨l, h⟩
  · rw [dif_neg h]
    exact if_neg h

theorem flatten_length (v : Vec (Vec α S₂) S) : (Simd.flatten v).length = S * S₂ := by
  rw [flatten_eq_toList, Vector.length_toList]

theorem hmaxNested_eq (lt : α → α → Bool) (v : Vec (Vec α S₂) S) :
    Simd.hmaxNested lt v = Simd.hmax lt (Simd.flatten v) :=
  hreduce_eq true lt _ (flatten_length v) (laneNested_eq_getElem? v)
theorem hminNested_eq (lt : α → α → Bool) (v : Vec (Vec α S₂) S) :
    Simd.hminNested lt v = Simd.hmin lt (Simd.flatten v) :=
  hreduce_eq false lt _ (flatten_length v) (laneNested_eq_getElem? v)

end Horizontal

section ImplCast
variable {α : Type} {S S₂ : Nat}

theorem implCastLanes_eq (n : Nat) (zero : α) (get : Nat → Option α) (g : Fin n → α)
    (hg : ∀ l : Fin n, get l.val = some (g l)) :
    Simd.implCastLanes n zero get = some (Vector.ofFn g) := by
  -- the loop of `implCast` is the canonical in-place loop `r[l] = lane(l, u)` on the zero-initialised result
  unfold Simd.implCastLanes
  rw [← allSome_ofFn_some, List.range_eq_range']
  exact loopIP_canonical (S := n)
    { lo := 0, hiMinus := 0, dst := implCastDst, inPlace := true, args := [], scalarByRef := false, scalarTy := .none }
    ⟨rfl, rfl, rfl⟩ rfl (fun i _ => get i) (fun i _ => get i) (fun _ _ _ => rfl) (Vector.replicate n zero) _
    fun i hi => by rw [Vector.getElem_ofFn, hg ⟨i, hi⟩]

/-- **implCast** from a vector of vectors to the flat vector with the same number of lanes: entry `l` is lane `l` … -/
theorem implCastToFlat_eq (zero : α) (u : Vec (Vec α S₂) S) :
    Simd.implCastToFlat zero u = some (Vector.ofFn fun l : Fin (S * S₂) => (SimdLike.nested S S₂).lane l u) := by
  have hS : ∀ l : Fin (laneCount (S * S₂) 1), l.val < S * S₂ := fun l => Nat.lt_of_lt_of_eq l.isLt (Nat.mul_one _)
  unfold Simd.implCastToFlat
  rw [implCastLanes_eq _ zero _ (fun l => (SimdLike.nested S S₂).lane ⟨l.val, hS l⟩ u)
    (fun l => laneNested_instance u ⟨l.val, hS l⟩), Option.bind_some, ofLanesFlat_eq]
  simp only [Vector.getElem_ofFn]

/-- … and from the flat vector to the vector of vectors: entry `(i, j)` is lane `i * S₂ + j` -/
theorem implCastToNested_eq (zero : α) (u : Vec α (S * S₂)) :
    Simd.implCastToNested zero u = some (Vector.ofFn fun i : Fin S => Vector.ofFn fun j : Fin S₂ =>
      u[i.val * S₂ + j.val]'(nested_entry_lt i.isLt j.isLt)) := by
  have hS : ∀ l : Fin (laneCount S S₂), l.val < S * S₂ := fun l => l.isLt
  unfold Simd.implCastToNested
  rw [implCastLanes_eq _ zero _ (fun l => u[l.val]'(hS l)) (fun l => (lane_flat u _).trans (Vector.getElem?_eq_getElem (hS l))), Option.bind_some,
    ofLanesNested_eq]
  simp only [Vector.getElem_ofFn]

end ImplCast

section Types

theorem Ty.scalarOf_is_scalar (t : Ty) : ∃ s, t.scalarOf = .scalar s := by
  induction t with
  | scalar s => exact ⟨s, rfl⟩
  | loop t S ih => exact ih

/-- `lanes<Rebind<U, V>>() = lanes<V>() * lanes<U>()`, in particular `= lanes<V>()` for a scalar `U` -/
theorem Ty.rebind_lanes (u t : Ty) : (Ty.rebind u t).lanes = t.lanes * u.lanes := by
  induction t with
  | scalar s => exact (Nat.one_mul _).symm
  | loop t S ih => exact (congrArg (S * ·) ih).trans (Nat.mul_assoc ..).symm

theorem Ty.rebind_scalarOf (s : String) (t : Ty) : (Ty.rebind (.scalar s) t).scalarOf = .scalar s := by
  induction t with
  | scalar _ => rfl
  | loop t S ih => exact ih

/-- `Rebind<Scalar<V>, V> = V` -/
theorem Ty.rebind_self (t : Ty) : Ty.rebind t.scalarOf t = t := by
  induction t with
  | scalar s => rfl
  | loop t S ih => exact congrArg (Ty.loop · S) ih

end Types

end DV.C09
