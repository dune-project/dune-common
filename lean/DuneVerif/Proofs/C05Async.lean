import DuneVerif.Model.C05Async
/-!
C05, the asynchronous system refines the synchronous history semantics: the invariant `AInv` of `AStep`, kept by every
step (`AInv.step`, `areach_inv`), no deadlock (`AInv.progress`), the measure `atodo` of a whole history; and, proved from
the same `sum_range_lt`, the measure `todoSum` of the synchronous `CommStep` system of Model/C05.lean.  Core Lean only.

* `worldStep_eq_local`: the collective step is the composition gather → messages land → scatter;
* `AOK`: what the invariant needs to know about the communicators (posted sends match posted receives, all posted sends
  are waited for);
* `AInv`: every outstanding send belongs to the communication its sender is still inside; `sync`: send `k` of `p` to `q`
  is transferred iff receive `k` of `q` from `p` is complete; `ghost`: every recorded schedule belongs to a finished
  communication and is an admissible (landing, completion) pair; `data`: the state of every process is the synchronous
  state for every schedule function that extends the recorded schedules.
-/
namespace DV.C05

section
variable {Val Data : Type}

@[simp] theorem PState.setRecvB_recvB (s : PState Val Data) (fwd : Bool) (b : List Val) : (s.setRecvB fwd b).recvB fwd = b := by
  cases fwd <;> rfl
@[simp] theorem PState.setRecvB_sendB (s : PState Val Data) (fwd : Bool) (b : List Val) :
    (s.setRecvB fwd b).sendB fwd = s.sendB fwd := by
  cases fwd <;> rfl
@[simp] theorem PState.setSendB_sendB (s : PState Val Data) (fwd : Bool) (b : List Val) : (s.setSendB fwd b).sendB fwd = b := by
  cases fwd <;> rfl
@[simp] theorem PState.setSendB_recvB (s : PState Val Data) (fwd : Bool) (b : List Val) :
    (s.setSendB fwd b).recvB fwd = s.recvB fwd := by
  cases fwd <;> rfl
@[simp] theorem PState.setRecvB_cont (s : PState Val Data) (fwd : Bool) (b : List Val) : (s.setRecvB fwd b).cont = s.cont := by
  cases fwd <;> rfl
@[simp] theorem PState.setSendB_cont (s : PState Val Data) (fwd : Bool) (b : List Val) : (s.setSendB fwd b).cont = s.cont := by
  cases fwd <;> rfl
@[simp] theorem PState.setRecvB_setRecvB (s : PState Val Data) (fwd : Bool) (b b' : List Val) :
    (s.setRecvB fwd b).setRecvB fwd b' = s.setRecvB fwd b' := by
  cases fwd <;> rfl
theorem PState.setRecvB_self (s : PState Val Data) (fwd : Bool) : s.setRecvB fwd (s.recvB fwd) = s := by
  cases fwd <;> rfl

@[simp] theorem landP_sendB (comm : Nat → Comm) (fwd : Bool) (q p : Nat) (m : List Val) (s : PState Val Data) :
    (landP comm fwd q p m s).sendB fwd = s.sendB fwd := by
  simp [landP]

theorem foldl_landP (comm : Nat → Comm) (fwd : Bool) (q : Nat) (msg : Nat → List Val) (arr : List Nat) (s : PState Val Data) :
    arr.foldl (fun s p => landP comm fwd q p (msg p) s) s =
      s.setRecvB fwd ((comm q).recvBufAfter fwd msg (s.recvB fwd) arr) := by
  -- landing only looks at the receive buffer and only changes it
  rw [Comm.recvBufAfter, ← List.foldl_hom (s.setRecvB fwd), PState.setRecvB_self]
  intro b p
  simp only [landP, PState.setRecvB_recvB, PState.setRecvB_setRecvB]
  rfl

/-- **the collective step is local**: `worldStep` on `q` = scatter ∘ (messages of the gathered send buffers land) ∘ gather -/
theorem worldStep_eq_local (comm : Nat → Comm) (gather : Data → Nat → Nat → Val) (scatter : Data → Val → Nat → Nat → Data)
    (r : Round) (st : Nat → PState Val Data) (q : Nat) :
    worldStep comm gather scatter r st q =
      finishP comm scatter r.fwd q (r.order q)
        ((r.arr q).foldl (fun s p => landP comm r.fwd q p
            ((comm p).msgTo r.fwd ((gatherP comm gather r.fwd p (st p)).sendB r.fwd) q) s)
          (gatherP comm gather r.fwd q (st q))) := by
  rw [foldl_landP]
  simp only [worldStep, finishP, stepCalls, stepRecvBuf, stepSendBuf, gatherP, PState.setSendB_sendB, PState.setSendB_recvB,
    PState.setRecvB_recvB, PState.setRecvB_cont, PState.setSendB_cont]
  cases r.fwd <;> rfl

@[simp] theorem upd_same {α : Type} (f : Nat → α) (p : Nat) (v : α) : upd f p v p = v := by simp [upd]
theorem upd_other {α : Type} (f : Nat → α) {p x : Nat} (v : α) (h : x ≠ p) : upd f p v x = f x := by simp [upd, h]

theorem upd_proj {α β : Type} (g : α → β) (f : Nat → α) (p : Nat) (v : α) (h : g v = g (f p)) (x : Nat) :
    g (upd f p v x) = g (f x) := by
  unfold upd
  split
  · subst x; exact h
  · rfl

structure AOK (A : ASys Val Data) : Prop where
  matched : ∀ fwd p q, p < A.P → q < A.P → (q ∈ (A.comm p).postedSends fwd ↔ p ∈ (A.comm q).postedRecvs fwd)
  sendsLt : ∀ fwd p q, p < A.P → q ∈ (A.comm p).postedSends fwd → q < A.P
  recvsLt : ∀ fwd p q, p < A.P → q ∈ (A.comm p).postedRecvs fwd → q < A.P
  sendsNodup : ∀ fwd p, ((A.comm p).postedSends fwd).Nodup
  recvsNodup : ∀ fwd p, ((A.comm p).postedRecvs fwd).Nodup
  /-- every send that is posted is waited for before `sendRecv` returns -/
  waited : ∀ fwd p, ∀ q ∈ (A.comm p).postedSends fwd, q ∈ (A.comm p).waitedSends fwd

/-- the send `p` posted to `q` in communication `k` has been transferred -/
def sentDone (σ : Nat → AProc Val Data) (p q k : Nat) : Prop :=
  k < (σ p).k ∨ (k = (σ p).k ∧ (σ p).inC = true ∧ (q, k) ∉ (σ p).outS)
/-- the receive `q` posted for `p` in communication `k` is complete -/
def recvDone (σ : Nat → AProc Val Data) (q p k : Nat) : Prop :=
  k < (σ q).k ∨ (k = (σ q).k ∧ (σ q).inC = true ∧ p ∉ (σ q).pendR)

theorem not_sentDone_of_mem {σ : Nat → AProc Val Data} {p q : Nat} (h : (q, (σ p).k) ∈ (σ p).outS) :
    ¬ sentDone σ p q (σ p).k := by
  rintro (h1 | ⟨_, _, h3⟩)
  · exact Nat.lt_irrefl _ h1
  · exact h3 h

theorem not_recvDone_of_mem {σ : Nat → AProc Val Data} {q p : Nat} (h : p ∈ (σ q).pendR) :
    ¬ recvDone σ q p (σ q).k := by
  rintro (h1 | ⟨_, _, h3⟩)
  · exact Nat.lt_irrefl _ h1
  · exact h3 h

/-! `sentDone` and `recvDone` have one shape: round `k` of a process that has finished `n` rounds and is inside `sendRecv`
    or not (`b`), the request of round `n` being still outstanding or not (`pend`) -/

theorem done_idle {k n : Nat} {b : Bool} {pend : Prop} (hb : b = false) : (k < n ∨ (k = n ∧ b = true ∧ ¬ pend)) ↔ k < n :=
  or_iff_left fun h => Bool.false_ne_true (hb ▸ h.2.1)

theorem done_pending {k n : Nat} {b : Bool} {pend : Prop} (h : k = n → pend) :
    (k < n ∨ (k = n ∧ b = true ∧ ¬ pend)) ↔ k < n :=
  or_iff_left fun hc => hc.2.2 (h hc.1)

theorem done_not_pending {k n : Nat} {b : Bool} {pend : Prop} (hb : b = true) (h : ¬ pend) :
    (k < n ∨ (k = n ∧ b = true ∧ ¬ pend)) ↔ k < n + 1 :=
  (or_congr_right (and_iff_left ⟨hb, h⟩)).trans Nat.lt_succ_iff_lt_or_eq.symm

/-- the state of a process inside communication `k`, in terms of the synchronous semantics -/
def midState (A : ASys Val Data) (st0 : Nat → PState Val Data) (sched : Nat → Nat → List Nat × List Nat) (k p : Nat)
    (arrd : List Nat) : PState Val Data :=
  arrd.foldl (fun st p' => landP A.comm (A.dir k) p p' (specMsg A st0 sched k p' p) st)
    (gatherP A.comm A.gather (A.dir k) p (applyPre (A.pre k p) (specSt A st0 sched k p)))

structure AInv (A : ASys Val Data) (st0 : Nat → PState Val Data) (s : AState Val Data) : Prop where
  outS_ok : ∀ p, p < A.P → ∀ e ∈ (s.σ p).outS,
    (s.σ p).inC = true ∧ e.2 = (s.σ p).k ∧ e.1 ∈ (A.comm p).postedSends (A.dir (s.σ p).k)
  outS_nodup : ∀ p, p < A.P → ((s.σ p).outS.map (·.1)).Nodup
  recv_ok : ∀ q, q < A.P → (s.σ q).inC = true →
    ((s.σ q).pendR ++ (s.σ q).arrd).Perm ((A.comm q).postedRecvs (A.dir (s.σ q).k))
  idle_ok : ∀ q, q < A.P → (s.σ q).inC = false → (s.σ q).pendR = [] ∧ (s.σ q).arrd = []
  sync : ∀ k p q, p < A.P → q < A.P → q ∈ (A.comm p).postedSends (A.dir k) → (sentDone s.σ p q k ↔ recvDone s.σ q p k)
  len : ∀ p, p < A.P → (s.σ p).k ≤ A.dirs.length ∧ ((s.σ p).inC = true → (s.σ p).k < A.dirs.length)
  ghost : ∀ k p v, s.gh k p = some v → p < A.P ∧ k < (s.σ p).k ∧
    v.1.Perm ((A.comm p).postedRecvs (A.dir k)) ∧ v.2.Perm v.1
  data : ∀ sched, Extends sched s.gh → ∀ p, p < A.P →
    ((s.σ p).inC = false → (s.σ p).st = specSt A st0 sched (s.σ p).k p) ∧
    ((s.σ p).inC = true → (s.σ p).st = midState A st0 sched (s.σ p).k p (s.σ p).arrd)

theorem AInv.init (A : ASys Val Data) (st0 : Nat → PState Val Data) : AInv A st0 (AState.init st0) where
  outS_ok := by intro p _ e he; simp [AState.init] at he
  outS_nodup := by intro p _; simp [AState.init]
  recv_ok := by intro q _ h; simp [AState.init] at h
  idle_ok := by intro q _ _; simp [AState.init]
  sync := by
    intro k p q _ _ _
    simp [sentDone, recvDone, AState.init]
  len := by intro p _; simp [AState.init]
  ghost := by intro k p v h; simp [AState.init] at h
  data := by
    intro sched _ p _
    simp [AState.init, specSt]

theorem AInv.outS_nil {A : ASys Val Data} {st0 : Nat → PState Val Data} {s : AState Val Data} (h : AInv A st0 s)
    {p : Nat} (hp : p < A.P) (hin : (s.σ p).inC = false) : (s.σ p).outS = [] :=
  List.eq_nil_iff_forall_not_mem.2 fun e he => Bool.false_ne_true (hin ▸ (h.outS_ok p hp e he).1)

/-- a queue holds one entry per destination -/
theorem AInv.only_entry {A : ASys Val Data} {st0 : Nat → PState Val Data} {s : AState Val Data} (h : AInv A st0 s)
    {p q k' : Nat} {pre post : List (Nat × Nat)} (hp : p < A.P) (hout : (s.σ p).outS = pre ++ (q, k') :: post) :
    q ∉ (pre ++ post).map (·.1) := by
  have := h.outS_nodup p hp
  rw [hout, (List.perm_middle.map _).nodup_iff] at this
  exact (List.nodup_cons.1 this).1

/-- … so wherever an entry stands in the queue it is the oldest one for its destination: the transfer is enabled as soon as
    the receiver is inside `sendRecv` and waits for it -/
theorem AInv.can_transfer {A : ASys Val Data} {st0 : Nat → PState Val Data} {s : AState Val Data} (h : AInv A st0 s)
    {p q k' : Nat} (hp : p < A.P) (hq : q < A.P) (hmem : (q, k') ∈ (s.σ p).outS) (hinq : (s.σ q).inC = true)
    (hpend : p ∈ (s.σ q).pendR) : ∃ s', AStep A s s' := by
  obtain ⟨pre, post, hl⟩ := List.append_of_mem hmem
  exact ⟨_, AStep.transfer s p q k' pre post hp hq hl
    (fun e he heq => h.only_entry hp hl (List.mem_map.2 ⟨e, List.mem_append_left _ he, heq⟩)) hinq hpend⟩

/-- what the invariant says about one process by itself -/
structure AProc.OK (A : ASys Val Data) (p : Nat) (a : AProc Val Data) : Prop where
  outS_ok : ∀ e ∈ a.outS, a.inC = true ∧ e.2 = a.k ∧ e.1 ∈ (A.comm p).postedSends (A.dir a.k)
  outS_nodup : (a.outS.map (·.1)).Nodup
  recv_ok : a.inC = true → (a.pendR ++ a.arrd).Perm ((A.comm p).postedRecvs (A.dir a.k))
  idle_ok : a.inC = false → a.pendR = [] ∧ a.arrd = []
  len : a.k ≤ A.dirs.length ∧ (a.inC = true → a.k < A.dirs.length)

theorem AInv.alone {A : ASys Val Data} {st0 : Nat → PState Val Data} {s : AState Val Data} (h : AInv A st0 s) {p : Nat}
    (hp : p < A.P) : (s.σ p).OK A p :=
  ⟨h.outS_ok p hp, h.outS_nodup p hp, h.recv_ok p hp, h.idle_ok p hp, h.len p hp⟩

/-- an action that changes process `p0` only keeps the invariant if `p0` is in order by itself afterwards, its sends and
    receives are as complete as before, and the recorded schedules and the data are right -/
theorem AInv.frame {A : ASys Val Data} {st0 : Nat → PState Val Data} {s : AState Val Data} (h : AInv A st0 s) {p0 : Nat}
    {σ' : Nat → AProc Val Data} {gh' : Ghost} (hσx : ∀ x, x ≠ p0 → σ' x = s.σ x) (h0 : (σ' p0).OK A p0)
    (hsent : ∀ q k, q < A.P → q ∈ (A.comm p0).postedSends (A.dir k) → (sentDone σ' p0 q k ↔ sentDone s.σ p0 q k))
    (hrecv : ∀ p k, p < A.P → p0 ∈ (A.comm p).postedSends (A.dir k) → (recvDone σ' p0 p k ↔ recvDone s.σ p0 p k))
    (ghost : ∀ k p v, gh' k p = some v → p < A.P ∧ k < (σ' p).k ∧ v.1.Perm ((A.comm p).postedRecvs (A.dir k)) ∧ v.2.Perm v.1)
    (data : ∀ sched, Extends sched gh' → ∀ p, p < A.P →
      ((σ' p).inC = false → (σ' p).st = specSt A st0 sched (σ' p).k p) ∧
      ((σ' p).inC = true → (σ' p).st = midState A st0 sched (σ' p).k p (σ' p).arrd)) :
    AInv A st0 { σ := σ', gh := gh' } := by
  have alone : ∀ p, p < A.P → (σ' p).OK A p := fun p hp =>
    if hpp : p = p0 then hpp ▸ h0 else (hσx p hpp).symm ▸ h.alone hp
  refine ⟨fun p hp => (alone p hp).outS_ok, fun p hp => (alone p hp).outS_nodup, fun p hp => (alone p hp).recv_ok,
    fun p hp => (alone p hp).idle_ok, fun k p q hp hq hm => ?_, fun p hp => (alone p hp).len, ghost, data⟩
  have hs : sentDone σ' p q k ↔ sentDone s.σ p q k := by
    by_cases hpp : p = p0
    · subst hpp; exact hsent q k hq hm
    · simp only [sentDone, hσx p hpp]
  have hr : recvDone σ' q p k ↔ recvDone s.σ q p k := by
    by_cases hqq : q = p0
    · subst hqq; exact hrecv p k hp hm
    · simp only [recvDone, hσx q hqq]
  exact (hs.trans (h.sync k p q hp hq hm)).trans hr.symm

theorem AInv.enter {A : ASys Val Data} {st0 : Nat → PState Val Data} (hA : AOK A) {s : AState Val Data}
    (h : AInv A st0 s) (p0 : Nat) (hp0 : p0 < A.P) (hin : (s.σ p0).inC = false) (hk : (s.σ p0).k < A.dirs.length)
    (σ' : Nat → AProc Val Data) (hσ0 : σ' p0 = enterProc A p0 (s.σ p0)) (hσx : ∀ x, x ≠ p0 → σ' x = s.σ x) :
    AInv A st0 { σ := σ', gh := s.gh } := by
  have hout := h.outS_nil hp0 hin
  refine h.frame hσx ?alone ?sent ?recv ?ghost ?data
  case alone =>
    rw [hσ0]
    refine ⟨?_, ?_, fun _ => ?_, fun hi => ?_, ⟨Nat.le_of_lt hk, fun _ => hk⟩⟩
    · intro e he
      simp only [enterProc, hout, List.nil_append, List.mem_map] at he ⊢
      obtain ⟨q, hq, rfl⟩ := he
      exact ⟨trivial, rfl, hq⟩
    · simp only [enterProc, hout, List.nil_append, List.map_map]
      have : ((fun x : Nat × Nat => x.1) ∘ fun q => (q, (s.σ p0).k)) = id := rfl
      rw [this, List.map_id]
      exact hA.sendsNodup _ _
    · simp only [enterProc, List.append_nil]
      exact List.Perm.refl _
    · cases hi
  case sent =>
    -- before: idle with an empty queue; after: inside, with every posted send of this communication in the queue
    intro q k _ hmem
    simp only [sentDone, hσ0]
    exact (done_pending fun hk => List.mem_append_right _ (List.mem_map.2 ⟨q, hk ▸ hmem, hk ▸ rfl⟩)).trans
      (done_idle hin).symm
  case recv =>
    intro p k hp hmem
    simp only [recvDone, hσ0]
    exact (done_pending fun hk => (hA.matched _ p p0 hp hp0).1 (hk ▸ hmem)).trans (done_idle hin).symm
  case ghost =>
    intro k p v hv
    have := h.ghost k p v hv
    by_cases hpp : p = p0
    · subst hpp
      simp only [hσ0, enterProc]
      exact this
    · simp only [hσx p hpp]
      exact this
  case data =>
    intro sched hext p hp
    by_cases hpp : p = p0
    · subst hpp
      simp only [hσ0]
      constructor
      · intro hc
        simp [enterProc] at hc
      · intro _
        simp only [enterProc]
        rw [((h.data sched hext p hp).1 hin)]
        rfl
    · simp only [hσx p hpp]
      exact h.data sched hext p hp

theorem specSt_succ_eq (A : ASys Val Data) (st0 : Nat → PState Val Data) (sched : Nat → Nat → List Nat × List Nat)
    (k p : Nat) :
    specSt A st0 sched (k + 1) p =
      finishP A.comm A.scatter (A.dir k) p (sched k p).2 (midState A st0 sched k p (sched k p).1) := by
  simp only [specSt, worldStep_eq_local, roundOf, midState, specMsg]

theorem AInv.finish {A : ASys Val Data} {st0 : Nat → PState Val Data} (hA : AOK A) {s : AState Val Data}
    (h : AInv A st0 s) (p0 : Nat) (order : List Nat) (hp0 : p0 < A.P) (hin : (s.σ p0).inC = true)
    (hpend : (s.σ p0).pendR = [])
    (hw : ∀ e ∈ (s.σ p0).outS, e.2 = (s.σ p0).k → e.1 ∉ (A.comm p0).waitedSends (A.dir (s.σ p0).k))
    (hord : order.Perm (s.σ p0).arrd)
    (σ' : Nat → AProc Val Data) (hσ0 : σ' p0 = finishProc A p0 order (s.σ p0)) (hσx : ∀ x, x ≠ p0 → σ' x = s.σ x)
    (gh' : Ghost)
    (hgh : gh' = fun k x => if k = (s.σ p0).k ∧ x = p0 then some ((s.σ p0).arrd, order) else s.gh k x) :
    AInv A st0 { σ := σ', gh := gh' } := by
  have hout : (s.σ p0).outS = [] := List.eq_nil_iff_forall_not_mem.mpr (fun e he => by
    have h1 := h.outS_ok p0 hp0 e he
    exact hw e he h1.2.1 (hA.waited _ _ _ h1.2.2))
  have hkn : (s.σ p0).k < A.dirs.length := (h.len p0 hp0).2 hin
  have harr : (s.σ p0).arrd.Perm ((A.comm p0).postedRecvs (A.dir (s.σ p0).k)) := by
    have := h.recv_ok p0 hp0 hin
    rwa [hpend, List.nil_append] at this
  refine h.frame hσx ?alone ?sent ?recv ?ghost ?data
  case alone =>
    rw [hσ0]
    refine ⟨?_, ?_, fun hi => ?_, fun _ => ⟨rfl, rfl⟩, ⟨hkn, fun hi => ?_⟩⟩
    · intro e he
      simp only [finishProc, hout] at he
      cases he
    · simp only [finishProc, hout, List.map_nil]
      exact List.nodup_nil
    · cases hi
    · cases hi
  case sent =>
    -- before: inside communication `k0` with an empty queue; after: `k0 + 1` communications finished
    intro q k _ _
    simp only [sentDone, hσ0]
    exact (done_idle rfl).trans (done_not_pending hin (hout ▸ List.not_mem_nil)).symm
  case recv =>
    intro p k _ _
    simp only [recvDone, hσ0]
    exact (done_idle rfl).trans (done_not_pending hin (hpend ▸ List.not_mem_nil)).symm
  case ghost =>
    intro k p v hv
    subst hgh
    simp only at hv
    by_cases hc : k = (s.σ p0).k ∧ p = p0
    · rw [if_pos hc] at hv
      obtain ⟨rfl, rfl⟩ := hc
      cases hv
      simp only [hσ0, finishProc]
      exact ⟨hp0, Nat.lt_succ_self _, harr, hord⟩
    · rw [if_neg hc] at hv
      have := h.ghost k p v hv
      by_cases hpp : p = p0
      · subst hpp
        simp only [hσ0, finishProc]
        exact ⟨this.1, Nat.lt_succ_of_lt this.2.1, this.2.2⟩
      · simp only [hσx p hpp]
        exact this
  case data =>
    intro sched hext p hp
    subst hgh
    have hext0 : Extends sched s.gh := by
      intro k x v hv
      apply hext k x v
      simp only
      by_cases hc : k = (s.σ p0).k ∧ x = p0
      · obtain ⟨rfl, rfl⟩ := hc
        exact absurd (h.ghost _ _ v hv).2.1 (Nat.lt_irrefl _)
      · rw [if_neg hc]
        exact hv
    have hsch : sched (s.σ p0).k p0 = ((s.σ p0).arrd, order) := by
      apply hext
      simp
    by_cases hpp : p = p0
    · subst hpp
      simp only [hσ0]
      constructor
      · intro _
        simp only [finishProc]
        rw [specSt_succ_eq, hsch, (h.data sched hext0 p hp).2 hin]
      · intro hc
        simp [finishProc] at hc
    · simp only [hσx p hpp]
      exact h.data sched hext0 p hp

theorem midState_snoc (A : ASys Val Data) (st0 : Nat → PState Val Data) (sched : Nat → Nat → List Nat × List Nat)
    (k p : Nat) (arrd : List Nat) (p' : Nat) :
    midState A st0 sched k p (arrd ++ [p']) =
      landP A.comm (A.dir k) p p' (specMsg A st0 sched k p' p) (midState A st0 sched k p arrd) := by
  simp only [midState, List.foldl_append, List.foldl_cons, List.foldl_nil]

theorem midState_sendB (A : ASys Val Data) (st0 : Nat → PState Val Data) (sched : Nat → Nat → List Nat × List Nat)
    (k p : Nat) (arrd : List Nat) :
    (midState A st0 sched k p arrd).sendB (A.dir k) =
      (gatherP A.comm A.gather (A.dir k) p (applyPre (A.pre k p) (specSt A st0 sched k p))).sendB (A.dir k) := by
  rw [midState, foldl_landP, PState.setRecvB_sendB]

/-- what a transfer needs to know: an outstanding send whose receiver waits for it belongs to the communication the
    receiver is in -/
theorem AInv.transfer_round {A : ASys Val Data} {st0 : Nat → PState Val Data} (hA : AOK A) {s : AState Val Data}
    (h : AInv A st0 s) (p0 q0 k' : Nat) (hp0 : p0 < A.P) (hq0 : q0 < A.P)
    (hmem : (q0, k') ∈ (s.σ p0).outS) (hinq : (s.σ q0).inC = true) (hpend : p0 ∈ (s.σ q0).pendR) :
    k' = (s.σ p0).k ∧ (s.σ q0).k = (s.σ p0).k ∧ (s.σ p0).inC = true := by
  obtain ⟨hinp, hk', hsend⟩ := h.outS_ok p0 hp0 _ hmem
  simp only at hk' hsend
  subst hk'
  refine ⟨rfl, ?_, hinp⟩
  -- the send of communication k_p0 is not transferred, so the receive is not complete: k_q0 ≤ k_p0
  have hnr : ¬ recvDone s.σ q0 p0 (s.σ p0).k := fun hr => not_sentDone_of_mem hmem ((h.sync _ p0 q0 hp0 hq0 hsend).2 hr)
  have hle : (s.σ q0).k ≤ (s.σ p0).k := Nat.le_of_not_lt (fun hlt => hnr (Or.inl hlt))
  rcases Nat.lt_or_eq_of_le hle with hlt | heq
  · -- k_q0 < k_p0: p0 has finished communication k_q0, in which it sent to q0; so q0's receive is complete
    exfalso
    have hrecv : p0 ∈ (A.comm q0).postedRecvs (A.dir (s.σ q0).k) :=
      (h.recv_ok q0 hq0 hinq).subset (List.mem_append_left _ hpend)
    have hsend' : q0 ∈ (A.comm p0).postedSends (A.dir (s.σ q0).k) := (hA.matched _ p0 q0 hp0 hq0).2 hrecv
    exact not_recvDone_of_mem hpend ((h.sync _ p0 q0 hp0 hq0 hsend').1 (Or.inl hlt))
  · exact heq

/-- the message a transfer reads from the sender's buffer NOW is the message the sender gathered for the communication
    the receiver is in -/
theorem AInv.transfer_msg {A : ASys Val Data} {st0 : Nat → PState Val Data} (hA : AOK A) {s : AState Val Data}
    (h : AInv A st0 s) (p0 q0 k' : Nat) (hp0 : p0 < A.P) (hq0 : q0 < A.P)
    (hmem : (q0, k') ∈ (s.σ p0).outS) (hinq : (s.σ q0).inC = true) (hpend : p0 ∈ (s.σ q0).pendR)
    (sched : Nat → Nat → List Nat × List Nat) (hext : Extends sched s.gh) :
    transferMsg A p0 q0 k' (s.σ p0) = specMsg A st0 sched (s.σ q0).k p0 q0 := by
  obtain ⟨hk', hkq, hinp⟩ := h.transfer_round hA p0 q0 k' hp0 hq0 hmem hinq hpend
  simp only [transferMsg, specMsg]
  rw [(h.data sched hext p0 hp0).2 hinp, hk', ← hkq]
  rw [hkq, midState_sendB, ← hkq]

theorem AInv.transfer {A : ASys Val Data} {st0 : Nat → PState Val Data} (hA : AOK A) {s : AState Val Data}
    (h : AInv A st0 s) (p0 q0 k' : Nat) (pre post : List (Nat × Nat)) (hp0 : p0 < A.P) (hq0 : q0 < A.P)
    (hout : (s.σ p0).outS = pre ++ (q0, k') :: post) (hpre : ∀ e ∈ pre, e.1 ≠ q0) (hinq : (s.σ q0).inC = true)
    (hpend : p0 ∈ (s.σ q0).pendR)
    (σ' : Nat → AProc Val Data)
    (hk : ∀ x, (σ' x).k = (s.σ x).k) (hi : ∀ x, (σ' x).inC = (s.σ x).inC)
    (ho0 : (σ' p0).outS = pre ++ post) (hox : ∀ x, x ≠ p0 → (σ' x).outS = (s.σ x).outS)
    (hr0 : (σ' q0).pendR = (s.σ q0).pendR.erase p0) (hrx : ∀ x, x ≠ q0 → (σ' x).pendR = (s.σ x).pendR)
    (ha0 : (σ' q0).arrd = (s.σ q0).arrd ++ [p0]) (hax : ∀ x, x ≠ q0 → (σ' x).arrd = (s.σ x).arrd)
    (hs0 : (σ' q0).st = landP A.comm (A.dir (s.σ q0).k) q0 p0 (transferMsg A p0 q0 k' (s.σ p0)) (s.σ q0).st)
    (hsx : ∀ x, x ≠ q0 → (σ' x).st = (s.σ x).st) :
    AInv A st0 { σ := σ', gh := s.gh } := by
  have hmem : (q0, k') ∈ (s.σ p0).outS := by rw [hout]; simp
  obtain ⟨_, hkq, hinp⟩ := h.transfer_round hA p0 q0 k' hp0 hq0 hmem hinq hpend
  have hsub : ∀ x, (σ' x).outS.Sublist (s.σ x).outS := fun x => by
    by_cases hx : x = p0
    · rw [hx, ho0, hout]
      exact List.Sublist.append (List.Sublist.refl _) (List.sublist_cons_self _ _)
    · rw [hox x hx]
      exact List.Sublist.refl _
  have hrecvq := h.recv_ok q0 hq0 hinq
  have hpnd : (s.σ q0).pendR.Nodup := by
    have : ((s.σ q0).pendR ++ (s.σ q0).arrd).Nodup := (hrecvq.nodup_iff).2 (hA.recvsNodup _ _)
    exact (List.nodup_append.1 this).1
  refine ⟨?outS_ok, ?outS_nodup, ?recv_ok, ?idle_ok, ?sync, ?len, ?ghost, ?data⟩
  case outS_ok =>
    intro p hp e he
    simp only [hk, hi]
    exact h.outS_ok p hp e ((hsub p).subset he)
  case outS_nodup =>
    exact fun p hp => (h.outS_nodup p hp).sublist ((hsub p).map _)
  case recv_ok =>
    intro q hq hiq
    simp only [hk, hi] at hiq ⊢
    by_cases hqq : q = q0
    · subst hqq
      rw [hr0, ha0, ← List.append_assoc]
      exact ((List.perm_append_singleton p0 _).trans ((List.perm_cons_erase hpend).symm.append_right _)).trans hrecvq
    · rw [hrx q hqq, hax q hqq]
      exact h.recv_ok q hq hiq
  case idle_ok =>
    intro q hq hiq
    simp only [hi] at hiq ⊢
    have hqq : q ≠ q0 := by
      rintro rfl
      rw [hinq] at hiq
      cases hiq
    rw [hrx q hqq, hax q hqq]
    exact h.idle_ok q hq hiq
  case sync =>
    intro k p q hp hq hm
    by_cases hpq : p = p0 ∧ q = q0
    · -- nothing for `q0` is left in the queue of `p0`, and `p0` is no longer pending at `q0`: both sides say `k ≤ k_p0`
      obtain ⟨rfl, rfl⟩ := hpq
      simp only [sentDone, recvDone, hk, hi, ho0, hr0, hkq]
      exact (done_not_pending hinp fun hc => h.only_entry hp hout (List.mem_map_of_mem hc)).trans
        (done_not_pending hinq fun hc => ((hpnd.mem_erase_iff).1 hc).1 rfl).symm
    · -- off that pair neither side changes
      have hs : sentDone σ' p q k ↔ sentDone s.σ p q k := by
        simp only [sentDone, hk, hi]
        by_cases hpp : p = p0
        · have hne : (q, k) ≠ (q0, k') := fun hc => hpq ⟨hpp, congrArg Prod.fst hc⟩
          rw [hpp, ho0, hout]
          simp only [List.mem_append, List.mem_cons, hne, false_or]
        · rw [hox p hpp]
      have hr : recvDone σ' q p k ↔ recvDone s.σ q p k := by
        simp only [recvDone, hk, hi]
        by_cases hqq : q = q0
        · rw [hqq, hr0, List.mem_erase_of_ne fun hc => hpq ⟨hc, hqq⟩]
        · rw [hrx q hqq]
      exact (hs.trans (h.sync k p q hp hq hm)).trans hr.symm
  case len =>
    intro p hp
    simp only [hk, hi]
    exact h.len p hp
  case ghost =>
    intro k p v hv
    simp only [hk]
    exact h.ghost k p v hv
  case data =>
    intro sched hext p hp
    simp only [hk, hi]
    by_cases hpq : p = q0
    · subst hpq
      refine ⟨fun hc => (by rw [hinq] at hc; cases hc), fun _ => ?_⟩
      rw [hs0, ha0, midState_snoc, (h.data sched hext p hp).2 hinq,
        h.transfer_msg hA p0 p k' hp0 hp hmem hinq hpend sched hext]
    · rw [hsx p hpq, hax p hpq]
      exact h.data sched hext p hp

theorem AInv.step {A : ASys Val Data} {st0 : Nat → PState Val Data} (hA : AOK A) {s s' : AState Val Data}
    (h : AInv A st0 s) (hs : AStep A s s') : AInv A st0 s' := by
  cases hs with
  | enter p hp hin hk => exact h.enter hA p hp hin hk _ (upd_same _ _ _) (fun x hx => upd_other _ _ hx)
  | finish p order hp hin hpend hw hord =>
    exact h.finish hA p order hp hin hpend hw hord _ (upd_same _ _ _) (fun x hx => upd_other _ _ hx) _ rfl
  | transfer p q k' pre post hp hq hout hpre hinq hpend =>
    -- the first update changes only `outS` of `p`, `landProc` only `st`, `pendR`, `arrd` of `q`
    apply h.transfer hA p q k' pre post hp hq hout hpre hinq hpend
    · intro x
      rw [upd_proj AProc.k _ q _ (by rfl), upd_proj AProc.k _ p _ (by rfl)]
    · intro x
      rw [upd_proj AProc.inC _ q _ (by rfl), upd_proj AProc.inC _ p _ (by rfl)]
    · rw [upd_proj AProc.outS _ q _ (by rfl), upd_same]
    · intro x hx
      rw [upd_proj AProc.outS _ q _ (by rfl), upd_other _ _ hx]
    · rw [upd_same]
      simp only [landProc]
      rw [upd_proj AProc.pendR _ p _ (by rfl)]
    · intro x hx
      rw [upd_other _ _ hx, upd_proj AProc.pendR _ p _ (by rfl)]
    · rw [upd_same]
      simp only [landProc]
      rw [upd_proj AProc.arrd _ p _ (by rfl)]
    · intro x hx
      rw [upd_other _ _ hx, upd_proj AProc.arrd _ p _ (by rfl)]
    · rw [upd_same]
      simp only [landProc]
      rw [upd_proj AProc.k _ p _ (by rfl), upd_proj AProc.st _ p _ (by rfl)]
    · intro x hx
      rw [upd_other _ _ hx, upd_proj AProc.st _ p _ (by rfl)]

theorem areach_inv {A : ASys Val Data} {st0 : Nat → PState Val Data} (hA : AOK A) {s : AState Val Data}
    (hr : AReach A st0 s) : AInv A st0 s := by
  induction hr with
  | init => exact AInv.init A st0
  | step _ hs ih => exact ih.step hA hs

theorem runSt_append (comm : Nat → Comm) (gather : Data → Nat → Nat → Val) (scatter : Data → Val → Nat → Nat → Data) :
    ∀ (rs : List Round) (r : Round) (st : Nat → PState Val Data),
      runSt comm gather scatter (rs ++ [r]) st = worldStep comm gather scatter r (runSt comm gather scatter rs st)
  | [], _, _ => rfl
  | _ :: rs, r, st => by
    simp only [List.cons_append, runSt]
    exact runSt_append comm gather scatter rs r _

/-- without user assignments between the communications the synchronous semantics is `runSt` on the history whose
    schedules are the given ones -/
theorem specSt_eq_runSt (A : ASys Val Data) (st0 : Nat → PState Val Data) (sched : Nat → Nat → List Nat × List Nat)
    (hpre : ∀ k p c, A.pre k p c = c) :
    ∀ k, specSt A st0 sched k = runSt A.comm A.gather A.scatter ((List.range k).map (roundOf A sched)) st0
  | 0 => rfl
  | k + 1 => by
    rw [List.range_succ, List.map_append, List.map_cons, List.map_nil, runSt_append, ← specSt_eq_runSt A st0 sched hpre k]
    simp only [specSt, applyPre, hpre]

theorem AInv.progress {A : ASys Val Data} {st0 : Nat → PState Val Data} (hA : AOK A) {s : AState Val Data}
    (h : AInv A st0 s) (hnot : ∃ p, p < A.P ∧ (s.σ p).k < A.dirs.length) : ∃ s', AStep A s s' := by
  obtain ⟨p', hp', hk'⟩ := hnot
  -- a process that has finished the fewest communications
  obtain ⟨p, hp, hmin⟩ : ∃ p, p < A.P ∧ ∀ x, x < A.P → (s.σ p).k ≤ (s.σ x).k :=
    ⟨_, List.mem_range.1 (List.minOn_mem (h := List.ne_nil_of_mem (List.mem_range.2 hp'))),
      fun x hx => List.apply_minOn_le_of_mem (f := fun x => (s.σ x).k) (List.mem_range.2 hx)⟩
  have hkp : (s.σ p).k < A.dirs.length := Nat.lt_of_le_of_lt (hmin p' hp') hk'
  by_cases hidle : ∃ x, x < A.P ∧ (s.σ x).k = (s.σ p).k ∧ (s.σ x).inC = false
  · obtain ⟨x, hx, hkx, hix⟩ := hidle
    exact ⟨_, AStep.enter s x hx hix (hkx ▸ hkp)⟩
  · -- none of them is idle: a neighbour is at the same communication, inside sendRecv, whenever it is not ahead
    have hsame : ∀ x, x < A.P → ¬ (s.σ p).k < (s.σ x).k → (s.σ x).k = (s.σ p).k ∧ (s.σ x).inC = true :=
      fun x hx hnlt =>
        have hk := Nat.le_antisymm (Nat.le_of_not_lt hnlt) (hmin x hx)
        ⟨hk, Bool.of_not_eq_false fun hi => hidle ⟨x, hx, hk, hi⟩⟩
    have hin := (hsame p hp (Nat.lt_irrefl _)).2
    cases hpr : (s.σ p).pendR with
    | cons r rest =>
      -- the receive from r is pending: r has posted the matching send and it is still outstanding
      have hrp : r ∈ (s.σ p).pendR := by rw [hpr]; simp
      have hrecv : r ∈ (A.comm p).postedRecvs (A.dir (s.σ p).k) :=
        (h.recv_ok p hp hin).subset (List.mem_append_left _ hrp)
      have hr : r < A.P := hA.recvsLt _ p r hp hrecv
      have hsend : p ∈ (A.comm r).postedSends (A.dir (s.σ p).k) := (hA.matched _ r p hr hp).2 hrecv
      have hns : ¬ sentDone s.σ r p (s.σ p).k := fun hs => not_recvDone_of_mem hrp ((h.sync _ r p hr hp hsend).1 hs)
      obtain ⟨hkr, hir⟩ := hsame r hr (fun hlt => hns (Or.inl hlt))
      have hmem : (p, (s.σ p).k) ∈ (s.σ r).outS := by
        apply Classical.byContradiction
        intro hc
        exact hns (Or.inr ⟨hkr.symm, hir, hc⟩)
      exact h.can_transfer hr hp hmem hin hrp
    | nil =>
      cases hou : (s.σ p).outS with
      | nil =>
        refine ⟨_, AStep.finish s p (s.σ p).arrd hp hin hpr ?_ (List.Perm.refl _)⟩
        intro e he
        rw [hou] at he
        cases he
      | cons e rest =>
        have hep : e ∈ (s.σ p).outS := by rw [hou]; simp
        obtain ⟨_, hek, hes⟩ := h.outS_ok p hp e hep
        have hq : e.1 < A.P := hA.sendsLt _ p e.1 hp hes
        have hnr : ¬ recvDone s.σ e.1 p (s.σ p).k := fun hr =>
          not_sentDone_of_mem (hek ▸ hep) ((h.sync _ p e.1 hp hq hes).2 hr)
        obtain ⟨hkq, hiq⟩ := hsame e.1 hq (fun hlt => hnr (Or.inl hlt))
        have hmem : p ∈ (s.σ e.1).pendR := by
          apply Classical.byContradiction
          intro hc
          exact hnr (Or.inr ⟨hkq.symm, hiq, hc⟩)
        exact h.can_transfer hp hq hep hiq hmem

theorem sum_range_lt (f g : Nat → Nat) (q : Nat) : ∀ P, q < P → (∀ x, x ≠ q → g x = f x) → g q < f q →
    ((List.range P).map g).sum < ((List.range P).map f).sum
  | P + 1, hq, hx, hlt => by
    rw [List.range_succ, List.map_append, List.map_append, List.sum_append, List.sum_append]
    simp only [List.map_cons, List.map_nil, List.sum_cons, List.sum_nil, Nat.add_zero]
    by_cases hn : q = P
    · subst hn
      have hsame : (List.range q).map g = (List.range q).map f :=
        List.map_congr_left fun z hz => hx z (Nat.ne_of_lt (List.mem_range.1 hz))
      rw [hsame]
      exact Nat.add_lt_add_left hlt _
    · rw [hx P (Ne.symm hn)]
      exact Nat.add_lt_add_right (sum_range_lt f g q P (Nat.lt_of_le_of_ne (Nat.le_of_lt_succ hq) hn) hx hlt) _

theorem todoSum_update_lt (P : Nat) (ph : Nat → Phase) (q : Nat) (hq : q < P) (x : Phase) (hx : x.todo < (ph q).todo) :
    todoSum P (fun y => if y = q then x else ph y) < todoSum P ph :=
  sum_range_lt (fun y => (ph y).todo) _ q P hq (fun y hy => by simp only [if_neg hy])
    (by simpa only [if_pos] using hx)

theorem todoSum_eq_zero (P : Nat) (ph : Nat → Phase) : todoSum P ph = 0 ↔ ∀ q, q < P → ph q = Phase.done := by
  have hdone : ∀ x : Phase, x.todo = 0 ↔ x = Phase.done := fun x => by cases x <;> simp [Phase.todo]
  simp only [todoSum, List.sum_eq_zero_iff_forall_eq_nat, List.mem_map, List.mem_range, ← hdone]
  exact ⟨fun h q hq => h _ ⟨q, hq, rfl⟩, fun h _ ⟨q, hq, e⟩ => e ▸ h q hq⟩

/-- what process `p` still has to do: per outstanding phase of the history more than it can ever have pending receives,
    plus the pending receives -/
def AProc.todo (A : ASys Val Data) (p : Nat) (a : AProc Val Data) : Nat :=
  (1 + ((A.comm p).postedRecvs true).length + ((A.comm p).postedRecvs false).length) *
      (2 * (A.dirs.length - a.k) - (if a.inC then 1 else 0)) + a.pendR.length

def atodo (A : ASys Val Data) (σ : Nat → AProc Val Data) : Nat := ((List.range A.P).map fun p => (σ p).todo A p).sum

theorem postedRecvs_len_lt (A : ASys Val Data) (p : Nat) (d : Bool) :
    ((A.comm p).postedRecvs d).length <
      1 + ((A.comm p).postedRecvs true).length + ((A.comm p).postedRecvs false).length := by
  cases d <;> omega

/-- the measure of a process orders (half-phases in front of it, pending receives) lexicographically, a half-phase
    weighing `W`: it falls when a half-phase ends with fewer than `W` receives pending, and when a receive completes -/
theorem todo_lex (W : Nat) {r r' n n' : Nat} (h : r' < r ∧ n' < W ∨ r' = r ∧ n' < n) : W * r' + n' < W * r + n := by
  rcases h with ⟨hr, hn⟩ | ⟨rfl, hn⟩
  · exact Nat.lt_of_lt_of_le (Nat.add_lt_add_left hn _) (Nat.le_trans (Nat.mul_le_mul_left W hr) (Nat.le_add_right _ _))
  · exact Nat.add_lt_add_left hn _

/-- of the `2 * (L - k)` half-phases in front of a process, entering `sendRecv` ends one and leaving it the next -/
theorem half_phase_lt {L k : Nat} (h : k < L) : 2 * (L - (k + 1)) < 2 * (L - k) - 1 ∧ 2 * (L - k) - 1 < 2 * (L - k) := by
  have : L - k = (L - (k + 1)) + 1 := by
    rw [Nat.sub_succ]
    exact (Nat.succ_pred_eq_of_pos (Nat.sub_pos_of_lt h)).symm
  rw [this, Nat.mul_succ]
  exact ⟨Nat.lt_succ_self _, Nat.lt_succ_self _⟩

theorem AInv.step_todo_lt {A : ASys Val Data} {st0 : Nat → PState Val Data} {s s' : AState Val Data}
    (h : AInv A st0 s) (hs : AStep A s s') : atodo A s'.σ < atodo A s.σ := by
  cases hs with
  | enter p hp hin hk =>
    refine sum_range_lt _ _ p A.P hp (fun x hx => congrArg (AProc.todo A x) (upd_other _ _ hx)) ?_
    -- the first half of a phase ends; all receives are pending
    simp only [upd_same, AProc.todo, enterProc, hin, if_true, Bool.false_eq_true, if_false, Nat.sub_zero]
    exact todo_lex _ (Or.inl ⟨(half_phase_lt hk).2, postedRecvs_len_lt A p _⟩)
  | finish p order hp hin hpend hw hord =>
    refine sum_range_lt _ _ p A.P hp (fun x hx => congrArg (AProc.todo A x) (upd_other _ _ hx)) ?_
    -- the second half ends; nothing is pending
    simp only [upd_same, AProc.todo, finishProc, hin, if_true, Bool.false_eq_true, if_false, Nat.sub_zero, List.length_nil]
    exact todo_lex _ (Or.inl ⟨(half_phase_lt ((h.len p hp).2 hin)).1, Nat.lt_of_le_of_lt (Nat.zero_le _) (postedRecvs_len_lt A p true)⟩)
  | transfer p q k' pre post hp hq hout hpre hinq hpend =>
    refine sum_range_lt _ _ q A.P hq (fun x hx => ?_) ?_
    · -- `outS` does not count
      dsimp only
      rw [upd_other _ _ hx]
      exact upd_proj (AProc.todo A x) s.σ p _ (by rfl) x
    · -- one receive less is pending on `q`
      dsimp only
      rw [upd_same]
      have hq' : ∀ {β : Type} (g : AProc Val Data → β), g { s.σ p with outS := pre ++ post } = g (s.σ p) →
          g (upd s.σ p { s.σ p with outS := pre ++ post } q) = g (s.σ q) := fun g hg => upd_proj g s.σ p _ hg q
      simp only [AProc.todo, landProc, hq' AProc.k rfl, hq' AProc.inC rfl, hq' AProc.pendR rfl, List.length_erase_of_mem hpend]
      exact todo_lex _ (Or.inr ⟨rfl, Nat.sub_lt (List.length_pos_of_mem hpend) Nat.one_pos⟩)

end

end DV.C05
