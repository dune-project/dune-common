import DuneVerif.Proofs.C08Ev3Spec
/-!
# C08 — the eigenvectors of the 3x3 closed form (exact arithmetic over ℝ)

`eig0` gives a unit eigenvector `e` for a simple extreme eigenvalue `l`; `orthoComp` completes it to an orthonormal frame
`{u, v, e}`; in that frame `det (A - t I) = (l - t) · det M(t)` with the reduced 2x2 matrix `M(t)` of `eig1`, so `M` is
singular at a second eigenvalue and `eig1` returns a unit kernel vector of it, in all its branches; the third eigenvector is
the cross product of the two.
-/
namespace DV.C08

theorem dot3_eq (u w : V3 ℝ) : dot3 u w = u.x * w.x + u.y * w.y + u.z * w.z := rfl

theorem dotv3_eq (u w : V3 ℝ) : dotv3 u w = dot3 u w := by
  unfold dotv3 dot3 zero
  simp only [Nat.cast_zero, zero_add]

theorem mv3_eq (A : M3 ℝ) (x : V3 ℝ) : mv3 A x = mulVec3 A x := by
  unfold mv3 mulVec3 dot3 zero
  simp only [Nat.cast_zero, zero_add]

theorem norm2_3_dot (v : V3 ℝ) : norm2_3 v = dot3 v v := by rw [norm2_3_eq, dot3_eq]

theorem V3_zero_of_norm {w : V3 ℝ} (h : norm2_3 w = 0) : w = ⟨0, 0, 0⟩ := by
  rw [norm2_3_eq] at h
  have hz : w.z * w.z = 0 :=
    le_antisymm (h ▸ le_add_of_nonneg_left (add_nonneg (mul_self_nonneg _) (mul_self_nonneg _))) (mul_self_nonneg _)
  rw [hz, add_zero] at h
  obtain ⟨hx, hy⟩ := mul_self_add_mul_self_eq_zero.mp h
  cases w
  simp only [V3.mk.injEq]
  exact ⟨hx, hy, mul_self_eq_zero.mp hz⟩

/-- Lagrange: `|e × u|² = |e|² |u|² - (e·u)²` -/
theorem norm2_3_cross (e u : V3 ℝ) :
    norm2_3 (cross e u) = norm2_3 e * norm2_3 u - dot3 e u * dot3 e u := by
  rw [cross_eq, norm2_3_eq, norm2_3_eq, norm2_3_eq, dot3_eq]
  ring

theorem dot3_cross_left (e u : V3 ℝ) : dot3 (cross e u) e = 0 := by
  rw [cross_eq, dot3_eq]; ring

theorem dot3_cross_right (e u : V3 ℝ) : dot3 (cross e u) u = 0 := by
  rw [cross_eq, dot3_eq]; ring

theorem dot3_comm (u w : V3 ℝ) : dot3 u w = dot3 w u := by
  rw [dot3_eq, dot3_eq]; ring

theorem orthoComp_spec (e : V3 ℝ) (he : norm2_3 e = 1) :
    norm2_3 (orthoComp Real.sqrt e).1 = 1 ∧ dot3 (orthoComp Real.sqrt e).1 e = 0 ∧
      (orthoComp Real.sqrt e).2 = cross e (orthoComp Real.sqrt e).1 := by
  rw [norm2_3_eq] at he
  unfold orthoComp
  simp only [zero, one, Nat.cast_zero, Nat.cast_one, zero_add, absK_eq, mul_zero]
  split_ifs with h
  · -- |e.y| < |e.x| : (e.x, e.z) is normalised; it is not zero because e.x is not
    have hpos : 0 < e.x * e.x + e.z * e.z :=
      add_pos_of_pos_of_nonneg (mul_self_pos.mpr (abs_pos.mp ((abs_nonneg _).trans_lt h))) (mul_self_nonneg _)
    refine ⟨?_, ?_, trivial⟩
    · rw [norm2_3_eq]
      linear_combination inv_sqrt_mul_self hpos
    · rw [dot3_eq]
      ring
  · -- |e.x| ≤ |e.y| : (e.y, e.z) is normalised; it carries at least half of the length of e
    have hxy : e.x * e.x ≤ e.y * e.y := abs_le_iff_mul_self_le.mp (not_lt.mp h)
    have hpos : 0 < e.y * e.y + e.z * e.z := by linarith [mul_self_nonneg e.z]
    refine ⟨?_, ?_, trivial⟩
    · rw [norm2_3_eq]
      linear_combination inv_sqrt_mul_self hpos
    · rw [dot3_eq]
      ring

/-- the factor that normalises `(1, t)` -/
noncomputable def nrm (t : ℝ) : ℝ := 1 / Real.sqrt (1 + t * t)

theorem nrm_unit (t : ℝ) : t * nrm t * (t * nrm t) + nrm t * nrm t = 1 := by
  unfold nrm
  linear_combination inv_sqrt_mul_self (add_pos_of_pos_of_nonneg one_pos (mul_self_nonneg t))

/-- in a singular matrix `[[x, y], [z, w]]` with `x ≠ 0` the second column is `y/x` times the first -/
theorem ratio_of_singular {x y z w : ℝ} (hx : x ≠ 0) (hdet : x * w = y * z) : x * (y / x) = y ∧ z * (y / x) = w := by
  refine ⟨mul_div_cancel₀ _ hx, ?_⟩
  rw [← mul_div_assoc, div_eq_iff hx, mul_comm z, ← hdet, mul_comm]

/-- what `eig1` does with the row `(d, o)` (diagonal, off-diagonal entry) of the reduced matrix: nothing if it
vanishes, else it divides by the larger entry and normalises -/
noncomputable def rowCoeffs (d o : ℝ) : Option (ℝ × ℝ) :=
  if 0 < max |d| |o| then
    if |o| ≤ |d| then some (o / d * nrm (o / d), nrm (o / d)) else some (nrm (d / o), d / o * nrm (d / o))
  else none

/-- `eig1` takes the row with the larger diagonal entry; for the second row the two coefficients change places -/
theorem eig1Coeffs_eq (m00 m01 m11 : ℝ) :
    eig1Coeffs Real.sqrt m00 m01 m11 =
      if |m11| ≤ |m00| then rowCoeffs m00 m01 else (rowCoeffs m11 m01).map Prod.swap := by
  unfold eig1Coeffs rowCoeffs nrm
  simp only [zero, one, Nat.cast_zero, Nat.cast_one, absK_eq, maxK_eq, apply_ite (Option.map Prod.swap),
    Option.map_some, Option.map_none, Prod.swap_prod_mk]

theorem rowCoeffs_none {d o : ℝ} (h : rowCoeffs d o = none) : d = 0 ∧ o = 0 := by
  unfold rowCoeffs at h
  split_ifs at h with h1 h2
  have hm := not_lt.mp h1
  exact ⟨abs_nonpos_iff.mp ((le_max_left _ _).trans hm), abs_nonpos_iff.mp ((le_max_right _ _).trans hm)⟩

/-- for a singular matrix `[[d, o], [o, r]]` the pair `(a, b)` has `a² + b² = 1` and `(a, -b)` lies in the kernel: the
divisor is the larger entry of a non-zero row, and the other row is a multiple of this one -/
theorem rowCoeffs_some {d o r a b : ℝ} (hdet : d * r = o * o) (h : rowCoeffs d o = some (a, b)) :
    a * a + b * b = 1 ∧ d * a = o * b ∧ o * a = r * b := by
  unfold rowCoeffs at h
  split_ifs at h with h1 h2 <;> simp only [Option.some.injEq, Prod.mk.injEq] at h <;> obtain ⟨rfl, rfl⟩ := h
  · have hne : d ≠ 0 := abs_pos.mp (max_eq_left h2 ▸ h1)
    obtain ⟨e1, e2⟩ := ratio_of_singular hne hdet
    exact ⟨nrm_unit _, by rw [← mul_assoc, e1], by rw [← mul_assoc, e2]⟩
  · have hne : o ≠ 0 := abs_pos.mp ((abs_nonneg _).trans_lt (not_le.mp h2))
    obtain ⟨e1, e2⟩ := ratio_of_singular hne hdet.symm
    exact ⟨(add_comm _ _).trans (nrm_unit _), by rw [← mul_assoc, e1], by rw [← mul_assoc, e2]⟩

/-- `eig1Coeffs = none` only for the zero matrix -/
theorem eig1Coeffs_none (m00 m01 m11 : ℝ) (h : eig1Coeffs Real.sqrt m00 m01 m11 = none) :
    m00 = 0 ∧ m01 = 0 ∧ m11 = 0 := by
  rw [eig1Coeffs_eq] at h
  split_ifs at h with h1
  · obtain ⟨z0, z1⟩ := rowCoeffs_none h
    rw [z0, abs_zero] at h1
    exact ⟨z0, z1, abs_nonpos_iff.mp h1⟩
  · obtain ⟨z2, _⟩ := rowCoeffs_none (Option.map_eq_none_iff.mp h)
    rw [z2, abs_zero] at h1
    exact absurd (abs_nonneg _) h1

/-- in every other case the returned pair `(a, b)` (meaning `a*u - b*v`) has `a² + b² = 1` and `(a, -b)` lies in the
kernel of the singular symmetric matrix `[[m00, m01], [m01, m11]]` -/
theorem eig1Coeffs_some (m00 m01 m11 a b : ℝ) (hdet : m00 * m11 = m01 * m01)
    (h : eig1Coeffs Real.sqrt m00 m01 m11 = some (a, b)) :
    a * a + b * b = 1 ∧ m00 * a = m01 * b ∧ m01 * a = m11 * b := by
  rw [eig1Coeffs_eq] at h
  split_ifs at h
  · exact rowCoeffs_some hdet h
  · obtain ⟨⟨b', a'⟩, hx, hsw⟩ := Option.map_eq_some_iff.mp h
    obtain ⟨rfl, rfl⟩ := Prod.mk.inj hsw
    obtain ⟨hu, k1, k2⟩ := rowCoeffs_some (r := m00) ((mul_comm _ _).trans hdet) hx
    exact ⟨(add_comm _ _).trans hu, k2.symm, k1.symm⟩

/-- `uᵀ A w` -/
def bil (A : M3 ℝ) (u w : V3 ℝ) : ℝ := dot3 u (mulVec3 A w)

theorem bil_eq (A : M3 ℝ) (u w : V3 ℝ) :
    bil A u w = u.x * (A.a00 * w.x + A.a01 * w.y + A.a02 * w.z) + u.y * (A.a10 * w.x + A.a11 * w.y + A.a12 * w.z)
      + u.z * (A.a20 * w.x + A.a21 * w.y + A.a22 * w.z) := rfl

theorem bil_sym (A : M3 ℝ) (hs : Sym3 A) (u w : V3 ℝ) : bil A u w = bil A w u := by
  obtain ⟨h1, h2, h3⟩ := hs
  rw [bil_eq, bil_eq, h1, h2, h3]
  ring

theorem shift3_sym (A : M3 ℝ) (t : ℝ) (hs : Sym3 A) : Sym3 (shift3 A t) := hs

theorem bil_shift (A : M3 ℝ) (t : ℝ) (a b : V3 ℝ) : bil (shift3 A t) a b = bil A a b - t * dot3 a b := by
  rw [bil_eq, bil_eq, dot3_eq]
  unfold shift3
  simp only
  ring

theorem comb3_one_zero (u v : V3 ℝ) : comb3 1 u 0 v = u := by
  unfold comb3
  simp only [one_mul, zero_mul, sub_zero]

theorem dot3_comb_left (c u v : V3 ℝ) (a b : ℝ) : dot3 (comb3 a u b v) c = a * dot3 u c - b * dot3 v c := by
  rw [dot3_eq, dot3_eq, dot3_eq]
  unfold comb3
  simp only
  ring

theorem bil_comb_left (X : M3 ℝ) (c u v : V3 ℝ) (a b : ℝ) :
    bil X (comb3 a u b v) c = a * bil X u c - b * bil X v c :=
  dot3_comb_left _ _ _ _ _

theorem dot3_mulVec3 (X : M3 ℝ) (hX : Sym3 X) (w c : V3 ℝ) : dot3 (mulVec3 X w) c = bil X w c :=
  (dot3_comm _ _).trans (bil_sym X hX c w)

/-- `cᵀ (A - t I) e` for an eigenvector `e` of `l` -/
theorem bil_kernel (A : M3 ℝ) (l t : ℝ) (c e : V3 ℝ) (hk : mulVec3 (shift3 A l) e = ⟨0, 0, 0⟩) :
    bil (shift3 A t) c e = (l - t) * dot3 c e := by
  have h0 : bil (shift3 A l) c e = 0 := by
    unfold bil
    rw [hk, dot3_eq]
    simp only [mul_zero, add_zero]
  rw [bil_shift] at h0 ⊢
  linear_combination h0

def ofCols (a b c : V3 ℝ) : M3 ℝ := ⟨a.x, b.x, c.x, a.y, b.y, c.y, a.z, b.z, c.z⟩

/-- the triple product: `det [a, b, c] = b · (c × a)` -/
theorem det3_ofCols (a b c : V3 ℝ) : det3 (ofCols a b c) = dot3 b (cross c a) := by
  rw [cross_eq, dot3_eq]
  unfold det3 ofCols
  ring

theorem conj3 (X : M3 ℝ) (a b c : V3 ℝ) :
    (toMat (ofCols a b c)).transpose * (toMat X * toMat (ofCols a b c))
      = toMat ⟨bil X a a, bil X a b, bil X a c, bil X b a, bil X b b, bil X b c, bil X c a, bil X c b, bil X c c⟩ := by
  unfold toMat ofCols
  -- `eta_fin_three` spells the transpose out entry by entry, so that the outer product is literal too
  rw [Matrix.mul_fin_three, Matrix.eta_fin_three (Matrix.transpose _), Matrix.mul_fin_three]
  rfl

/-- an orthonormal frame `{u, v, e}` -/
structure Frame (e u v : V3 ℝ) : Prop where
  ee : norm2_3 e = 1
  uu : norm2_3 u = 1
  vv : norm2_3 v = 1
  ue : dot3 u e = 0
  ve : dot3 v e = 0
  uv : dot3 u v = 0
  vdef : v = cross e u

theorem frame_of_orthoComp (e : V3 ℝ) (he : norm2_3 e = 1) :
    Frame e (orthoComp Real.sqrt e).1 (orthoComp Real.sqrt e).2 := by
  obtain ⟨hu, hue, hv⟩ := orthoComp_spec e he
  refine ⟨he, hu, ?_, hue, ?_, ?_, hv⟩
  · rw [hv, norm2_3_cross, he, hu, dot3_comm e, hue]; ring
  · rw [hv]; exact dot3_cross_left _ _
  · rw [hv, dot3_comm]; exact dot3_cross_right _ _

/-- `(e × u) × w = u (e·w) - e (u·w)` -/
theorem cross_cross (e u w : V3 ℝ) :
    cross (cross e u) w = ⟨u.x * dot3 e w - e.x * dot3 u w, u.y * dot3 e w - e.y * dot3 u w,
      u.z * dot3 e w - e.z * dot3 u w⟩ := by
  rw [cross_eq, cross_eq, dot3_eq, dot3_eq]
  congr 1 <;> ring

/-- a vector `w` orthogonal to the three members of a frame vanishes: `v × w = (e × u) × w = 0` by the expansion above,
and Lagrange's identity for `v` and `w` leaves `|w|² = 0` -/
theorem orth_zero {e u v : V3 ℝ} (F : Frame e u v) (w : V3 ℝ) (he : dot3 w e = 0) (hu : dot3 w u = 0)
    (hv : dot3 w v = 0) : w = ⟨0, 0, 0⟩ := by
  apply V3_zero_of_norm
  have hL := norm2_3_cross v w
  rw [F.vdef, cross_cross, ← F.vdef, dot3_comm e w, dot3_comm u w, he, hu, F.vv, dot3_comm v w, hv, norm2_3_eq] at hL
  simp only [mul_zero, sub_zero, add_zero, one_mul] at hL
  exact hL.symm

/-- `det X = det (Pᵀ X P)` for the matrix `P` with columns `u`, `v`, `e`, whose determinant is `v · (e × u) = |v|² = 1` -/
theorem det3_in_frame (X : M3 ℝ) {e u v : V3 ℝ} (F : Frame e u v) :
    det3 X = det3 ⟨bil X u u, bil X u v, bil X u e, bil X v u, bil X v v, bil X v e, bil X e u, bil X e v, bil X e e⟩ := by
  have hP : (toMat (ofCols u v e)).det = 1 := by rw [← det3_eq_det, det3_ofCols, ← F.vdef, ← norm2_3_dot, F.vv]
  rw [det3_eq_det, det3_eq_det, ← conj3 X u v e, Matrix.det_mul, Matrix.det_mul, Matrix.det_transpose, hP,
    one_mul, mul_one]

/-- change of basis: for a symmetric matrix `A` with unit eigenvector `e` for `l` and an orthonormal frame `{u, v, e}`:
`det (A - t I) = (l - t) · det M(t)` with the reduced matrix `M(t) = [[uᵀAu - t, uᵀAv], [uᵀAv, vᵀAv - t]]` of `eig1`. -/
theorem detM_factor (A : M3 ℝ) (hs : Sym3 A) (e u v : V3 ℝ) (F : Frame e u v) (l t : ℝ)
    (hk : mulVec3 (shift3 A l) e = ⟨0, 0, 0⟩) :
    det3 (shift3 A t) = (l - t) * ((bil A u u - t) * (bil A v v - t) - bil A u v * bil A u v) := by
  have hX := shift3_sym A t hs
  rw [det3_in_frame (shift3 A t) F]
  rw [bil_kernel A l t u e hk, bil_kernel A l t v e hk, bil_kernel A l t e e hk,
    bil_sym _ hX e u, bil_sym _ hX e v, bil_kernel A l t u e hk, bil_kernel A l t v e hk,
    bil_sym _ hX v u, bil_shift, bil_shift, bil_shift]
  rw [← norm2_3_dot, ← norm2_3_dot, ← norm2_3_dot, F.ue, F.ve, F.uv, F.uu, F.vv, F.ee]
  unfold det3
  simp only
  ring

/-- a kernel vector `(a, -b)` of the reduced matrix `M(t)` with `a² + b² = 1` lifts to the unit vector `a u - b v` in the
kernel of `A - t I`, orthogonal to `e` -/
theorem kernel_of_reduced (A : M3 ℝ) (hs : Sym3 A) (e u v : V3 ℝ) (F : Frame e u v) (l t : ℝ)
    (hk : mulVec3 (shift3 A l) e = ⟨0, 0, 0⟩) (a b : ℝ) (hab : a * a + b * b = 1)
    (h1 : (bil A u u - t) * a = bil A u v * b) (h2 : bil A u v * a = (bil A v v - t) * b) :
    norm2_3 (comb3 a u b v) = 1 ∧ dot3 (comb3 a u b v) e = 0 ∧
      mulVec3 (shift3 A t) (comb3 a u b v) = ⟨0, 0, 0⟩ := by
  have hX := shift3_sym A t hs
  have hwe : dot3 (comb3 a u b v) e = 0 := by
    rw [dot3_comb_left, F.ue, F.ve]; ring
  refine ⟨?_, hwe, ?_⟩
  · rw [norm2_3_dot, dot3_comb_left, dot3_comm u, dot3_comm v, dot3_comb_left, dot3_comb_left,
      ← norm2_3_dot, ← norm2_3_dot, F.uu, F.vv, dot3_comm v u, F.uv]
    linear_combination hab
  · apply orth_zero F
    · -- component along e
      rw [dot3_mulVec3 _ hX, bil_kernel A l t _ e hk, hwe, mul_zero]
    · -- component along u
      rw [dot3_mulVec3 _ hX, bil_comb_left, bil_shift, bil_shift, ← norm2_3_dot, F.uu, bil_sym A hs v u, dot3_comm v u, F.uv]
      linear_combination h1
    · -- component along v
      rw [dot3_mulVec3 _ hX, bil_comb_left, bil_shift, bil_shift, ← norm2_3_dot, F.vv, F.uv]
      linear_combination h2

/-- For a symmetric matrix `A`, a unit eigenvector `e` of `l`, and a value `t` at which the reduced
matrix is singular, `eig1` returns a unit vector orthogonal to `e` in the kernel of `A - t I`. -/
theorem eig1_spec (A : M3 ℝ) (hs : Sym3 A) (e : V3 ℝ) (he : norm2_3 e = 1) (l t : ℝ)
    (hk : mulVec3 (shift3 A l) e = ⟨0, 0, 0⟩)
    (hdet : (bil A (orthoComp Real.sqrt e).1 (orthoComp Real.sqrt e).1 - t)
        * (bil A (orthoComp Real.sqrt e).2 (orthoComp Real.sqrt e).2 - t)
      - bil A (orthoComp Real.sqrt e).1 (orthoComp Real.sqrt e).2
        * bil A (orthoComp Real.sqrt e).1 (orthoComp Real.sqrt e).2 = 0) :
    norm2_3 (eig1 Real.sqrt A e t) = 1 ∧ dot3 (eig1 Real.sqrt A e t) e = 0 ∧
      mulVec3 (shift3 A t) (eig1 Real.sqrt A e t) = ⟨0, 0, 0⟩ := by
  have F := frame_of_orthoComp e he
  unfold eig1
  simp only [mv3_eq, dotv3_eq]
  split
  next hc =>
    -- the reduced matrix vanishes, so `u = 1·u - 0·v` lies in its kernel
    obtain ⟨z0, z1, _⟩ := eig1Coeffs_none _ _ _ hc
    have h := kernel_of_reduced A hs e _ _ F l t hk 1 0 (by ring) (by rw [mul_one, mul_zero]; exact z0)
      (by rw [mul_one, mul_zero]; exact z1)
    rwa [comb3_one_zero] at h
  next a b hc =>
    obtain ⟨hab, k1, k2⟩ := eig1Coeffs_some _ _ _ a b (sub_eq_zero.mp hdet) hc
    exact kernel_of_reduced A hs e _ _ F l t hk a b hab k1 k2

/-- `(A a) × b + a × (A b) = (tr A · I - Aᵀ)(a × b)`: the cross product of eigenvectors for `l₁`, `l₂` of a symmetric
matrix is an eigenvector for `tr A - l₁ - l₂` -/
theorem cross_eigen (A : M3 ℝ) (hs : Sym3 A) (a b : V3 ℝ) (l1 l2 : ℝ)
    (ha : mulVec3 (shift3 A l1) a = ⟨0, 0, 0⟩) (hb : mulVec3 (shift3 A l2) b = ⟨0, 0, 0⟩) :
    mulVec3 (shift3 A (trace3 A - l1 - l2)) (cross a b) = ⟨0, 0, 0⟩ := by
  obtain ⟨s1, s2, s3⟩ := hs
  unfold mulVec3 dot3 shift3 at ha hb
  simp only [V3.mk.injEq] at ha hb
  obtain ⟨hax, hay, haz⟩ := ha
  obtain ⟨hbx, hby, hbz⟩ := hb
  rw [s1] at hay hby
  rw [s2, s3] at haz hbz
  rw [cross_eq]
  unfold mulVec3 dot3 shift3 trace3
  simp only [V3.mk.injEq]
  rw [s1, s2, s3]
  refine ⟨?_, ?_, ?_⟩
  · linear_combination (-b.z) * hay + b.y * haz + (-a.y) * hbz + a.z * hby
  · linear_combination (-b.x) * haz + b.z * hax + (-a.z) * hbx + a.x * hbz
  · linear_combination (-b.y) * hax + b.x * hay + (-a.x) * hby + a.y * hbx

/-- at a simple root `a` of the characteristic polynomial two rows of `A - a I` are linearly independent: the sum of
the three diagonal cofactors of `A - a I` is `(b - a)(c - a) ≠ 0` -/
theorem rank2_of_simple (S : M3 ℝ) (a b c : ℝ) (hf : ∀ t, charPoly3 S t = (t - a) * (t - b) * (t - c))
    (hb : b ≠ a) (hc : c ≠ a) :
    0 < norm2_3 (cross (row0 (shift3 S a)) (row1 (shift3 S a)))
      ∨ 0 < norm2_3 (cross (row0 (shift3 S a)) (row2 (shift3 S a)))
      ∨ 0 < norm2_3 (cross (row1 (shift3 S a)) (row2 (shift3 S a))) := by
  obtain ⟨v1, v2, _⟩ := vieta3_of_factor S a b c hf
  by_contra hcon
  simp only [not_or, not_lt] at hcon
  obtain ⟨n01, n02, n12⟩ := hcon
  have z01 := V3_zero_of_norm (le_antisymm n01 (norm2_3_nonneg _))
  have z02 := V3_zero_of_norm (le_antisymm n02 (norm2_3_nonneg _))
  have z12 := V3_zero_of_norm (le_antisymm n12 (norm2_3_nonneg _))
  have e12 : (S.a11 - a) * (S.a22 - a) - S.a12 * S.a21 = 0 := congrArg V3.x ((cross_eq _ _).symm.trans z12)
  have e02 : S.a02 * S.a20 - (S.a00 - a) * (S.a22 - a) = 0 := congrArg V3.y ((cross_eq _ _).symm.trans z02)
  have e01 : (S.a00 - a) * (S.a11 - a) - S.a01 * S.a10 = 0 := congrArg V3.z ((cross_eq _ _).symm.trans z01)
  have key : (b - a) * (c - a) = 0 := by linear_combination e12 - e02 + e01 + v2 - 2 * a * v1
  rcases mul_eq_zero.mp key with h | h
  · exact hb (sub_eq_zero.mp h)
  · exact hc (sub_eq_zero.mp h)

theorem sortPairs3_sorted (a b c : ℝ × V3 ℝ) (hab : a.1 ≤ b.1) (hbc : b.1 ≤ c.1) : sortPairs3 a b c = (a, b, c) := by
  unfold sortPairs3
  rw [if_neg (not_lt.mpr hab)]
  simp only
  rw [if_neg (not_lt.mpr hbc)]

structure EigTriple (S : M3 ℝ) (l0 l1 l2 : ℝ) (v0 v1 v2 : V3 ℝ) : Prop where
  n0 : norm2_3 v0 = 1
  n1 : norm2_3 v1 = 1
  n2 : norm2_3 v2 = 1
  o01 : dot3 v0 v1 = 0
  o02 : dot3 v0 v2 = 0
  o12 : dot3 v1 v2 = 0
  k0 : mulVec3 (shift3 S l0) v0 = ⟨0, 0, 0⟩
  k1 : mulVec3 (shift3 S l1) v1 = ⟨0, 0, 0⟩
  k2 : mulVec3 (shift3 S l2) v2 = ⟨0, 0, 0⟩

/-- the first two steps of the eigenvector construction: for a simple root `la` of the characteristic polynomial of the
symmetric matrix `S`, `eig0` gives a unit eigenvector `e`, and for a second root `lb` the reduced matrix of `eig1` is
singular (`detM_factor`), so `eig1` gives a unit eigenvector orthogonal to `e` -/
theorem eig0_eig1_spec (S : M3 ℝ) (hs : Sym3 S) (la lb lc : ℝ)
    (hf : ∀ t, charPoly3 S t = (t - la) * (t - lb) * (t - lc)) (hb : lb ≠ la) (hc : lc ≠ la) :
    norm2_3 (eig0 Real.sqrt S la) = 1 ∧ norm2_3 (eig1 Real.sqrt S (eig0 Real.sqrt S la) lb) = 1 ∧
      dot3 (eig1 Real.sqrt S (eig0 Real.sqrt S la) lb) (eig0 Real.sqrt S la) = 0 ∧
      mulVec3 (shift3 S la) (eig0 Real.sqrt S la) = ⟨0, 0, 0⟩ ∧
      mulVec3 (shift3 S lb) (eig1 Real.sqrt S (eig0 Real.sqrt S la) lb) = ⟨0, 0, 0⟩ := by
  obtain ⟨ra, rb, _⟩ := roots_of_factor S la lb lc hf
  have da : det3 (shift3 S la) = 0 := neg_eq_zero.mp ra
  have db : det3 (shift3 S lb) = 0 := neg_eq_zero.mp rb
  obtain ⟨ka, na⟩ := eig0_correct S la da (rank2_of_simple S la lb lc hf hb hc)
  have hM := detM_factor S hs _ _ _ (frame_of_orthoComp _ na) la lb ka
  rw [db] at hM
  obtain ⟨nb, ob, kb⟩ := eig1_spec S hs _ na la lb ka
    ((mul_eq_zero.mp hM.symm).resolve_left (sub_ne_zero.mpr hb.symm))
  exact ⟨na, nb, ob, ka, kb⟩

/-- If `l₀ ≤ l₁ ≤ l₂` are the roots of the characteristic polynomial of the symmetric matrix `S`
(with multiplicity) and the sign of `r` points to a simple extreme root, the trigonometric branch of the eigenvector
code returns the values unchanged together with an orthonormal set of eigenvectors. -/
theorem trigVectors_spec (S : M3 ℝ) (hs : Sym3 S) (l0 l1 l2 r : ℝ) (h01 : l0 ≤ l1) (h12 : l1 ≤ l2)
    (hf : ∀ t, charPoly3 S t = (t - l0) * (t - l1) * (t - l2))
    (hr : (¬ r < 0 → l1 < l2) ∧ (r < 0 → l0 < l1)) :
    (trigVectors Real.sqrt S (l0, l1, l2) r).1.1 = l0 ∧ (trigVectors Real.sqrt S (l0, l1, l2) r).2.1.1 = l1 ∧
      (trigVectors Real.sqrt S (l0, l1, l2) r).2.2.1 = l2 ∧
      EigTriple S l0 l1 l2 (trigVectors Real.sqrt S (l0, l1, l2) r).1.2 (trigVectors Real.sqrt S (l0, l1, l2) r).2.1.2
        (trigVectors Real.sqrt S (l0, l1, l2) r).2.2.2 := by
  have htr : trace3 S = l0 + l1 + l2 := (vieta3_of_factor S l0 l1 l2 hf).1.symm
  unfold trigVectors
  simp only [zero, Nat.cast_zero]
  by_cases hneg : r < 0
  · -- r < 0 : the smallest eigenvalue is simple; the third vector belongs to `tr S - l₀ - l₁ = l₂`
    have hlt := hr.2 hneg
    rw [if_pos hneg, sortPairs3_sorted _ _ _ h01 h12]
    obtain ⟨n0, n1, o10, k0, k1⟩ := eig0_eig1_spec S hs l0 l1 l2 hf hlt.ne' (hlt.trans_le h12).ne'
    have k2 := cross_eigen S hs _ _ l0 l1 k0 k1
    rw [show trace3 S - l0 - l1 = l2 by rw [htr]; ring] at k2
    have o01 := (dot3_comm _ _).trans o10
    refine ⟨rfl, rfl, rfl, ⟨n0, n1, ?_, o01, ?_, ?_, k0, k1, k2⟩⟩
    · rw [norm2_3_cross, n0, n1, o01]; ring
    · rw [dot3_comm]; exact dot3_cross_left _ _
    · rw [dot3_comm]; exact dot3_cross_right _ _
  · -- r ≥ 0 : the largest eigenvalue is simple; the third vector belongs to `tr S - l₁ - l₂ = l₀`
    have hlt := hr.1 hneg
    rw [if_neg hneg, sortPairs3_sorted _ _ _ h01 h12]
    obtain ⟨n2, n1, o12, k2, k1⟩ := eig0_eig1_spec S hs l2 l1 l0 (fun t => by rw [hf t]; ring) hlt.ne
      (h01.trans_lt hlt).ne
    have k0 := cross_eigen S hs _ _ l1 l2 k1 k2
    rw [show trace3 S - l1 - l2 = l0 by rw [htr]; ring] at k0
    refine ⟨rfl, rfl, rfl, ⟨?_, n1, n2, ?_, ?_, o12, k0, k1, k2⟩⟩
    · rw [norm2_3_cross, n1, n2, o12]; ring
    · exact dot3_cross_left _ _
    · exact dot3_cross_right _ _

end DV.C08
