import DuneVerif.Proofs.C08Basic
import DuneVerif.Proofs.C08Tie
/-!
# C08 — the 3x3 path: sort, cross products in the kernel, `eig0`, the two branches of `eigenValues3dImpl`, trace,
max-norm scaling
-/
namespace DV.C08

theorem cswap_eq (p : ℝ × ℝ) : cswap p = (min p.1 p.2, max p.1 p.2) := by
  unfold cswap
  split_ifs with h
  · rw [min_eq_right h.le, max_eq_left h.le]
  · rw [min_eq_left (not_lt.mp h), max_eq_right (not_lt.mp h)]

theorem cswap_symm {β : Type} (g : ℝ → ℝ → β) (hg : ∀ x y, g x y = g y x) (p : ℝ × ℝ) :
    g (cswap p).1 (cswap p).2 = g p.1 p.2 := by
  unfold cswap
  split_ifs
  · exact hg _ _
  · rfl

/-- `sort3` permutes its arguments; the three compare-and-swap steps are undone one by one, the last first -/
theorem sort3_symm {β : Type} (g : ℝ → ℝ → ℝ → β) (h01 : ∀ x y z, g x y z = g y x z) (h12 : ∀ x y z, g x y z = g x z y)
    (a b c : ℝ) : g (sort3 a b c).1 (sort3 a b c).2.1 (sort3 a b c).2.2 = g a b c :=
  (cswap_symm (fun x y => g x y _) (fun x y => h01 x y _) (_, _)).trans
    ((cswap_symm (g _) (h12 _) (_, c)).trans (cswap_symm (fun x y => g x y c) (fun x y => h01 x y c) (a, b)))

theorem sort3_sum (a b c : ℝ) : (sort3 a b c).1 + (sort3 a b c).2.1 + (sort3 a b c).2.2 = a + b + c :=
  sort3_symm (fun x y z => x + y + z) (fun x y z => by ring) (fun x y z => by ring) a b c

theorem sort3_prod (t a b c : ℝ) :
    (t - (sort3 a b c).1) * (t - (sort3 a b c).2.1) * (t - (sort3 a b c).2.2) = (t - a) * (t - b) * (t - c) :=
  sort3_symm (fun x y z => (t - x) * (t - y) * (t - z)) (fun x y z => by ring) (fun x y z => by ring) a b c

theorem sort3_asc (a b c : ℝ) : (sort3 a b c).1 ≤ (sort3 a b c).2.1 ∧ (sort3 a b c).2.1 ≤ (sort3 a b c).2.2 := by
  unfold sort3
  simp only [cswap_eq]
  refine ⟨min_le_max, max_le ?_ min_le_max⟩
  exact le_trans min_le_max (le_max_left _ _)

theorem infNorm3_eq (A : M3 ℝ) :
    infNorm3 A = max (|A.a20| + |A.a21| + |A.a22|)
      (max (|A.a10| + |A.a11| + |A.a12|) (max (|A.a00| + |A.a01| + |A.a02|) 0)) := by
  unfold infNorm3 zero
  simp only [Nat.cast_zero, zero_add, absK_eq, maxK_eq]

theorem infNorm3_nonneg (A : M3 ℝ) : 0 ≤ infNorm3 A := by
  rw [infNorm3_eq]
  exact le_max_of_le_right (le_max_of_le_right (le_max_right _ _))

theorem infNorm3_smul (s : ℝ) (hs : 0 < s) (A : M3 ℝ) : infNorm3 (smul3 s A) = s * infNorm3 A := by
  rw [infNorm3_eq, infNorm3_eq]
  simp only [smul3, abs_mul, abs_of_pos hs, mul_max_of_nonneg _ _ hs.le, mul_add, mul_zero]

def zeroM3 : M3 ℝ := ⟨0, 0, 0, 0, 0, 0, 0, 0, 0⟩

theorem entries_zero_of_infNorm3 (A : M3 ℝ) (h : infNorm3 A = 0) : A = zeroM3 := by
  rw [infNorm3_eq] at h
  have z : ∀ x y z : ℝ, |x| + |y| + |z| ≤ 0 → x = 0 ∧ y = 0 ∧ z = 0 := fun x y z hxyz =>
    have hxy : |x| + |y| ≤ 0 := (le_add_of_nonneg_right (abs_nonneg z)).trans hxyz
    ⟨abs_nonpos_iff.mp ((le_add_of_nonneg_right (abs_nonneg y)).trans hxy),
      abs_nonpos_iff.mp ((le_add_of_nonneg_left (abs_nonneg x)).trans hxy),
      abs_nonpos_iff.mp ((le_add_of_nonneg_left (add_nonneg (abs_nonneg x) (abs_nonneg y))).trans hxyz)⟩
  obtain ⟨a0, a1, a2⟩ :=
    z _ _ _ ((((le_max_left _ _).trans (le_max_right _ _)).trans (le_max_right _ _)).trans_eq h)
  obtain ⟨b0, b1, b2⟩ := z _ _ _ (((le_max_left _ _).trans (le_max_right _ _)).trans_eq h)
  obtain ⟨c0, c1, c2⟩ := z _ _ _ ((le_max_left _ _).trans_eq h)
  cases A
  simp only [zeroM3, M3.mk.injEq]
  exact ⟨a0, a1, a2, b0, b1, b2, c0, c1, c2⟩

theorem maxAbsElement_pos (A : M3 ℝ) : 0 < maxAbsElement A := by
  unfold maxAbsElement zero one
  simp only [Nat.cast_zero, Nat.cast_one]
  split_ifs with h
  · exact h
  · exact one_pos

theorem maxAbsElement_smul (s : ℝ) (hs : 0 < s) (A : M3 ℝ) (hA : 0 < infNorm3 A) :
    maxAbsElement (smul3 s A) = s * maxAbsElement A := by
  unfold maxAbsElement zero
  simp only [Nat.cast_zero]
  rw [infNorm3_smul s hs, if_pos hA, if_pos (mul_pos hs hA)]

theorem sdiv3_smul (s m : ℝ) (hs : s ≠ 0) (A : M3 ℝ) : sdiv3 (smul3 s A) (s * m) = sdiv3 A m := by
  unfold sdiv3 smul3
  simp only [mul_div_mul_left _ _ hs]

theorem norm2_3_eq (v : V3 ℝ) : norm2_3 v = v.x * v.x + v.y * v.y + v.z * v.z := by
  unfold norm2_3 zero
  simp only [Nat.cast_zero, zero_add]

theorem norm2_3_nonneg (v : V3 ℝ) : 0 ≤ norm2_3 v := by
  rw [norm2_3_eq]
  exact add_nonneg (add_nonneg (mul_self_nonneg _) (mul_self_nonneg _)) (mul_self_nonneg _)

/-- the determinant in the operation order of `DenseMatrix::determinant` (translated) is the determinant -/
theorem det3m_eq (A : M3 ℝ) : det3m A = det3 A := by
  unfold det3m Gen.det3 det3
  ring

theorem cross_eq (u v : V3 ℝ) :
    cross u v = ⟨u.y * v.z - u.z * v.y, u.z * v.x - u.x * v.z, u.x * v.y - u.y * v.x⟩ := by
  unfold cross Gen.cross
  -- `rfl` while the translated `Gen.cross` is spelt like the right side, else up to ring identities
  first
  | rfl
  | (simp only [V3.mk.injEq]; exact ⟨by ring, by ring, by ring⟩)

noncomputable def sdivV3 (v : V3 ℝ) (d : ℝ) : V3 ℝ := ⟨v.x / d, v.y / d, v.z / d⟩

theorem mulVec3_sdivV3 (S : M3 ℝ) (c : V3 ℝ) (d : ℝ) : mulVec3 S (sdivV3 c d) = sdivV3 (mulVec3 S c) d := by
  unfold mulVec3 dot3 sdivV3
  congr 1 <;> ring

theorem norm2_3_sdivV3 (c : V3 ℝ) (d : ℝ) : norm2_3 (sdivV3 c d) = norm2_3 c / (d * d) := by
  rw [norm2_3_eq, norm2_3_eq]
  unfold sdivV3
  ring

theorem unit_kernel (S : M3 ℝ) (c : V3 ℝ) (hc : mulVec3 S c = ⟨0, 0, 0⟩) (hd : 0 < Real.sqrt (norm2_3 c)) :
    mulVec3 S (sdivV3 c (Real.sqrt (norm2_3 c))) = ⟨0, 0, 0⟩ ∧ norm2_3 (sdivV3 c (Real.sqrt (norm2_3 c))) = 1 := by
  constructor
  · rw [mulVec3_sdivV3, hc]
    unfold sdivV3
    simp only [zero_div]
  · rw [norm2_3_sdivV3, Real.mul_self_sqrt (norm2_3_nonneg c), div_self (Real.sqrt_pos.mp hd).ne']

theorem eig0_select (c01 c02 c12 : V3 ℝ) (d0 d1 d2 : ℝ) :
    (let sel : ℝ × Nat := if d0 < d1 then (d1, 1) else (d0, 0)
     let imax : Nat := if sel.1 < d2 then 2 else sel.2
     if imax = 0 then sdivV3 c01 d0 else if imax = 1 then sdivV3 c02 d1 else sdivV3 c12 d2)
      = if d0 < d1 then (if d1 < d2 then sdivV3 c12 d2 else sdivV3 c02 d1)
        else (if d0 < d2 then sdivV3 c12 d2 else sdivV3 c01 d0) :=
  imax_select _ _ _ _ _ _

/-- the cross products of two rows are the columns of the adjugate: component `k` of `S (rᵢ × rⱼ)` is `rₖ · (rᵢ × rⱼ)`, zero
identically for `k ∈ {i, j}` and `± det S` for the third row -/
theorem mulVec3_cross_rows (S : M3 ℝ) :
    mulVec3 S (cross (row0 S) (row1 S)) = ⟨0, 0, det3 S⟩ ∧ mulVec3 S (cross (row0 S) (row2 S)) = ⟨0, -det3 S, 0⟩ ∧
      mulVec3 S (cross (row1 S) (row2 S)) = ⟨det3 S, 0, 0⟩ := by
  rw [cross_eq, cross_eq, cross_eq]
  unfold mulVec3 dot3 det3 row0 row1 row2
  simp only [V3.mk.injEq]
  exact ⟨⟨by ring, by ring, by ring⟩, ⟨by ring, by ring, by ring⟩, ⟨by ring, by ring, by ring⟩⟩

theorem cross_rows_kernel (S : M3 ℝ) (hdet : det3 S = 0) :
    mulVec3 S (cross (row0 S) (row1 S)) = ⟨0, 0, 0⟩ ∧ mulVec3 S (cross (row0 S) (row2 S)) = ⟨0, 0, 0⟩ ∧
      mulVec3 S (cross (row1 S) (row2 S)) = ⟨0, 0, 0⟩ := by
  have h := mulVec3_cross_rows S
  rwa [hdet, neg_zero] at h

/-- the decision tree of `eig0`'s maximum search (`imax_select`) returns a candidate of positive length as soon as one of the
three lengths is positive: the selected length is the largest (the earlier one on ties) -/
theorem select_pos {β : Type} (P : β → Prop) (x0 x1 x2 : β) {d0 d1 d2 : ℝ} (n0 : 0 ≤ d0)
    (hpos : 0 < d0 ∨ 0 < d1 ∨ 0 < d2) (p0 : 0 < d0 → P x0) (p1 : 0 < d1 → P x1) (p2 : 0 < d2 → P x2) :
    P (if d0 < d1 then (if d1 < d2 then x2 else x1) else (if d0 < d2 then x2 else x0)) := by
  split_ifs with h1 h2 h3
  · exact p2 (n0.trans_lt (h1.trans h2))
  · exact p1 (n0.trans_lt h1)
  · exact p2 (n0.trans_lt h3)
  · exact p0 (hpos.elim id (Or.elim · (·.trans_le (not_lt.mp h1)) (·.trans_le (not_lt.mp h3))))

theorem eig0_correct (A : M3 ℝ) (ev : ℝ) (hdet : det3 (shift3 A ev) = 0)
    (hrank : 0 < norm2_3 (cross (row0 (shift3 A ev)) (row1 (shift3 A ev)))
      ∨ 0 < norm2_3 (cross (row0 (shift3 A ev)) (row2 (shift3 A ev)))
      ∨ 0 < norm2_3 (cross (row1 (shift3 A ev)) (row2 (shift3 A ev)))) :
    mulVec3 (shift3 A ev) (eig0 Real.sqrt A ev) = ⟨0, 0, 0⟩ ∧ norm2_3 (eig0 Real.sqrt A ev) = 1 := by
  obtain ⟨k01, k02, k12⟩ := cross_rows_kernel (shift3 A ev) hdet
  rw [eig0_eq_tree]
  exact select_pos (fun v => mulVec3 (shift3 A ev) v = ⟨0, 0, 0⟩ ∧ norm2_3 v = 1) _ _ _ (Real.sqrt_nonneg _)
    (hrank.imp Real.sqrt_pos.mpr (Or.imp Real.sqrt_pos.mpr Real.sqrt_pos.mpr))
    (unit_kernel _ _ k01) (unit_kernel _ _ k02) (unit_kernel _ _ k12)

/-- everything proved about the max-norm-scaled matrix is carried back to `A` through this equation and ring identities
about `smul3` -/
theorem smul3_sdiv3 (A : M3 ℝ) (m : ℝ) (hm : m ≠ 0) : smul3 m (sdiv3 A m) = A := by
  unfold smul3 sdiv3
  simp only [mul_div_cancel₀ _ hm]

theorem shift3_smul3 (B : M3 ℝ) (m l : ℝ) : shift3 (smul3 m B) (l * m) = smul3 m (shift3 B l) := by
  unfold shift3 smul3
  congr 1 <;> ring

theorem mulVec3_smul3 (B : M3 ℝ) (m : ℝ) (v : V3 ℝ) :
    mulVec3 (smul3 m B) v = ⟨m * (mulVec3 B v).x, m * (mulVec3 B v).y, m * (mulVec3 B v).z⟩ := by
  unfold mulVec3 dot3 smul3
  congr 1 <;> ring

theorem det3_smul3 (c : ℝ) (M : M3 ℝ) : det3 (smul3 c M) = c ^ 3 * det3 M := by
  unfold det3 smul3
  ring

theorem charPoly3_smul3 (B : M3 ℝ) (m l : ℝ) : charPoly3 (smul3 m B) (l * m) = m ^ 3 * charPoly3 B l := by
  unfold charPoly3
  rw [shift3_smul3, det3_smul3, mul_neg]

/-- eigenvalues of the max-norm-scaled matrix, scaled back, are eigenvalues of the matrix -/
theorem charPoly3_unscale (A : M3 ℝ) (m l : ℝ) (hm : m ≠ 0) (h : charPoly3 (sdiv3 A m) l = 0) :
    charPoly3 A (l * m) = 0 := by
  rw [← smul3_sdiv3 A m hm, charPoly3_smul3, h, mul_zero]

theorem charPoly3_unscale_factor (A : M3 ℝ) (m a b c : ℝ) (hm : m ≠ 0)
    (h : ∀ t, charPoly3 (sdiv3 A m) t = (t - a) * (t - b) * (t - c)) :
    ∀ t, charPoly3 A t = (t - a * m) * (t - b * m) * (t - c * m) := by
  intro t
  have key := charPoly3_smul3 (sdiv3 A m) m (t / m)
  rw [smul3_sdiv3 A m hm, div_mul_cancel₀ t hm, h] at key
  have e : ∀ x, m * (t / m - x) = t - x * m := fun x => by rw [mul_sub, mul_div_cancel₀ _ hm, mul_comm]
  rw [key, ← e a, ← e b, ← e c]
  ring

theorem sdiv3_sym (A : M3 ℝ) (m : ℝ) (hs : Sym3 A) : Sym3 (sdiv3 A m) := by
  obtain ⟨h1, h2, h3⟩ := hs
  unfold Sym3 sdiv3
  simp only
  rw [h1, h2, h3]
  exact ⟨rfl, rfl, rfl⟩

theorem gen_q3 (a b c : ℝ) : Gen.ev3_q a b c = (a + b + c) / 3 := by
  unfold Gen.ev3_q
  push_cast
  ring

noncomputable def qOf (S : M3 ℝ) : ℝ := Gen.ev3_q S.a00 S.a11 S.a22

noncomputable def p1Of (S : M3 ℝ) : ℝ := Gen.ev3_p1 S.a00 S.a01 S.a02 S.a10 S.a11 S.a12 S.a20 S.a21 S.a22

noncomputable def p2Of (S : M3 ℝ) : ℝ :=
  Gen.ev3_p2 S.a00 S.a01 S.a02 S.a10 S.a11 S.a12 S.a20 S.a21 S.a22 (qOf S) (p1Of S)

/-- `if (p1 <= std::numeric_limits<K>::epsilon())` in `eigenValues3dImpl` -/
def DiagBranch (eps : ℝ) (S : M3 ℝ) : Prop := p1Of S ≤ Gen.ev3_diagThreshold eps

theorem p1Of_eq (S : M3 ℝ) : p1Of S = S.a01 * S.a01 + S.a02 * S.a02 + S.a12 * S.a12 := by
  unfold p1Of Gen.ev3_p1
  ring

theorem diagBranch_of_diag (eps : ℝ) (he : 0 ≤ eps) (S : M3 ℝ) (h01 : S.a01 = 0) (h02 : S.a02 = 0)
    (h12 : S.a12 = 0) : DiagBranch eps S := by
  unfold DiagBranch Gen.ev3_diagThreshold
  rw [p1Of_eq, h01, h02, h12]
  simpa using he

/-- the two branches of `eigenValues3dImpl`, for arbitrary elementary functions (the condition is `DiagBranch eps S`, spelt out
because a `Prop`-valued definition over ℝ carries no `Decidable` instance for `if`) -/
theorem impl_eq (sqrt acos cos : ℝ → ℝ) (pi eps : ℝ) (S : M3 ℝ) :
    eigenValues3dImpl sqrt acos cos pi eps S =
      if p1Of S ≤ Gen.ev3_diagThreshold eps then (sort3 S.a00 S.a11 S.a22, 0)
      else
        let q := qOf S
        let p := Gen.ev3_p sqrt (p2Of S)
        let r := clampK (Gen.ev3_r (det3 (smul3 (Gen.ev3_Bscale p) (shift3 S q)))) Gen.ev3_clampLo Gen.ev3_clampHi
        let phi := Gen.ev3_phi acos r
        let l2 := Gen.ev3_lam2 cos q p phi pi
        let l0 := Gen.ev3_lam0 cos q p phi pi
        (sort3 l0 (Gen.ev3_lam1 q l0 l2) l2, r) := by
  unfold eigenValues3dImpl p2Of p1Of qOf
  simp only [det3m_eq, Gen.ev3_sortedAfterTrig, if_true, zero, Nat.cast_zero]

theorem impl_diag (sqrt acos cos : ℝ → ℝ) (pi eps : ℝ) (S : M3 ℝ) (hb : DiagBranch eps S) :
    (eigenValues3dImpl sqrt acos cos pi eps S).1 = sort3 S.a00 S.a11 S.a22 := by
  rw [impl_eq]
  exact congrArg Prod.fst (if_pos hb)

/-- in both branches the values are a sorted triple whose sum is the trace (the middle trigonometric value is defined
through the trace) -/
theorem impl_sorted (sqrt acos cos : ℝ → ℝ) (pi eps : ℝ) (S : M3 ℝ) :
    ∃ x y z : ℝ, (eigenValues3dImpl sqrt acos cos pi eps S).1 = sort3 x y z ∧ x + y + z = S.a00 + S.a11 + S.a22 := by
  rw [impl_eq]
  split_ifs
  · exact ⟨_, _, _, rfl, rfl⟩
  · refine ⟨_, _, _, rfl, ?_⟩
    unfold qOf
    rw [gen_q3]
    unfold Gen.ev3_lam1
    push_cast
    ring

theorem impl_sum (sqrt acos cos : ℝ → ℝ) (pi eps : ℝ) (S : M3 ℝ) :
    (eigenValues3dImpl sqrt acos cos pi eps S).1.1 + (eigenValues3dImpl sqrt acos cos pi eps S).1.2.1
      + (eigenValues3dImpl sqrt acos cos pi eps S).1.2.2 = S.a00 + S.a11 + S.a22 := by
  obtain ⟨x, y, z, e, h⟩ := impl_sorted sqrt acos cos pi eps S
  rw [e, sort3_sum, h]

theorem impl_asc (sqrt acos cos : ℝ → ℝ) (pi eps : ℝ) (S : M3 ℝ) :
    (eigenValues3dImpl sqrt acos cos pi eps S).1.1 ≤ (eigenValues3dImpl sqrt acos cos pi eps S).1.2.1 ∧
      (eigenValues3dImpl sqrt acos cos pi eps S).1.2.1 ≤ (eigenValues3dImpl sqrt acos cos pi eps S).1.2.2 := by
  obtain ⟨x, y, z, e, _⟩ := impl_sorted sqrt acos cos pi eps S
  rw [e]
  exact sort3_asc x y z

theorem smul3_zeroM3 (s : ℝ) : smul3 s zeroM3 = zeroM3 := by
  unfold smul3 zeroM3
  simp only [mul_zero]

theorem sdiv3_zeroM3 (m : ℝ) : sdiv3 zeroM3 m = zeroM3 := by
  unfold sdiv3 zeroM3
  simp only [zero_div]

theorem sort3_self (a : ℝ) : sort3 a a a = (a, a, a) := by
  unfold sort3
  simp only [cswap_eq, min_self, max_self]

theorem impl_zeroM3 (sqrt acos cos : ℝ → ℝ) (pi eps : ℝ) (he : 0 ≤ eps) :
    (eigenValues3dImpl sqrt acos cos pi eps zeroM3).1 = (0, 0, 0) := by
  rw [impl_diag _ _ _ _ _ _ (diagBranch_of_diag eps he zeroM3 rfl rfl rfl)]
  exact sort3_self 0

theorem eigenValues3d_zeroM3 (sqrt acos cos : ℝ → ℝ) (pi eps : ℝ) (he : 0 ≤ eps) :
    eigenValues3d sqrt acos cos pi eps zeroM3 = (0, 0, 0) := by
  unfold eigenValues3d
  simp only [sdiv3_zeroM3, impl_zeroM3 sqrt acos cos pi eps he, zero_mul]

theorem eigenValuesVectors3d_smul (sqrt acos cos : ℝ → ℝ) (pi eps s : ℝ) (hs : 0 < s) (A : M3 ℝ)
    (hA : 0 < infNorm3 A) :
    eigenValuesVectors3d sqrt acos cos pi eps (smul3 s A) =
      ((s * (eigenValuesVectors3d sqrt acos cos pi eps A).1.1, s * (eigenValuesVectors3d sqrt acos cos pi eps A).1.2.1,
        s * (eigenValuesVectors3d sqrt acos cos pi eps A).1.2.2), (eigenValuesVectors3d sqrt acos cos pi eps A).2) := by
  unfold eigenValuesVectors3d
  simp only [maxAbsElement_smul s hs A hA, sdiv3_smul s _ hs.ne', mul_left_comm _ s]
  split_ifs <;> rfl

end DV.C08
