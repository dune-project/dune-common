import DuneVerif.Model.C08
/-!
# C08 — the caller's output containers of `DynamicMatrixHelp::eigenValuesNonSym`

Whatever the two containers hold when the routine is entered (left-overs of an earlier call with a larger or smaller
matrix, vectors of the wrong length, nothing at all), the routine never writes outside them and leaves exactly what a
call with fresh containers returns.  Core Lean only.
-/
namespace DV.C08

variable {α C K : Type}

theorem vresize_length (n : Nat) (c : α) (l : List α) : (vresize n c l).length = n := by
  unfold vresize
  rw [List.length_append, List.length_take, List.length_replicate, Nat.add_comm, Nat.sub_add_min_cancel]

/-- without the resize a container that is too short is written past its end … -/
theorem storePrefix_short (n : Nat) (f : Nat → α) (l : List α) (h : l.length < n) : storePrefix n f l = none := by
  unfold storePrefix
  rw [if_neg (Nat.not_le_of_lt h)]

/-- … and one that is too long keeps its tail -/
theorem storePrefix_long (n : Nat) (f : Nat → α) (l : List α) (h : n ≤ l.length) :
    storePrefix n f l = some ((List.range n).map f ++ l.drop n) := by
  unfold storePrefix
  rw [if_pos h]

/-- resize, then assign all `n` entries: nothing of the previous content survives -/
theorem storePrefix_vresize (n : Nat) (f : Nat → α) (c : α) (l : List α) :
    storePrefix n f (vresize n c l) = some ((List.range n).map f) := by
  have h := vresize_length n c l
  rw [storePrefix_long n f _ (Nat.le_of_eq h.symm), List.drop_eq_nil_of_le (Nat.le_of_eq h), List.append_nil]

/-- invariant of the loop over the eigenvector list: entries below `i` are final, the length stays `n` -/
theorem nsVecLoop_spec (n : Nat) (vr : Nat → K) (zero : K) (target : Nat → List K)
    (ht : ∀ i, target i = (List.range n).map fun j => vr (n * i + j)) :
    ∀ (fuel i : Nat) (acc : List (List K)), i + fuel = n → acc.length = n →
      (∀ k, k < i → acc[k]? = some (target k)) →
      ∃ out, nsVecLoop n vr zero fuel i acc = some out ∧ out.length = n ∧ ∀ k, k < n → out[k]? = some (target k) := by
  intro fuel
  induction fuel with
  | zero =>
    intro i acc hi hl hk
    exact ⟨acc, rfl, hl, fun k hkn => hk k (Nat.lt_of_lt_of_eq hkn hi.symm)⟩
  | succ fuel ih =>
    intro i acc hi hl hk
    have hin : i < acc.length := hl ▸ hi ▸ Nat.lt_add_of_pos_right (Nat.succ_pos fuel)
    unfold nsVecLoop
    rw [List.getElem?_eq_getElem hin]
    -- `simp only []` reduces the `match` on the `some` just rewritten in
    simp only []
    rw [storePrefix_vresize]
    simp only []
    apply ih (i + 1) (acc.set i _) (by rw [Nat.add_assoc, Nat.add_comm 1]; exact hi)
      (by rw [List.length_set]; exact hl)
    intro k hk1
    by_cases hki : k = i
    · subst hki
      rw [List.getElem?_set_self hin, ht]
    · rw [List.getElem?_set_ne (Ne.symm hki)]
      exact hk k (Nat.lt_of_le_of_ne (Nat.le_of_lt_succ hk1) hki)

theorem nsStoreVectors_eq (n : Nat) (vr : Nat → K) (zero : K) (pre : List (List K)) :
    nsStoreVectors n vr zero pre
      = some ((List.range n).map fun i => (List.range n).map fun j => vr (n * i + j)) := by
  unfold nsStoreVectors
  obtain ⟨out, ho, hl, hk⟩ :=
    nsVecLoop_spec n vr zero (fun i => (List.range n).map fun j => vr (n * i + j)) (fun _ => rfl) n 0
      (vresize n [] pre) (Nat.zero_add n) (vresize_length n [] pre) (fun k hk => absurd hk (Nat.not_lt_zero k))
  rw [ho]
  congr 1
  apply List.ext_getElem (by rw [hl, List.length_map, List.length_range])
  intro k h1 _
  rw [List.getElem_map, List.getElem_range]
  exact Option.some.inj ((List.getElem?_eq_getElem h1).symm.trans (hk k (hl ▸ h1)))

/-- one call: never out of bounds, result = result with fresh containers (vectors untouched if none were requested) -/
theorem nsStep_eq (zc : C) (zk : K) (st : NsOut C K) (c : NsCall C K) :
    nsStep zc zk st c = some ⟨nsFreshVals c, if c.wantVec then nsFreshVecs c else st.vecs⟩ := by
  unfold nsStep
  rw [storePrefix_vresize, nsStoreVectors_eq]
  cases c.wantVec
  · rfl
  · rfl

/-- the vectors a history leaves behind: those of the last call that asked for vectors, else the initial ones -/
def lastVecs (init : List (List K)) : List (NsCall C K) → List (List K)
  | [] => init
  | c :: cs => lastVecs (if c.wantVec then nsFreshVecs c else init) cs

/-- the values a history leaves behind: those of the last call -/
def lastVals (init : List C) : List (NsCall C K) → List C
  | [] => init
  | c :: cs => lastVals (nsFreshVals c) cs

theorem nsRun_eq (zc : C) (zk : K) (cs : List (NsCall C K)) :
    ∀ st : NsOut C K, nsRun zc zk st cs = some ⟨lastVals st.vals cs, lastVecs st.vecs cs⟩ := by
  induction cs with
  | nil => intro st; rfl
  | cons c cs ih =>
    intro st
    unfold nsRun
    rw [nsStep_eq]
    exact ih _

theorem lastVals_append (init : List C) (cs : List (NsCall C K)) (c : NsCall C K) :
    lastVals init (cs ++ [c]) = nsFreshVals c := by
  induction cs generalizing init with
  | nil => rfl
  | cons d ds ih => exact ih _

theorem lastVecs_append (init : List (List K)) (cs : List (NsCall C K)) (c : NsCall C K) :
    lastVecs init (cs ++ [c]) = if c.wantVec then nsFreshVecs c else lastVecs init cs := by
  induction cs generalizing init with
  | nil => rfl
  | cons d ds ih => exact ih _

theorem nsFreshVecs_length (c : NsCall C K) : (nsFreshVecs c).length = c.n := by
  unfold nsFreshVecs
  rw [List.length_map, List.length_range]

theorem nsFreshVals_length (c : NsCall C K) : (nsFreshVals c).length = c.n := by
  unfold nsFreshVals
  rw [List.length_map, List.length_range]

theorem nsFreshVecs_get (c : NsCall C K) (i : Nat) (hi : i < c.n) :
    (nsFreshVecs c)[i]? = some ((List.range c.n).map fun j => c.vr (c.n * i + j)) := by
  unfold nsFreshVecs
  rw [List.getElem?_map, List.getElem?_range hi]
  rfl

end DV.C08
