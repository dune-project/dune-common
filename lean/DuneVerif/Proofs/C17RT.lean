/-
C17 — core-Lean lemmas about what is regenerated from float_cmp.cc besides the comparison formulas: the rounding-style
dispatch of `round_t` / `trunc_t` (`Gen/C17RT.lean`), the component loops of their vector overloads (`Gen/C17Vec.lean`)
and the vector comparisons `eq_t` for `std::vector` / `FieldVector` (`Gen/C17EqVec.lean`).
-/
import DuneVerif.Gen.C17RT
import DuneVerif.Gen.C17Vec
import DuneVerif.Gen.C17EqVec

namespace DV.C17

theorem fillLoop_full (n : Nat) (f : Nat → Int) : fillLoop n 0 n f = (List.range n).map f := by
  unfold fillLoop
  apply List.map_congr_left
  intro i hi
  have : i < n := List.mem_range.mp hi
  simp [this]

theorem fillLoop_components {K : Type} [Zero K] (v : List K) (g : K → Int) :
    fillLoop v.length 0 v.length (fun i => g (v.getD i 0)) = v.map g := by
  rw [fillLoop_full]
  apply List.ext_getElem
  · simp
  · intro i h1 h2
    have hi : i < v.length := by simpa using h1
    simp [List.getD_eq_getElem?_getD, List.getElem?_eq_getElem hi]

/-- a statement about every (argument component, result component) pair of a vector call -/
def Componentwise {α β} (P : α → β → Prop) (v : List α) (r : List β) : Prop :=
  r.length = v.length ∧ ∀ i (hv : i < v.length) (hr : i < r.length), P v[i] r[i]

theorem componentwise_map {α β} (P : α → β → Prop) (g : α → β) (v : List α) (h : ∀ x ∈ v, P x (g x)) :
    Componentwise P v (v.map g) := by
  refine ⟨by simp, fun i hv hr => ?_⟩
  rw [List.getElem_map]
  exact h _ (List.getElem_mem hv)

section
variable {K : Type} [Zero K]

/-- **the vector overloads are the component-wise maps** (all four, every rounding style, every length) -/
theorem vec_eq_map (round_t trunc_t : Style → RStyle → K → K → Int) (cs : Style) (rs : RStyle) (v : List K) (e : K) :
    GenVec.round_std_vec round_t trunc_t cs rs v e = v.map (fun x => round_t cs rs x e) ∧
    GenVec.round_fvec round_t trunc_t cs rs v e = v.map (fun x => round_t cs rs x e) ∧
    GenVec.trunc_std_vec round_t trunc_t cs rs v e = v.map (fun x => trunc_t cs rs x e) ∧
    GenVec.trunc_fvec round_t trunc_t cs rs v e = v.map (fun x => trunc_t cs rs x e) := by
  cases rs <;>
    exact ⟨fillLoop_components v (round_t cs _ · e), fillLoop_components v (round_t cs _ · e),
      fillLoop_components v (trunc_t cs _ · e), fillLoop_components v (trunc_t cs _ · e)⟩
end

section
variable {K : Type} [Zero K] [Neg K] [Sub K] [Mul K] [LT K] [LE K] [DecidableLT K] [DecidableLE K] [IntCast K] [Add K]

theorem dispatch_round (s : Style) (tr : K → Int) (x e : K) :
    round s .towardZero tr x e = GenRT.round_towardZero.run (fun rs => round s rs tr) x e ∧
    round s .towardInf tr x e = GenRT.round_towardInf.run (fun rs => round s rs tr) x e := by
  constructor <;> simp [Dispatch.run, ZeroTest.eval, GenRT.round_towardZero, GenRT.round_towardInf, round]

theorem dispatch_roundM (t : IType) (s : Style) (tr : K → Int) (x e : K) :
    roundM t s .towardZero tr x e = GenRT.round_towardZero.run (fun rs => roundM t s rs tr) x e ∧
    roundM t s .towardInf tr x e = GenRT.round_towardInf.run (fun rs => roundM t s rs tr) x e := by
  constructor <;> simp [Dispatch.run, ZeroTest.eval, GenRT.round_towardZero, GenRT.round_towardInf, roundM]
end

theorem allLoopAux_shift (F : Nat → Bool) : ∀ n k, allLoopAux F (k + 1) n = allLoopAux (fun i => F (i + 1)) k n := by
  intro n
  induction n with
  | zero => intro k; rfl
  | succ n ih => intro k; simp only [allLoopAux]; rw [ih]

section
variable {K : Type} [Zero K] [Neg K] [Sub K] [Mul K] [LT K] [LE K] [DecidableLT K] [DecidableLE K]

theorem allLoop_eq_eqLoop (s : Style) (e : K) : ∀ (a b : List K), a.length = b.length →
    allLoop 0 a.length (fun i => eqS s (a.getD i 0) (b.getD i 0) e) = eqLoop s a b e
  | [], [], _ => by simp [allLoop, allLoopAux, eqLoop]
  | x :: xs, y :: ys, h => by
    have h' : xs.length = ys.length := by simpa using h
    have ih := allLoop_eq_eqLoop s e xs ys h'
    simp only [allLoop, Nat.sub_zero] at ih
    simp only [allLoop, Nat.sub_zero, List.length_cons, allLoopAux, eqLoop, List.getD_cons_zero]
    rw [allLoopAux_shift]
    simp only [List.getD_cons_succ]
    rw [ih]
  | [], _ :: _, h => by simp at h
  | _ :: _, [], h => by simp at h

/-- **the regenerated vector comparisons are the model's `eqVec` / `eqFV`** (every style, through the regenerated derivation
    tables; `FieldVector`: both operands have the `n` of the type) -/
theorem eqvec_tied (s : Style) (a b : List K) (e : K) :
    GenEqVec.eq_std_vec eqS s a b e = eqVec s a b e ∧
    (a.length = b.length → GenEqVec.eq_fvec eqS s a b e = eqFV s a b e) := by
  constructor
  · cases s <;> simp only [GenEqVec.eq_std_vec, GenEqVec.eq_t_std_vec, eqVec] <;>
      (split
       · rfl
       · rename_i h
         exact allLoop_eq_eqLoop _ e a b (by simpa using h))
  · intro h
    cases s <;> exact allLoop_eq_eqLoop _ e a b h
end

end DV.C17
