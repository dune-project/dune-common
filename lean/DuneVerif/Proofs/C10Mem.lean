/-
C10: the in-place, possibly self-aliased digit loops on an indexed store (`Model/C10Mem.lean`) compute `zipLoop` of
their round, which is what the value-level loops of `+= -= &= |= ^=` are.  Core Lean only.
-/
import DuneVerif.Proofs.C10Hist

namespace DV.C10
open DV.C10.Gen

theorem drop_eq_getD_cons (l : List Nat) {i : Nat} (h : i < l.length) : l.drop i = l.getD i 0 :: l.drop (i + 1) := by
  rw [List.drop_eq_getElem_cons h, List.getD_eq_getElem?_getD, List.getElem?_eq_getElem h, Option.getD_some]

theorem take_succ_set (l : List Nat) {i : Nat} (d : Nat) (h : i < l.length) :
    (l.set i d).take (i + 1) = l.take i ++ [d] := by
  rw [List.take_succ_eq_append_getElem (by rw [List.length_set]; exact h), List.take_set_of_le (Nat.le_refl i),
    List.getElem_set_self]

/-- invariant of the in-place loop: after `i` rounds the store is the finished prefix followed by the untouched rest,
    and the remaining rounds do to the rest what the value-level loop does — also when the right operand is the store
    itself, because round `i` reads `digit[i]` before it writes it and never looks at a lower index again -/
theorem memLoop_inv (f : Round) (ali : Bool) (x : List Nat) :
    ∀ (fuel i c : Nat) (mem : List Nat), i + fuel = mem.length → (ali = false → x.length = mem.length) →
      memLoop f ali x fuel i c mem =
        mem.take i ++ zipLoop f (mem.drop i) ((if ali then mem else x).drop i) c := by
  intro fuel i c mem
  fun_induction memLoop f ali x fuel i c mem with
  | case1 i c mem =>
    intro hi _
    have hi : mem.length ≤ i := Nat.le_of_eq hi.symm
    rw [List.drop_of_length_le hi, List.take_of_length_le hi]
    exact (List.append_nil _).symm
  | case2 fuel i c mem ai xi ih =>
    intro hi hx
    have hlt : i < mem.length := hi ▸ Nat.lt_add_of_pos_right (Nat.succ_pos fuel)
    rw [ih (by rw [List.length_set, Nat.add_right_comm]; exact hi) (fun h => by rw [List.length_set]; exact hx h),
      take_succ_set mem _ hlt, List.drop_set_of_lt (Nat.lt_add_one i), drop_eq_getD_cons mem hlt, List.append_assoc]
    cases ali
    · simp only [Bool.false_eq_true, if_false]
      rw [drop_eq_getD_cons x (i := i) (hx rfl ▸ hlt)]
      rfl
    · simp only [if_true]
      rw [List.drop_set_of_lt (Nat.lt_add_one i), drop_eq_getD_cons mem hlt]
      rfl

theorem memLoop_eq (f : Round) (ali : Bool) {a x : List Nat} (hx : x.length = a.length) (c : Nat) :
    memLoop f ali x a.length 0 c a = zipLoop f a (if ali then a else x) c :=
  memLoop_inv f ali x a.length 0 c a (Nat.zero_add _) (fun _ => hx)

theorem addLoop_eq_zip : ∀ (a x : List Nat) (c : Nat), addLoop a x c = zipLoop addRound a x c
  | [], _, _ => rfl
  | _ :: _, [], _ => rfl
  | _ :: as, _ :: xs, _ => congrArg (_ :: ·) (addLoop_eq_zip as xs _)

theorem subLoop_eq_zip : ∀ (a x : List Nat) (c : Nat), subLoop a x c = zipLoop subRound a x c
  | [], _, _ => rfl
  | _ :: _, [], _ => rfl
  | a :: as, x :: xs, c => by
    rw [subLoop, zipLoop, subRound]
    split <;> exact congrArg (_ :: ·) (subLoop_eq_zip as xs _)

theorem applyBinMem_eq (k : Nat) (o : BinOp) (ali : Bool) {a x : List Nat} (hx : x.length = a.length) :
    applyBinMem k o ali a x = applyBin k o a (if ali then a else x) := by
  simp only [applyBinMem, fun f => memLoop_eq f ali hx 0]
  cases o with
  | add => exact congrArg _ (addLoop_eq_zip ..).symm
  | sub => exact congrArg _ (subLoop_eq_zip ..).symm
  | band => exact congrArg _ (band_eq_zip ..).symm
  | bor => exact congrArg _ (bor_eq_zip ..).symm
  | bxor => exact congrArg _ (bxor_eq_zip ..).symm
  | mul | div | mod => rfl

theorem stepMem_eq {k : Nat} {r : Regs} (hr : WfRegs (ndigits k) r) (st : Stmt) : stepMem k r st = step4 k r st := by
  unfold stepMem
  split
  · rename_i o d s
    have hl : (r.get s).length = (r.get d).length := by rw [(hr.get s).1, (hr.get d).1]
    rw [applyBinMem_eq k o (d == s) hl]
    have hsame : (if (d == s) = true then r.get d else r.get s) = r.get s := by
      cases d <;> cases s <;> rfl
    rw [hsame]
    rfl
  · rfl

theorem runMem_eq {k : Nat} : ∀ (p : List Stmt) (r : Regs), WfRegs (ndigits k) r → runMem k r p = run4 k r p := by
  intro p
  induction p with
  | nil => exact fun _ _ => rfl
  | cons st p ih =>
    intro r hr
    unfold runMem run4
    rw [stepMem_eq hr st]
    cases hs : step4 k r st with
    | none => rfl
    | some q =>
      simp only
      rw [ih q.1 ((step4_refines hr st).2 q.1 q.2 hs)]
      cases run4 k q.1 p <;> rfl

end DV.C10
