import DuneVerif.Proofs.C13Restore
/-! C13: the symmetric neighbour relation `NbSym`, under which every receive a rank posts has exactly one matching send
(`sync_message_matching`, Props/C13.lean): it holds in the consistent state and after deleting copies from it, and a rank
that the sync makes a neighbour gets that neighbour in return (`isNeighbour_sync_of`: `sync_keeps_symmetry`, Props/C13.lean);
the sources of an inbox are in ascending order. Core Lean only. -/
namespace DV.C13

/-- the neighbour relation is symmetric -/
def NbSym (w : World) : Prop :=
  ∀ p q sp sq, w[p]? = some sp → w[q]? = some sq →
    (isNeighbour sp.remote q = true ↔ isNeighbour sq.remote p = true)

/-- symmetry reads only who is a neighbour of whom: it passes to a world whose ranks each have, at the same place of
a symmetric world, a partner with the same neighbours -/
theorem NbSym.of_same_neighbours {w w' : World} (hs : NbSym w')
    (h : ∀ (r : Nat) (sr : RankState), w[r]? = some sr →
      ∃ sr' : RankState, w'[r]? = some sr' ∧ ∀ x, isNeighbour sr.remote x = isNeighbour sr'.remote x) : NbSym w := by
  intro p q sp sq hp hq
  obtain ⟨sp', hp', ep⟩ := h p sp hp
  obtain ⟨sq', hq', eq⟩ := h q sq hq
  rw [ep, eq]
  exact hs p q sp' sq' hp' hq'

theorem inbox_sources_sorted (w : World) (q : Nat) : ((inbox w q).map (fun m => m.1)).Pairwise (fun a b => a < b) := by
  rw [List.pairwise_map, inbox_eq]
  refine List.Pairwise.filterMap _ (fun a a' haa b hb b' hb' => ?_) List.pairwise_lt_range
  rw [inboxOf_fst hb, inboxOf_fst hb']
  exact haa

theorem nbSym_consistent {D : Decomp} (hD : DecompWF D) : NbSym (consistent D) := by
  -- two processes are neighbours exactly when they have an index in common, which is symmetric
  have half : ∀ p q, p < D.length → isNeighbour (consistentRank D p (D.slice p)).remote q = true →
      isNeighbour (consistentRank D q (D.slice q)).remote p = true := by
    intro p q hp h
    obtain ⟨_, h2, g, a, b, h3, h4⟩ := (isNeighbour_consistentRank hD p q).1 h
    exact (isNeighbour_consistentRank hD q p).2 ⟨hp, Ne.symm h2, g, b, a, h4, h3⟩
  intro p q sp sq hp hq
  obtain ⟨hpl, rfl⟩ := consistent_getElem?_some hp
  obtain ⟨hql, rfl⟩ := consistent_getElem?_some hq
  exact ⟨half p q hpl, half q p hql⟩

theorem nbSym_delete {w : World} (hs : NbSym w) (del : Nat → Int → Bool) : NbSym (deleteCopies del w) :=
  hs.of_same_neighbours fun _ _ hr =>
    let ⟨sr0, hr0, e⟩ := deleteCopies_getElem?_inv hr
    ⟨sr0, hr0, fun _ => e ▸ isNeighbour_deleteRank _ _ _⟩

theorem isNeighbour_sync_of {D : Decomp} {w : World} (num : Int → Nat) (hw : PartialView D w) (hs : NbSym w)
    (p q : Nat) (sp sq : RankState) (hp : w[p]? = some sp) (hq : w[q]? = some sq)
    (h : isNeighbour (syncRank num w p sp).remote q = true) : isNeighbour (syncRank num w q sq).remote p = true := by
  refine ((syncSpec_rank num hw q sq hq).nb p).2 ?_
  rcases ((syncSpec_rank num hw p sp hp).nb q).1 h with h | ⟨en, s, ss, enq, hss, h1, h2, _, h4⟩
  · exact Or.inl ((hs p q sp sq hp hq).1 h)
  · rcases h4 with ⟨rfl, _⟩ | ⟨hqp, er, h5, h6, _⟩
    · -- the believer is `q` itself: it had `p` as a neighbour already
      cases hq.symm.trans hss
      exact Or.inl (isNeighbour_of_mem_listOf _ p enq h1)
    · -- a third process lists both for the same index: it tells `q` about `p` as well
      exact Or.inr ⟨⟨er.g, er.rem, enq.rem⟩, s, ss, er, hss, h5, rfl, rfl,
        Or.inr ⟨Ne.symm hqp, enq, h1, h2.trans h6.symm, rfl⟩⟩

end DV.C13
