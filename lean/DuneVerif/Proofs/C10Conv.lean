/-
C10: construction from built-ins, `touint`, `todouble`, `print`/parse and the canonical hex form.  Core Lean only.
-/
import DuneVerif.Model.C10Prog
import DuneVerif.Proofs.C10Basic

namespace DV.C10
open DV.C10.Gen

theorem assignLoop_eq_ofNat (no x : Nat) : assignLoop no x = ofNat no x := by
  fun_induction assignLoop no x with
  | case1 => rfl
  | case2 no x ih => rw [ih, and_bitmask, shr_bits, ofNat]

theorem assign_wf' (n x : Nat) : Wf n (assign n x) := by
  have h := (ofNat_rep (assignDigits n) x).1
  simp only [assign, assignLoop_eq_ofNat]
  refine ⟨?_, digs_append.2 ⟨h.2, digs_zeros _⟩⟩
  rw [List.length_append, h.1, zeros, List.length_replicate]
  exact Nat.add_sub_cancel' (Nat.min_le_left _ _)

theorem assign_val' (n : Nat) {x : Nat} (hx : x < 2 ^ 64) : val (assign n x) = x % W n := by
  simp only [assign, assignLoop_eq_ofNat]
  rw [val_append, val_zeros, Nat.mul_zero, Nat.add_zero, (ofNat_rep _ x).2, assignDigits]
  rcases Nat.le_total n (64 / bits) with hn | hn
  · rw [Nat.min_eq_left hn]
  · -- all 64 bits of `x` are taken: nothing is cut off on either side
    have h1 : x < W (64 / bits) := by rw [W, assign_width]; exact hx
    rw [Nat.min_eq_right hn, Nat.mod_eq_of_lt h1, Nat.mod_eq_of_lt (Nat.lt_of_lt_of_le h1 (W_le hn))]

theorem Rep.assign (n : Nat) {y : Nat} (hy : y < 2 ^ 64) : Rep n (assign n y) y :=
  ⟨assign_wf' n y, assign_val' n hy⟩

theorem touint_val' {n : Nat} {a : List Nat} (ha : Wf n a) : touint a = val a % 2 ^ 32 := by
  rw [← two_digits, ← Nat.pow_two]
  show touint a = val a % W 2
  rw [← val_take ha.2 2]
  match a with
  | [] => rfl
  | [d0] => rfl
  | d0 :: d1 :: _ =>
    show (d1 <<< bits) + d0 = d0 + B * (d1 + B * 0)
    rw [Nat.mul_zero, Nat.add_zero, Nat.shiftLeft_eq, ← B_def, Nat.mul_comm, Nat.add_comm]

theorem firstInZeroRange_cons (d : Nat) (ds : List Nat) :
    firstInZeroRange (d :: ds) =
      if firstInZeroRange ds = 0 then (if d = 0 then 0 else 1) else firstInZeroRange ds + 1 := rfl

/-- `firstInZeroRange` is an index into the list; the digits from it upwards are zero; the digit below it is not -/
theorem firstInZeroRange_spec (a : List Nat) :
    firstInZeroRange a ≤ a.length ∧ val (a.take (firstInZeroRange a)) = val a ∧
    (0 < firstInZeroRange a → W (firstInZeroRange a - 1) ≤ val a) := by
  -- the cases of the definition, with `r = firstInZeroRange ds`: `[]`; `r = 0` and `d = 0`; `r = 0` and `d ≠ 0`; `r ≠ 0`
  fun_induction firstInZeroRange a with
  | case1 => exact ⟨Nat.le_refl 0, rfl, fun h => absurd h (Nat.lt_irrefl 0)⟩
  | case2 ds r hr ih =>
    have h0 : val (ds.take r) = val ds := ih.2.1
    rw [hr] at h0
    exact ⟨Nat.zero_le _, congrArg (0 + B * ·) h0, fun h => absurd h (Nat.lt_irrefl 0)⟩
  | case3 d ds r hr hd ih =>
    have h0 : val (ds.take r) = val ds := ih.2.1
    rw [hr] at h0
    exact ⟨Nat.succ_le_succ (Nat.zero_le _), congrArg (d + B * ·) h0,
      fun _ => Nat.le_trans (Nat.pos_of_ne_zero hd) (Nat.le_add_right _ _)⟩
  | case4 d ds r hr ih =>
    have hpos := Nat.pos_of_ne_zero hr
    refine ⟨Nat.succ_le_succ ih.1, by rw [List.take_succ_cons, val_cons, ih.2.1, val_cons], fun _ => ?_⟩
    calc W (r + 1 - 1) = B * W (r - 1) := by
          rw [← W_succ, Nat.add_sub_cancel, Nat.sub_add_cancel hpos]
      _ ≤ B * val ds := Nat.mul_le_mul_left B (ih.2.2 hpos)
      _ ≤ val (d :: ds) := Nat.le_add_left _ _

/-- the code's `lastInRepresentableRange` is `firstInZeroRange a - representableDigits` (its `if` only avoids the negative
    difference); the mantissa is the value without the digits below that index -/
theorem todouble_parts {a : List Nat} (ha : Digs a) :
    todoubleParts a = (val a / W (firstInZeroRange a - representableDigits),
      bits * (firstInZeroRange a - representableDigits)) ∧
    val a / W (firstInZeroRange a - representableDigits) < W representableDigits := by
  have hlast : (if representableDigits < firstInZeroRange a then firstInZeroRange a - representableDigits else 0)
      = firstInZeroRange a - representableDigits := by
    split
    · rfl
    · exact (Nat.sub_eq_zero_of_le (Nat.le_of_not_lt ‹_›)).symm
  have hv := (firstInZeroRange_spec a).2.1
  refine ⟨?_, ?_⟩
  · rw [todoubleParts, hlast, val_drop (digs_take ha _), hv]
  · rw [← hv]
    refine Nat.div_lt_of_lt_mul (Nat.lt_of_lt_of_le (val_take_lt ha _) ?_)
    rw [← W_add]
    exact W_le (Nat.le_add_of_sub_le (Nat.le_refl _))

theorem todoubleN_eq {a : List Nat} (ha : Digs a) :
    ∃ last, todoubleN a = val a / W last * W last ∧
      (last = 0 ∨ W last * 2 ^ 32 ≤ val a) := by
  refine ⟨firstInZeroRange a - representableDigits, by rw [todoubleN, (todouble_parts ha).1, W_eq], ?_⟩
  refine (Nat.eq_zero_or_pos _).imp_right fun hpos => ?_
  have hR := representableDigits_pos
  have h := Nat.sub_add_cancel (Nat.le_of_lt (Nat.lt_of_sub_pos hpos))
  have := (firstInZeroRange_spec a).2.2 (h ▸ Nat.add_pos_right _ hR)
  rw [← h, Nat.add_sub_assoc hR, W_add] at this
  exact Nat.le_trans (Nat.mul_le_mul_left _ representable_margin) this

def parseFrom (acc : Nat) (cs : List Char) : Option Nat :=
  cs.foldlM (fun acc c => (DV.hexDigitVal? c).map (fun d => acc * 16 + d)) acc

theorem parseHexChars_eq (cs : List Char) : parseHexChars cs = parseFrom 0 cs := rfl

theorem hexDigitVal_hexChar : ∀ v, v < 16 → DV.hexDigitVal? (DV.hexChar v) = some v := by decide

theorem parseFrom_append (acc : Nat) (l1 l2 : List Char) :
    parseFrom acc (l1 ++ l2) = (parseFrom acc l1).bind (fun v => parseFrom v l2) := by
  simp only [parseFrom, List.foldlM_append]
  rfl

theorem parseFrom_cons_hexChar (acc : Nat) {v : Nat} (hv : v < 16) (cs : List Char) :
    parseFrom acc (DV.hexChar v :: cs) = parseFrom (acc * 16 + v) cs := by
  simp only [parseFrom, List.foldlM_cons, hexDigitVal_hexChar v hv]
  rfl

theorem and_0xF (x : Nat) : x &&& 0xF = x % 16 := Nat.and_two_pow_sub_one_eq_mod x 4

theorem parseFrom_nibbles (d : Nat) : ∀ (m acc : Nat),
    parseFrom acc ((List.range m).reverse.map fun i => DV.hexChar ((d >>> (i * 4)) &&& 0xF))
      = some (acc * 16 ^ m + d % 16 ^ m)
  | 0, acc => by rw [Nat.pow_zero, Nat.mod_one, Nat.mul_one]; rfl
  | m + 1, acc => by
    have h16 : 2 ^ (m * 4) = 16 ^ m := by rw [Nat.mul_comm, Nat.pow_mul]
    rw [List.range_succ, List.reverse_append, List.reverse_singleton, List.singleton_append, List.map_cons,
      and_0xF, parseFrom_cons_hexChar _ (Nat.mod_lt _ (by decide)), parseFrom_nibbles d m,
      Nat.shiftRight_eq_div_pow, h16, Nat.mod_pow_succ, Nat.add_mul, Nat.mul_assoc, ← Nat.pow_succ', Nat.add_assoc,
      Nat.mul_comm (_ % 16), Nat.add_comm (16 ^ m * _)]

theorem parseFrom_hexOfDigit (acc : Nat) {d : Nat} (hd : d < B) :
    parseFrom acc (hexOfDigit d) = some (acc * B + d) := by
  rw [hexOfDigit, parseFrom_nibbles, hexdigits_pow, Nat.mod_eq_of_lt hd]

theorem print_cons (d : Nat) (ds : List Nat) : print (d :: ds) = print ds ++ hexOfDigit d := by
  simp [print, List.flatMap_append]

theorem parseFrom_print : ∀ (a : List Nat) (acc : Nat), Digs a →
    parseFrom acc (print a) = some (acc * W a.length + val a)
  | [], acc, _ => by simp [print, parseFrom, W]
  | d :: ds, acc, ha => by
    rw [digs_cons] at ha
    rw [print_cons, parseFrom_append, parseFrom_print ds acc ha.2]
    show parseFrom _ (hexOfDigit d) = _
    rw [parseFrom_hexOfDigit _ ha.1, List.length_cons, W_succ, val_cons, Nat.add_mul, Nat.mul_assoc,
      Nat.mul_comm (W _) B, Nat.add_assoc, Nat.mul_comm (val ds), Nat.add_comm d]

theorem print_length : ∀ (a : List Nat), (print a).length = hexdigits * a.length
  | [] => rfl
  | d :: ds => by
    rw [print_cons, List.length_append, print_length ds]
    simp [hexOfDigit, Nat.mul_add]

theorem parseFrom_dropZeros (cs : List Char) : parseFrom 0 (cs.dropWhile (· == '0')) = parseFrom 0 cs := by
  fun_induction List.dropWhile (· == '0') cs with
  | case1 => rfl
  | case2 c cs hc ih =>
    rw [ih, eq_of_beq hc]
    exact (parseFrom_cons_hexChar 0 (v := 0) (by decide) cs).symm
  | case3 => rfl

theorem parseHexChars_stripZeros (cs : List Char) : parseHexChars (stripZeros cs) = parseHexChars cs := by
  show parseFrom 0 (stripZeros cs) = parseFrom 0 cs
  unfold stripZeros
  have hd := parseFrom_dropZeros cs
  split
  · rename_i hnil
    rw [← hd, hnil]
    rfl
  · exact hd

end DV.C10
