import DuneVerif.Proofs.C06Rank
import DuneVerif.Proofs.C06Fix
/-!
C06 — what a rank leaves behind when `forward`/`backward` returns.

Consecutive calls on one communicator object use the same communicator and the same tags.  The rank-level invariants
imply that a rank which has returned is *quiet* on every link it takes part in: nothing it sent is
still in the FIFO, none of its requests is open, and its peer has no receive posted that one of its later messages
could be matched with.  Together with "a returned rank stays returned" this holds for the rest of the call, whatever
the other ranks still do — which is what makes a following call on the same object independent of this one.
-/
namespace DV.C06
variable {α : Type}

theorem startSend_closed {σ : Type} (B : Nat) (p : PairSpec α) (x : Pair α σ) (hx : x.rreq = .null)
    (h : (startSend B p x).sendOpen = false) :
    (startSend B p x).sreq = .null ∧ (startSend B p x).chan = [] ∧ (startSend B p x).rreq.isPosted = false := by
  simp only [startSend] at h ⊢
  generalize (setupSend _ _ _).message = m at h
  cases m with
  | none => exact ⟨rfl, rfl, by rw [hx]; rfl⟩
  | some _ => cases h

theorem startSend_rreq {σ : Type} (B : Nat) (p : PairSpec α) (x : Pair α σ) : (startSend B p x).rreq = x.rreq := rfl

theorem startRecv_closed (B : Nat) (p : PairSpec α) (sizes : List Nat) (x : Pair α (List (Call α))) (hx : x.chan = [])
    (h : (startRecv B p sizes x).recvOpen = false) :
    (startRecv B p sizes x).rreq = .null ∧ (startRecv B p sizes x).chan = [] := by
  simp only [startRecv] at h ⊢
  rw [h]
  exact ⟨rfl, hx⟩

theorem startRecv_chan (B : Nat) (p : PairSpec α) (sizes : List Nat) (x : Pair α (List (Call α))) :
    (startRecv B p sizes x).chan = x.chan := rfl

theorem startRecv_sreq (B : Nat) (p : PairSpec α) (sizes : List Nat) (x : Pair α (List (Call α))) :
    (startRecv B p sizes x).sreq = x.sreq := rfl

theorem linkInv_src_returned {B n : Nat} {ph : List Nat} {l : LinkSpec α} {x : LinkSt α} (hI : LinkInv B n ph l x)
    (h2 : ph.getD l.src 3 = 2) :
    x.sz.sreq = .null ∧ x.dt.sreq = .null ∧ x.sz.chan = [] ∧ x.dt.chan = [] ∧
      x.sz.rreq.isPosted = false ∧ x.dt.rreq.isPosted = false := by
  have hs : x.sStarted = true := by rw [hI.sph, h2]; rfl
  obtain ⟨a1, a2, a3⟩ := pinv_sendClosed x.sz hI.sz.2.2 (hI.sclosed hs)
  have hdc := hI.sret h2
  obtain ⟨b1, b2, b3⟩ : x.dt.sreq = .null ∧ x.dt.chan = [] ∧ x.dt.rreq.isPosted = false := by
    cases hr : x.rStarted with
    | true => exact pinv_sendClosed x.dt (hI.dt11 hs hr).2.2.2 hdc
    | false =>
      rw [hI.dt10 hs hr] at hdc ⊢
      exact startSend_closed B l.pair _ rfl hdc
  exact ⟨a1, b1, a2, b2, a3, b3⟩

theorem linkInv_dst_returned {B n : Nat} {ph : List Nat} {l : LinkSpec α} {x : LinkSt α} (hI : LinkInv B n ph l x)
    (h2 : ph.getD l.dst 3 = 2) :
    x.sz.rreq = .null ∧ x.dt.rreq = .null ∧ x.sz.chan = [] ∧ x.dt.chan = [] := by
  have hr : x.rStarted = true := by rw [hI.rph, h2]; rfl
  obtain ⟨a1, a2, _⟩ := pinv_recvClosed x.sz hI.sz.2.2 (hI.rclosed hr)
  have hdc := hI.rret h2
  cases hs : x.sStarted with
  | true =>
    obtain ⟨b1, b2, _⟩ := pinv_recvClosed x.dt (hI.dt11 hs hr).2.2.2 hdc
    exact ⟨a1, b1, a2, b2⟩
  | false =>
    rw [hI.dt01 hs hr] at hdc ⊢
    obtain ⟨b1, b2⟩ := startRecv_closed B l.pair _ _ rfl hdc
    exact ⟨a1, b1, a2, b2⟩

theorem varExec_returned (B : Nat) (specs : List (LinkSpec α)) (sched : List GAct) (g g' : VarSys α)
    (he : varExec B specs g sched = some g') (p : Nat) (h2 : g.phase.getD p 3 = 2) : g'.phase.getD p 3 = 2 := by
  refine exec_preserved (varStep B specs) (varExec B specs) (fun _ => rfl) (fun _ _ _ => rfl)
    (fun g => g.phase.getD p 3 = 2) (fun g g' a h2 hs => ?_) sched g g' h2 he
  -- only `advance` and `ret` write the phase list, and only at a rank that has not returned
  cases a with
  | size i a =>
    obtain ⟨_, _, _, _, he⟩ := varStep_size_eq hs
    obtain ⟨_, _, rfl, _⟩ := embedStep_some he
    exact h2
  | data i a =>
    obtain ⟨_, _, _, _, he⟩ := varStep_data_eq hs
    obtain ⟨_, _, rfl, _⟩ := embedStep_some he
    exact h2
  | advance q =>
    obtain ⟨hc, rfl⟩ := varStep_advance_eq hs
    exact getD_set_phase_other hc.1 h2 (by rw [hc.2.1]; decide)
  | ret q =>
    obtain ⟨hc, rfl⟩ := varStep_ret_eq hs
    exact getD_set_phase_other hc.1 h2 (by rw [hc.2.1]; decide)

theorem flinkInv_src_returned {B n : Nat} {ph : List Nat} {l : FLinkSpec α} {x : FLinkSt α} (hI : FLinkInv B n ph l x)
    (h1 : ph.getD l.src 3 = 1) :
    x.sc ≠ .pending ∧ x.dt.sreq = .null ∧ x.dt.chan = [] ∧ x.dt.rreq.isPosted = false := by
  obtain ⟨hsc, hdc⟩ := hI.sret h1
  refine ⟨hsc, ?_⟩
  by_cases hseen : x.sc = .seen
  · exact pinv_sendClosed x.dt (hI.post hseen).2.2.2 hdc
  · rw [hI.pre hseen] at hdc ⊢
    exact startSend_closed B l.pair _ rfl hdc

theorem flinkInv_dst_returned {B n : Nat} {ph : List Nat} {l : FLinkSpec α} {x : FLinkSt α} (hI : FLinkInv B n ph l x)
    (h1 : ph.getD l.dst 3 = 1) :
    x.sc = .seen ∧ x.dt.rreq = .null ∧ x.dt.chan = [] := by
  obtain ⟨hsc, hdc⟩ := hI.rret h1
  obtain ⟨b1, b2, _⟩ := pinv_recvClosed x.dt (hI.post hsc).2.2.2 hdc
  exact ⟨hsc, b1, b2⟩

theorem fixExec_returned (B : Nat) (specs : List (FLinkSpec α)) (sched : List FAct) (g g' : FixSys α)
    (he : fixExec B specs g sched = some g') (p : Nat) (h1 : g.phase.getD p 3 = 1) : g'.phase.getD p 3 = 1 := by
  refine exec_preserved (fixStep B specs) (fixExec B specs) (fun _ => rfl) (fun _ _ _ => rfl)
    (fun g => g.phase.getD p 3 = 1) (fun g g' a h1 hs => ?_) sched g g' h1 he
  cases a with
  | scalar i => obtain ⟨_, _, _, _, _, rfl⟩ := fixStep_scalar_eq hs; exact h1
  | seen i => obtain ⟨_, _, _, _, _, rfl⟩ := fixStep_seen_eq hs; exact h1
  | data i a =>
    obtain ⟨_, _, _, _, he⟩ := fixStep_data_eq hs
    obtain ⟨_, _, rfl, _⟩ := embedStep_some he
    exact h1
  | ret q =>
    obtain ⟨hc, rfl⟩ := fixStep_ret_eq hs
    exact getD_set_phase_other hc.1 h1 (by rw [hc.2.1]; decide)

end DV.C06
