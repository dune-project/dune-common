/-
C03: the *specification* the property speaks about — a set of pairs replayed along the history with no
order, no sorting, no merge, no search — and the simulation proof tying every reachable state of the model to it.

`Spec`, `specStep`, `specFrom`/`specRun`, `WFfrom`/`WF` and `revalid` are part of the trusted statements of Props/C03.lean.
Core Lean only.
-/
import DuneVerif.Proofs.C03Inv
import DuneVerif.Proofs.C03Search

namespace DV.C03

/-- what the history *means*: the bag of stored pairs (`cur`, in no particular order), the pairs added and the keys
marked deleted in the open resize phase, the state and the number of completed resizes -/
structure Spec where
  cur : List Pair
  add : List Pair
  del : List (Int × Nat)
  st : St
  seq : Nat

def Spec.init : Spec := { cur := [], add := [], del := [], st := .ground, seq := 0 }

def specStep (sp : Spec) : Op → Spec
  | .beginResize => if sp.st = .ground then { sp with st := .resize, add := [], del := [] } else sp
  | .add g l a p =>
    if sp.st = .resize then { sp with add := ⟨g, { loc := l, attr := a, pub := p, valid := true }⟩ :: sp.add } else sp
  | .addG g => if sp.st = .resize then { sp with add := ⟨g, defaultLocal⟩ :: sp.add } else sp
  | .markDel g a =>
    if sp.st = .resize ∧ sp.cur.any (fun p => key p == (g, a)) then { sp with del := (g, a) :: sp.del } else sp
  | .endResize =>
    if sp.st = .resize then
      { cur := sp.cur.filter (fun p => !sp.del.contains (key p)) ++ sp.add, add := [], del := [],
        st := .ground, seq := sp.seq + 1 }
    else sp
  | .renumber =>
    if sp.st = .ground then { sp with cur := sp.cur.map fun p => setLoc p (rank p sp.cur) } else sp
  | .setLocal g l => { sp with cur := sp.cur.map fun p => if p.g = g then setLoc p l else p }
  | _ => sp

def specFrom (sp : Spec) : List Op → Spec
  | [] => sp
  | op :: ops => specFrom (specStep sp op) ops

def specRun (h : List Op) : Spec := specFrom Spec.init h

/-- the property's quantifier: every set the history passes through has pairwise distinct global indices -/
def WFfrom (sp : Spec) : List Op → Prop
  | [] => (globals sp.cur).Nodup
  | op :: ops => (globals sp.cur).Nodup ∧ WFfrom (specStep sp op) ops

def WF (h : List Op) : Prop := WFfrom Spec.init h

instance decWFfrom : ∀ (sp : Spec) (h : List Op), Decidable (WFfrom sp h)
  | _, [] => by unfold WFfrom; exact inferInstance
  | sp, op :: ops => by
    unfold WFfrom
    exact @instDecidableAnd _ _ inferInstance (decWFfrom (specStep sp op) ops)

instance (h : List Op) : Decidable (WF h) := decWFfrom _ h

def revalid (p : Pair) : Pair := { p with l := { p.l with valid := true } }

/-- The specification keeps a marked pair in `cur`, its mark cleared, and records the key in `del`: hence `loc` is compared
after `revalid`, and `marks` says which entries carry DELETED. -/
structure Sim (s : ISet) (sp : Spec) : Prop where
  st : s.st = sp.st
  seq : s.seq = sp.seq
  fresh : s.fresh.Perm sp.add
  cur : (s.loc.map revalid).Perm sp.cur
  marks : ∀ p ∈ s.loc, (p.l.valid = false ↔ key p ∈ sp.del)
  groundDel : sp.st = .ground → sp.del = []

theorem init_sim : Sim init Spec.init := by
  refine ⟨rfl, rfl, ?_, ?_, ?_, fun _ => rfl⟩ <;> simp [init, Spec.init]

theorem revalid_of_valid {p : Pair} (h : p.l.valid = true) : revalid p = p := by
  rw [revalid, ← h]

theorem map_revalid_of_allValid {xs : List Pair} (h : AllValid xs) : xs.map revalid = xs := by
  calc xs.map revalid = xs.map id := List.map_congr_left (fun p hp => revalid_of_valid (h p hp))
    _ = xs := List.map_id _

theorem globals_map_revalid (xs : List Pair) : globals (xs.map revalid) = globals xs :=
  List.map_map

theorem Sim.globals_eq {s : ISet} {sp : Spec} (h : Sim s sp) : (globals s.loc).Perm (globals sp.cur) := by
  rw [← globals_map_revalid]; exact List.Perm.map _ h.cur

theorem Sim.strict {s : ISet} {sp : Spec} (h : Sim s sp) (hinv : Inv s) (hn : (globals sp.cur).Nodup) : StrictG s.loc :=
  strictG_of_sortedLex_nodup hinv.sorted (h.globals_eq.nodup_iff.2 hn)

theorem rank_revalid (p : Pair) (xs : List Pair) : rank (revalid p) xs = rank p xs := rfl

theorem rank_perm (p : Pair) {xs ys : List Pair} (h : (xs.map revalid).Perm ys) : rank p xs = rank p ys := by
  unfold rank
  rw [← h.countP_eq, List.countP_map]
  rfl

theorem Sim.add {s : ISet} {sp : Spec} (hsim : Sim s sp) (p : Pair) :
    Sim { s with fresh := s.fresh ++ [p] } { sp with add := p :: sp.add } :=
  { hsim with fresh := (List.perm_append_singleton _ _).trans (hsim.fresh.cons _) }

theorem Sim.setLocs {s : ISet} {sp : Spec} (hsim : Sim s sp) (num num' : Pair → Nat) (hnum : ∀ p, num' (revalid p) = num p) :
    Sim { s with loc := s.loc.map fun p => setLoc p (num p) } { sp with cur := sp.cur.map fun p => setLoc p (num' p) } := by
  refine { hsim with cur := ?_, marks := fun q' hq' => ?_ }
  · refine (List.Perm.of_eq ?_).trans (hsim.cur.map _)
    rw [List.map_map, List.map_map]
    refine List.map_congr_left fun p _ => ?_
    show revalid (setLoc p (num p)) = setLoc (revalid p) (num' (revalid p))
    rw [hnum]; rfl
  · obtain ⟨q, hq, rfl⟩ := List.mem_map.1 hq'
    exact hsim.marks q hq

theorem Sim.survivors {s : ISet} {sp : Spec} (hsim : Sim s sp) :
    (s.loc.filter (·.l.valid)).Perm (sp.cur.filter fun p => !sp.del.contains (key p)) := by
  have e (p) (hp : p ∈ s.loc) : p.l.valid = !sp.del.contains (key p) :=
    Bool.eq_iff_iff.2 (by simp [← hsim.marks p hp])
  refine .trans (.of_eq ?_) (hsim.cur.filter _)
  rw [List.filter_map, ← map_revalid_of_allValid (xs := s.loc.filter _) fun p hp => (List.mem_filter.1 hp).2]
  exact congrArg _ (List.filter_congr e)

/-- model and specification make the same state check; if it passes, both move -/
theorem Sim.guard {c c' : Prop} [Decidable c] [Decidable c'] {s s' : ISet} {sp sp' : Spec} {o o' : Obs}
    (hsim : Sim s sp) (hc : c ↔ c') (h : c → Sim s' sp') :
    Sim (if c then (s', o) else (s, o')).1 (if c' then sp' else sp) := by
  by_cases hst : c
  · rw [if_pos hst, if_pos (hc.1 hst)]; exact h hst
  · rw [if_neg hst, if_neg fun h' => hst (hc.2 h')]; exact hsim

/-- `set[g].local() = l` goes through `operator[]`; with pairwise distinct global indices it overwrites exactly the entries with
global index `g`, which is how the specification says it -/
theorem step_setLocal {s : ISet} (hs : StrictG s.loc) (g : Int) (l : Nat) :
    (step s (.setLocal g l)).1 = { s with loc := s.loc.map fun p => if p.g = g then setLoc p l else p } := by
  simp only [step]
  by_cases hhas : hasGlobal s.loc g = true
  · obtain ⟨p, hp, hpg⟩ := List.any_eq_true.1 hhas
    obtain rfl : p.g = g := eq_of_beq hpg
    obtain ⟨i, hget, hpi⟩ := getL_of_mem hs hp
    rw [if_pos hhas, setLocalVia, hget, ← modifyAt_eq_map _ i s.loc p hs hpi]
    rfl
  · have : (s.loc.map fun p => if p.g = g then setLoc p l else p) = s.loc :=
      (List.map_congr_left fun q hq => if_neg fun hg => hhas (List.any_eq_true.2 ⟨q, hq, beq_iff_eq.2 hg⟩)).trans
        (List.map_id _)
    rw [if_neg hhas, this]

theorem sim_step {s : ISet} {sp : Spec} (hinv : Inv s) (hsim : Sim s sp) (hn : (globals sp.cur).Nodup) (op : Op) :
    Sim (step s op).1 (specStep sp op) := by
  have hstrict : StrictG s.loc := hsim.strict hinv hn
  cases op with
  | beginResize =>
    rw [step_beginResize]
    refine hsim.guard (hsim.st ▸ Iff.rfl) fun hst => ?_
    obtain ⟨hf, hv⟩ := hinv.ground hst
    exact ⟨rfl, hsim.seq, hf ▸ .nil, hsim.cur, fun p hp => ⟨fun h => (nomatch (hv p hp).symm.trans h), nofun⟩, nofun⟩
  | add g l a p => rw [step_add]; exact hsim.guard (hsim.st ▸ Iff.rfl) fun _ => hsim.add _
  | addG g => rw [step_addG]; exact hsim.guard (hsim.st ▸ Iff.rfl) fun _ => hsim.add _
  | markDel g a =>
    have hany : sp.cur.any (fun p => key p == (g, a)) = true ↔ ∃ p ∈ s.loc, p.g = g ∧ p.l.attr = a := by
      rw [← hsim.cur.any_eq, List.any_map, List.any_eq_true]
      exact exists_congr fun p => and_congr_right fun _ => beq_iff_eq.trans Prod.ext_iff
    simp only [specStep]
    cases hfind : findKey g a s.loc with
    | none =>
      rw [step_markDel_none hfind, if_neg fun h => (hany.1 h.2).elim fun p hp => findKey_none hfind p hp.1 hp.2]
      exact hsim
    | some i =>
      obtain ⟨p, hpi, rfl, rfl⟩ := findKey_some hfind
      have hpmem : p ∈ s.loc := List.mem_of_getElem? hpi
      rw [step_markDel_some hfind]
      refine hsim.guard ⟨fun h => ⟨hsim.st ▸ h, hany.2 ⟨p, hpmem, rfl, rfl⟩⟩, fun h => hsim.st ▸ h.1⟩ fun hst => ?_
      refine { hsim with cur := ?_, marks := ?_, groundDel := fun h => (nomatch hst.symm.trans (hsim.st.trans h)) }
      · show ((modifyAt setDeleted i s.loc).map revalid).Perm sp.cur
        rw [modifyAt_map setDeleted revalid (fun _ => rfl)]
        exact hsim.cur
      · show ∀ q ∈ modifyAt setDeleted i s.loc, (q.l.valid = false ↔ key q ∈ key p :: sp.del)
        rw [modifyAt_eq_map setDeleted i s.loc p hstrict hpi]
        intro q' hq'
        obtain ⟨q, hq, rfl⟩ := List.mem_map.1 hq'
        by_cases hqg : q.g = p.g
        · -- pairwise distinct globals: `q` is the marked entry `p`
          obtain rfl := eq_of_nodup_map (·.g) s.loc hstrict.nodup q hq p hpmem hqg
          rw [if_pos rfl]
          exact ⟨fun _ => List.mem_cons_self, fun _ => rfl⟩
        · rw [if_neg hqg, hsim.marks q hq, List.mem_cons]
          exact ⟨Or.inr, fun h => h.resolve_left fun hk => hqg (congrArg Prod.fst hk)⟩
  | endResize =>
    rw [step_endResize]
    refine hsim.guard (hsim.st ▸ Iff.rfl) fun _ => ?_
    obtain ⟨h1, _, h3, h4⟩ := closeResize_spec hinv
    refine ⟨rfl, (closeResize_seq s).trans (congrArg (· + 1) hsim.seq), h4 ▸ .nil, ?_,
      fun p hp => ⟨fun h => (nomatch (h3 p hp).symm.trans h), nofun⟩, fun _ => rfl⟩
    rw [map_revalid_of_allValid h3]
    exact h1.trans (hsim.survivors.append hsim.fresh)
  | renumber =>
    rw [step_renumber, renumFrom_eq_rank 0 s.loc hstrict.before]
    exact hsim.guard (hsim.st ▸ Iff.rfl) fun _ => hsim.setLocs _ _ fun p => (rank_perm p hsim.cur).symm
  | setLocal g l =>
    have e : (fun p : Pair => if p.g = g then setLoc p l else p) = fun p => setLoc p (if p.g = g then l else p.l.loc) :=
      funext fun p => by split <;> rfl
    simp only [specStep]
    rw [step_setLocal hstrict, e]
    exact hsim.setLocs _ _ fun _ => rfl
  | get g => rw [step_get_fst]; exact hsim
  | lookupN n => rw [step_lookupN_fst]; exact hsim
  | exists_ _ | at_ _ | seqNo | size | state | dump | lookup => exact hsim

theorem simFrom (h : List Op) {s : ISet} {sp : Spec} (hinv : Inv s) (hsim : Sim s sp) (hwf : WFfrom sp h) :
    Sim (runFrom s h).1 (specFrom sp h) ∧ (globals (specFrom sp h).cur).Nodup := by
  induction h generalizing s sp with
  | nil => exact ⟨hsim, hwf⟩
  | cons op ops ih => exact ih (step_inv hinv op) (sim_step hinv hsim hwf.1 op) hwf.2

theorem sim_run (h : List Op) (hwf : WF h) : Sim (run h) (specRun h) ∧ (globals (specRun h).cur).Nodup :=
  simFrom h init_inv init_sim hwf

end DV.C03
