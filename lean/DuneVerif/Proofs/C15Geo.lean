/-
C15 — lemmas about the generated slot geometry of Dune::Pool (Gen/C15.lean), about slot addresses and about the loop
bounds of `Pool::grow`.  Core Lean only.
-/
import DuneVerif.Model.C15

namespace DV.C15
open DV.C15.Gen

/-- the rounding idiom of poolallocator.hh: `(x % a == 0) ? x : (x / a + 1) * a` -/
def roundUp (x a : Nat) : Nat := if x % a = 0 then x else (x / a + 1) * a

theorem roundUp_dvd (x a : Nat) : a ∣ roundUp x a := by
  unfold roundUp
  split
  · exact Nat.dvd_of_mod_eq_zero ‹_›
  · exact Nat.dvd_mul_left _ _

theorem le_roundUp (x : Nat) {a : Nat} (ha : 0 < a) : x ≤ roundUp x a := by
  unfold roundUp
  split
  · exact Nat.le_refl _
  · rw [Nat.mul_comm]; exact Nat.le_of_lt (Nat.lt_mul_div_succ x ha)

theorem roundUp_lt (x : Nat) {a : Nat} (ha : 0 < a) : roundUp x a < x + a := by
  unfold roundUp
  split
  · exact Nat.lt_add_of_pos_right ha
  · rename_i hne
    rw [Nat.add_one_mul]
    -- `x / a * a < x` because `a` does not divide `x`
    exact Nat.add_lt_add_right (Nat.lt_of_le_of_ne (Nat.div_mul_le_self x a) fun h => hne (h ▸ Nat.mul_mod_left _ _)) a

theorem roundUp_le_of_dvd {x a m : Nat} (ha : 0 < a) (hm : a ∣ m) (hx : x ≤ m) : roundUp x a ≤ m :=
  -- `roundUp x a < x + a ≤ m + a`, and a multiple of `a` below `m + a` is at most the multiple `m`
  Nat.le_of_lt_add_of_dvd (Nat.lt_of_lt_of_le (roundUp_lt x ha) (Nat.add_le_add_right hx a)) (roundUp_dvd x a) hm

theorem roundUp_mono {x y a : Nat} (ha : 0 < a) (h : x ≤ y) : roundUp x a ≤ roundUp y a :=
  roundUp_le_of_dvd ha (roundUp_dvd y a) (Nat.le_trans h (le_roundUp y ha))

theorem alignedSize_eq (sz al s : Nat) : alignedSize sz al s = roundUp (unionSize sz al s) (alignment sz al s) := rfl
theorem chunkSize_eq (sz al s : Nat) : chunkSize sz al s = roundUp (size sz al s) (alignment sz al s) := rfl
theorem elements_eq (sz al s : Nat) : elements sz al s = chunkSize sz al s / alignedSize sz al s := rfl

theorem alignment_pos {al : Nat} (sz s : Nat) (hal : 0 < al) : 0 < alignment sz al s := by
  unfold alignment; exact Nat.lcm_pos hal (by decide)

theorem unionSize_eq_max (sz al s : Nat) : unionSize sz al s = max sz refSize := by
  unfold unionSize; split
  · exact (Nat.max_eq_right (Nat.le_of_lt ‹_›)).symm
  · exact (Nat.max_eq_left (Nat.le_of_not_lt ‹_›)).symm

theorem unionSize_le_size (sz al s : Nat) : unionSize sz al s ≤ size sz al s := by
  unfold size
  split
  · rw [unionSize_eq_max]; exact Nat.max_le.2 ‹_›
  · exact Nat.le_refl _

theorem alignedSize_le_chunkSize {al : Nat} (sz s : Nat) (hal : 0 < al) : alignedSize sz al s ≤ chunkSize sz al s := by
  rw [alignedSize_eq, chunkSize_eq]
  exact roundUp_mono (alignment_pos sz s hal) (unionSize_le_size sz al s)

theorem le_alignedSize {al : Nat} (sz s : Nat) (hal : 0 < al) : max sz refSize ≤ alignedSize sz al s := by
  rw [alignedSize_eq, ← unionSize_eq_max sz al s]; exact le_roundUp _ (alignment_pos sz s hal)

theorem alignedSize_pos {al : Nat} (sz s : Nat) (hal : 0 < al) : 0 < alignedSize sz al s :=
  Nat.lt_of_lt_of_le (by decide : 0 < refSize) (Nat.le_trans (Nat.le_max_right sz _) (le_alignedSize sz s hal))

theorem slots_apart {a i j : Nat} (h : i < j) : i * a + a ≤ j * a := by
  rw [← Nat.add_one_mul]; exact Nat.mul_le_mul_right _ h

theorem stride_apart (start stride : Nat) {i j : Nat} (h : i ≠ j) :
    start + i * stride + stride ≤ start + j * stride ∨ start + j * stride + stride ≤ start + i * stride := by
  rw [Nat.add_assoc, Nat.add_assoc]
  exact (Nat.lt_or_gt_of_ne h).imp (fun h => Nat.add_le_add_left (slots_apart h) _)
    (fun h => Nat.add_le_add_left (slots_apart h) _)

theorem slot_inside {g : Geo} (hfit : g.elements * g.alignedSize ≤ g.chunkSize) {i : Nat} (hi : i < g.elements) :
    i * g.alignedSize + g.alignedSize ≤ g.chunkSize :=
  Nat.le_trans (slots_apart hi) hfit

theorem addr_dvd {g : Geo} {A : Nat} (hA : A ∣ g.alignedSize) {base : Nat → Nat} {b : Block} (hb : A ∣ base b.1) :
    A ∣ addr g base b :=
  Nat.dvd_add hb (Nat.dvd_trans hA (Nat.dvd_mul_left _ _))

theorem addr_inside {g : Geo} (hfit : g.elements * g.alignedSize ≤ g.chunkSize) (base : Nat → Nat) {b : Block}
    (hb : b.2 < g.elements) : base b.1 ≤ addr g base b ∧ addr g base b + g.alignedSize ≤ base b.1 + g.chunkSize :=
  ⟨Nat.le_add_right _ _, by unfold addr; rw [Nat.add_assoc]; exact Nat.add_le_add_left (slot_inside hfit hb) _⟩

/-- chunks placed back to back from `start` satisfy what the address theorems ask of `operator new`: the bases are
    aligned to every common divisor of `start` and the stride, and the chunks are separated (`stride_apart`) -/
theorem backToBack_dvd {A start stride : Nat} (h0 : A ∣ start) (hs : A ∣ stride) (c : Nat) : A ∣ start + c * stride :=
  Nat.dvd_add h0 (Nat.dvd_mul_left_of_dvd hs c)

/-- `for (e = a; e < E*a; e += a)` visits `1*a, 2*a, …, (E-1)*a` -/
theorem growLoop_canonical (a E : Nat) (ha : 0 < a) (hE : 1 ≤ E) :
    growLoopOffsets a a (E * a) = (List.range' 1 (E - 1)).map (fun i => i * a) := by
  unfold growLoopOffsets
  -- the first four rewrites turn the loop count `(E * a - a + a - 1) / a` into `E - 1`
  rw [Nat.sub_add_cancel (Nat.le_mul_of_pos_left a hE), Nat.mul_comm E a, Nat.mul_sub_div 0 a E (Nat.mul_pos ha hE),
    Nat.zero_div, List.range'_eq_map_range, List.map_map]
  apply List.map_congr_left
  intro k _
  show a + k * a = (1 + k) * a
  rw [Nat.add_mul, Nat.one_mul]

end DV.C15
