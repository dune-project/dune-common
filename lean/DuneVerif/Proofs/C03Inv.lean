/-
C03: the invariant of the state machine (every reachable state), merge/endResize facts, renumbering, `step` on the
mutating operations, the reverse table.  `AllValid`, `Inv`, `rank` occur in the statements of Props/C03.lean.
Core Lean only.
-/
import DuneVerif.Proofs.C03Sort

namespace DV.C03

def AllValid (xs : List Pair) : Prop := ∀ p ∈ xs, p.l.valid = true

/-- holds in every reachable state (theorem `run_inv`) -/
structure Inv (s : ISet) : Prop where
  sorted : SortedLex s.loc
  freshValid : AllValid s.fresh
  ground : s.st = .ground → s.fresh = [] ∧ AllValid s.loc
  nodel : s.del = false → AllValid s.loc

theorem init_inv : Inv init := by
  refine ⟨?_, ?_, ?_, ?_⟩ <;> simp [init, SortedLex, AllValid]

theorem sortedLex_of_keys_eq {xs ys : List Pair} (h : ys.map key = xs.map key) (hs : SortedLex xs) : SortedLex ys := by
  have hk (zs : List Pair) : SortedLex zs ↔
      (zs.map key).Pairwise fun k1 k2 => k1.1 < k2.1 ∨ (k1.1 = k2.1 ∧ k1.2 ≤ k2.2) := by
    rw [List.pairwise_map]; exact Iff.rfl
  rw [hk] at *; rw [h]; exact hs

theorem globals_eq_of_keys_eq {xs ys : List Pair} (h : xs.map key = ys.map key) : globals xs = globals ys := by
  have : (xs.map key).map (·.1) = (ys.map key).map (·.1) := by rw [h]
  simpa [globals, List.map_map, key, Function.comp_def] using this

theorem strictG_of_sortedLex_nodup {xs : List Pair} (hs : SortedLex xs) (hn : (globals xs).Nodup) : StrictG xs :=
  List.Pairwise.imp₂ (fun _ _ h hne => Int.lt_iff_le_and_ne.2 ⟨keyLe_g h, hne⟩) hs (List.pairwise_map.1 hn)

theorem StrictG.nodup {xs : List Pair} (hs : StrictG xs) : (globals xs).Nodup :=
  List.pairwise_map.2 (hs.imp Int.ne_of_lt)

theorem StrictG.keysNodup {xs : List Pair} (hs : StrictG xs) : KeysNodup xs :=
  hs.imp fun h (hk : key _ = key _) => Int.ne_of_lt h (congrArg Prod.fst hk)

theorem StrictG.before {xs : List Pair} (hs : StrictG xs) : xs.Pairwise (fun a b => before a b = true) :=
  hs.imp fun h => (before_iff _ _).2 (Or.inl h)

theorem modifyAt_length (f : Pair → Pair) : ∀ (i : Nat) (xs : List Pair), (modifyAt f i xs).length = xs.length := by
  intro i xs
  induction xs generalizing i with
  | nil => cases i <;> rfl
  | cons p ps ih =>
    cases i with
    | zero => rfl
    | succ i => exact congrArg (· + 1) (ih i)

theorem modifyAt_map {β : Type} (f : Pair → Pair) (h : Pair → β) (hf : ∀ p, h (f p) = h p) :
    ∀ (i : Nat) (xs : List Pair), (modifyAt f i xs).map h = xs.map h := by
  intro i xs
  induction xs generalizing i with
  | nil => cases i <;> rfl
  | cons p ps ih =>
    cases i with
    | zero => exact congrArg (· :: ps.map h) (hf p)
    | succ i => exact congrArg (h p :: ·) (ih i)

theorem mem_modifyAt (f : Pair → Pair) (i : Nat) (xs : List Pair) (q : Pair) (h : q ∈ modifyAt f i xs) :
    q ∈ xs ∨ ∃ p ∈ xs, q = f p := by
  induction xs generalizing i with
  | nil => cases i <;> exact nomatch h
  | cons p ps ih =>
    cases i with
    | zero =>
      rcases List.mem_cons.1 h with rfl | h
      · exact Or.inr ⟨p, List.mem_cons_self, rfl⟩
      · exact Or.inl (List.mem_cons_of_mem _ h)
    | succ i =>
      rcases List.mem_cons.1 h with rfl | h
      · exact Or.inl List.mem_cons_self
      · rcases ih i h with h | ⟨p', hp', rfl⟩
        · exact Or.inl (List.mem_cons_of_mem _ h)
        · exact Or.inr ⟨p', List.mem_cons_of_mem _ hp', rfl⟩

theorem modifyAt_eq_map (f : Pair → Pair) (i : Nat) (xs : List Pair) (p : Pair) (hs : StrictG xs) (h : xs[i]? = some p) :
    modifyAt f i xs = xs.map (fun q => if q.g = p.g then f q else q) := by
  induction xs generalizing i with
  | nil => exact nomatch h
  | cons x xs ih =>
    have hs := List.pairwise_cons.1 hs
    cases i with
    | zero =>
      obtain rfl : x = p := Option.some.inj h
      rw [modifyAt, List.map_cons, if_pos rfl]
      refine congrArg _ (Eq.symm ?_)
      exact (List.map_congr_left (g := id) fun q hq => if_neg (Int.ne_of_gt (hs.1 q hq))).trans (List.map_id xs)
    | succ i =>
      have h : xs[i]? = some p := h
      rw [modifyAt, List.map_cons, if_neg (Int.ne_of_lt (hs.1 p (List.mem_of_getElem? h))), ih i hs.2 h]

theorem findKey_eq_findIdx? (g : Int) (a : Nat) (xs : List Pair) :
    findKey g a xs = xs.findIdx? fun p => decide (p.g = g ∧ p.l.attr = a) := by
  induction xs with
  | nil => rfl
  | cons x xs ih => simp only [findKey, List.findIdx?_cons, ih, decide_eq_true_eq]

theorem findKey_some {g : Int} {a : Nat} {xs : List Pair} {i : Nat} (h : findKey g a xs = some i) :
    ∃ p, xs[i]? = some p ∧ p.g = g ∧ p.l.attr = a := by
  obtain ⟨hi, hp, _⟩ := List.findIdx?_eq_some_iff_getElem.1 (findKey_eq_findIdx? g a xs ▸ h)
  exact ⟨xs[i], List.getElem?_eq_getElem hi, of_decide_eq_true hp⟩

theorem findKey_none {g : Int} {a : Nat} {xs : List Pair} (h : findKey g a xs = none) :
    ∀ p ∈ xs, ¬ (p.g = g ∧ p.l.attr = a) := fun p hp =>
  of_decide_eq_false (List.findIdx?_eq_none_iff.1 (findKey_eq_findIdx? g a xs ▸ h) p hp)

theorem renumFrom_eq_zipIdx (k : Nat) (xs : List Pair) : renumFrom k xs = (xs.zipIdx k).map fun pi => setLoc pi.1 pi.2 := by
  induction xs generalizing k with
  | nil => rfl
  | cons p ps ih => exact congrArg (setLoc p k :: ·) (ih (k + 1))

theorem renumFrom_length (k : Nat) (xs : List Pair) : (renumFrom k xs).length = xs.length := by
  rw [renumFrom_eq_zipIdx, List.length_map, List.length_zipIdx]

theorem renumFrom_getElem? (k : Nat) (xs : List Pair) (i : Nat) :
    (renumFrom k xs)[i]? = (xs[i]?).map (fun p => setLoc p (i + k)) := by
  rw [renumFrom_eq_zipIdx, List.getElem?_map, List.getElem?_zipIdx, Option.map_map, Nat.add_comm]; rfl

theorem renumFrom_getElem?_loc {k i : Nat} {xs : List Pair} {p : Pair} (h : (renumFrom k xs)[i]? = some p) :
    p.l.loc = i + k := by
  rw [renumFrom_getElem?] at h
  obtain ⟨q, _, rfl⟩ := Option.map_eq_some_iff.1 h
  rfl

theorem renumFrom_map {β : Type} (h : Pair → β) (hf : ∀ p k, h (setLoc p k) = h p) (k : Nat) (xs : List Pair) :
    (renumFrom k xs).map h = xs.map h := by
  rw [renumFrom_eq_zipIdx, List.map_map]
  conv => rhs; rw [← List.zipIdx_map_fst k xs, List.map_map]
  exact List.map_congr_left fun pi _ => hf pi.1 pi.2

theorem renumFrom_locs (k : Nat) (xs : List Pair) : (renumFrom k xs).map (·.l.loc) = List.range' k xs.length := by
  rw [renumFrom_eq_zipIdx, List.map_map]; exact List.zipIdx_map_snd k xs

theorem maxLocal_eq_foldl (xs : List Pair) (m : Nat) : maxLocal xs m = (xs.map (·.l.loc)).foldl max m := by
  induction xs generalizing m with
  | nil => rfl
  | cons x xs ih => exact ih _

theorem maxLocal_renumFrom (x : Pair) (xs : List Pair) (k m : Nat) :
    maxLocal (renumFrom k (x :: xs)) m = max m (xs.length + k) := by
  -- the numbers are `k, …, k + xs.length`
  rw [maxLocal_eq_foldl, renumFrom_locs, List.foldl_max, List.length_cons,
    List.max?_eq_some_iff.2 ⟨List.mem_range'_1.2 ⟨Nat.le_add_right _ _, Nat.lt_succ_self _⟩,
      fun b hb => Nat.le_of_lt_succ (List.mem_range'_1.1 hb).2⟩, Nat.add_comm]
  rfl

/-- number of entries strictly before `p` in the order of the code's comparison -/
def rank (p : Pair) (xs : List Pair) : Nat := xs.countP (fun q => before q p)

theorem renumFrom_eq_rank (k : Nat) (xs : List Pair) (hs : xs.Pairwise (fun a b => before a b = true)) :
    renumFrom k xs = xs.map (fun p => setLoc p (rank p xs + k)) := by
  induction xs generalizing k with
  | nil => rfl
  | cons x xs ih =>
    rw [List.pairwise_cons] at hs
    have hx0 : rank x (x :: xs) = 0 := List.countP_eq_zero.2 fun q hq => by
      rcases List.mem_cons.1 hq with rfl | hq
      · rw [before_irrefl]; exact Bool.false_ne_true
      · rw [before_asymm (hs.1 q hq)]; exact Bool.false_ne_true
    rw [renumFrom, List.map_cons, hx0, Nat.zero_add, ih (k + 1) hs.2]
    refine congrArg _ (List.map_congr_left fun q hq => ?_)
    have : rank q (x :: xs) = rank q xs + 1 := by rw [rank, List.countP_cons, if_pos (hs.1 q hq)]; rfl
    rw [this, Nat.add_assoc, Nat.add_comm 1]

theorem merge_seq (s : ISet) : (merge s).seq = s.seq := by
  unfold merge; split
  · rfl
  · split <;> rfl

/-- The branch conditions of `merge()` only skip work: whenever the DELETED marks are announced by
`deletedEntries_`, the result is that of the three loops. -/
theorem merge_fields (s : ISet) (hnodel : s.del = false → AllValid s.loc) :
    (merge s).loc = mergeLoop s.loc s.fresh ∧ (merge s).fresh = [] := by
  unfold merge; split
  · next h => rw [List.eq_nil_of_length_eq_zero h]; exact ⟨rfl, rfl⟩
  · split
    · exact ⟨rfl, rfl⟩
    · next h =>
      -- nothing added and nothing marked: the loops copy `loc`
      simp only [Bool.or_eq_true, decide_eq_true_eq, not_or, Nat.not_lt, Nat.le_zero_eq, List.length_eq_zero_iff,
        Bool.not_eq_true] at h
      rw [h.1, mergeLoop_nil_right, List.filter_eq_self.2 (hnodel h.2)]
      exact ⟨rfl, rfl⟩

/-- the state `endResize()` leaves behind when it is accepted -/
def closeResize (s : ISet) : ISet :=
  let s1 := merge { s with fresh := sortFresh s.fresh }
  { s1 with seq := s1.seq + 1, st := .ground }

theorem endResize_ok {s s' : ISet} (h : endResize s = .ok s') : s' = closeResize s := by
  unfold endResize at h
  split at h
  · cases h
  · exact (Except.ok.inj h).symm

theorem closeResize_seq (s : ISet) : (closeResize s).seq = s.seq + 1 :=
  congrArg (· + 1) (merge_seq _)

theorem closeResize_spec {s : ISet} (hinv : Inv s) :
    (closeResize s).loc.Perm (s.loc.filter (·.l.valid) ++ s.fresh) ∧ SortedLex (closeResize s).loc ∧
    AllValid (closeResize s).loc ∧ (closeResize s).fresh = [] := by
  obtain ⟨e1, e2⟩ : (closeResize s).loc = mergeLoop s.loc (sortFresh s.fresh) ∧ (closeResize s).fresh = [] :=
    merge_fields { s with fresh := sortFresh s.fresh } hinv.nodel
  rw [e1, e2]
  exact ⟨(mergeLoop_perm _ _).trans ((List.Perm.refl _).append (sortFresh_perm _)),
    mergeLoop_sorted _ _ hinv.sorted (sortFresh_sorted _),
    mergeLoop_valid _ _ fun p hp => hinv.freshValid p ((sortFresh_perm _).mem_iff.1 hp), rfl⟩

theorem lift_guard {c : Prop} [Decidable c] (s s' : ISet) (e : Err) :
    lift s (if ¬ c then .error e else .ok s') = if c then (s', .ok) else (s, .err e) := by
  by_cases h : c <;> simp only [h, not_true_eq_false, not_false_eq_true, if_true, if_false, lift]

theorem step_beginResize (s : ISet) :
    step s .beginResize =
      if s.st = .ground then ({ s with st := .resize, del := false }, .ok) else (s, .err .invalidState) :=
  lift_guard ..

theorem step_add (s : ISet) (g : Int) (l a : Nat) (p : Bool) :
    step s (.add g l a p) =
      if s.st = .resize then ({ s with fresh := s.fresh ++ [⟨g, { loc := l, attr := a, pub := p, valid := true }⟩] }, .ok)
      else (s, .err .invalidState) :=
  lift_guard ..

theorem step_addG (s : ISet) (g : Int) :
    step s (.addG g) =
      if s.st = .resize then ({ s with fresh := s.fresh ++ [⟨g, defaultLocal⟩] }, .ok) else (s, .err .invalidState) :=
  lift_guard ..

theorem step_markDel_none {s : ISet} {g : Int} {a : Nat} (h : findKey g a s.loc = none) :
    step s (.markDel g a) = (s, .none_) := by
  simp only [step, h]

theorem step_markDel_some {s : ISet} {g : Int} {a i : Nat} (h : findKey g a s.loc = some i) :
    step s (.markDel g a) =
      if s.st = .resize then ({ s with del := true, loc := modifyAt setDeleted i s.loc }, .ok)
      else (s, .err .invalidState) := by
  simp only [step, h]; exact lift_guard ..

theorem step_endResize (s : ISet) :
    step s .endResize = if s.st = .resize then (closeResize s, .ok) else (s, .err .invalidState) :=
  lift_guard ..

theorem step_renumber (s : ISet) :
    step s .renumber =
      if s.st = .ground then ({ s with loc := renumFrom 0 s.loc }, .ok) else (s, .err .invalidState) := by
  simp only [step, renumberLocal]; cases s.st <;> rfl

theorem step_get_fst (s : ISet) (g : Int) : (step s (.get g)).1 = s := by
  simp only [step]; split <;> rfl

theorem step_lookupN_fst (s : ISet) (n : Nat) : (step s (.lookupN n)).1 = s := by
  simp only [step]; split <;> rfl

theorem not_ground_of_resize {st : St} (h : st = .resize) : ¬ st = .ground := h ▸ nofun

theorem not_resize_of_ground {st : St} (h : st = .ground) : ¬ st = .resize := h ▸ nofun

/-- the ways an accepted operation changes the set, over-approximated (`markDel` and `setLocal` allow any position `i`):
enough for the invariant and for `seq_step` -/
inductive Changes (s : ISet) : Op → ISet → Prop
  | beginResize : s.st = .ground → Changes s .beginResize { s with st := .resize, del := false }
  | add (g l a p) : s.st = .resize →
      Changes s (.add g l a p) { s with fresh := s.fresh ++ [⟨g, { loc := l, attr := a, pub := p, valid := true }⟩] }
  | addG (g) : s.st = .resize → Changes s (.addG g) { s with fresh := s.fresh ++ [⟨g, defaultLocal⟩] }
  | markDel (g a i) : s.st = .resize → Changes s (.markDel g a) { s with del := true, loc := modifyAt setDeleted i s.loc }
  | endResize : s.st = .resize → Changes s .endResize (closeResize s)
  | renumber : s.st = .ground → Changes s .renumber { s with loc := renumFrom 0 s.loc }
  | setLocal (g l i) : Changes s (.setLocal g l) { s with loc := modifyAt (fun p => setLoc p l) i s.loc }

theorem guard_changes {c : Prop} [Decidable c] {s s' : ISet} {o : Obs} {op : Op} {r : ISet × Obs}
    (h : c → Changes s op s') (hr : r = if c then (s', Obs.ok) else (s, o)) : r.1 = s ∨ r.2 = .ok ∧ Changes s op r.1 := by
  subst hr; split
  · exact Or.inr ⟨rfl, h ‹_›⟩
  · exact Or.inl rfl

theorem step_changes (s : ISet) (op : Op) :
    (step s op).1 = s ∨ (step s op).2 = .ok ∧ Changes s op (step s op).1 := by
  cases op with
  | beginResize => exact guard_changes .beginResize (step_beginResize s)
  | add g l a p => exact guard_changes (.add g l a p) (step_add s g l a p)
  | addG g => exact guard_changes (.addG g) (step_addG s g)
  | markDel g a =>
    cases hf : findKey g a s.loc with
    | none => exact Or.inl (congrArg Prod.fst (step_markDel_none hf))
    | some i => exact guard_changes (.markDel g a i) (step_markDel_some hf)
  | endResize => exact guard_changes .endResize (step_endResize s)
  | renumber => exact guard_changes .renumber (step_renumber s)
  | setLocal g l =>
    simp only [step, setLocalVia]; split
    · cases getL s.loc g with
      | none => exact Or.inl rfl
      | some ip => exact Or.inr ⟨rfl, .setLocal g l ip.1⟩
    · exact Or.inl rfl
  | get g => exact Or.inl (step_get_fst s g)
  | lookupN n => exact Or.inl (step_lookupN_fst s n)
  | exists_ _ | at_ _ | seqNo | size | state | dump | lookup => exact Or.inl rfl

theorem AllValid.of_map_eq {xs ys : List Pair} (h : ys.map (·.l.valid) = xs.map (·.l.valid)) (hx : AllValid xs) :
    AllValid ys :=
  List.forall_mem_map (P := (· = true)).1 (h ▸ List.forall_mem_map.2 hx)

theorem Inv.add {s : ISet} (hinv : Inv s) (hst : s.st = .resize) {p : Pair} (hp : p.l.valid = true) :
    Inv { s with fresh := s.fresh ++ [p] } :=
  ⟨hinv.sorted, fun q hq => (List.mem_append.1 hq).elim (hinv.freshValid q) fun h => List.mem_singleton.1 h ▸ hp,
    fun h => (nomatch hst.symm.trans h), hinv.nodel⟩

theorem Inv.replaceLoc {s : ISet} (hinv : Inv s) {ys : List Pair} (hk : ys.map key = s.loc.map key)
    (hv : ys.map (·.l.valid) = s.loc.map (·.l.valid)) : Inv { s with loc := ys } :=
  ⟨sortedLex_of_keys_eq hk hinv.sorted, hinv.freshValid,
    fun h => ⟨(hinv.ground h).1, (hinv.ground h).2.of_map_eq hv⟩, fun h => (hinv.nodel h).of_map_eq hv⟩

theorem step_inv {s : ISet} (hinv : Inv s) (op : Op) : Inv (step s op).1 := by
  rcases step_changes s op with h | ⟨_, h⟩
  · rw [h]; exact hinv
  · generalize (step s op).1 = s' at h
    cases h with
    | beginResize hst => exact ⟨hinv.sorted, hinv.freshValid, nofun, fun _ => (hinv.ground hst).2⟩
    | add g l a p hst => exact hinv.add hst rfl
    | addG g hst => exact hinv.add hst rfl
    | markDel g a i hst =>
      exact ⟨sortedLex_of_keys_eq (modifyAt_map setDeleted key (fun _ => rfl) i s.loc) hinv.sorted,
        hinv.freshValid, fun h => (nomatch hst.symm.trans h), nofun⟩
    | endResize _ =>
      obtain ⟨_, h2, h3, h4⟩ := closeResize_spec hinv
      exact ⟨h2, fun _ hq => (nomatch h4 ▸ hq), fun _ => ⟨h4, h3⟩, fun _ => h3⟩
    | renumber _ =>
      exact hinv.replaceLoc (renumFrom_map key (fun _ _ => rfl) 0 s.loc) (renumFrom_map _ (fun _ _ => rfl) 0 s.loc)
    | setLocal g l i =>
      exact hinv.replaceLoc (modifyAt_map (fun p => setLoc p l) key (fun _ => rfl) i s.loc)
        (modifyAt_map (fun p => setLoc p l) _ (fun _ => rfl) i s.loc)

theorem runFrom_fst (s : ISet) (h : List Op) : (runFrom s h).1 = h.foldl (fun s op => (step s op).1) s := by
  induction h generalizing s with
  | nil => rfl
  | cons op ops ih => exact ih _

theorem run_inv (h : List Op) : Inv (run h) := by
  rw [run, runFrom_fst]
  exact List.foldlRecOn h _ init_inv fun _ hs op _ => step_inv hs op

theorem runFrom_append (s : ISet) (h1 h2 : List Op) :
    (runFrom s (h1 ++ h2)).1 = (runFrom (runFrom s h1).1 h2).1 := by
  rw [runFrom_fst, runFrom_fst, runFrom_fst, List.foldl_append]

theorem run_snoc (c : List Op) (o : Op) : run (c ++ [o]) = (step (run c) o).1 := by
  unfold run
  rw [runFrom_append]
  rfl

theorem run_renumber {h : List Op} (hg : (run h).st = .ground) :
    (run (h ++ [.renumber])).loc = renumFrom 0 (run h).loc := by
  rw [run_snoc, step_renumber, if_pos hg]

theorem setAt_eq (v : Pair) (i : Nat) (t : List (Option Pair)) :
    setAt v i t = if i < t.length then some (t.set i (some v)) else none := by
  induction t generalizing i with
  | nil => cases i <;> rfl
  | cons x ts ih =>
    cases i with
    | zero => rfl
    | succ i =>
      simp only [setAt, ih i, List.length_cons, Nat.add_lt_add_iff_right, List.set_cons_succ]
      split <;> rfl

theorem fillTable_spec (xs : List Pair) (t : List (Option Pair)) (hb : ∀ p ∈ xs, p.l.loc < t.length) :
    ∃ t', fillTable xs t = some t' ∧ t'.length = t.length ∧
      (∀ j, (∀ p ∈ xs, p.l.loc ≠ j) → t'[j]? = t[j]?) ∧
      (∀ p ∈ xs, ∃ q ∈ xs, q.l.loc = p.l.loc ∧ tablePair t' p.l.loc = some q) := by
  induction xs generalizing t with
  | nil => exact ⟨t, rfl, rfl, fun _ _ => rfl, fun _ h => nomatch h⟩
  | cons x xs ih =>
    have hx : x.l.loc < t.length := hb x List.mem_cons_self
    obtain ⟨t2, g1, g2, g3, g4⟩ := ih (t.set x.l.loc (some x))
      (fun p hp => by rw [List.length_set]; exact hb p (List.mem_cons_of_mem _ hp))
    refine ⟨t2, by rw [fillTable, setAt_eq, if_pos hx]; exact g1, by rw [g2, List.length_set], ?_, ?_⟩
    · intro j hj
      rw [g3 j (fun p hp => hj p (List.mem_cons_of_mem _ hp)), List.getElem?_set_ne (hj x List.mem_cons_self)]
    · intro p hp
      -- the cell of `p` holds the last entry of `x :: xs` with that local number: one of `xs`, or else `x` itself
      by_cases hex : ∃ q ∈ xs, q.l.loc = p.l.loc
      · obtain ⟨q, hq, hql⟩ := hex
        obtain ⟨q', hq', hq'l, hq't⟩ := g4 q hq
        exact ⟨q', List.mem_cons_of_mem _ hq', hq'l.trans hql, hql ▸ hq't⟩
      · rcases List.mem_cons.1 hp with rfl | hp
        · refine ⟨p, List.mem_cons_self, rfl, ?_⟩
          rw [tablePair, g3 p.l.loc (fun q hq hql => hex ⟨q, hq, hql⟩), List.getElem?_set_self hx]; rfl
        · exact absurd ⟨p, hp, rfl⟩ hex

theorem lt_maxLocal_succ {xs : List Pair} {p : Pair} (hp : p ∈ xs) : p.l.loc < maxLocal xs 0 + 1 := by
  rw [maxLocal_eq_foldl, List.foldl_max, Nat.zero_max]
  exact Nat.lt_succ_of_le (List.le_max?_getD_of_mem (List.mem_map_of_mem hp))

/-- the table both constructors build: `n` null cells, then one write per pair -/
theorem fillTable_replicate (xs : List Pair) (n : Nat) (hb : ∀ p ∈ xs, p.l.loc < n) :
    ∃ t, fillTable xs (List.replicate n none) = some t ∧ t.length = n ∧
      (∀ j, j < n → (∀ p ∈ xs, p.l.loc ≠ j) → t[j]? = some none) ∧
      (∀ p ∈ xs, ∃ q ∈ xs, q.l.loc = p.l.loc ∧ tablePair t p.l.loc = some q) ∧
      ((xs.map (·.l.loc)).Nodup → ∀ p ∈ xs, tablePair t p.l.loc = some p) := by
  obtain ⟨t, h1, h2, h3, h4⟩ := fillTable_spec xs (List.replicate n none) (by rwa [List.length_replicate])
  refine ⟨t, h1, h2.trans List.length_replicate, fun j hj hne => ?_, h4, fun hd p hp => ?_⟩
  · rw [h3 j hne, List.getElem?_replicate, if_pos hj]
  · obtain ⟨q, hq, hql, hqt⟩ := h4 p hp
    rwa [eq_of_nodup_map (·.l.loc) xs hd q hq p hp hql] at hqt

end DV.C03
