/-
C03: the comparison of the sort functor, insertion sort, the three-way merge.  `key`, `keyLe`, `SortedLex`, `StrictG`,
`SortedG`, `globals`, `KeysNodup` are the vocabulary of the statements in Props/C03.lean.  Core Lean only.
-/
import DuneVerif.Model.C03

namespace DV.C03

/-- (global, attribute): what the sort functor and the merge compare -/
def key (p : Pair) : Int × Nat := (p.g, p.l.attr)

def keyLe (a b : Pair) : Prop := a.g < b.g ∨ (a.g = b.g ∧ a.l.attr ≤ b.l.attr)

def SortedLex (xs : List Pair) : Prop := xs.Pairwise keyLe

def StrictG (xs : List Pair) : Prop := xs.Pairwise fun a b => a.g < b.g

def SortedG (xs : List Pair) : Prop := xs.Pairwise fun a b => a.g ≤ b.g

def globals (xs : List Pair) : List Int := xs.map (·.g)

theorem before_iff (a b : Pair) : before a b = true ↔ a.g < b.g ∨ (a.g = b.g ∧ a.l.attr < b.l.attr) := by
  simp [before]

theorem keyLe_refl (a : Pair) : keyLe a a := Or.inr ⟨rfl, Nat.le_refl _⟩

theorem keyLe_g {a b : Pair} (h : keyLe a b) : a.g ≤ b.g :=
  h.elim Int.le_of_lt fun h => Int.le_of_eq h.1

/-- The three-way comparison of which `before` is the `<` and `keyLe` the `≤`.  An `abbrev`, so that core's instances for
`compareLex` and `compareOn` (`Std.TransCmp`, `Std.OrientedCmp`) apply: the order laws below are theirs. -/
abbrev cmpKey : Pair → Pair → Ordering := compareLex (compareOn Pair.g) (compareOn fun p => p.l.attr)

theorem before_iff_lt (a b : Pair) : before a b = true ↔ cmpKey a b = .lt := by
  simp only [before_iff, compareLex, compareOn, Ordering.then_eq_lt, Int.compare_eq_lt, Int.compare_eq_eq,
    Nat.compare_eq_lt]

theorem keyLe_iff_isLE (a b : Pair) : keyLe a b ↔ (cmpKey a b).isLE := by
  simp only [keyLe, compareLex, compareOn, Ordering.isLE_then_iff_or, Int.compare_eq_lt, Int.compare_eq_eq,
    Nat.isLE_compare]

theorem keyLe_trans {a b c : Pair} (h1 : keyLe a b) (h2 : keyLe b c) : keyLe a c :=
  (keyLe_iff_isLE a c).2 (Std.TransCmp.isLE_trans ((keyLe_iff_isLE a b).1 h1) ((keyLe_iff_isLE b c).1 h2))

/-- the order the lists are kept in is the negation of the code's test with the arguments swapped -/
theorem keyLe_iff_not_before (a b : Pair) : keyLe a b ↔ (!before b a) = true := by
  rw [keyLe_iff_isLE, Ordering.isLE_iff_ne_gt, Std.OrientedCmp.gt_iff_lt, ← before_iff_lt, Bool.not_eq_true,
    Bool.not_eq_true']

theorem before_asymm {a b : Pair} (h : before a b = true) : before b a = false :=
  Bool.eq_false_iff.2 fun h' => Std.OrientedCmp.not_lt_of_lt ((before_iff_lt a b).1 h) ((before_iff_lt b a).1 h')

theorem before_irrefl (a : Pair) : before a a = false :=
  Bool.eq_false_iff.2 fun h => Bool.eq_false_iff.1 (before_asymm h) h

theorem SortedLex.sortedG {xs : List Pair} (h : SortedLex xs) : SortedG xs :=
  List.Pairwise.imp (fun h => keyLe_g h) h

theorem StrictG.sortedG {xs : List Pair} (h : StrictG xs) : SortedG xs :=
  List.Pairwise.imp (fun h => Int.le_of_lt h) h

/-- Merging with the test "`o` is not before `a`" keeps ascending lists ascending: the test decides `keyLe`, which is
transitive and total. -/
theorem SortedLex.merge {xs ys : List Pair} (hx : SortedLex xs) (hy : SortedLex ys) :
    SortedLex (xs.merge ys fun a o => !before o a) := by
  refine (List.pairwise_merge (fun a b c h1 h2 => ?_) (fun a b => ?_) xs ys
    (hx.imp (keyLe_iff_not_before _ _).1) (hy.imp (keyLe_iff_not_before _ _).1)).imp (keyLe_iff_not_before _ _).2
  · exact (keyLe_iff_not_before a c).1
      (keyLe_trans ((keyLe_iff_not_before a b).2 h1) ((keyLe_iff_not_before b c).2 h2))
  · cases h : before b a with
    | false => rfl
    | true => rw [before_asymm h]; rfl

theorem insertSorted_eq_merge (p : Pair) (xs : List Pair) :
    insertSorted p xs = List.merge [p] xs fun a o => !before o a := by
  induction xs with
  | nil => exact (List.merge_right _).symm
  | cons q qs ih =>
    rw [insertSorted, List.cons_merge_cons, List.nil_merge, ← ih]
    cases before q p <;> rfl

theorem insertSorted_perm (p : Pair) (xs : List Pair) : (insertSorted p xs).Perm (p :: xs) :=
  insertSorted_eq_merge p xs ▸ List.merge_perm_append _

theorem insertSorted_sorted (p : Pair) (xs : List Pair) (h : SortedLex xs) : SortedLex (insertSorted p xs) :=
  insertSorted_eq_merge p xs ▸ SortedLex.merge (List.pairwise_singleton _ p) h

theorem sortFresh_perm (xs : List Pair) : (sortFresh xs).Perm xs := by
  induction xs with
  | nil => exact List.Perm.refl _
  | cons p ps ih => exact (insertSorted_perm p _).trans (List.Perm.cons p ih)

theorem sortFresh_sorted (xs : List Pair) : SortedLex (sortFresh xs) := by
  induction xs with
  | nil => simp [sortFresh, SortedLex]
  | cons p ps ih => exact insertSorted_sorted p _ ih

def KeysNodup (xs : List Pair) : Prop := xs.Pairwise fun a b => key a ≠ key b

theorem keyLe_antisymm {a b : Pair} (h1 : keyLe a b) (h2 : keyLe b a) : key a = key b := by
  obtain ⟨hg, ha⟩ := compareLex_eq_eq.1
    (Std.OrientedCmp.isLE_antisymm ((keyLe_iff_isLE a b).1 h1) ((keyLe_iff_isLE b a).1 h2))
  exact Prod.ext (Int.compare_eq_eq.1 hg) (Nat.compare_eq_eq.1 ha)

theorem eq_of_nodup_map {β : Type} (f : Pair → β) (xs : List Pair) (hn : (xs.map f).Nodup) :
    ∀ p ∈ xs, ∀ q ∈ xs, f p = f q → p = q :=
  have h : xs.Pairwise fun a b => f a ≠ f b := List.pairwise_map.1 hn
  fun _ hp _ hq => List.Pairwise.forall_of_forall_of_flip (R := fun p q => f p = f q → p = q) (fun _ _ _ => rfl)
    (h.imp fun hne he => absurd he hne) (h.imp fun hne he => absurd he.symm hne) hp hq

theorem sorted_perm_unique {xs ys : List Pair} (hp : ys.Perm xs) (hs : SortedLex ys) (hk : KeysNodup ys) :
    ys = sortFresh xs :=
  have hp' := hp.trans (sortFresh_perm xs).symm
  hp'.eq_of_pairwise (fun a b ha hb h1 h2 =>
    eq_of_nodup_map key ys (List.pairwise_map.2 hk) a ha b (hp'.mem_iff.2 hb) (keyLe_antisymm h1 h2)) hs (sortFresh_sorted xs)

theorem mergeLoop_nil (added : List Pair) : mergeLoop [] added = added := rfl

theorem mergeLoop_cons_nil (o : Pair) (os : List Pair) :
    mergeLoop (o :: os) [] = if o.l.valid then o :: mergeLoop os [] else mergeLoop os [] := by
  cases h : o.l.valid <;> simp [mergeLoop, mergeInner, h]

theorem mergeLoop_cons_cons (o : Pair) (os : List Pair) (a : Pair) (as : List Pair) :
    mergeLoop (o :: os) (a :: as) =
      if !o.l.valid then mergeLoop os (a :: as)
      else if before o a then o :: mergeLoop os (a :: as)
      else a :: mergeLoop (o :: os) as := by
  cases h : o.l.valid <;> simp [mergeLoop, mergeInner, h]

/-- the three loops are core's `List.merge` of the added entries into the surviving old ones, with the same test as the
sort (on equal keys the added entry goes first) -/
theorem mergeLoop_eq_merge (old added : List Pair) :
    mergeLoop old added = List.merge added (old.filter (·.l.valid)) fun a o => !before o a := by
  induction old generalizing added with
  | nil => rw [mergeLoop_nil, List.filter_nil, List.merge_right]
  | cons o os ih =>
    induction added with
    | nil => rw [mergeLoop_cons_nil, ih, List.nil_merge, List.nil_merge, List.filter_cons]
    | cons a as iha =>
      rw [mergeLoop_cons_cons, ih, iha, List.filter_cons]
      cases o.l.valid with
      | false => rfl
      | true =>
        rw [if_pos rfl, List.cons_merge_cons]
        cases before o a <;> rfl

theorem mergeLoop_nil_right (old : List Pair) : mergeLoop old [] = old.filter (·.l.valid) := by
  rw [mergeLoop_eq_merge, List.nil_merge]

theorem mergeLoop_perm (old added : List Pair) : (mergeLoop old added).Perm (old.filter (·.l.valid) ++ added) := by
  rw [mergeLoop_eq_merge]
  exact (List.merge_perm_append _).trans List.perm_append_comm

theorem mem_mergeLoop {old added : List Pair} {p : Pair} (h : p ∈ mergeLoop old added) :
    (p ∈ old ∧ p.l.valid = true) ∨ p ∈ added :=
  (List.mem_append.1 ((mergeLoop_perm old added).mem_iff.1 h)).imp_left List.mem_filter.1

theorem mergeLoop_sorted (old added : List Pair) (ho : SortedLex old) (ha : SortedLex added) :
    SortedLex (mergeLoop old added) :=
  mergeLoop_eq_merge old added ▸ ha.merge (ho.filter _)

theorem mergeLoop_valid (old added : List Pair) (ha : ∀ p ∈ added, p.l.valid = true) :
    ∀ p ∈ mergeLoop old added, p.l.valid = true :=
  fun p hp => (mem_mergeLoop hp).elim (fun h => h.2) (ha p)

end DV.C03
