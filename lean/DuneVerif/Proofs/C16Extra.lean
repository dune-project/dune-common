/-
C16 — helper lemmas: the machine difference of IntegralRangeIterator, the pointer chasing list iterators, the
integer_sequence helpers.  Core Lean only.
-/
import DuneVerif.Proofs.C16Basic

namespace DV.C16

theorem natCast_two_pow (bits : Nat) : ((2 ^ bits : Nat) : Int) = 2 ^ bits := Int.natCast_pow 2 bits

/-- the two halves `Int.bmod` compares with, for the modulus `2^bits` -/
theorem half_two_pow (bits : Nat) (hb : 0 < bits) :
    ((2 ^ bits : Nat) : Int) / 2 = 2 ^ (bits - 1) ∧ (((2 ^ bits : Nat) : Int) + 1) / 2 = 2 ^ (bits - 1) := by
  rw [← Nat.two_pow_pred_mul_two hb, Int.natCast_mul, natCast_two_pow]
  exact ⟨Int.mul_ediv_cancel _ (by decide),
    by rw [Int.add_comm]; exact (Int.add_mul_ediv_right 1 _ (by decide)).trans (Int.zero_add _)⟩

theorem toSigned_emod (bits : Nat) (hb : 0 < bits) (d : Int) :
    toSigned bits (d % 2 ^ bits) = d.bmod (2 ^ bits) := by
  rw [Int.bmod_def, (half_two_pow bits hb).2, natCast_two_pow]; rfl

namespace SL

theorem next_some (nodes : List Nat) (a : Nat) : next nodes (some a) = nodes[nodes.idxOf a + 1]? := by
  induction nodes with
  | nil => rfl
  | cons x xs ih =>
    rw [next, List.idxOf_cons]
    by_cases h : x = a
    · rw [if_pos h, beq_iff_eq.mpr h]; exact List.head?_eq_getElem? ..
    · rw [if_neg h, beq_eq_false_iff_ne.mpr h, ih]; rfl

theorem next_none (nodes : List Nat) : next nodes none = none := by
  cases nodes <;> rfl

theorem at_succ (nodes : List Nat) (p : Nat) : at_ nodes (p + 1) = next nodes (at_ nodes p) := stepsNat_succ _ p _

theorem at_eq (nodes : List Nat) (hnd : nodes.Nodup) (p : Nat) (hp : p ≤ nodes.length) : at_ nodes p = nodes[p]? := by
  induction p with
  | zero => exact List.head?_eq_getElem? ..
  | succ q ih => rw [at_succ, ih (Nat.le_of_succ_le hp), List.getElem?_eq_getElem hp, next_some, hnd.idxOf_getElem q hp]

theorem at_end (nodes : List Nat) (hnd : nodes.Nodup) : at_ nodes nodes.length = end_ := by
  rw [at_eq nodes hnd _ (Nat.le_refl _)]; exact List.getElem?_eq_none (Nat.le_refl _)

theorem equals_iff_pos (nodes : List Nat) (hnd : nodes.Nodup) (p q : Nat) (hp : p ≤ nodes.length) (hq : q ≤ nodes.length) :
    equals (at_ nodes p) (at_ nodes q) = decide (p = q) := by
  rw [at_eq nodes hnd p hp, at_eq nodes hnd q hq]
  show (nodes[p]? == nodes[q]?) = decide (p = q)
  rw [Bool.eq_iff_iff, beq_iff_eq, decide_eq_true_iff]
  -- distinct nodes: `getElem?` is injective at every position inside the list
  rcases Nat.lt_or_eq_of_le hp with hpl | rfl
  · exact List.getElem?_inj hpl hnd
  · rcases Nat.lt_or_eq_of_le hq with hql | rfl
    · exact (eq_comm.trans (List.getElem?_inj hql hnd)).trans eq_comm
    · exact iff_of_true rfl rfl

/-- SLListModifyIterator: `iterator_` walks like a plain iterator, `beforeIterator_` stays one node behind -/
theorem mAt (beforeHead : Nat) (nodes : List Nat) (p : Nat) :
    stepsNat (mNext beforeHead nodes) p (mBegin beforeHead nodes) =
      (at_ (beforeHead :: nodes) p, at_ nodes p) := by
  induction p with
  | zero => rfl
  | succ q ih =>
    rw [stepsNat_succ, ih, at_succ, at_succ]; rfl

end SL

namespace Seq

theorem contains_eq (s : List Int) (v : Int) : contains s v = decide (v ∈ s) := by
  rw [contains, List.any_beq', List.contains_eq_mem]

theorem contains_iff (s : List Int) (v : Int) : contains s v = true ↔ v ∈ s := by
  rw [contains_eq, decide_eq_true_iff]

theorem difference_eq_filter (is js : List Int) : difference is js = is.filter (fun x => !contains js x) := by
  induction is with
  | nil => rfl
  | cons i0 is ih =>
    cases js with
    | nil => exact (List.filter_eq_self.mpr fun _ _ => rfl).symm
    | cons j js => rw [difference, List.length_cons, if_neg (Nat.succ_ne_zero _), List.filter_cons, ih]

theorem equal_iff (a b : List Int) : equal a b = true ↔ a = b := by
  induction a generalizing b with
  | nil => cases b <;> simp [equal]
  | cons x xs ih =>
    cases b with
    | nil => simp [equal]
    | cons y ys => simp [equal, ih]

theorem insertSorted_perm (x : Int) (l : List Int) : (insertSorted x l).Perm (x :: l) := by
  induction l with
  | nil => exact List.Perm.refl _
  | cons y ys ih =>
    unfold insertSorted
    by_cases h : x ≤ y
    · rw [if_pos h]
    · rw [if_neg h]
      exact (List.Perm.cons y ih).trans (List.Perm.swap x y ys)

theorem sorted_perm (l : List Int) : (sorted l).Perm l := by
  induction l with
  | nil => exact List.Perm.refl _
  | cons x xs ih => exact (insertSorted_perm x (sorted xs)).trans (List.Perm.cons x ih)

theorem insertSorted_pairwise (x : Int) (l : List Int) (h : l.Pairwise (· ≤ ·)) :
    (insertSorted x l).Pairwise (· ≤ ·) := by
  induction l with
  | nil => exact List.pairwise_singleton _ _
  | cons y ys ih =>
    obtain ⟨hy, hys⟩ := List.pairwise_cons.mp h
    unfold insertSorted
    split
    next hxy =>
      exact List.pairwise_cons.mpr ⟨List.forall_mem_cons.mpr ⟨hxy, fun z hz => Int.le_trans hxy (hy z hz)⟩, h⟩
    next hxy =>
      refine List.pairwise_cons.mpr ⟨fun z hz => ?_, ih hys⟩
      rcases List.mem_cons.mp ((insertSorted_perm x ys).subset hz) with rfl | hz'
      · exact Int.le_of_lt (Int.not_le.mp hxy)
      · exact hy z hz'

theorem sorted_pairwise (l : List Int) : (sorted l).Pairwise (· ≤ ·) := by
  induction l with
  | nil => exact List.Pairwise.nil
  | cons x xs ih => exact insertSorted_pairwise x _ ih

end Seq

end DV.C16
