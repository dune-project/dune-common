/-
C17 — the comparisons, `round` and `trunc` over an arbitrary linearly ordered field `K`: `eq` as `|a - b| ≤ tol`, the
closed forms of `truncDown` / `truncUp`, the distance of the integer `round` chooses; and the specification vocabulary
of Props/C17.lean (`tol`, `IsTrunc`, `floorOf`, `tieChoice`).

`absK/maxK/minK` (the written-out `std::abs/max/min` of the model) are Mathlib's `|·|`, `max`, `min`; `tol` is the
documented tolerance of a comparison style; `IsTrunc tr` says that `tr` behaves like the C++ conversion `I(val)`
(truncation toward zero).
-/
import DuneVerif.Proofs.C17FP
import DuneVerif.Proofs.C17M
import Mathlib.Algebra.Order.Field.Basic
import Mathlib.Algebra.Order.Ring.Abs
import Mathlib.Algebra.Order.Ring.Cast
import Mathlib.Tactic.Linarith

-- every statement takes the instance arguments of the one `variable` line, needed or not; the permutation lemmas handed
-- to `simp` in `eqS_iff` are unused for the present order of the operands in the source
set_option linter.unusedSectionVars false
set_option linter.unusedSimpArgs false
namespace DV.C17
variable {K : Type} [Field K] [LinearOrder K] [IsStrictOrderedRing K]

theorem absK_eq_abs (x : K) : absK x = |x| := by
  unfold absK; split
  · rename_i h; exact (abs_of_neg h).symm
  · rename_i h; exact (abs_of_nonneg (not_lt.mp h)).symm

theorem maxK_eq_max (a b : K) : maxK a b = max a b := (max_def_lt a b).symm

theorem minK_eq_min (a b : K) : minK a b = min a b := ((min_comm a b).trans (min_def_lt b a)).symm

/-- the documented tolerance of a style: `eq(a,b) ⇔ |a-b| ≤ tol` -/
def tol (s : Style) (a b e : K) : K :=
  match s with
  | .relativeWeak => e * max |a| |b|
  | .relativeStrong => e * min |a| |b|
  | .absolute => e

-- (the permutation lemmas make the proof independent of the order in which the source writes the operands of
--  `max`/`min`, of the product and of the difference)
theorem eqS_iff (s : Style) (a b e : K) : eqS s a b e = true ↔ |a - b| ≤ tol s a b e := by
  cases s <;> simp [eqS, tol, Gen.eq_relativeWeak, Gen.eq_relativeStrong, Gen.eq_absolute, absK_eq_abs, maxK_eq_max, minK_eq_min,
    max_comm, min_comm, abs_sub_comm, mul_comm]

theorem tol_comm (s : Style) (a b e : K) : tol s a b e = tol s b a e := by
  cases s
  · exact congrArg (e * ·) (max_comm _ _)
  · exact congrArg (e * ·) (min_comm _ _)
  · rfl

theorem tol_nonneg (s : Style) (a b e : K) (h : 0 ≤ e) : 0 ≤ tol s a b e := by
  cases s
  · exact mul_nonneg h (le_max_of_le_left (abs_nonneg a))
  · exact mul_nonneg h (le_min (abs_nonneg a) (abs_nonneg b))
  · exact h

theorem tol_le (s : Style) (a b e : K) (h : 0 ≤ e) (ha : |a| ≤ 1) (hb : |b| ≤ 1) : tol s a b e ≤ e := by
  cases s
  · exact mul_le_of_le_one_right h (max_le ha hb)
  · exact mul_le_of_le_one_right h ((min_le_left _ _).trans ha)
  · exact le_refl e

theorem eqS_symm (s : Style) (a b e : K) : eqS s a b e = eqS s b a e := by
  rw [Bool.eq_iff_iff, eqS_iff, eqS_iff, abs_sub_comm, tol_comm]

theorem eqS_refl (s : Style) (a e : K) (h : 0 ≤ e) : eqS s a a e = true := by
  rw [eqS_iff, sub_self, abs_zero]; exact tol_nonneg s a a e h

theorem tri_of_linear (x y : K) : Tri x y := by
  unfold Tri
  rcases lt_trichotomy x y with h | h | h
  · exact Or.inr (Or.inl ⟨h, not_lt_of_gt h⟩)
  · subst h; exact Or.inl ⟨rfl, lt_irrefl _, lt_irrefl _⟩
  · exact Or.inr (Or.inr ⟨not_lt_of_gt h, h⟩)

theorem eqS_eq_false_iff (s : Style) (a b e : K) : eqS s a b e = false ↔ tol s a b e < |a - b| := by
  rw [Bool.eq_false_iff, Ne, eqS_iff, not_le]

/-- a non-negative and a negative number, one of them of size at least 1, are not equal within an epsilon below 1:
    their distance is the sum of their sizes, the tolerance is less than the larger (relativeWeak), at most the
    smaller (relativeStrong), less than 1 (absolute) -/
theorem eqS_opposite_false_of_one_le_max (s : Style) {a x e : K} (ha : 0 ≤ a) (hx : x < 0) (he : e < 1)
    (h1 : 1 ≤ max a (-x)) : eqS s a x e = false := by
  have hx0 : 0 < -x := neg_pos.mpr hx
  have hm : max a (-x) ≤ a + -x := max_le (le_add_of_nonneg_right hx0.le) (le_add_of_nonneg_left ha)
  rw [eqS_eq_false_iff, abs_of_pos (sub_pos.mpr (hx.trans_le ha)), sub_eq_add_neg]
  cases s <;> simp only [tol, abs_of_nonneg ha, abs_of_neg hx]
  · exact (mul_lt_of_lt_one_left (zero_lt_one.trans_le h1) he).trans_le hm
  · exact ((mul_le_of_le_one_left (le_min ha hx0.le) he.le).trans (min_le_left _ _)).trans_lt (lt_add_of_pos_right a hx0)
  · exact (he.trans_le h1).trans_le hm

theorem eqS_opposite_false (s : Style) (a x e : K) (ha : 0 ≤ a) (hx : x ≤ -1) (he : e < 1) : eqS s a x e = false :=
  eqS_opposite_false_of_one_le_max s ha (hx.trans_lt neg_one_lt_zero) he (le_max_of_le_right (le_neg_of_le_neg hx))

theorem one_le_abs_of_le_neg_one {a : K} (h : a ≤ -1) : 1 ≤ |a| := le_abs'.mpr (Or.inl h)

theorem lt_one_of_not_eq_near (s : Style) (p x e : K) (hp : 1 ≤ |p|) (hx : 1 ≤ |x|) (hd : |p - x| < 1)
    (h : eqS s p x e = false) : e < 1 := by
  by_contra he
  have he1 : 1 ≤ e := not_lt.mp he
  -- with `1 ≤ ε` the tolerance is at least 1 in every style
  rw [eqS_eq_false_iff] at h
  refine lt_irrefl _ (h.trans (hd.trans_le ?_))
  cases s
  · exact one_le_mul_of_one_le_of_one_le he1 (le_max_of_le_left hp)
  · exact one_le_mul_of_one_le_of_one_le he1 (le_min hp hx)
  · exact he1

/-- `tr` is the C++ floating → integer conversion: truncation toward zero -/
def IsTrunc (tr : K → Int) : Prop :=
  ∀ x : K, (0 ≤ x → ((tr x : Int) : K) ≤ x ∧ x < ((tr x : Int) : K) + 1) ∧
           (x ≤ 0 → x ≤ ((tr x : Int) : K) ∧ ((tr x : Int) : K) - 1 < x)

theorem int_le_of_cast_lt_add_one {m n : Int} (h : (m : K) < (n : K) + 1) : m ≤ n :=
  Int.lt_add_one_iff.mp ((Int.cast_lt (R := K)).mp (by rwa [Int.cast_add, Int.cast_one]))

theorem one_le_intCast {n : Int} (h : 1 ≤ n) : (1 : K) ≤ (n : K) := Int.cast_one_le_of_pos h

theorem floor_unique {x : K} {l l' : Int} (h1 : (l : K) ≤ x) (h2 : x < (l : K) + 1)
    (h1' : (l' : K) ≤ x) (h2' : x < (l' : K) + 1) : l = l' :=
  le_antisymm (int_le_of_cast_lt_add_one (h1.trans_lt h2')) (int_le_of_cast_lt_add_one (h1'.trans_lt h2))

namespace IsTrunc
variable {tr : K → Int} (htr : IsTrunc tr)
include htr

theorem bracket (x : K) : ((tr x : Int) : K) - 1 < x ∧ x < ((tr x : Int) : K) + 1 := by
  rcases le_total 0 x with h | h
  · exact ⟨(sub_one_lt _).trans_le ((htr x).1 h).1, ((htr x).1 h).2⟩
  · exact ⟨((htr x).2 h).2, ((htr x).2 h).1.trans_lt (lt_add_one _)⟩

theorem eq_of_nonneg {x : K} {n : Int} (h0 : 0 ≤ x) (h1 : (n : K) ≤ x) (h2 : x < (n : K) + 1) : tr x = n :=
  floor_unique ((htr x).1 h0).1 ((htr x).1 h0).2 h1 h2

theorem eq_of_nonpos {x : K} {n : Int} (h0 : x ≤ 0) (h1 : (n : K) - 1 < x) (h2 : x ≤ (n : K)) : tr x = n := by
  obtain ⟨h3, h4⟩ := (htr x).2 h0
  have h5 := h4.trans_le h2
  have h6 := h1.trans_le h3
  rw [sub_lt_iff_lt_add] at h5 h6
  exact le_antisymm (int_le_of_cast_lt_add_one h5) (int_le_of_cast_lt_add_one h6)

theorem eq_zero_of_neg {x : K} (hx1 : -1 < x) (hx0 : x < 0) : tr x = 0 :=
  htr.eq_of_nonpos hx0.le (by rw [Int.cast_zero, zero_sub]; exact hx1) (by rw [Int.cast_zero]; exact hx0.le)

theorem apply_intCast (n : Int) : tr (n : K) = n := by
  obtain ⟨h1, h2⟩ := htr.bracket (n : K)
  rw [sub_lt_iff_lt_add] at h1
  exact le_antisymm (int_le_of_cast_lt_add_one h1) (int_le_of_cast_lt_add_one h2)

end IsTrunc

theorem trunc_abs_lt_one {tr : K → Int} (htr : IsTrunc tr) (x : K) : |((tr x : Int) : K) - x| < 1 :=
  abs_sub_lt_iff.mpr ⟨sub_lt_comm.mp (htr.bracket x).1, sub_lt_iff_lt_add'.mpr (htr.bracket x).2⟩

/-- the floor computed by the code from the truncation -/
def floorOf (tr : K → Int) (x : K) : Int := if ((tr x : Int) : K) > x then tr x - 1 else tr x

theorem floorOf_spec {tr : K → Int} (htr : IsTrunc tr) (x : K) :
    ((floorOf tr x : Int) : K) ≤ x ∧ x < ((floorOf tr x : Int) : K) + 1 := by
  unfold floorOf
  split
  · rename_i hg
    rw [Int.cast_sub, Int.cast_one, sub_add_cancel]
    exact ⟨(htr.bracket x).1.le, hg⟩
  · rename_i hg
    exact ⟨not_lt.mp hg, (htr.bracket x).2⟩

theorem floorOf_eq {tr : K → Int} (htr : IsTrunc tr) {x : K} {l : Int} (hl : (l : K) ≤ x) (hu : x < (l : K) + 1) :
    floorOf tr x = l :=
  floor_unique (floorOf_spec htr x).1 (floorOf_spec htr x).2 hl hu

theorem strict_bracket (s : Style) {tr : K → Int} (htr : IsTrunc tr) (x e : K) (h0 : 0 ≤ e)
    (hne : eqS s ((tr x : Int) : K) x e = false) :
    ((floorOf tr x : Int) : K) < x ∧ x < ((floorOf tr x : Int) : K) + 1 := by
  have hb := floorOf_spec htr x
  refine ⟨lt_of_le_of_ne hb.1 fun heq => ?_, hb.2⟩
  -- an integer argument is its own conversion, and equal to itself within epsilon
  rw [← heq, htr.apply_intCast, eqS_refl s _ e h0] at hne
  exact Bool.noConfusion hne

/-- the documented direction in which a tie (within epsilon) between the two neighbouring integers `l`, `l+1`
    is resolved by `round` -/
def tieChoice (rs : RStyle) (x : K) (l : Int) : Int :=
  match rs with
  | .downward => l
  | .upward => l + 1
  | .towardZero => if 0 < x then l else l + 1
  | .towardInf => if 0 < x then l + 1 else l

theorem roundBy_floor (cmp : K → K → K → Bool) (s : Style) (tr : K → Int) (x e : K)
    (hne : eqS s ((tr x : Int) : K) x e = false) :
    roundBy cmp s tr x e =
      if cmp (x - (floorOf tr x : K)) ((floorOf tr x : K) + 1 - x) e then floorOf tr x else floorOf tr x + 1 := by
  unfold roundBy floorOf
  simp only [hne, Bool.false_eq_true, if_false, Int.cast_one]
  split
  · simp only [Int.cast_sub, Int.cast_one, sub_add_cancel]
  · rfl

/-- a choice `c` between the neighbours `l` and `l + 1` of `x` that follows the comparison of the two distances except
    where these are equal within epsilon stays within `1/2 + ε/2` of `x` (and within 1 in any case) -/
theorem choice_within (s : Style) (c : Bool) (x e : K) (l : Int) (h0 : 0 ≤ e) (hl : (l : K) < x) (hu : x < (l : K) + 1)
    (hc : eqS s (x - (l : K)) ((l : K) + 1 - x) e = false → c = decide (x - (l : K) < (l : K) + 1 - x)) :
    |(((if c then l else l + 1 : Int) : Int) : K) - x| < 1 ∧
      |(((if c then l else l + 1 : Int) : Int) : K) - x| ≤ 1 / 2 + e / 2 := by
  -- both distances lie strictly between 0 and 1 (`hp`, `hq`: they are their own absolute values)
  have hp := abs_of_pos (sub_pos.mpr hl)
  have hq := abs_of_pos (sub_pos.mpr hu)
  have hp1 : x - (l : K) < 1 := sub_lt_iff_lt_add'.mpr hu
  have hq1 : (l : K) + 1 - x < 1 := sub_lt_iff_lt_add'.mpr (add_lt_add_left hl 1)
  -- the chosen distance exceeds the other one by at most epsilon
  have hd : (c = true → x - (l : K) - ((l : K) + 1 - x) ≤ e) ∧ (c = false → (l : K) + 1 - x - (x - (l : K)) ≤ e) := by
    cases hE : eqS s (x - (l : K)) ((l : K) + 1 - x) e
    · rw [hc hE, decide_eq_true_iff, decide_eq_false_iff_not]
      exact ⟨fun h => (sub_neg.mpr h).le.trans h0, fun h => (sub_nonpos.mpr (not_lt.mp h)).trans h0⟩
    · exact (abs_sub_le_iff.mp (((eqS_iff s _ _ e).mp hE).trans
        (tol_le s _ _ e h0 (hp.le.trans hp1.le) (hq.le.trans hq1.le)))).imp (fun h _ => h) (fun h _ => h)
  cases c
  · rw [if_neg Bool.false_ne_true, Int.cast_add, Int.cast_one, hq]
    exact ⟨hq1, by linarith only [hd.2 rfl]⟩
  · rw [if_pos rfl, abs_sub_comm, hp]
    exact ⟨hp1, by linarith only [hd.1 rfl]⟩

theorem sameVal_iff (a b : K) : sameVal a b = true ↔ a = b := by
  simp only [sameVal, Bool.and_eq_true, Bool.not_eq_true', decide_eq_false_iff_not, not_lt]
  exact (eq_comm.trans le_antisymm_iff).symm

theorem sameVal_of_ne {a b : K} (h : a ≠ b) : sameVal a b = false := by
  rw [Bool.eq_false_iff, Ne, sameVal_iff]; exact h

theorem truncDown_eq (s : Style) {tr : K → Int} (htr : IsTrunc tr) (x e : K) (l : Int)
    (hl : (l : K) ≤ x) (hu : x < (l : K) + 1) :
    truncDown s false tr x e = if (l : K) = x then l else if eqS s ((l : K) + 1) x e then l + 1 else l := by
  rw [← floorOf_eq htr hl hu]
  unfold truncDown floorOf
  simp only [Bool.false_and, Bool.false_eq_true, if_false, sameVal_iff]
  by_cases hg : ((tr x : Int) : K) > x
  · -- the conversion lies above the argument: the integer below it lies strictly below the argument
    have hne : ¬ ((tr x : Int) : K) - 1 = x := ne_of_lt (htr.bracket x).1
    simp only [hg, if_true, decide_true, Bool.true_and, Int.cast_sub, Int.cast_one, hne, if_false, sub_add_cancel]
    split <;> rfl
  · simp only [hg, if_false, decide_false, Bool.false_and, Bool.false_eq_true, Int.cast_add, Int.cast_one]

theorem truncUp_eq (s : Style) {tr : K → Int} (htr : IsTrunc tr) (x e : K) (l : Int) (h0 : 0 ≤ e)
    (hl : (l : K) ≤ x) (hu : x < (l : K) + 1) :
    truncUp s false tr x e =
      if (l : K) = x then l else
      if eqS s ((l : K) + 1) x e then l + 1 else if eqS s (l : K) x e then l else l + 1 := by
  unfold truncUp
  rw [truncDown_eq s htr x e l hl hu]
  by_cases hi : (l : K) = x
  · have : eqS s ((l : Int) : K) x e = true := by rw [hi]; exact eqS_refl s x e h0
    rw [if_pos hi, if_pos hi]
    simp [neS, Gen.ne, this]
  · simp only [hi, if_false]
    by_cases h1 : eqS s ((l : K) + 1) x e = true
    · simp only [h1, if_true, neS, Gen.ne]; push_cast; simp [h1]
    · simp only [h1, Bool.false_eq_true, if_false, neS, Gen.ne]
      cases h2 : eqS s (l : K) x e <;> simp

theorem near_floor_bounds {x : K} {l r : Int} (hl : (l : K) ≤ x) (hu : x < (l : K) + 1) (hr : r = l ∨ r = l + 1) :
    x - 1 < (r : K) ∧ (r : K) ≤ x + 1 := by
  rcases hr with rfl | rfl
  · exact ⟨sub_lt_iff_lt_add.mpr hu, hl.trans (lt_add_one x).le⟩
  · rw [Int.cast_add, Int.cast_one]
    exact ⟨(sub_one_lt x).trans hu, add_le_add_left hl 1⟩

theorem truncDown_floor_cases (s : Style) {tr : K → Int} (htr : IsTrunc tr) (x e : K) :
    truncDown s false tr x e = floorOf tr x ∨
    (truncDown s false tr x e = floorOf tr x + 1 ∧ eqS s ((floorOf tr x + 1 : Int) : K) x e = true) := by
  rw [truncDown_eq s htr x e _ (floorOf_spec htr x).1 (floorOf_spec htr x).2, Int.cast_add, Int.cast_one]
  split
  · exact Or.inl rfl
  · split
    · exact Or.inr ⟨rfl, ‹_›⟩
    · exact Or.inl rfl

theorem truncUp_floor_cases (s : Style) {tr : K → Int} (htr : IsTrunc tr) (x e : K) (h0 : 0 ≤ e) :
    (truncUp s false tr x e = floorOf tr x ∧ (((floorOf tr x : Int) : K) = x ∨ eqS s ((floorOf tr x : Int) : K) x e = true)) ∨
    (truncUp s false tr x e = floorOf tr x + 1 ∧ ((floorOf tr x : Int) : K) < x) := by
  have hb := floorOf_spec htr x
  rw [truncUp_eq s htr x e _ h0 hb.1 hb.2]
  split
  · exact Or.inl ⟨rfl, Or.inl ‹_›⟩
  · have hlt := lt_of_le_of_ne hb.1 ‹_›
    split
    · exact Or.inr ⟨rfl, hlt⟩
    · split
      · exact Or.inl ⟨rfl, Or.inr ‹_›⟩
      · exact Or.inr ⟨rfl, hlt⟩

theorem trunc_towardZero_eq (s : Style) (u : Bool) (tr : K → Int) (x e : K) :
    trunc s u .towardZero tr x e = if 0 < x then truncDown s u tr x e else truncUp s u tr x e := by
  simp only [trunc, Int.cast_zero, gt_iff_lt]

theorem trunc_towardInf_eq (s : Style) (u : Bool) (tr : K → Int) (x e : K) :
    trunc s u .towardInf tr x e = if 0 < x then truncUp s u tr x e else truncDown s u tr x e := by
  simp only [trunc, Int.cast_zero, gt_iff_lt]

end DV.C17
