import DuneVerif.Proofs.C06Count
/-! C06: the rank-level system of `communicateVariableSize` (`VarSys`): all ranks with their
    program positions and loop counters, all links with their size-phase and data-phase machines on one FIFO. -/
namespace DV.C06

section half
variable {α : Type}

theorem start_both (B : Nat) (l : LinkSpec α) (x : Pair α (List (Call α))) :
    startRecv B l.pair (l.sendIdx.map l.h.size) (startSend B l.pair x) = (dataInit B l.pair).state := by
  simp only [startRecv, startSend, dataInit, Pair.init, dataCfg, PairSpec.recvTracker, LinkSpec.pair, if_true]
  rfl

theorem start_both' (B : Nat) (l : LinkSpec α) (x : Pair α (List (Call α))) :
    startSend B l.pair (startRecv B l.pair (l.sendIdx.map l.h.size) x) = (dataInit B l.pair).state := by
  simp only [startRecv, startSend, dataInit, Pair.init, dataCfg, PairSpec.recvTracker, LinkSpec.pair, if_true]
  rfl

theorem blank_stuck {σ : Type} (c : PairCfg α σ) (acc : σ) (a : Action) : Pair.step c (Pair.blank acc) a = none :=
  stuck_of_fields c _ (Or.inr rfl) (by simp [Pair.blank]) (by simp [Pair.blank]) a

theorem startRecv_blank_stuck (c : PairCfg α (List (Call α))) (B : Nat) (p : PairSpec α) (sizes : List Nat) (a : Action) :
    Pair.step c (startRecv B p sizes (Pair.blank [])) a = none := by
  refine stuck_of_fields c _ (Or.inr (by simp [startRecv, Pair.blank])) (by simp [startRecv, Pair.blank]) ?_ a
  intro m
  simp only [startRecv]
  split <;> simp

end half

section link
variable {α : Type}

/-- `ph` = program positions of the ranks -/
structure LinkInv (B n : Nat) (ph : List Nat) (l : LinkSpec α) (x : LinkSt α) : Prop where
  src_lt : l.src < n
  dst_lt : l.dst < n
  fit : ∀ i ∈ l.sendIdx, l.h.size i ≤ B
  sz : GoodSize B l.pair ⟨sizeCfg l.pair, x.sz⟩
  dt00 : x.sStarted = false → x.rStarted = false → x.dt = Pair.blank []
  dt10 : x.sStarted = true → x.rStarted = false → x.dt = startSend B l.pair (Pair.blank [])
  dt01 : x.sStarted = false → x.rStarted = true → x.dt = startRecv B l.pair (l.sendIdx.map l.h.size) (Pair.blank [])
  dt11 : x.sStarted = true → x.rStarted = true → GoodData B l.pair ⟨dataCfg l.pair, x.dt⟩
  /-- a side of the data machine is started exactly when its rank has left the size loop -/
  sph : x.sStarted = decide (1 ≤ ph.getD l.src 3)
  rph : x.rStarted = decide (1 ≤ ph.getD l.dst 3)
  /-- a rank leaves the size loop only with all its size requests closed -/
  sclosed : x.sStarted = true → x.sz.sendOpen = false
  rclosed : x.rStarted = true → x.sz.recvOpen = false
  /-- a rank returns only with all its data requests closed -/
  sret : ph.getD l.src 3 = 2 → x.dt.sendOpen = false
  rret : ph.getD l.dst 3 = 2 → x.dt.recvOpen = false

theorem LinkInv.fits {B n : Nat} {ph : List Nat} {l : LinkSpec α} {x : LinkSt α} (h : LinkInv B n ph l x) :
    Fits l.pair.h B l.pair.f l.pair.sendIdx := Or.inl ⟨rfl, h.fit⟩

/-- an open size request belongs to a rank that is still in its size loop (`sph`, `sclosed` resp. `rph`, `rclosed`) -/
theorem phase_zero_of_open {started opn : Bool} {k : Nat} (hph : started = decide (1 ≤ k))
    (hclosed : started = true → opn = false) (ho : opn = true) : k = 0 := by
  cases hs : started with
  | true => rw [hclosed hs] at ho; cases ho
  | false => exact Nat.eq_zero_of_not_pos (of_decide_eq_false (hph.symm.trans hs))

/-- per-link part of the termination measure: a data machine that has not started on both sides counts with the bound
    of its initial measure -/
def linkMeasure (l : LinkSpec α) (x : LinkSt α) : Nat :=
  x.sz.measure + (if x.sStarted && x.rStarted then x.dt.measure else 3 * (l.sendIdx.length + l.recvIdx.length) + 4)

theorem linkInv_size_step {B n : Nat} {ph : List Nat} {l : LinkSpec α} {x : LinkSt α}
    (hI : LinkInv B n ph l x) (a : Action) (s' : Pair Nat (List Nat))
    (hs : Pair.step (sizeCfg l.pair) x.sz a = some s') :
    LinkInv B n ph l { x with sz := s' } ∧ linkMeasure l { x with sz := s' } < linkMeasure l x := by
  obtain ⟨h1, h2⟩ := (goodSize_closed B).step l.pair ⟨sizeCfg l.pair, x.sz⟩ a s' hI.sz hs
  exact ⟨{ hI with sz := h1, sclosed := fun hst => step_sendClosed hs (hI.sclosed hst),
                   rclosed := fun hst => step_recvClosed hs (hI.rclosed hst) }, Nat.add_lt_add_right h2 _⟩

/-- a step of the data machine of a link: there is one only when both sides have started -/
theorem linkInv_data_step {B n : Nat} {ph : List Nat} {l : LinkSpec α} {x : LinkSt α}
    (hI : LinkInv B n ph l x) (a : Action) (s' : Pair α (List (Call α)))
    (hs : Pair.step (dataCfg l.pair) x.dt a = some s') :
    LinkInv B n ph l { x with dt := s' } ∧ linkMeasure l { x with dt := s' } < linkMeasure l x := by
  rcases Bool.eq_false_or_eq_true x.sStarted with hss | hss <;> rcases Bool.eq_false_or_eq_true x.rStarted with hrs | hrs
  rotate_left
  · rw [hI.dt10 hss hrs, startSend_stuck _ _ _ _ rfl] at hs; cases hs
  · rw [hI.dt01 hss hrs, startRecv_blank_stuck] at hs; cases hs
  · rw [hI.dt00 hss hrs, blank_stuck] at hs; cases hs
  · obtain ⟨h1, h2⟩ := (goodData_closed B).step l.pair ⟨dataCfg l.pair, x.dt⟩ a s' (hI.dt11 hss hrs) hs
    refine ⟨{ hI with dt00 := fun h => absurd (hss.symm.trans h) Bool.noConfusion,
                       dt10 := fun _ h => absurd (hrs.symm.trans h) Bool.noConfusion,
                       dt01 := fun h => absurd (hss.symm.trans h) Bool.noConfusion, dt11 := fun _ _ => h1,
                       sret := fun hp => step_sendClosed hs (hI.sret hp),
                       rret := fun hp => step_recvClosed hs (hI.rret hp) }, ?_⟩
    simp only [linkMeasure, hss, hrs, Bool.and_self, if_true]
    exact Nat.add_lt_add_left h2 _

/-- the invariant of a link reads the program positions of the link's two ranks only: it is the invariant of the link 0 → 1
    in a system of two ranks at these positions. In that form the two positions move independently, also for a link of a rank
    with itself. -/
theorem linkInv_two_ranks {B n : Nat} {ph : List Nat} {l : LinkSpec α} {x : LinkSt α} :
    LinkInv B n ph l x ↔
      l.src < n ∧ l.dst < n ∧ LinkInv B 2 [ph.getD l.src 3, ph.getD l.dst 3] { l with src := 0, dst := 1 } x :=
  ⟨fun h => ⟨h.src_lt, h.dst_lt, { h with src_lt := Nat.zero_lt_two, dst_lt := Nat.one_lt_two }⟩,
   fun h => { h.2.2 with src_lt := h.1, dst_lt := h.2.1 }⟩

theorem linkInv_dataInit {B n : Nat} {ph : List Nat} {l : LinkSpec α} {x : LinkSt α} (hI : LinkInv B n ph l x) :
    GoodData B l.pair (dataInit B l.pair) ∧
      (dataInit B l.pair).state.measure ≤ 3 * (l.sendIdx.length + l.recvIdx.length) + 4 :=
  ⟨dataInit_good B l.pair hI.sz.2.1 hI.fits, dataInit_measure_le B l.pair hI.fits⟩

/-- a side of the data machine starts: `h` says that not both sides had started, `h'` bounds the measure of the machine, if
    both have now, by the constant the link counted with before -/
theorem linkMeasure_start {l : LinkSpec α} {x x' : LinkSt α} (hsz : x'.sz = x.sz) (h : (x.sStarted && x.rStarted) = false)
    (h' : (x'.sStarted && x'.rStarted) = true → x'.dt.measure ≤ 3 * (l.sendIdx.length + l.recvIdx.length) + 4) :
    linkMeasure l x' ≤ linkMeasure l x := by
  unfold linkMeasure
  rw [hsz, h]
  split
  · exact Nat.add_le_add_left (h' ‹_›) _
  · exact Nat.le_refl _

/-- the sender's rank of the link 0 → 1 leaves its size loop: the sender's side of the data machine starts.  Stated under
    `if c`, the form of the two steps of `advanceLink`, so that `linkInv_advance` chains this and `linkInv_startRecv`. -/
theorem linkInv_startSend {B n a b : Nat} {l : LinkSpec α} {x : LinkSt α} (c : Prop) [Decidable c]
    (h0 : l.src = 0) (h1 : l.dst = 1) (hI : LinkInv B n [a, b] l x) (hc : c → a = 0 ∧ x.sz.sendOpen = false) :
    LinkInv B n [if c then 1 else a, b] l (if c then { x with dt := startSend B l.pair x.dt, sStarted := true } else x) ∧
      linkMeasure l (if c then { x with dt := startSend B l.pair x.dt, sStarted := true } else x) ≤ linkMeasure l x := by
  by_cases h : c
  · rw [if_pos h, if_pos h]
    obtain ⟨rfl, hs⟩ := hc h
    obtain ⟨hgood, hmeas⟩ := linkInv_dataInit hI
    obtain ⟨s, d, hd, is, js⟩ := l
    cases h0; cases h1
    have hs0 : x.sStarted = false := hI.sph
    refine ⟨{ hI with dt00 := fun h => Bool.noConfusion h,
                       dt10 := fun _ h => congrArg (startSend B _) (hI.dt00 hs0 h),
                       dt01 := fun h => Bool.noConfusion h,
                       dt11 := fun _ h => (by
                         show GoodData B _ ⟨dataCfg _, startSend B _ x.dt⟩
                         rw [hI.dt01 hs0 h, start_both']; exact hgood),
                       sph := rfl, sclosed := fun _ => hs, sret := fun h => (by cases h) }, ?_⟩
    exact linkMeasure_start rfl (congrArg (· && x.rStarted) hs0) fun h => by
      show (startSend B _ x.dt).measure ≤ _
      rw [hI.dt01 hs0 h, start_both']; exact hmeas
  · rw [if_neg h, if_neg h]; exact ⟨hI, Nat.le_refl _⟩

/-- … the receiver's rank: the receiver's side starts, with the sizes the size machine has collected -/
theorem linkInv_startRecv {B n a b : Nat} {l : LinkSpec α} {x : LinkSt α} (c : Prop) [Decidable c]
    (h0 : l.src = 0) (h1 : l.dst = 1) (hI : LinkInv B n [a, b] l x) (hc : c → b = 0 ∧ x.sz.recvOpen = false) :
    LinkInv B n [a, if c then 1 else b] l
        (if c then { x with dt := startRecv B l.pair x.sz.acc x.dt, rStarted := true } else x) ∧
      linkMeasure l (if c then { x with dt := startRecv B l.pair x.sz.acc x.dt, rStarted := true } else x) ≤ linkMeasure l x := by
  by_cases h : c
  · rw [if_pos h, if_pos h]
    obtain ⟨rfl, hr⟩ := hc h
    obtain ⟨hgood, hmeas⟩ := linkInv_dataInit hI
    have hsz : x.sz.acc = l.sendIdx.map l.h.size := goodSize_recvClosed B l.pair ⟨sizeCfg l.pair, x.sz⟩ hI.sz hr
    rw [hsz]
    obtain ⟨s, d, hd, is, js⟩ := l
    cases h0; cases h1
    have hr0 : x.rStarted = false := hI.rph
    refine ⟨{ hI with dt00 := fun _ h => Bool.noConfusion h,
                       dt10 := fun _ h => Bool.noConfusion h,
                       dt01 := fun h _ => congrArg (startRecv B _ _) (hI.dt00 h hr0),
                       dt11 := fun h _ => (by
                         show GoodData B _ ⟨dataCfg _, startRecv B _ _ x.dt⟩
                         rw [hI.dt10 h hr0, start_both]; exact hgood),
                       rph := rfl, rclosed := fun _ => hr, rret := fun h => (by cases h) }, ?_⟩
    exact linkMeasure_start rfl (by rw [hr0, Bool.and_false]) fun h => by
      show (startRecv B _ _ x.dt).measure ≤ _
      rw [hI.dt10 (Bool.and_eq_true_iff.1 h).1 hr0, start_both]; exact hmeas
  · rw [if_neg h, if_neg h]; exact ⟨hI, Nat.le_refl _⟩

/-- rank `p` leaves its size loop: the sides of the data machines it owns start (`advanceLink` is the two half steps, the
    positions after `getD_set` are theirs) -/
theorem linkInv_advance {B n : Nat} {ph : List Nat} {l : LinkSpec α} {x : LinkSt α} (p : Nat) (hp : p < ph.length)
    (hI : LinkInv B n ph l x) (hph : ph.getD p 3 = 0)
    (hs : l.src = p → x.sz.sendOpen = false) (hr : l.dst = p → x.sz.recvOpen = false) :
    LinkInv B n (ph.set p 1) l (advanceLink B p l x) ∧ linkMeasure l (advanceLink B p l x) ≤ linkMeasure l x := by
  obtain ⟨h1, m1⟩ := linkInv_startSend (l.src = p) rfl rfl (linkInv_two_ranks.1 hI).2.2 fun e => ⟨e ▸ hph, hs e⟩
  obtain ⟨h2, m2⟩ := linkInv_startRecv (l.dst = p) rfl rfl h1 fun e => ⟨e ▸ hph, by split <;> exact hr e⟩
  refine ⟨linkInv_two_ranks.2 ⟨hI.src_lt, hI.dst_lt, ?_⟩, Nat.le_trans m2 m1⟩
  rw [getD_set _ _ hp, getD_set _ _ hp]
  exact h2

theorem linkInv_ret {B n : Nat} {ph : List Nat} {l : LinkSpec α} {x : LinkSt α} (p : Nat) (hp : p < ph.length)
    (hI : LinkInv B n ph l x) (hph : ph.getD p 3 = 1)
    (hs : l.src = p → x.dt.sendOpen = false) (hr : l.dst = p → x.dt.recvOpen = false) :
    LinkInv B n (ph.set p 2) l x := by
  refine { hI with sph := ?_, rph := ?_, sret := fun h2 => (getD_set_phase_eq hp h2).elim hs hI.sret,
                   rret := fun h2 => (getD_set_phase_eq hp h2).elim hr hI.rret }
  · by_cases h : l.src = p
    · rw [hI.sph, getD_set _ _ hp, if_pos h, h, hph]; rfl
    · rw [hI.sph, getD_set _ _ hp, if_neg h]
  · by_cases h : l.dst = p
    · rw [hI.rph, getD_set _ _ hp, if_pos h, h, hph]; rfl
    · rw [hI.rph, getD_set _ _ hp, if_neg h]

end link

section sys
variable {α : Type}

def gMeasure (specs : List (LinkSpec α)) (g : VarSys α) : Nat := sumSel linkMeasure specs g.links + phaseSum g.phase

structure VInv (B n : Nat) (specs : List (LinkSpec α)) (g : VarSys α) : Prop where
  lenP : g.phase.length = n
  lenS : g.toSend.length = n
  lenR : g.toRecv.length = n
  phle : ∀ p, p < n → g.phase.getD p 3 ≤ 2
  links : Rel2 (LinkInv B n g.phase) specs g.links
  /-- the counters of a rank in its size loop are the numbers of its size requests that are still open -/
  cnt0 : ∀ p, p < n → g.phase.getD p 3 = 0 →
    g.toSend.getD p 0 = countSel (sizeSendOpen p) specs g.links ∧ g.toRecv.getD p 0 = countSel (sizeRecvOpen p) specs g.links
  /-- … of a rank in its data loop: of its data requests -/
  cnt1 : ∀ p, p < n → g.phase.getD p 3 = 1 →
    g.toSend.getD p 0 = countSel (dataSendOpen p) specs g.links ∧ g.toRecv.getD p 0 = countSel (dataRecvOpen p) specs g.links

theorem advanceLink_sz (B p : Nat) (l : LinkSpec α) (x : LinkSt α) : (advanceLink B p l x).sz = x.sz := by
  unfold advanceLink
  split <;> split <;> rfl

/-- rank `p` starts only sides that it owns: the open data requests of another rank `q` are the same before and after -/
theorem dataSendOpen_advanceLink (B : Nat) {p q : Nat} (hqp : q ≠ p) (l : LinkSpec α) (x : LinkSt α) :
    dataSendOpen q l (advanceLink B p l x) = dataSendOpen q l x := by
  unfold dataSendOpen
  by_cases hs : l.src = q
  · unfold advanceLink
    rw [if_neg fun e => hqp (hs.symm.trans e)]
    split <;> rfl
  · rw [beq_false_of_ne hs, Bool.false_and, Bool.false_and]

theorem dataRecvOpen_advanceLink (B : Nat) {p q : Nat} (hqp : q ≠ p) (l : LinkSpec α) (x : LinkSt α) :
    dataRecvOpen q l (advanceLink B p l x) = dataRecvOpen q l x := by
  unfold dataRecvOpen
  by_cases hs : l.dst = q
  · unfold advanceLink
    rw [if_neg fun e => hqp (hs.symm.trans e)]
    split <;> rfl
  · rw [beq_false_of_ne hs, Bool.false_and, Bool.false_and]

/-- the size machine of link `i` inside the system: the completions are processed by a rank in its size loop with a
    non-zero counter -/
abbrev varSizeStep (g : VarSys α) (i : Nat) (l : LinkSpec α) (x : LinkSt α) : Action → Option (VarSys α) :=
  embedStep (sizeCfg l.pair) x.sz True (g.phase.getD l.src 3 = 0 ∧ g.toSend.getD l.src 0 ≠ 0)
    (g.phase.getD l.dst 3 = 0 ∧ g.toRecv.getD l.dst 0 ≠ 0) fun s' cs cr =>
      { g with links := g.links.set i { x with sz := s' }, toSend := decIf cs l.src g.toSend,
               toRecv := decIf cr l.dst g.toRecv }

/-- … the data machine: data loop, and for `deliver` no size message ahead in the FIFO -/
abbrev varDataStep (g : VarSys α) (i : Nat) (l : LinkSpec α) (x : LinkSt α) : Action → Option (VarSys α) :=
  embedStep (dataCfg l.pair) x.dt (x.sz.chan.isEmpty = true) (g.phase.getD l.src 3 = 1 ∧ g.toSend.getD l.src 0 ≠ 0)
    (g.phase.getD l.dst 3 = 1 ∧ g.toRecv.getD l.dst 0 ≠ 0) fun s' cs cr =>
      { g with links := g.links.set i { x with dt := s' }, toSend := decIf cs l.src g.toSend,
               toRecv := decIf cr l.dst g.toRecv }

theorem varStep_size (B : Nat) {specs : List (LinkSpec α)} {g : VarSys α} {i : Nat} {l : LinkSpec α} {x : LinkSt α}
    (a : Action) (hl : specs[i]? = some l) (hx : g.links[i]? = some x) :
    varStep B specs g (.size i a) = varSizeStep g i l x a := by
  simp only [varStep, hl, hx]
  cases a <;> rfl

theorem varStep_data (B : Nat) {specs : List (LinkSpec α)} {g : VarSys α} {i : Nat} {l : LinkSpec α} {x : LinkSt α}
    (a : Action) (hl : specs[i]? = some l) (hx : g.links[i]? = some x) :
    varStep B specs g (.data i a) = varDataStep g i l x a := by
  simp only [varStep, hl, hx]
  cases a <;> rfl

theorem varStep_size_eq {B : Nat} {specs : List (LinkSpec α)} {g g' : VarSys α} {i : Nat} {a : Action}
    (hs : varStep B specs g (.size i a) = some g') :
    ∃ l x, specs[i]? = some l ∧ g.links[i]? = some x ∧ varSizeStep g i l x a = some g' := by
  simp only [varStep] at hs
  split at hs
  · exact ⟨_, _, ‹_›, ‹_›, by cases a <;> exact hs⟩
  · cases hs

theorem varStep_data_eq {B : Nat} {specs : List (LinkSpec α)} {g g' : VarSys α} {i : Nat} {a : Action}
    (hs : varStep B specs g (.data i a) = some g') :
    ∃ l x, specs[i]? = some l ∧ g.links[i]? = some x ∧ varDataStep g i l x a = some g' := by
  simp only [varStep] at hs
  split at hs
  · exact ⟨_, _, ‹_›, ‹_›, by cases a <;> exact hs⟩
  · cases hs

theorem varStep_advance_eq {B : Nat} {specs : List (LinkSpec α)} {g g' : VarSys α} {p : Nat}
    (hs : varStep B specs g (.advance p) = some g') :
    (p < g.phase.length ∧ g.phase.getD p 3 = 0 ∧ g.toSend.getD p 0 + g.toRecv.getD p 0 = 0) ∧
    g' = { phase := g.phase.set p 1,
           toSend := g.toSend.set p (countSel (dataSendOpen p) specs (List.zipWith (advanceLink B p) specs g.links)),
           toRecv := g.toRecv.set p (countSel (dataRecvOpen p) specs (List.zipWith (advanceLink B p) specs g.links)),
           links := List.zipWith (advanceLink B p) specs g.links } := by
  simp only [varStep] at hs
  exact guarded_some hs

theorem varStep_ret_eq {B : Nat} {specs : List (LinkSpec α)} {g g' : VarSys α} {p : Nat}
    (hs : varStep B specs g (.ret p) = some g') :
    (p < g.phase.length ∧ g.phase.getD p 3 = 1 ∧ g.toSend.getD p 0 + g.toRecv.getD p 0 = 0) ∧
    g' = { g with phase := g.phase.set p 2 } := by
  simp only [varStep] at hs
  exact guarded_some hs

theorem vstep_inv {B n : Nat} (hB : 0 < B) {specs : List (LinkSpec α)} {g g' : VarSys α} (hI : VInv B n specs g)
    (a : GAct) (hs : varStep B specs g a = some g') : VInv B n specs g' ∧ gMeasure specs g' < gMeasure specs g := by
  cases a with
  | size i act =>
    obtain ⟨l, x, hl, hx, he⟩ := varStep_size_eq hs
    obtain ⟨s', hst, rfl, hS, hR⟩ := embedStep_some he
    have hL := hI.links.2 i l x hl hx
    obtain ⟨hL', hm⟩ := linkInv_size_step hL _ s' hst
    refine ⟨{ hI with lenS := (length_decIf ..).trans hI.lenS, lenR := (length_decIf ..).trans hI.lenR,
                      links := hI.links.set i l _ hl hL', cnt0 := ?_, cnt1 := ?_ },
      Nat.add_lt_add_right (sumSel_set_lt linkMeasure hl hx hm) _⟩
    · intro p hp hph
      obtain ⟨c1, c2⟩ := hI.cnt0 p hp hph
      exact ⟨counter_step sizeSendOpen (·.src) (·.sz.sendOpen) { x with sz := s' } hl hx g.toSend (step_sendClosed hst) p c1,
        counter_step sizeRecvOpen (·.dst) (·.sz.recvOpen) { x with sz := s' } hl hx g.toRecv (step_recvClosed hst) p c2⟩
    · -- a rank in its data loop: its counters are not touched, and the data machines have not moved
      intro p hp hph
      obtain ⟨c1, c2⟩ := hI.cnt1 p hp hph
      rw [getD_decIf_of _ (fun h e => by rw [e, hph] at hS; cases (hS h).1),
        getD_decIf_of _ (fun h e => by rw [e, hph] at hR; cases (hR h).1),
        countSel_set_same (dataSendOpen p) { x with sz := s' } hl hx rfl,
        countSel_set_same (dataRecvOpen p) { x with sz := s' } hl hx rfl]
      exact ⟨c1, c2⟩
  | data i act =>
    obtain ⟨l, x, hl, hx, he⟩ := varStep_data_eq hs
    obtain ⟨s', hst, rfl, hS, hR⟩ := embedStep_some he
    have hL := hI.links.2 i l x hl hx
    obtain ⟨hL', hm⟩ := linkInv_data_step hL _ s' hst
    refine ⟨{ hI with lenS := (length_decIf ..).trans hI.lenS, lenR := (length_decIf ..).trans hI.lenR,
                      links := hI.links.set i l _ hl hL', cnt0 := ?_, cnt1 := ?_ },
      Nat.add_lt_add_right (sumSel_set_lt linkMeasure hl hx hm) _⟩
    · intro p hp hph
      obtain ⟨c1, c2⟩ := hI.cnt0 p hp hph
      rw [getD_decIf_of _ (fun h e => by rw [e, hph] at hS; cases (hS h).1),
        getD_decIf_of _ (fun h e => by rw [e, hph] at hR; cases (hR h).1),
        countSel_set_same (sizeSendOpen p) { x with dt := s' } hl hx rfl,
        countSel_set_same (sizeRecvOpen p) { x with dt := s' } hl hx rfl]
      exact ⟨c1, c2⟩
    · intro p hp hph
      obtain ⟨c1, c2⟩ := hI.cnt1 p hp hph
      exact ⟨counter_step dataSendOpen (·.src) (·.dt.sendOpen) { x with dt := s' } hl hx g.toSend (step_sendClosed hst) p c1,
        counter_step dataRecvOpen (·.dst) (·.dt.recvOpen) { x with dt := s' } hl hx g.toRecv (step_recvClosed hst) p c2⟩
  | advance p =>
    obtain ⟨⟨hpl, hph, hzero⟩, rfl⟩ := varStep_advance_eq hs
    have hpn : p < n := by rw [← hI.lenP]; exact hpl
    obtain ⟨c1, c2⟩ := hI.cnt0 p hpn hph
    obtain ⟨hz1, hz2⟩ := Nat.add_eq_zero_iff.1 hzero
    rw [c1] at hz1; rw [c2] at hz2
    -- the links with the closedness the guard implies
    have hrel : Rel2 (fun l x => LinkInv B n g.phase l x ∧ (l.src = p → x.sz.sendOpen = false) ∧
        (l.dst = p → x.sz.recvOpen = false)) specs g.links := by
      refine ⟨hI.links.1, fun i l x hl hx => ⟨hI.links.2 i l x hl hx, ?_, ?_⟩⟩
      · exact counter_zero sizeSendOpen (·.src) (·.sz.sendOpen) hz1 hl hx
      · exact counter_zero sizeRecvOpen (·.dst) (·.sz.recvOpen) hz2 hl hx
    refine ⟨{ lenP := List.length_set.trans hI.lenP, lenS := List.length_set.trans hI.lenS, lenR := List.length_set.trans hI.lenR,
              phle := phle_set hpl hI.phle (by decide),
              links := hrel.zipWith (advanceLink B p) (fun l x h => (linkInv_advance p hpl h.1 hph h.2.1 h.2.2).1),
              cnt0 := ?_, cnt1 := ?_ },
      Nat.add_lt_add_of_le_of_lt
        (sumSel_zipWith_le linkMeasure (advanceLink B p) (fun l x h => (linkInv_advance p hpl h.1 hph h.2.1 h.2.2).2)
          specs g.links hrel)
        (phaseSum_step hpl (by rw [hph]; decide) (by decide))⟩
    · -- the other ranks in their size loops: the size machines have not moved
      intro q hq hqph
      obtain ⟨hne, hqph⟩ := getD_set_phase_ne hpl hqph (by decide)
      obtain ⟨d1, d2⟩ := hI.cnt0 q hq hqph
      simp only
      rw [getD_set_ne _ _ _ (Ne.symm hne), getD_set_ne _ _ _ (Ne.symm hne),
        countSel_zipWith (sizeSendOpen q) (advanceLink B p) (fun l x => by simp only [sizeSendOpen, advanceLink_sz]),
        countSel_zipWith (sizeRecvOpen q) (advanceLink B p) (fun l x => by simp only [sizeRecvOpen, advanceLink_sz])]
      exact ⟨d1, d2⟩
    · intro q hq hqph
      simp only
      by_cases hqp : q = p
      · -- `p` itself: the counters are set to the counts
        subst hqp
        rw [getD_set _ _ (by rw [hI.lenS]; exact hpn), getD_set _ _ (by rw [hI.lenR]; exact hpn)]
        exact ⟨if_pos rfl, if_pos rfl⟩
      · rw [getD_set _ _ hpl, if_neg hqp] at hqph
        obtain ⟨d1, d2⟩ := hI.cnt1 q hq hqph
        rw [getD_set_ne _ _ _ (Ne.symm hqp), getD_set_ne _ _ _ (Ne.symm hqp),
          countSel_zipWith (dataSendOpen q) (advanceLink B p) (dataSendOpen_advanceLink B hqp),
          countSel_zipWith (dataRecvOpen q) (advanceLink B p) (dataRecvOpen_advanceLink B hqp)]
        exact ⟨d1, d2⟩
  | ret p =>
    obtain ⟨⟨hpl, hph, hzero⟩, rfl⟩ := varStep_ret_eq hs
    have hpn : p < n := by rw [← hI.lenP]; exact hpl
    obtain ⟨c1, c2⟩ := hI.cnt1 p hpn hph
    obtain ⟨hz1, hz2⟩ := Nat.add_eq_zero_iff.1 hzero
    rw [c1] at hz1; rw [c2] at hz2
    have hlinks : Rel2 (LinkInv B n (g.phase.set p 2)) specs g.links := by
      refine ⟨hI.links.1, fun i l x hl hx => linkInv_ret p hpl (hI.links.2 i l x hl hx) hph ?_ ?_⟩
      · exact counter_zero dataSendOpen (·.src) (·.dt.sendOpen) hz1 hl hx
      · exact counter_zero dataRecvOpen (·.dst) (·.dt.recvOpen) hz2 hl hx
    exact ⟨{ lenP := List.length_set.trans hI.lenP, lenS := hI.lenS, lenR := hI.lenR,
             phle := phle_set hpl hI.phle (Nat.le_refl 2), links := hlinks,
             cnt0 := fun q hq hqph => hI.cnt0 q hq (getD_set_phase_ne hpl hqph (by decide)).2,
             cnt1 := fun q hq hqph => hI.cnt1 q hq (getD_set_phase_ne hpl hqph (by decide)).2 },
      Nat.add_lt_add_left (phaseSum_step hpl (by rw [hph]; decide) (Nat.le_refl 2)) _⟩

end sys

section main
variable {α : Type}

/-- what the theorems assume about the links: ranks in range, matching list lengths, every index fits into the buffer -/
def ValidLinks (B n : Nat) (specs : List (LinkSpec α)) : Prop :=
  ∀ l ∈ specs, l.src < n ∧ l.dst < n ∧ l.recvIdx.length = l.sendIdx.length ∧ ∀ i ∈ l.sendIdx, l.h.size i ≤ B

theorem varInit_inv (B n : Nat) (hB : 0 < B) (specs : List (LinkSpec α)) (hv : ValidLinks B n specs) :
    VInv B n specs (varInit B n specs) := by
  refine { lenP := by simp [varInit], lenS := by simp [varInit], lenR := by simp [varInit], phle := ?_, links := ?_,
           cnt0 := ?_, cnt1 := ?_ }
  · intro p hp
    simp only [varInit]
    rw [getD_replicate_zero n p hp]
    omega
  · simp only [varInit]
    refine Rel2.of_map _ specs (fun l hl => ?_)
    obtain ⟨h1, h2, h3, h4⟩ := hv l hl
    exact { src_lt := h1, dst_lt := h2, fit := h4, sz := sizeInit_good B hB l.pair h3,
            dt00 := fun _ _ => rfl, dt10 := fun h => (by cases h), dt01 := fun _ h => (by cases h),
            dt11 := fun h => (by cases h),
            sph := (by rw [getD_replicate_zero n l.src h1]; rfl), rph := (by rw [getD_replicate_zero n l.dst h2]; rfl),
            sclosed := fun h => (by cases h), rclosed := fun h => (by cases h),
            sret := fun h => (by rw [getD_replicate_zero n l.src h1] at h; cases h),
            rret := fun h => (by rw [getD_replicate_zero n l.dst h2] at h; cases h) }
  · intro p hp _
    simp only [varInit]
    exact ⟨getD_map_range _ _ hp, getD_map_range _ _ hp⟩
  · intro p hp h
    simp only [varInit] at h
    rw [getD_replicate_zero n p hp] at h
    cases h

theorem varInit_measure (B n : Nat) (hB : 0 < B) (specs : List (LinkSpec α)) :
    gMeasure specs (varInit B n specs) ≤ (specs.map fun l => 2 * (3 * (l.sendIdx.length + l.recvIdx.length) + 4)).sum + 2 * n := by
  have h1 := sumSel_map_le linkMeasure
    (fun l => ({ sz := (sizeInit B l.pair).state, dt := Pair.blank [], sStarted := false, rStarted := false } : LinkSt α))
    (fun l => 2 * (3 * (l.sendIdx.length + l.recvIdx.length) + 4)) specs (fun l _ => by
      have h' : (sizeInit B l.pair).state.measure ≤ 3 * (l.sendIdx.length + l.recvIdx.length) + 4 :=
        sizeInit_measure_le B hB l.pair
      simp only [linkMeasure, Bool.false_and, Bool.false_eq_true, if_false]
      omega)
  simp only [gMeasure, varInit, phaseSum_replicate]
  omega

theorem vexec_inv {B n : Nat} (hB : 0 < B) {specs : List (LinkSpec α)} : ∀ (sched : List GAct) (g g' : VarSys α),
    VInv B n specs g → varExec B specs g sched = some g' →
    VInv B n specs g' ∧ sched.length + gMeasure specs g' ≤ gMeasure specs g :=
  exec_measure (varStep B specs) (varExec B specs) (fun _ => rfl) (fun _ _ _ => rfl) _ _
    (fun _ _ a hI hs => vstep_inv hB hI a hs)

theorem linkInv_not_confusable {B n : Nat} {ph : List Nat} {l : LinkSpec α} {x : LinkSt α} (hI : LinkInv B n ph l x) :
    x.confusable = false := by
  have h1 : (!x.sz.chan.isEmpty && x.dt.rreq.isPosted) = false := by
    rcases Bool.eq_false_or_eq_true x.rStarted with hr | hr
    · have := (pinv_recvClosed x.sz hI.sz.2.2 (hI.rclosed hr)).2.1
      simp [this]
    · rcases Bool.eq_false_or_eq_true x.sStarted with hs | hs
      · simp [hI.dt10 hs hr, startSend, Pair.blank, RecvReq.isPosted]
      · simp [hI.dt00 hs hr, Pair.blank, RecvReq.isPosted]
  have h2 : (x.sz.chan.isEmpty && !x.dt.chan.isEmpty && x.sz.rreq.isPosted) = false := by
    rcases Bool.eq_false_or_eq_true x.sStarted with hs | hs
    · have := (pinv_sendClosed x.sz hI.sz.2.2 (hI.sclosed hs)).2.2
      simp [this]
    · rcases Bool.eq_false_or_eq_true x.rStarted with hr | hr
      · simp [hI.dt01 hs hr, startRecv, Pair.blank]
      · simp [hI.dt00 hs hr, Pair.blank]
  simp [LinkSt.confusable, h1, h2]

theorem vstuck_final {B n : Nat} (hB : 0 < B) {specs : List (LinkSpec α)} {g : VarSys α} (hI : VInv B n specs g)
    (hstuck : ∀ a, varStep B specs g a = none) :
    (∀ p, p < n → g.phase.getD p 3 = 2) ∧
    (∀ (i : Nat) l x, specs[i]? = some l → g.links[i]? = some x →
      x.sz.final = true ∧ x.dt.final = true ∧ x.dt.acc = callsOf l.h l.sendIdx l.recvIdx) := by
  -- 1. every size machine is stuck, hence final
  have hszfinal : ∀ (i : Nat) l x, specs[i]? = some l → g.links[i]? = some x → x.sz.final = true := by
    intro i l x hl hx
    have hL := hI.links.2 i l x hl hx
    refine (goodSize_closed B).stuck l.pair ⟨sizeCfg l.pair, x.sz⟩ hL.sz
      (embedStep_stuck hL.sz.2.2 (fun act => (varStep_size B act hl hx).symm.trans (hstuck (.size i act))) trivial
        (fun hopen => ?_) fun hopen => ?_)
    · have hph := phase_zero_of_open hL.sph hL.sclosed hopen
      exact ⟨hph, counter_pos sizeSendOpen (·.src) (·.sz.sendOpen) hl hx hopen (hI.cnt0 l.src hL.src_lt hph).1⟩
    · have hph := phase_zero_of_open hL.rph hL.rclosed hopen
      exact ⟨hph, counter_pos sizeRecvOpen (·.dst) (·.sz.recvOpen) hl hx hopen (hI.cnt0 l.dst hL.dst_lt hph).2⟩
  have hszclosed : ∀ (i : Nat) l x, specs[i]? = some l → g.links[i]? = some x →
      x.sz.sendOpen = false ∧ x.sz.recvOpen = false ∧ x.sz.chan.isEmpty = true := by
    intro i l x hl hx
    exact Pair.final_closed (hszfinal i l x hl hx)
  -- 2. no rank is still in its size loop
  have hph0 : ∀ p, p < n → g.phase.getD p 3 ≠ 0 := by
    intro p hp h0
    obtain ⟨c1, c2⟩ := hI.cnt0 p hp h0
    have z1 : countSel (sizeSendOpen p) specs g.links = 0 :=
      countSel_closed sizeSendOpen (·.src) (·.sz.sendOpen) p fun i l x hl hx => (hszclosed i l x hl hx).1
    have z2 : countSel (sizeRecvOpen p) specs g.links = 0 :=
      countSel_closed sizeRecvOpen (·.dst) (·.sz.recvOpen) p fun i l x hl hx => (hszclosed i l x hl hx).2.1
    have := hstuck (.advance p)
    simp only [varStep] at this
    rw [if_pos ⟨by rw [hI.lenP]; exact hp, h0, by rw [c1, c2, z1, z2]⟩] at this
    cases this
  have hph1 : ∀ p, p < n → g.phase.getD p 3 ≠ 2 → g.phase.getD p 3 = 1 := fun p hp h2 =>
    Nat.le_antisymm (Nat.le_of_lt_succ (Nat.lt_of_le_of_ne (hI.phle p hp) h2)) (Nat.pos_of_ne_zero (hph0 p hp))
  -- 3. hence both sides of every data machine have started; every data machine is stuck, hence final
  have hdt : ∀ (i : Nat) l x, specs[i]? = some l → g.links[i]? = some x →
      x.dt.final = true ∧ x.dt.acc = callsOf l.h l.sendIdx l.recvIdx := by
    intro i l x hl hx
    have hL := hI.links.2 i l x hl hx
    have hss : x.sStarted = true := by
      rw [hL.sph]
      exact decide_eq_true (Nat.pos_of_ne_zero (hph0 l.src hL.src_lt))
    have hrs : x.rStarted = true := by
      rw [hL.rph]
      exact decide_eq_true (Nat.pos_of_ne_zero (hph0 l.dst hL.dst_lt))
    have hG := hL.dt11 hss hrs
    have hfin : x.dt.final = true := by
      refine (goodData_closed B).stuck l.pair ⟨dataCfg l.pair, x.dt⟩ hG
        (embedStep_stuck hG.2.2.2 (fun act => (varStep_data B act hl hx).symm.trans (hstuck (.data i act)))
          (hszclosed i l x hl hx).2.2 (fun hopen => ?_) fun hopen => ?_)
      · have hph := hph1 l.src hL.src_lt fun h => by rw [hL.sret h] at hopen; cases hopen
        exact ⟨hph, counter_pos dataSendOpen (·.src) (·.dt.sendOpen) hl hx hopen (hI.cnt1 l.src hL.src_lt hph).1⟩
      · have hph := hph1 l.dst hL.dst_lt fun h => by rw [hL.rret h] at hopen; cases hopen
        exact ⟨hph, counter_pos dataRecvOpen (·.dst) (·.dt.recvOpen) hl hx hopen (hI.cnt1 l.dst hL.dst_lt hph).2⟩
    exact ⟨hfin, goodData_recvClosed B l.pair _ hG (Pair.final_closed hfin).2.1⟩
  -- 4. no rank is still in its data loop
  refine ⟨fun p hp => Decidable.byContradiction fun h2 => ?_,
    fun i l x hl hx => ⟨hszfinal i l x hl hx, (hdt i l x hl hx).1, (hdt i l x hl hx).2⟩⟩
  have h := hph1 p hp h2
  obtain ⟨c1, c2⟩ := hI.cnt1 p hp h
  have z1 : countSel (dataSendOpen p) specs g.links = 0 :=
    countSel_closed dataSendOpen (·.src) (·.dt.sendOpen) p fun i l x hl hx => (Pair.final_closed (hdt i l x hl hx).1).1
  have z2 : countSel (dataRecvOpen p) specs g.links = 0 :=
    countSel_closed dataRecvOpen (·.dst) (·.dt.recvOpen) p fun i l x hl hx => (Pair.final_closed (hdt i l x hl hx).1).2.1
  have := hstuck (.ret p)
  simp only [varStep] at this
  rw [if_pos ⟨by rw [hI.lenP]; exact hp, h, by rw [c1, c2, z1, z2]⟩] at this
  cases this

end main

end DV.C06
