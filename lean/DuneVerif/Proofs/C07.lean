import DuneVerif.Model.C07
/-!
# C07 — cells and typemaps (core Lean only)

The vocabulary of `Props/C07.lean` that is not part of the model (`prefixSums`, `Tree`, `Item.wf`, `compatible`,
`received`, `inSeg`) and `cellStep`, the step of `Spec.foldCells`; then the lemmas about `copyCells`, `transfer`, `transferN`,
`MPI_Pack`/`MPI_Unpack` of elements and the typemap constructors.

Every copy is a sequence of single-cell writes (`writes`) at the offsets the typemap lists (`offsets`), which gives
`copyCells`, `transfer` and `transferN` one cell-wise characterisation; on the lists of offsets the typemap constructors are
`flatMap` and `map (d + ·)`, which gives the `covers` lemmas.
-/
namespace DV.C07.Proofs
open DV.C07 TMap

/-- exclusive prefix sums `[0, l0, l0+l1, …]` (same length as the input) -/
def prefixSumsFrom : Nat → List Nat → List Nat
  | _, [] => []
  | s, l :: ls => s :: prefixSumsFrom (s + l) ls
def prefixSums (ls : List Nat) : List Nat := prefixSumsFrom 0 ls

/-- the bracketing MPI may choose for a reduction; the leaves are the ranks' contributions -/
inductive Tree (β : Type)
  | leaf (x : β)
  | node (l r : Tree β)

def Tree.eval {β} (op : β → β → β) : Tree β → β
  | .leaf x => x
  | .node l r => op (l.eval op) (r.eval op)
def Tree.leaves {β} : Tree β → List β
  | .leaf x => [x]
  | .node l r => l.leaves ++ r.leaves

def Item.wf {α β} : Item α β → Prop
  | .stat tm n cells => tm.wf ∧ cells.length = n * tm.extent
  | .dyn tm n cells => tm.wf ∧ cells.length = n * tm.extent
  | .raw _ => True

/-- destination `d` has the kind (and datatype, static count) of item `it` -/
def compatible {α β} : Item α β → Dest α β → Prop
  | .stat tm n _, .stat tm' n' _ => tm = tm' ∧ n = n'
  | .dyn tm _ _, .dyn tm' _ _ => tm = tm'
  | .raw _, .raw _ => True
  | _, _ => False

/-- what the reader holds after a direct MPI transfer of `it` into `d` -/
def received {α β} : Item α β → Dest α β → Dest α β
  | .stat tm n cells, .stat _ _ dcells => .stat tm n (transferN tm n cells 0 dcells 0)
  | .dyn tm n cells, .dyn _ dflt dcells =>
      .dyn tm dflt (transferN tm n cells 0 (resizeCells tm.extent dflt dcells n) 0)
  | .raw bytes, .raw _ => .raw bytes
  | _, d => d

/-- cell `i` of the receive buffer lies in a communicated block of the segment `(len, displ)` -/
def inSeg (tm : TMap) (len displ i : Nat) : Prop :=
  displ * tm.extent ≤ i ∧ (i - displ * tm.extent) / tm.extent < len ∧
    tm.covers ((i - displ * tm.extent) % tm.extent) = true

-- for the example in `Props/C07.lean` that evaluates `inSeg`
instance (tm : TMap) (len displ i : Nat) : Decidable (inSeg tm len displ i) := by unfold inSeg; infer_instance

/-- the step function of `Spec.foldCells`, which has it as an anonymous `match` -/
def cellStep {α} (f : α → α → α) (a y : Option α) : Option α :=
  match a, y with
  | some a, some b => some (f a b)
  | _, _ => none

theorem copyCells_length {α} (src : List α) (soff : Nat) (dst : List α) (doff len : Nat) :
    (copyCells src soff dst doff len).length = dst.length := by
  induction len generalizing soff dst doff with
  | zero => rfl
  | succ n ih =>
    rw [copyCells]
    split
    · rw [ih, List.length_set]
    · rw [ih]

theorem ovw_none {α} (d : Option α) : ovw none d = d := rfl

theorem ovw_ovw {α} (s d : Option α) : ovw s (ovw s d) = ovw s d := by
  cases s <;> cases d <;> rfl

theorem ovw_getElem? {α} (src dst : List α) (a i : Nat) (ha : a < src.length) (hi : i < dst.length) :
    ovw src[a]? dst[i]? = src[a]? := by
  rw [List.getElem?_eq_getElem ha, List.getElem?_eq_getElem hi]; rfl

theorem copyCells_succ {α} (src : List α) (s : Nat) (dst : List α) (d n : Nat) :
    copyCells src s dst d (n + 1) = copyCells src (s + 1) (src[s]?.elim dst (dst.set d)) (d + 1) n := by
  rw [copyCells]; cases src[s]? <;> rfl

theorem putCell_getElem? {α} (s : Option α) (dst : List α) (d i : Nat) :
    (s.elim dst (dst.set d))[i]? = if i = d then ovw s dst[i]? else dst[i]? := by
  cases s with
  | none => split <;> rfl
  | some x =>
    -- `ovw (some x) y` unfolds to `Function.const _ x <$> y`, which is how core states `getElem?_set'`
    simp only [Option.elim_some, List.getElem?_set', eq_comm (a := d)]
    rfl

theorem copyCells_add {α} (src : List α) (s : Nat) (dst : List α) (d a b : Nat) :
    copyCells src s dst d (a + b) = copyCells src (s + a) (copyCells src s dst d a) (d + a) b := by
  induction a generalizing s dst d with
  | zero => rw [Nat.zero_add]; rfl
  | succ a ih =>
    rw [Nat.add_right_comm, copyCells_succ, copyCells_succ, ih]
    simp only [Nat.add_assoc, Nat.add_comm 1 a]

/-- single-cell writes, source cell `s + o` onto destination cell `d + o`, for the offsets `os` in order: what
`copyCells` and `transfer` are, for the offset lists `range'` and `offsets` (and `transferN` is a `transfer`) -/
def writes {α} (src : List α) (s : Nat) (dst : List α) (d : Nat) (os : List Nat) : List α :=
  os.foldl (fun acc o => src[s + o]?.elim acc (acc.set (d + o))) dst

theorem writes_getElem? {α} (src : List α) (s : Nat) (dst : List α) (d : Nat) (os : List Nat) (i : Nat) :
    (writes src s dst d os)[i]? = if d ≤ i ∧ i - d ∈ os then ovw src[s + (i - d)]? dst[i]? else dst[i]? := by
  induction os generalizing dst with
  | nil => rw [if_neg (fun h => List.not_mem_nil h.2)]; rfl
  | cons o os ih =>
    rw [writes, List.foldl_cons, ← writes, ih, putCell_getElem?]
    by_cases h : i = d + o
    · -- a later write to the cell `d + o` writes the same source cell again
      subst h
      rw [Nat.add_sub_cancel_left, if_pos rfl, ovw_ovw, ite_self, if_pos ⟨Nat.le_add_right _ _, List.mem_cons_self⟩]
    · rw [if_neg h]
      refine ite_congr (propext (and_congr_right fun hd => ?_)) (fun _ => rfl) (fun _ => rfl)
      rw [List.mem_cons]
      exact (or_iff_right fun e : i - d = o => h (e ▸ (Nat.add_sub_cancel' hd).symm)).symm

theorem copyCells_eq_writes {α} (src : List α) (s : Nat) (dst : List α) (d a len : Nat) :
    copyCells src (s + a) dst (d + a) len = writes src s dst d (List.range' a len) := by
  induction len generalizing a dst with
  | zero => rfl
  | succ n ih => rw [copyCells_succ, List.range'_succ]; exact ih _ (a + 1)

theorem copyCells_getElem? {α} (src : List α) (soff : Nat) (dst : List α) (doff len i : Nat) :
    (copyCells src soff dst doff len)[i]? =
      if doff ≤ i ∧ i - doff < len then ovw src[soff + (i - doff)]? dst[i]? else dst[i]? := by
  -- `soff + 0`, `doff + 0` reduce to `soff`, `doff`
  rw [show copyCells src soff dst doff len = _ from copyCells_eq_writes src soff dst doff 0 len, writes_getElem?]
  simp only [List.mem_range'_1, Nat.zero_le, Nat.zero_add, true_and]

theorem copyCells_src_congr {α} (src1 src2 : List α) (s1 s2 : Nat) (dst : List α) (d len : Nat)
    (h : ∀ j, j < len → src1[s1 + j]? = src2[s2 + j]?) :
    copyCells src1 s1 dst d len = copyCells src2 s2 dst d len := by
  apply List.ext_getElem?
  intro i
  rw [copyCells_getElem?, copyCells_getElem?]
  split
  next hc => rw [h _ hc.2]
  next => rfl

theorem copyCells_take {α} (x dst : List α) (s d len k : Nat) (hk : s + len ≤ k) :
    copyCells (x.take k) s dst d len = copyCells x s dst d len := by
  apply copyCells_src_congr
  intro j hj
  rw [List.getElem?_take, if_pos (Nat.lt_of_lt_of_le (Nat.add_lt_add_left hj s) hk)]

theorem copyCells_self {α} (x : List α) (len : Nat) : copyCells x 0 x 0 len = x := by
  apply List.ext_getElem?
  intro i
  rw [copyCells_getElem?]
  split
  · rw [Nat.zero_add, Nat.sub_zero]
    cases x[i]? <;> rfl
  · rfl

theorem copyCells_write {α} (src dst : List α) (d : Nat) (hd : d + src.length ≤ dst.length) :
    copyCells src 0 dst d src.length = dst.take d ++ (src ++ dst.drop (d + src.length)) := by
  have hl : (dst.take d).length = d := List.length_take_of_le (Nat.le_trans (Nat.le_add_right _ _) hd)
  apply List.ext_getElem?
  intro i
  rw [copyCells_getElem?, Nat.zero_add]
  rcases Nat.lt_or_ge i d with h1 | h1
  · rw [if_neg (fun h => Nat.not_le_of_lt h1 h.1), List.getElem?_append_left (hl.symm ▸ h1),
      List.getElem?_take_of_lt h1]
  · obtain ⟨k, rfl⟩ := Nat.exists_eq_add_of_le h1
    rw [List.getElem?_append_right (hl.symm ▸ h1), hl, Nat.add_sub_cancel_left]
    rcases Nat.lt_or_ge k src.length with h2 | h2
    · rw [if_pos ⟨h1, h2⟩,
        ovw_getElem? _ _ _ _ h2 (Nat.lt_of_lt_of_le (Nat.add_lt_add_left h2 d) hd), List.getElem?_append_left h2]
    · rw [if_neg (fun h => Nat.not_lt_of_ge h2 h.2), List.getElem?_append_right h2,
        List.getElem?_drop, Nat.add_assoc, Nat.add_sub_cancel' h2]

theorem copyCells_all {α} (src dst : List α) (len : Nat) (hs : src.length = len) (hd : dst.length = len) :
    copyCells src 0 dst 0 len = src := by
  subst hs
  rw [copyCells_write src dst 0 (by omega), List.take_zero, List.nil_append, Nat.zero_add,
    List.drop_of_length_le (by omega), List.append_nil]

/-- the cells of an element that a transfer writes, relative to the element's start, in the order of writing -/
def offsets (tm : TMap) : List Nat := tm.blocks.flatMap fun b => List.range' b.1 b.2

theorem mem_offsets (tm : TMap) (j : Nat) : j ∈ offsets tm ↔ tm.covers j = true := by
  simp only [offsets, covers, List.mem_flatMap, List.mem_range'_1, List.any_eq_true, Bool.and_eq_true, decide_eq_true_eq]

theorem transfer_eq_writes {α} (tm : TMap) (src : List α) (s : Nat) (dst : List α) (d : Nat) :
    transfer tm src s dst d = writes src s dst d (offsets tm) := by
  simp only [transfer, copyCells_eq_writes, writes, offsets, List.foldl_flatMap]

theorem transfer_length {α} (tm : TMap) (src : List α) (soff : Nat) (dst : List α) (doff : Nat) :
    (transfer tm src soff dst doff).length = dst.length :=
  tm.blocks.foldlRecOn (motive := (List.length · = dst.length)) _ rfl fun _ h _ _ => (copyCells_length ..).trans h

theorem transfer_getElem? {α} (tm : TMap) (src : List α) (soff : Nat) (dst : List α) (doff i : Nat) :
    (transfer tm src soff dst doff)[i]? =
      if doff ≤ i ∧ tm.covers (i - doff) = true then ovw src[soff + (i - doff)]? dst[i]? else dst[i]? := by
  rw [transfer_eq_writes, writes_getElem?]
  simp only [mem_offsets]

/-- MPI's `count` elements are one element of the contiguous datatype: element `k` starts at `k * extent` -/
theorem offsets_contiguous (n : Nat) (t : TMap) :
    offsets (contiguous n t) = (List.range n).flatMap fun k => (offsets t).map (k * t.extent + ·) := by
  simp only [offsets, contiguous, shift, List.flatMap_assoc, List.flatMap_map, List.map_flatMap, List.map_add_range']

theorem transferN_eq_transfer {α} (tm : TMap) (n : Nat) (src : List α) (s : Nat) (dst : List α) (d : Nat) :
    transferN tm n src s dst d = transfer (contiguous n tm) src s dst d := by
  rw [transfer_eq_writes, offsets_contiguous]
  simp only [transferN, transfer_eq_writes, writes, List.foldl_flatMap, List.foldl_map, Nat.add_assoc]

theorem transferN_succ {α} (tm : TMap) (n : Nat) (src : List α) (soff : Nat) (dst : List α) (doff : Nat) :
    transferN tm (n + 1) src soff dst doff =
      transfer tm src (soff + n * tm.extent) (transferN tm n src soff dst doff) (doff + n * tm.extent) := by
  simp [transferN, List.range_succ, List.foldl_append]

theorem transferN_zero {α} (tm : TMap) (src : List α) (soff : Nat) (dst : List α) (doff : Nat) :
    transferN tm 0 src soff dst doff = dst := rfl

theorem transferN_length {α} (tm : TMap) (n : Nat) (src : List α) (soff : Nat) (dst : List α) (doff : Nat) :
    (transferN tm n src soff dst doff).length = dst.length := by
  rw [transferN_eq_transfer, transfer_length]

theorem covers_lt (tm : TMap) (hwf : tm.wf) (j : Nat) (h : tm.covers j = true) : j < tm.extent := by
  simp only [covers, List.any_eq_true, Bool.and_eq_true, decide_eq_true_eq] at h
  obtain ⟨b, hb, _, h2⟩ := h
  exact Nat.lt_of_lt_of_le h2 (hwf b hb)

/-- `contiguous_covers` with the copy named: for a well-formed `tm` only copy `j / extent` can cover cell `j` -/
theorem contiguous_covers_wf (tm : TMap) (hwf : tm.wf) (n j : Nat) :
    (contiguous n tm).covers j = true ↔ j / tm.extent < n ∧ tm.covers (j % tm.extent) = true := by
  rw [← mem_offsets, offsets_contiguous]
  simp only [List.mem_flatMap, List.mem_range, List.mem_map, mem_offsets]
  constructor
  · rintro ⟨k, hk, o, ho, rfl⟩
    have hlt := covers_lt tm hwf o ho
    rw [Nat.mul_add_mod_of_lt hlt,
      Nat.div_eq_of_lt_le (Nat.le_add_right _ _) (by rw [Nat.succ_mul]; exact Nat.add_lt_add_left hlt _)]
    exact ⟨hk, ho⟩
  · rintro ⟨hq, hc⟩
    exact ⟨_, hq, _, hc, Nat.div_add_mod' j _⟩

theorem transferN_getElem? {α} (tm : TMap) (hwf : tm.wf) (n : Nat)
    (src : List α) (soff : Nat) (dst : List α) (doff i : Nat) :
    (transferN tm n src soff dst doff)[i]? =
      if doff ≤ i ∧ (i - doff) / tm.extent < n ∧ tm.covers ((i - doff) % tm.extent) = true
      then ovw src[soff + (i - doff)]? dst[i]? else dst[i]? := by
  rw [transferN_eq_transfer, transfer_getElem?]
  simp only [contiguous_covers_wf tm hwf]

theorem transferN_src_congr {α} (tm : TMap) (hwf : tm.wf) (n : Nat) (src1 src2 : List α) (s1 s2 : Nat) (dst : List α)
    (d : Nat) (h : ∀ j, j < n * tm.extent → src1[s1 + j]? = src2[s2 + j]?) :
    transferN tm n src1 s1 dst d = transferN tm n src2 s2 dst d := by
  apply List.ext_getElem?
  intro i
  rw [transferN_getElem? tm hwf, transferN_getElem? tm hwf]
  split
  next hc => rw [h _ ((Nat.div_lt_iff_lt_mul (Nat.zero_lt_of_lt (covers_lt tm hwf _ hc.2.2))).mp hc.2.1)]
  next => rfl

theorem transferN_add {α} (tm : TMap) (a b : Nat) (src : List α) (s : Nat) (dst : List α) (d : Nat) :
    transferN tm (a + b) src s dst d =
      transferN tm b src (s + a * tm.extent) (transferN tm a src s dst d) (d + a * tm.extent) := by
  simp only [transferN, List.range_add, List.foldl_append, List.foldl_map, Nat.add_mul, Nat.add_assoc]

theorem transferN_append {α} (tm : TMap) (hwf : tm.wf) (a b : Nat) (x rest : List α) (hx : x.length = a * tm.extent)
    (out : List α) (d : Nat) :
    transferN tm (a + b) (x ++ rest) 0 out d =
      transferN tm b rest 0 (transferN tm a x 0 out d) (d + a * tm.extent) := by
  rw [transferN_add,
    transferN_src_congr tm hwf a (x ++ rest) x 0 0 out d
      (fun j hj => by rw [Nat.zero_add]; exact List.getElem?_append_left (hx ▸ hj)),
    transferN_src_congr tm hwf b (x ++ rest) rest (0 + a * tm.extent) 0 _ _
      (fun j _ => by rw [Nat.zero_add, Nat.zero_add, ← hx, List.getElem?_append_right (Nat.le_add_right _ _),
        Nat.add_sub_cancel_left])]

theorem full_wf (e : Nat) : (full e).wf := by
  intro b hb
  simp [full] at hb
  subst hb
  simp [full]

theorem full_covers (e j : Nat) : (full e).covers j = true ↔ j < e := by
  simp [full, covers]

theorem transfer_full {α} (e : Nat) (src : List α) (s : Nat) (dst : List α) (d : Nat) :
    transfer (full e) src s dst d = copyCells src s dst d e := rfl

theorem transferN_full {α} (e n : Nat) (src : List α) (s : Nat) (dst : List α) (d : Nat) :
    transferN (full e) n src s dst d = copyCells src s dst d (n * e) := by
  induction n with
  | zero => rw [Nat.zero_mul]; rfl
  | succ n ih =>
    rw [transferN_succ, ih, transfer_full, Nat.add_mul, Nat.one_mul, copyCells_add]
    rfl

theorem transferN_full_all {α} (e n : Nat) (src dst : List α) (hs : src.length = n * e) (hd : dst.length = n * e) :
    transferN (full e) n src 0 dst 0 = src := by
  rw [transferN_full, copyCells_all _ _ _ hs hd]

theorem transferN_full_agree {α} (tm : TMap) (hwf : tm.wf) (n : Nat) (src : List α) (s : Nat)
    (dst : List α) (d i : Nat) (hc : tm.covers ((i - d) % tm.extent) = true) :
    (transferN (full tm.extent) n src s dst d)[i]? = (transferN tm n src s dst d)[i]? := by
  have hfull : (full tm.extent).covers ((i - d) % tm.extent) = true := (full_covers _ _).mpr (covers_lt tm hwf _ hc)
  rw [transferN_getElem? tm hwf, transferN_getElem? (full tm.extent) (full_wf _)]
  simp only [show (full tm.extent).extent = tm.extent from rfl, hc, hfull]

theorem flatten_length_uniform {α} (m : Nat) (ls : List (List α)) (hl : ∀ p ∈ ls, p.length = m) :
    ls.flatten.length = ls.length * m := by
  rw [List.length_flatten, List.map_congr_left hl, List.map_const', List.sum_replicate_nat]

theorem flatMap_length_const {β} (n e : Nat) (f : Nat → List β) (h : ∀ j, j < n → (f j).length = e) :
    ((List.range n).flatMap f).length = n * e := by
  rw [List.flatMap_def, flatten_length_uniform e, List.length_map, List.length_range]
  exact List.forall_mem_map.mpr fun j hj => h j (List.mem_range.mp hj)

theorem resizeCells_length {α} (e : Nat) (he : 0 < e) (dflt cells : List α) (m n : Nat) (hdf : dflt.length = e)
    (hd : cells.length = m * e) : (resizeCells e dflt cells n).length = n * e := by
  have hdiv : cells.length / (if e = 0 then 1 else e) = m := by
    rw [if_neg (Nat.ne_of_gt he), hd, Nat.mul_div_cancel _ he]
  unfold resizeCells
  simp only [hdiv]
  split
  next h => exact List.length_take_of_le (hd ▸ Nat.mul_le_mul_right e h)
  next h =>
    rw [List.length_append, List.length_take_of_le (Nat.le_of_eq hd.symm),
      flatten_length_uniform e _ (fun p hp => (List.eq_of_mem_replicate hp).symm ▸ hdf), List.length_replicate,
      ← Nat.add_mul, Nat.add_sub_cancel' (Nat.le_of_not_le h)]

def blockCells {α} (src : List α) (soff : Nat) (b : Nat × Nat) : List α := (src.drop (soff + b.1)).take b.2

theorem blockCells_length {α} (src : List α) (soff : Nat) (b : Nat × Nat) (h : soff + b.1 + b.2 ≤ src.length) :
    (blockCells src soff b).length = b.2 :=
  List.length_take_of_le (by rw [List.length_drop]; exact Nat.le_sub_of_add_le' h)

theorem packElem_length {α} (tm : TMap) (src : List α) (soff : Nat)
    (hsrc : ∀ b ∈ tm.blocks, soff + b.1 + b.2 ≤ src.length) : (packElem tm src soff).length = tm.size := by
  unfold packElem TMap.size
  rw [List.length_flatMap]
  exact congrArg List.sum (List.map_congr_left fun b hb => blockCells_length src soff b (hsrc b hb))

theorem drop_add_of_drop_eq {α} {l v t : List α} {p k : Nat} (h : l.drop p = v ++ t) (hk : v.length = k) :
    l.drop (p + k) = t := by
  rw [← List.drop_drop, h, List.drop_left' hk]

/-- left the fold of `unpackElem`, started at stream position `c`, right the fold of `transfer` -/
theorem unpack_blocks_gen {α} (bs : List (Nat × Nat)) (src : List α) (soff : Nat) (doff : Nat) (stream : List α)
    (hsrc : ∀ b ∈ bs, soff + b.1 + b.2 ≤ src.length) (dst : List α) (c : Nat) (suf : List α)
    (hs : stream.drop c = bs.flatMap (blockCells src soff) ++ suf) :
    (bs.foldl (fun (acc : List α × Nat) b => (copyCells stream acc.2 acc.1 (doff + b.1) b.2, acc.2 + b.2)) (dst, c)).1
      = bs.foldl (fun acc b => copyCells src (soff + b.1) acc (doff + b.1) b.2) dst := by
  induction bs generalizing dst c with
  | nil => rfl
  | cons b bs ih =>
    have hbl := blockCells_length src soff b (hsrc b List.mem_cons_self)
    rw [List.flatMap_cons, List.append_assoc] at hs
    have hcopy : copyCells stream c dst (doff + b.1) b.2 = copyCells src (soff + b.1) dst (doff + b.1) b.2 := by
      apply copyCells_src_congr
      intro j hj
      rw [← List.getElem?_drop, hs, List.getElem?_append_left (hbl.symm ▸ hj)]
      simp only [blockCells, List.getElem?_take, List.getElem?_drop, hj, if_true]
    rw [List.foldl_cons, List.foldl_cons, hcopy]
    exact ih (fun b' hb' => hsrc b' (List.mem_cons_of_mem _ hb')) _ _ (drop_add_of_drop_eq hs hbl)

theorem unpackElem_stream {α} (tm : TMap) (src : List α) (soff : Nat) (dst : List α) (doff : Nat) (suf : List α)
    (hsrc : ∀ b ∈ tm.blocks, soff + b.1 + b.2 ≤ src.length) :
    unpackElem tm (packElem tm src soff ++ suf) dst doff = transfer tm src soff dst doff :=
  unpack_blocks_gen tm.blocks src soff doff _ hsrc dst 0 suf List.drop_zero

theorem packN_succ {α} (tm : TMap) (n : Nat) (src : List α) :
    packN tm (n + 1) src = packN tm n src ++ packElem tm src (n * tm.extent) := by
  simp [packN, List.range_succ, List.flatMap_append]

theorem elem_in_range (tm : TMap) (hwf : tm.wf) (k len : Nat) (h : (k + 1) * tm.extent ≤ len) :
    ∀ b ∈ tm.blocks, k * tm.extent + b.1 + b.2 ≤ len := fun b hb => by
  rw [Nat.add_assoc]
  exact Nat.le_trans (Nat.add_le_add_left (hwf b hb) _) (Nat.succ_mul k _ ▸ h)

theorem packN_length {α} (tm : TMap) (hwf : tm.wf) (n : Nat) (src : List α) (h : n * tm.extent ≤ src.length) :
    (packN tm n src).length = n * tm.size :=
  flatMap_length_const n tm.size _ fun k hk =>
    packElem_length tm src _ (elem_in_range tm hwf k _ (Nat.le_trans (Nat.mul_le_mul_right _ hk) h))

theorem unpackN_packN {α} (tm : TMap) (hwf : tm.wf) (n : Nat) (src : List α) (h : n * tm.extent ≤ src.length)
    (rest dst : List α) : unpackN tm n (packN tm n src ++ rest) dst = transferN tm n src 0 dst 0 := by
  induction n generalizing rest with
  | zero => rfl
  | succ n ih =>
    have hn := Nat.le_trans (Nat.mul_le_mul_right _ (Nat.le_succ n)) h
    -- the first `n` elements see a stream that continues with element `n`
    rw [transferN_succ, ← ih hn (packElem tm src (n * tm.extent) ++ rest), packN_succ, List.append_assoc]
    simp only [unpackN, List.range_succ, List.foldl_append, List.foldl_cons, List.foldl_nil, Nat.zero_add]
    rw [List.drop_left' (packN_length tm hwf n src hn)]
    exact unpackElem_stream tm src _ _ _ rest (elem_in_range tm hwf n _ h)

theorem one_cell_iff (a i : Nat) : (a ≤ i ∧ i < a + 1) ↔ i = a := by
  rw [Nat.lt_succ_iff, ← Nat.le_antisymm_iff, eq_comm]

theorem mem_map_add {d j : Nat} {os : List Nat} : j ∈ os.map (d + ·) ↔ d ≤ j ∧ j - d ∈ os := by
  rw [List.mem_map]
  constructor
  · rintro ⟨o, ho, rfl⟩
    exact ⟨Nat.le_add_right _ _, by rwa [Nat.add_sub_cancel_left]⟩
  · rintro ⟨hd, ho⟩
    exact ⟨_, ho, Nat.add_sub_cancel' hd⟩

theorem offsets_struct (members : List (Nat × Nat × TMap)) :
    offsets (struct members) = members.flatMap fun m => (offsets (contiguous m.2.1 m.2.2)).map (m.1 + ·) := by
  simp only [offsets, struct, shift, List.flatMap_assoc, List.flatMap_map, List.map_flatMap, List.map_add_range']

/-- `MPI_Type_contiguous(n, t)`: cell `j` is covered iff it is covered in one of the `n` copies of `t` -/
theorem contiguous_covers (n : Nat) (t : TMap) (j : Nat) :
    (contiguous n t).covers j = true ↔ ∃ k, k < n ∧ k * t.extent ≤ j ∧ t.covers (j - k * t.extent) = true := by
  simp only [← mem_offsets, offsets_contiguous, List.mem_flatMap, List.mem_range, mem_map_add]

/-- `MPI_Type_create_struct`: cell `j` is covered iff some member `(displ, count, type)` covers it -/
theorem struct_covers (members : List (Nat × Nat × TMap)) (j : Nat) :
    (struct members).covers j = true ↔
      ∃ m ∈ members, m.1 ≤ j ∧ (contiguous m.2.1 m.2.2).covers (j - m.1) = true := by
  simp only [← mem_offsets, offsets_struct, List.mem_flatMap, mem_map_add]

theorem resized_covers (t : TMap) (ext j : Nat) : (resized t ext).covers j = t.covers j := rfl

theorem contiguous_one_blocks (t : TMap) : (contiguous 1 t).blocks = t.blocks.map (shift 0) := by
  simp [contiguous, List.range_succ]

theorem shift_zero_map (bs : List (Nat × Nat)) : bs.map (shift 0) = bs :=
  List.map_id'' (f := shift 0) (fun _ => Prod.ext (Nat.zero_add _) rfl) bs

theorem contiguous_one_covers (t : TMap) (j : Nat) : (contiguous 1 t).covers j = t.covers j := by
  rw [covers, contiguous_one_blocks, shift_zero_map]; rfl

theorem fv_blocks (d n w : Nat) :
    (Types.fieldVector d n (basic w)).blocks = (List.range n).map (fun k => (d + k * w, w)) := by
  simp only [Types.fieldVector, struct, contiguous, basic, List.flatMap_cons, List.flatMap_nil, List.append_nil,
    List.range_one, List.map_cons, List.map_nil, Nat.zero_mul, ← List.map_eq_flatMap, List.map_map, Function.comp_def,
    shift, Nat.add_zero, Nat.zero_add]

theorem contiguous_basic_covers (n w x : Nat) : (contiguous n (basic w)).covers x = true ↔ x < n * w := by
  -- `basic w` and `full w` are the same term
  rw [contiguous_covers_wf (basic w) (full_wf w)]
  show x / w < n ∧ (full w).covers (x % w) = true ↔ _
  rw [full_covers]
  exact ⟨fun h => (Nat.div_lt_iff_lt_mul (Nat.zero_lt_of_lt h.2)).mp h.1,
    fun h => have hw := Nat.pos_of_lt_mul_left h; ⟨(Nat.div_lt_iff_lt_mul hw).mpr h, Nat.mod_lt _ hw⟩⟩

theorem pair_blocks (off1 off2 size : Nat) (t1 t2 : TMap) :
    (Types.pair off1 t1 off2 t2 size).blocks = t1.blocks.map (shift off1) ++ t2.blocks.map (shift off2) := by
  simp [Types.pair, resized, struct, contiguous_one_blocks, shift_zero_map]

theorem pair_covers (off1 off2 size : Nat) (t1 t2 : TMap) (j : Nat) :
    (Types.pair off1 t1 off2 t2 size).covers j = true ↔
      (off1 ≤ j ∧ t1.covers (j - off1) = true) ∨ (off2 ≤ j ∧ t2.covers (j - off2) = true) := by
  refine (struct_covers [(off1, 1, t1), (off2, 1, t2)] j).trans ?_
  simp only [List.mem_cons, List.not_mem_nil, or_false, exists_eq_or_imp, exists_eq_left, contiguous_one_covers]

theorem pair_wf (off1 off2 size : Nat) (t1 t2 : TMap) (h1 : ∀ b ∈ t1.blocks, off1 + b.1 + b.2 ≤ size)
    (h2 : ∀ b ∈ t2.blocks, off2 + b.1 + b.2 ≤ size) : (Types.pair off1 t1 off2 t2 size).wf := by
  show ∀ b ∈ (Types.pair off1 t1 off2 t2 size).blocks, b.1 + b.2 ≤ size
  rw [pair_blocks]
  exact List.forall_mem_append.mpr ⟨List.forall_mem_map.mpr h1, List.forall_mem_map.mpr h2⟩

end DV.C07.Proofs
