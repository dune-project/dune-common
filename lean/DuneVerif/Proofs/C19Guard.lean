/-
C19 — the guard part: the predicates the guard theorems are stated with (`OneSum`, `specObs`, `EndsMatched`) and the
lemmas behind those theorems.  Arming always yields an armed guard without a collective, so a section is what its act
does on an armed guard: one `sum`, then a state and an observation that depend only on the global sum.
Lock-step execution of ranks that all issue a collective (or all return) then gives sequences of sections by
induction; the only thing that can go wrong is the end of a case, where ranks still armed enter one more collective
and the others do not.  Core Lean only.
-/
import DuneVerif.Model.C19

namespace DV.C19

/-- a program that issues exactly one collective and then returns -/
def OneSum {α : Type} : Prog α → Prop
  | .sum _ k => ∀ r, ∃ a, k r = .ret a
  | .ret _ => False

def contribOf (a : Act) : Nat := if fails a then 1 else 0

/-- guard object of a rank after a section, given the global sum -/
def stateAfter (a : Act) (total : Nat) : Option Guard :=
  match a with
  | .finTrue => some { active := false }
  | .finDefault => some { active := false }
  | .finFalse => some { active := false }
  | .react => if total > 0 then some { active := false } else some { active := true }
  | .throwUser => none
  | .leave => none

def isArmed : Option Guard → Bool
  | some g => g.active
  | none => false

theorem armProg_eq (st : Option Guard) (m : Arm) : armProg st m = .ret (some { active := true }) := by
  rcases st with _ | ⟨⟨_ | _⟩⟩ <;> cases m <;> rfl

theorem finalize_armed (success : Bool) :
    finalize { active := true } success =
      .sum (if success then 0 else 1) fun total => .ret ({ active := false }, decide (total > 0)) := by
  simp only [finalize, Bool.and_true]

theorem destroy_armed : destroy { active := true } = .sum 1 fun _ => .ret false := by
  simp only [destroy, finalize, Prog.bind, Bool.and_false, if_true]
  rfl

theorem reactivate_armed :
    reactivate { active := true } =
      .sum 0 fun total => if total > 0 then .ret ({ active := false }, true) else .ret ({ active := true }, false) := by
  simp only [reactivate, finalizeDefault, finalize_armed, Prog.bind, if_true, decide_eq_true_eq]

theorem actProg_armed (a : Act) :
    actProg { active := true } a =
      .sum (contribOf a) fun total => .ret (stateAfter a total, expectedObs (decide (total > 0)) a) := by
  cases a
  case react =>
    simp only [actProg, reactivate_armed, Prog.bind]
    congr 1
    funext total
    by_cases h : total > 0 <;> simp only [h, stateAfter, if_true, if_false] <;> rfl
  case throwUser => simp only [actProg, destroy_armed]; rfl
  case leave => simp only [actProg, destroy_armed]; rfl
  all_goals simp only [actProg, finalizeDefault, finalize_armed]; rfl

theorem sectionProg_eq (st : Option Guard) (s : Arm × Act) :
    sectionProg st s =
      .sum (contribOf s.2) (fun total => .ret (stateAfter s.2 total, expectedObs (decide (total > 0)) s.2)) := by
  rw [sectionProg, armProg_eq]
  exact actProg_armed s.2

theorem scriptProg_cons (st : Option Guard) (s : Arm × Act) (ss : List (Arm × Act)) (acc : List Obs) :
    scriptProg st (s :: ss) acc =
      .sum (contribOf s.2) (fun total =>
        scriptProg (stateAfter s.2 total) ss (expectedObs (decide (total > 0)) s.2 :: acc)) := by
  rw [scriptProg, sectionProg_eq]
  rfl

/-- the end of a case: the guard object of a rank that is still armed (its last call was a successful `reactivate()`)
is deleted, and its destructor enters one more collective -/
theorem scriptProg_nil (st : Option Guard) (acc : List Obs) :
    scriptProg st [] acc = if isArmed st then .sum 1 (fun _ => .ret acc.reverse) else .ret acc.reverse := by
  rcases st with _ | ⟨⟨_ | _⟩⟩
  · rfl
  · rfl
  · simp only [scriptProg, endProg, destroy_armed]
    rfl

def notArmed : Option Guard → Prop
  | some g => g.active = false
  | none => True

theorem stateAfter_notArmed (a : Act) (total : Nat) (h : a ≠ .react) : notArmed (stateAfter a total) := by
  cases a <;> simp [stateAfter, notArmed] at *

theorem isArmed_stateAfter (a : Act) (total : Nat) :
    isArmed (stateAfter a total) = (decide (a = .react) && !decide (total > 0)) := by
  cases a
  case react => by_cases h : total > 0 <;> simp [stateAfter, isArmed, h]
  all_goals rfl

theorem runJoint_of_allRet {α : Type} (fuel : Nat) {ps : List (Prog α)} {vs : List α} (h : allRet ps = some vs) :
    runJoint (fuel + 1) ps = .done vs := by
  rw [runJoint, h]

theorem runJoint_of_allSum {α : Type} (fuel : Nat) {ps : List (Prog α)} {cks : List (Nat × (Nat → Prog α))}
    (hne : ps ≠ []) (h : allSum ps = some cks) :
    runJoint (fuel + 1) ps = runJoint fuel (cks.map fun ck => ck.2 (cks.map (·.1)).sum) := by
  have hret : allRet ps = none := by
    cases ps with
    | nil => exact absurd rfl hne
    | cons p ps =>
      cases p with
      | ret a => cases h
      | sum c k => rfl
  rw [runJoint, hret, h]

theorem allRet_map_ret {ι α : Type} (l : List ι) (v : ι → α) :
    allRet (l.map fun i => Prog.ret (v i)) = some (l.map v) := by
  induction l with
  | nil => rfl
  | cons x xs ih => simp [allRet, ih]

theorem allSum_map_sum {ι α : Type} (l : List ι) (c : ι → Nat) (k : ι → Nat → Prog α) :
    allSum (l.map fun i => Prog.sum (c i) (k i)) = some (l.map fun i => (c i, k i)) := by
  induction l with
  | nil => rfl
  | cons x xs ih => simp [allSum, ih]

theorem runJoint_sum_step {ι α : Type} (fuel : Nat) (l : List ι) (hl : l ≠ []) (c : ι → Nat) (k : ι → Nat → Prog α) :
    runJoint (fuel + 1) (l.map fun i => Prog.sum (c i) (k i)) =
      runJoint fuel (l.map fun i => k i ((l.map c).sum)) := by
  rw [runJoint_of_allSum fuel (by simpa using hl) (allSum_map_sum l c k)]
  simp only [List.map_map, Function.comp_def]

theorem allSum_of_oneSum {α : Type} (ps : List (Prog α)) (h : ∀ p ∈ ps, OneSum p) :
    ∃ cks, allSum ps = some cks ∧
      ∀ total, ∃ vs, allRet (cks.map fun ck => ck.2 total) = some vs ∧ vs.length = ps.length := by
  induction ps with
  | nil => exact ⟨[], rfl, fun _ => ⟨[], rfl, rfl⟩⟩
  | cons p ps ih =>
    obtain ⟨cks, hcks, hret⟩ := ih fun q hq => h q (List.mem_cons_of_mem p hq)
    cases p with
    | ret a => exact (h _ List.mem_cons_self).elim
    | sum c k =>
      refine ⟨(c, k) :: cks, by simp [allSum, hcks], fun total => ?_⟩
      obtain ⟨vs, hvs, hlen⟩ := hret total
      obtain ⟨a, ha⟩ := h _ List.mem_cons_self total
      exact ⟨a :: vs, by simp [allRet, ha, hvs], by simp [hlen]⟩

theorem sum_contrib_pos {ι : Type} (l : List ι) (f : ι → Act) :
    decide ((l.map fun i => contribOf (f i)).sum > 0) = l.any fun j => fails (f j) := by
  induction l with
  | nil => rfl
  | cons x xs ih =>
    simp only [List.map_cons, List.sum_cons, List.any_cons, ← ih, gt_iff_lt, Nat.add_pos_iff_pos_or_pos,
      Bool.decide_or, contribOf]
    cases fails (f x) <;> rfl

/-- what the property demands of rank `i` in section `k` of a case -/
def specObs (members : List Nat) (script : Nat → Nat → Arm × Act) (i k : Nat) : Obs :=
  expectedObs (members.any fun j => fails (script j k).2) (script i k).2

theorem expectedObs_of_reaches (a : Act) (h : reaches a = true) : expectedObs true a = .guardError := by
  revert h
  cases a <;> decide

theorem expectedObs_of_not_fails (a : Act) (h : fails a = false) : expectedObs false a = .none := by
  revert h
  cases a <;> decide

theorem specObs_of_failure (members : List Nat) (script : Nat → Nat → Arm × Act) (i k : Nat)
    (hfail : ∃ j ∈ members, fails (script j k).2 = true) (hreach : reaches (script i k).2 = true) :
    specObs members script i k = .guardError := by
  rw [specObs, List.any_eq_true.mpr hfail]
  exact expectedObs_of_reaches _ hreach

theorem specObs_of_no_failure (members : List Nat) (script : Nat → Nat → Arm × Act) (i k : Nat)
    (hno : ∀ j ∈ members, fails (script j k).2 = false) (hi : i ∈ members) :
    specObs members script i k = .none := by
  have : (members.any fun j => fails (script j k).2) = false :=
    List.any_eq_false.mpr fun j hj => by simp [hno j hj]
  rw [specObs, this]
  exact expectedObs_of_not_fails _ (hno i hi)

theorem rows_getElem? {α : Type} (members : List Nat) (row : Nat → α) {p i : Nat} (hp : members[p]? = some i) :
    (members.map row)[p]? = some (row i) := by
  rw [List.getElem?_map, hp]
  rfl

def endOutcome {ι α : Type} (l : List ι) (armed : ι → Bool) (rows : ι → α) : Outcome α :=
  if (l.all fun i => !armed i) || l.all armed then .done (l.map rows) else .deadlock

theorem allRet_map_armed {ι α : Type} (l : List ι) (armed : ι → Bool) (c : ι → Nat) (k : ι → Nat → Prog α)
    (v : ι → α) :
    allRet (l.map fun i => if armed i then .sum (c i) (k i) else .ret (v i)) =
      if l.all fun i => !armed i then some (l.map v) else none := by
  induction l with
  | nil => rfl
  | cons x xs ih => cases hx : armed x <;> simp [allRet, ih, hx]

theorem allSum_map_armed {ι α : Type} (l : List ι) (armed : ι → Bool) (c : ι → Nat) (k : ι → Nat → Prog α)
    (v : ι → α) :
    allSum (l.map fun i => if armed i then .sum (c i) (k i) else .ret (v i)) =
      if l.all armed then some (l.map fun i => (c i, k i)) else none := by
  induction l with
  | nil => rfl
  | cons x xs ih => cases hx : armed x <;> simp [allSum, ih, hx]

theorem runJoint_end {ι α : Type} (l : List ι) (fuel : Nat) (armed : ι → Bool) (v : ι → α) :
    runJoint (fuel + 2) (l.map fun i => if armed i then .sum 1 (fun _ => .ret (v i)) else .ret (v i)) =
      endOutcome l armed v := by
  rw [runJoint, allRet_map_armed, allSum_map_armed, endOutcome]
  cases (l.all fun i => !armed i)
  · cases l.all armed
    · rfl
    · simp only [Bool.false_eq_true, if_false, if_true, List.map_map, Function.comp_def, Bool.false_or]
      exact runJoint_of_allRet fuel (allRet_map_ret l v)
  · rfl

/-- Stated for any list `ks` of section indices and for arbitrary guard objects and accumulated observations at the
start, so that the induction over the sections goes through.  A section overwrites the guard object whatever it was
(`sectionProg_eq`), so who is armed at the end is decided by the last section alone: the `foldl` forgets. -/
theorem joint_scripts_end (members : List Nat) (script : Nat → Nat → Arm × Act) (ks : List Nat) :
    ∀ (fuel : Nat) (st : Nat → Option Guard) (acc : Nat → List Obs),
      ks.length + 1 < fuel →
      runJoint fuel (members.map fun i => scriptProg (st i) (ks.map (script i)) (acc i)) =
        endOutcome members (ks.foldl (fun _ k => endsArmed members script (k + 1)) fun i => isArmed (st i))
          (fun i => (acc i).reverse ++ ks.map (specObs members script i)) := by
  induction ks with
  | nil =>
    intro fuel st acc hf
    obtain ⟨f, rfl⟩ : ∃ f, fuel = f + 2 := ⟨_, (Nat.sub_add_cancel hf).symm⟩
    simp only [List.map_nil, scriptProg_nil, List.append_nil]
    exact runJoint_end members f _ _
  | cons k ks ih =>
    intro fuel st acc hf
    obtain ⟨f, rfl⟩ : ∃ f, fuel = f + 1 := ⟨_, (Nat.sub_add_cancel (Nat.zero_lt_of_lt hf)).symm⟩
    by_cases hm : members = []
    · subst hm
      rfl
    · simp only [List.map_cons, scriptProg_cons]
      rw [runJoint_sum_step f members hm, ih f _ _ (Nat.lt_of_succ_lt_succ hf)]
      simp only [isArmed_stateAfter, sum_contrib_pos, List.foldl_cons, List.reverse_cons, List.append_assoc,
        List.singleton_append]
      -- what is left are `endsArmed … (k + 1)` and `specObs … k` unfolded
      rfl

theorem runJoint_rankProgs (members : List Nat) (n fuel : Nat) (script : Nat → Nat → Arm × Act) (hf : n + 1 < fuel) :
    runJoint fuel (members.map fun i => rankProg (script i) n) =
      if endsMatchedB members script n then .done (members.map fun i => (List.range n).map (specObs members script i))
      else .deadlock := by
  have ha : (List.range n).foldl (fun _ k => endsArmed members script (k + 1)) (fun _ => isArmed none) =
      endsArmed members script n := by
    cases n
    · rfl
    · rw [List.range_succ, List.foldl_append]
      rfl
  have key := joint_scripts_end members script (List.range n) fuel (fun _ => none) (fun _ => [])
    (List.length_range ▸ hf)
  rw [ha] at key
  exact key

/-- the sections of the ranks of a communicator match at the end of the case: either no member or every member still
holds an armed guard (i.e. ended with a successful `reactivate()` checkpoint and therefore owes one more section) -/
def EndsMatched (members : List Nat) (script : Nat → Nat → Arm × Act) (n : Nat) : Prop :=
  (∀ i ∈ members, endsArmed members script n i = false) ∨ (∀ i ∈ members, endsArmed members script n i = true)

end DV.C19
