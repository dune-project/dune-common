import DuneVerif.Model.C11.BitSetVector
import DuneVerif.Proofs.C11.Basic
import DuneVerif.Common.Lists
/-! The BitSetVector refinement: every proxy operation rewrites one block of the bit vector (`BlockUpd`), which is
`List.modify` on the list of blocks; whole-vector operations; blocks as numbers (core Lean only). -/
namespace DV.C11.BV

/-- the underlying `vector<bool>` holds whole blocks -/
def Inv (B : Nat) (v : Bits) : Prop := v.length % B = 0

theorem addr_div {B : Nat} (i : Nat) {j : Nat} (hj : j < B) : (i * B + j) / B = i := by
  rw [Nat.add_comm, Nat.add_mul_div_right _ _ (Nat.zero_lt_of_lt hj), Nat.div_eq_of_lt hj, Nat.zero_add]

theorem addr_mod {B : Nat} (i : Nat) {j : Nat} (hj : j < B) : (i * B + j) % B = j := by
  rw [Nat.add_comm, Nat.add_mul_mod_self_right, Nat.mod_eq_of_lt hj]

theorem addr_inj {B i j i' j' : Nat} (hj : j < B) (hj' : j' < B) (h : i * B + j = i' * B + j') : i = i' ∧ j = j' :=
  ⟨by rw [← addr_div i hj, h, addr_div i' hj'], by rw [← addr_mod i hj, h, addr_mod i' hj']⟩

theorem addr_lt {B i j n : Nat} (hi : i < n) (hj : j < B) : i * B + j < n * B :=
  Nat.lt_of_lt_of_le (by rw [Nat.succ_mul]; exact Nat.add_lt_add_left hj _) (Nat.mul_le_mul_right B hi)

theorem block_in_range {B : Nat} {v : Bits} {i j : Nat} (hi : i < size B v) (hj : j < B) : i * B + j < v.length :=
  Nat.lt_of_lt_of_le (addr_lt hi hj) (Nat.div_mul_le_self v.length B)

theorem size_mul {B : Nat} {v : Bits} (h : Inv B v) : size B v * B = v.length := by
  have := Nat.div_add_mod v.length B
  rw [h, Nat.add_zero, Nat.mul_comm] at this
  exact this

theorem ofVector_eq (B : Nat) (bits : Bits) : ofVector B bits = if bits.length % B = 0 then some bits else none := by
  unfold ofVector
  by_cases h : bits.length % B = 0 <;> simp [h]

theorem size_of_length {B : Nat} (hB : 0 < B) {v : Bits} {n : Nat} (h : v.length = n * B) : size B v = n := by
  unfold size; rw [h]; exact Nat.mul_div_cancel _ hB

theorem getBit_of_lt {B : Nat} {v : Bits} {i j : Nat} (h : i * B + j < v.length) : getBit B v i j = v[i * B + j] := by
  simp [getBit, List.getD_eq_getElem?_getD, List.getElem?_eq_getElem h]

theorem getD_of_le {l : Bits} {j : Nat} (h : l.length ≤ j) : l.getD j false = false := by
  rw [List.getD_eq_getElem?_getD, List.getElem?_eq_none h]; rfl

theorem length_setBit (B : Nat) (v : Bits) (i j : Nat) (b : Bool) : (setBit B v i j b).length = v.length :=
  List.length_set ..

theorem getBit_setBit {B : Nat} (v : Bits) {i j i' j' : Nat} (b : Bool) (hj : j < B) (hj' : j' < B)
    (hr : i * B + j < v.length) :
    getBit B (setBit B v i j b) i' j' = if i = i' ∧ j = j' then b else getBit B v i' j' := by
  unfold getBit setBit
  rw [List.getD_eq_getElem?_getD, List.getD_eq_getElem?_getD, List.getElem?_set]
  by_cases h : i * B + j = i' * B + j'
  · rw [if_pos h, if_pos hr, if_pos (addr_inj hj hj' h)]; rfl
  · rw [if_neg h, if_neg (fun ⟨a, b⟩ => h (by rw [a, b]))]

/-- the bits `j < k` of block `i` were rewritten to `g j`, everything else is untouched -/
structure BlockUpd (B : Nat) (v v' : Bits) (i : Nat) (g : Nat → Bool) (k : Nat) : Prop where
  len : v'.length = v.length
  bits : ∀ i' j', j' < B → getBit B v' i' j' = if i = i' ∧ j' < k then g j' else getBit B v i' j'

theorem BlockUpd.zero (B : Nat) (v : Bits) (i : Nat) (g : Nat → Bool) : BlockUpd B v v i g 0 :=
  ⟨rfl, fun _ _ _ => (if_neg fun h => Nat.not_lt_zero _ h.2).symm⟩

theorem BlockUpd.bit_ge {B : Nat} {v w : Bits} {i k : Nat} {g : Nat → Bool} (h : BlockUpd B v w i g k)
    (i' : Nat) {j : Nat} (hk : k ≤ j) (hj : j < B) : getBit B w i' j = getBit B v i' j :=
  (h.bits i' j hj).trans (if_neg fun h' => Nat.not_lt_of_le hk h'.2)

/-- one round of any of the write loops -/
theorem BlockUpd.succ {B : Nat} {v w : Bits} {i k : Nat} {g : Nat → Bool} (h : BlockUpd B v w i g k)
    (hi : i < size B v) (hk : k < B) : BlockUpd B v (setBit B w i k (g k)) i g (k + 1) := by
  refine ⟨(length_setBit ..).trans h.len, fun i' j' hj' => ?_⟩
  rw [getBit_setBit w _ hk hj' (h.len ▸ block_in_range hi hk), h.bits i' j' hj']
  by_cases h1 : i = i' ∧ k = j'
  · obtain ⟨rfl, rfl⟩ := h1
    rw [if_pos ⟨rfl, rfl⟩, if_pos ⟨rfl, Nat.lt_succ_self _⟩]
  · rw [if_neg h1]
    by_cases h2 : i = i' ∧ j' < k
    · rw [if_pos h2, if_pos ⟨h2.1, Nat.lt_succ_of_lt h2.2⟩]
    · rw [if_neg h2, if_neg fun h' => h2 ⟨h'.1, Nat.lt_of_le_of_ne (Nat.le_of_lt_succ h'.2) fun e => h1 ⟨h'.1, e.symm⟩⟩]

/-- Every write loop of the proxy: round `k` sets bit `k` of block `i` to a value computed from bit `k` of some block `i₀` as it
is then. No earlier round has written a bit `k`, so it is still the bit of `v`, also when `i₀ = i`. -/
theorem loop_upd {B : Nat} {v : Bits} {i : Nat} (hi : i < size B v) (i₀ : Nat) (φ : Nat → Bool → Bool) {L : Nat → Bits}
    (h0 : L 0 = v) (hs : ∀ k, L (k + 1) = setBit B (L k) i k (φ k (getBit B (L k) i₀ k))) :
    ∀ k, k ≤ B → BlockUpd B v (L k) i (fun j => φ j (getBit B v i₀ j)) k
  | 0, _ => h0 ▸ .zero ..
  | k + 1, hk => by
    have ih := loop_upd hi i₀ φ h0 hs k (Nat.le_of_succ_le hk)
    rw [hs, ih.bit_ge i₀ (Nat.le_refl k) hk]
    exact ih.succ hi hk

theorem writeLoop_upd {B : Nat} (v : Bits) {i : Nat} (f : Nat → Bool) (hi : i < size B v) :
    BlockUpd B v (writeLoop B v i f B) i f B :=
  loop_upd hi 0 (fun j _ => f j) rfl (fun _ => rfl) B (Nat.le_refl B)

theorem setOne_upd {B : Nat} (v : Bits) {i j : Nat} (b : Bool) (hi : i < size B v) (hj : j < B) :
    BlockUpd B v (setOne B v i j b) i (fun j' => if j = j' then b else getBit B v i j') B :=
  ⟨length_setBit B v i j b, fun i' j' hj' => by
    rw [setOne, getBit_setBit v b hj hj' (block_in_range hi hj)]
    by_cases h1 : i = i'
    · subst h1; simp [hj']
    · simp [h1]⟩

theorem length_getRepr (B : Nat) (v : Bits) (i : Nat) : (getRepr B v i).length = B := by simp [getRepr]

theorem getRepr_eq_map {B : Nat} {v : Bits} {i : Nat} {g : Nat → Bool} (h : ∀ j, j < B → getBit B v i j = g j) :
    getRepr B v i = (List.range B).map g :=
  List.map_congr_left fun j hj => h j (List.mem_range.mp hj)

theorem getD_map_range (n : Nat) (f : Nat → Bool) (j : Nat) :
    ((List.range n).map f).getD j false = (decide (j < n) && f j) := by
  rw [List.getD_eq_getElem?_getD, List.getElem?_map]
  by_cases h : j < n
  · rw [List.getElem?_range h]; simp [h]
  · rw [List.getElem?_eq_none (by rw [List.length_range]; exact Nat.le_of_not_lt h)]; simp [h]

theorem getD_getRepr {B : Nat} (v : Bits) (i : Nat) {j : Nat} (hj : j < B) : (getRepr B v i).getD j false = getBit B v i j := by
  rw [getRepr, getD_map_range, decide_eq_true hj, Bool.true_and]

theorem map_range_eq {B : Nat} {l : Bits} (hl : l.length = B) (g : Nat → Bool)
    (h : ∀ j, j < B → g j = l.getD j false) : (List.range B).map g = l := by
  subst hl
  refine List.ext_getElem (by rw [List.length_map, List.length_range]) fun j _ h2 => ?_
  rw [List.getElem_map, List.getElem_range, h j h2, List.getD_eq_getElem?_getD, List.getElem?_eq_getElem h2]
  rfl

theorem map_getD_range {l : Bits} {B : Nat} (h : l.length = B) : (List.range B).map (fun j => l.getD j false) = l :=
  map_range_eq h _ fun _ _ => rfl

theorem map_const_range {α : Type} (n : Nat) (a : α) : (List.range n).map (fun _ => a) = List.replicate n a := by
  rw [List.map_const', List.length_range]

theorem abs_length (B : Nat) (v : Bits) : (abs B v).length = size B v := by simp [abs]

theorem abs_get (B : Nat) (v : Bits) (i : Nat) :
    (abs B v)[i]? = if i < size B v then some (getRepr B v i) else none := by
  unfold abs
  by_cases h : i < size B v <;> simp [h]

theorem BlockUpd.size_eq {B : Nat} {v v' : Bits} {i k : Nat} {g : Nat → Bool} (h : BlockUpd B v v' i g k) :
    size B v' = size B v := congrArg (· / B) h.len

theorem BlockUpd.inv {B : Nat} {v v' : Bits} {i k : Nat} {g : Nat → Bool} (h : BlockUpd B v v' i g k) (hv : Inv B v) :
    Inv B v' := by unfold Inv; rw [h.len]; exact hv

theorem BlockUpd.getRepr_self {B : Nat} {v v' : Bits} {i : Nat} {g : Nat → Bool} (h : BlockUpd B v v' i g B) :
    getRepr B v' i = (List.range B).map g :=
  getRepr_eq_map fun j hj => (h.bits i j hj).trans (if_pos ⟨rfl, hj⟩)

/-- `frame` of DESIGN.md section 5: the other blocks are unchanged -/
theorem BlockUpd.getRepr_other {B : Nat} {v v' : Bits} {i : Nat} {g : Nat → Bool} (h : BlockUpd B v v' i g B)
    {i' : Nat} (hne : i ≠ i') : getRepr B v' i' = getRepr B v i' :=
  getRepr_eq_map fun j hj => (h.bits i' j hj).trans (if_neg fun h' => hne h'.1)

/-- a completed rewrite of block `i` whose new bits are `op` of the old block is `List.modify i op` on the list of blocks -/
theorem BlockUpd.refines {B : Nat} {v v' : Bits} {i : Nat} {g : Nat → Bool} (h : BlockUpd B v v' i g B)
    (hv : Inv B v) (op : Bits → Bits) (hop : (List.range B).map g = op (getRepr B v i)) :
    Inv B v' ∧ abs B v' = (abs B v).modify i op := by
  refine ⟨h.inv hv, List.ext_getElem (by rw [List.length_modify, abs_length, abs_length, h.size_eq]) fun i' _ _ => ?_⟩
  simp only [abs, List.getElem_modify, List.getElem_map, List.getElem_range]
  by_cases he : i = i'
  · subst he; rw [if_pos rfl, h.getRepr_self, hop]
  · rw [if_neg he, h.getRepr_other he]

theorem getRepr_eq_slice {B : Nat} {v : Bits} {i : Nat} (hi : i < size B v) :
    getRepr B v i = (v.drop (i * B)).take B := by
  apply List.ext_getElem?
  intro j
  rw [getRepr, List.getElem?_map, List.getElem?_take, List.getElem?_drop]
  by_cases hj : j < B
  · rw [List.getElem?_range hj, if_pos hj, Option.map_some, getBit_of_lt (block_in_range hi hj), List.getElem?_eq_getElem]
  · rw [List.getElem?_eq_none (by rw [List.length_range]; exact Nat.le_of_not_lt hj), if_neg hj]
    rfl

theorem flatten_slices (B : Nat) (v : Bits) :
    ∀ n, ((List.range n).map (fun i => (v.drop (i * B)).take B)).flatten = v.take (n * B)
  | 0 => by rw [Nat.zero_mul]; rfl
  | n + 1 => by
    rw [List.range_succ, List.map_append, List.flatten_append, flatten_slices B v n, Nat.succ_mul, List.take_add]
    simp

theorem abs_flatten {B : Nat} {v : Bits} (h : Inv B v) : (abs B v).flatten = v := by
  have : abs B v = (List.range (size B v)).map (fun i => (v.drop (i * B)).take B) :=
    List.map_congr_left fun i hi => getRepr_eq_slice (List.mem_range.mp hi)
  rw [this, flatten_slices, size_mul h, List.take_length]

theorem getBit_take {B : Nat} (v : Bits) {i j m : Nat} (h : i * B + j < m) : getBit B (v.take m) i j = getBit B v i j := by
  simp [getBit, List.getD_eq_getElem?_getD, h]

theorem abs_take {B : Nat} (hB : 0 < B) {v : Bits} {n : Nat} (hn : n ≤ size B v) :
    abs B (v.take (n * B)) = (abs B v).take n := by
  have hlen : (v.take (n * B)).length = n * B :=
    List.length_take_of_le (Nat.le_trans (Nat.mul_le_mul_right B hn) (Nat.div_mul_le_self ..))
  unfold abs
  rw [size_of_length hB hlen, ← List.map_take, List.take_range, Nat.min_eq_left hn]
  exact List.map_congr_left fun i hi => getRepr_eq_map fun j hj => getBit_take v (addr_lt (List.mem_range.mp hi) hj)

theorem getBit_append_left {B : Nat} (v w : Bits) {i j : Nat} (h : i * B + j < v.length) :
    getBit B (v ++ w) i j = getBit B v i j := by
  unfold getBit
  rw [List.getD_eq_getElem?_getD, List.getElem?_append_left h, List.getD_eq_getElem?_getD]

theorem getBit_append_right {B : Nat} {v : Bits} (h : Inv B v) (w : Bits) (i j : Nat) :
    getBit B (v ++ w) (size B v + i) j = getBit B w i j := by
  unfold getBit
  rw [Nat.add_mul, size_mul h, Nat.add_assoc, List.getD_eq_getElem?_getD, List.getElem?_append_right (Nat.le_add_right ..),
    Nat.add_sub_cancel_left, List.getD_eq_getElem?_getD]

theorem abs_append {B : Nat} (hB : 0 < B) {v : Bits} (h : Inv B v) (w : Bits) : abs B (v ++ w) = abs B v ++ abs B w := by
  have hs : size B (v ++ w) = size B v + size B w := by
    show (v ++ w).length / B = size B v + w.length / B
    rw [List.length_append, ← size_mul h, Nat.mul_comm, Nat.mul_add_div hB]
  unfold abs
  rw [hs, List.range_add, List.map_append, List.map_map]
  exact congr
    (congrArg _ (List.map_congr_left fun i hi => getRepr_eq_map fun j hj =>
      getBit_append_left v w (block_in_range (List.mem_range.mp hi) hj)))
    (List.map_congr_left fun i _ => getRepr_eq_map fun j _ => getBit_append_right h w i j)

theorem abs_replicate {B : Nat} (hB : 0 < B) (k : Nat) (b : Bool) :
    abs B (List.replicate (k * B) b) = List.replicate k (List.replicate B b) := by
  unfold abs
  rw [size_of_length hB List.length_replicate]
  refine (List.map_congr_left fun i hi => (getRepr_eq_map fun j hj => ?_).trans (map_const_range B b)).trans (map_const_range k _)
  simp [getBit, List.getD_eq_getElem?_getD, addr_lt (List.mem_range.mp hi) hj]

theorem length_resize (B : Nat) (v : Bits) (n : Nat) (b : Bool) : (resize B v n b).length = n * B := by
  unfold resize
  split
  next hn => exact List.length_take_of_le hn
  next hn => rw [List.length_append, List.length_replicate, Nat.add_sub_cancel' (Nat.le_of_not_le hn)]

theorem resize_refines {B : Nat} (hB : 0 < B) {v : Bits} (h : Inv B v) (n : Nat) (b : Bool) :
    Inv B (resize B v n b) ∧
      abs B (resize B v n b) = if n ≤ (abs B v).length then (abs B v).take n
        else abs B v ++ List.replicate (n - (abs B v).length) (List.replicate B b) := by
  have hsz := size_mul h
  refine ⟨by unfold Inv; rw [length_resize]; exact Nat.mul_mod_left .., ?_⟩
  rw [abs_length]
  unfold resize
  by_cases hn : n ≤ size B v
  · rw [if_pos hn, if_pos (hsz ▸ Nat.mul_le_mul_right B hn)]
    exact abs_take hB hn
  · have hlt : ¬ n * B ≤ v.length := fun hle => hn (Nat.le_of_mul_le_mul_right (hsz ▸ hle) hB)
    rw [if_neg hn, if_neg hlt, ← hsz, ← Nat.sub_mul, abs_append hB h, abs_replicate hB]

theorem clear_refines (B : Nat) (v : Bits) : Inv B (clear v) ∧ abs B (clear v) = [] := by
  simp [Inv, clear, abs, size]

theorem assignAll_refines {B : Nat} (hB : 0 < B) {v : Bits} (h : Inv B v) (b : Bool) :
    Inv B (assignAll v b) ∧ abs B (assignAll v b) = (abs B v).map (fun _ => List.replicate B b) := by
  refine ⟨by unfold Inv assignAll; rw [List.length_replicate]; exact h, ?_⟩
  rw [assignAll, ← size_mul h, abs_replicate hB, List.map_const', abs_length]

theorem foldl_count {β : Type} (p : β → Bool) : ∀ (l : List β) (a : Nat),
    l.foldl (fun n j => n + (if p j then 1 else 0)) a = a + l.countP p
  | [], a => rfl
  | x :: t, a => by
    rw [List.foldl_cons, foldl_count p t, List.countP_cons, Nat.add_assoc, Nat.add_comm (List.countP p t)]

theorem countBlock_eq (B : Nat) (v : Bits) (i : Nat) : countBlock B v i = (getRepr B v i).countP (fun b => b) := by
  unfold countBlock getRepr
  rw [foldl_count (fun j => getBit B v i j), List.countP_map, Nat.zero_add]
  rfl

theorem count_eq {B : Nat} {v : Bits} (h : Inv B v) : count v = ((abs B v).map (List.countP (fun b => b))).sum := by
  rw [← List.countP_flatten, abs_flatten h]
  unfold count
  congr 1
  funext b; cases b <;> rfl

theorem countmasked_eq {B : Nat} (v : Bits) {j : Nat} (hj : j < B) :
    countmasked B v j = (abs B v).countP (fun blk => blk.getD j false) := by
  unfold countmasked abs
  rw [foldl_count (fun i => getBit B v i j), List.countP_map, Nat.zero_add]
  congr 1
  funext i
  exact (getD_getRepr v i hj).symm

theorem allBlock_eq (B : Nat) (v : Bits) (i : Nat) : allBlock B v i = (getRepr B v i).all (fun b => b) := by
  unfold allBlock getRepr
  rw [List.all_map]; rfl

theorem equalsBits_iff {B : Nat} (v : Bits) (i : Nat) {bs : Bits} (hb : bs.length = B) :
    equalsBits B v i bs = true ↔ getRepr B v i = bs := by
  unfold equalsBits
  rw [foldl_and (fun j => getBit B v i j == bs.getD j false), Bool.true_and, List.all_eq_true]
  constructor
  · intro h
    exact map_range_eq hb _ fun j hj => by simpa using h j (List.mem_range.mpr hj)
  · intro h j hj
    rw [← h, getD_getRepr v i (List.mem_range.mp hj)]
    exact beq_self_eq_true _

theorem bNot_getRepr (B : Nat) (v : Bits) (i : Nat) :
    (List.range B).map (fun j => !(getBit B v i j)) = bNot (getRepr B v i) := by
  unfold bNot getRepr; rw [List.map_map]; rfl

theorem set_getRepr {B : Nat} (v : Bits) (i : Nat) {j : Nat} (b : Bool) :
    (List.range B).map (fun j' => if j = j' then b else getBit B v i j') = (getRepr B v i).set j b := by
  refine List.ext_getElem (by rw [List.length_set, length_getRepr, List.length_map, List.length_range]) fun m _ _ => ?_
  rw [List.getElem_map, List.getElem_range, List.getElem_set]
  by_cases hjm : j = m
  · rw [if_pos hjm, if_pos hjm]
  · rw [if_neg hjm, if_neg hjm]
    simp only [getRepr, List.getElem_map, List.getElem_range]

theorem getD_zipWith {f : Bool → Bool → Bool} (a b : Bits) {j : Nat} (ha : j < a.length) (hb : j < b.length) :
    (List.zipWith f a b).getD j false = f (a.getD j false) (b.getD j false) := by
  simp [List.getD_eq_getElem?_getD, List.getElem?_zipWith, List.getElem?_eq_getElem ha, List.getElem?_eq_getElem hb]

theorem length_bShl (a : Bits) (n : Nat) : (bShl a n).length = a.length := by simp [bShl]
theorem length_bShr (a : Bits) (n : Nat) : (bShr a n).length = a.length := by simp [bShr]

theorem assignBits_spec {B : Nat} {v : Bits} {i : Nat} (hi : i < size B v) {x : Bits} (hx : x.length = B) :
    getRepr B (assignBits B v i x) i = x ∧ (∀ i', i ≠ i' → getRepr B (assignBits B v i x) i' = getRepr B v i') ∧
      size B (assignBits B v i x) = size B v :=
  have hu := writeLoop_upd v (fun j => x.getD j false) hi
  ⟨hu.getRepr_self.trans (map_getD_range hx), fun _ => hu.getRepr_other, hu.size_eq⟩

/-- Outside `i < size ∧ c` the specification of a proxy operation does nothing: it has the same guard `c`, or it addresses no
block, which is `modify` behind the end. -/
theorem modify_skipped {B : Nat} (v : Bits) {i : Nat} {c : Prop} [Decidable c] (op : Bits → Bits)
    (h : ¬ (i < size B v ∧ c)) : (if c then (abs B v).modify i op else abs B v) = abs B v := by
  split
  next hc => exact List.modify_eq_self (by rw [abs_length]; exact Nat.le_of_not_lt fun hi => h ⟨hi, hc⟩)
  next => rfl

/-- a proxy operation with precondition `i < size ∧ c` rewrites block `i` to `op` of the old block, and is skipped outside it -/
theorem guard_refines {B : Nat} {v v' : Bits} (h : Inv B v) {i : Nat} {c : Prop} [Decidable c] {g : Nat → Bool} {op : Bits → Bits}
    {ok : Bool} (hok : ok = true ↔ i < size B v ∧ c)
    (hu : i < size B v → c → BlockUpd B v v' i g B ∧ (List.range B).map g = op (getRepr B v i)) :
    Inv B (if ok = true then v' else v) ∧
      abs B (if ok = true then v' else v) = if c then (abs B v).modify i op else abs B v := by
  by_cases ho : ok = true
  · obtain ⟨hi, hc⟩ := hok.mp ho
    rw [if_pos ho, if_pos hc]
    exact (hu hi hc).1.refines h op (hu hi hc).2
  · rw [if_neg ho]
    exact ⟨h, (modify_skipped v op fun hc => ho (hok.mpr hc)).symm⟩

/-- the two shapes of `Op.ok` on a proxy operation (`x.length == B` unfolds to `decide (x.length = B)`) -/
theorem ok_and {p q : Prop} [Decidable p] [Decidable q] : (decide p && decide q) = true ↔ p ∧ q := by
  simp only [Bool.and_eq_true, decide_eq_true_eq]

theorem ok_true {p : Prop} [Decidable p] : decide p = true ↔ p ∧ True :=
  ⟨fun h => ⟨of_decide_eq_true h, trivial⟩, fun h => decide_eq_true h.1⟩

/-- the specification of `ref = otherRef` reads the other block by a `match`; on `abs` that is a test of the index -/
theorem specStep_assignRef (B : Nat) (v : Bits) (i k : Nat) : specStep B (abs B v) (.assignRef i k) =
    if k < size B v then (abs B v).modify i (fun _ => getRepr B v k) else abs B v := by
  show (match (abs B v)[k]? with | some x => _ | none => _) = _
  rw [abs_get]
  by_cases hk : k < size B v
  · rw [if_pos hk, if_pos hk]
  · rw [if_neg hk, if_neg hk]

theorem specStep_of_not_ok {B : Nat} {v : Bits} {o : Op} (hok : ¬ o.ok B v = true) :
    specStep B (abs B v) o = abs B v := by
  cases o with
  | resize | clear | assignAll => exact absurd rfl hok
  | setBlock i | resetBlock i | flipBlock i | assignBool i b | shl i n | shr i n =>
    exact modify_skipped (c := True) v _ fun hc => hok (ok_true.mpr hc)
  | setOne i j b | flipOne i j | assignBits i x | andBits i x | orBits i x | xorBits i x =>
    exact modify_skipped v _ fun hc => hok (ok_and.mpr hc)
  | assignRef i k => exact (specStep_assignRef B v i k).trans (modify_skipped v _ fun hc => hok (ok_and.mpr hc))

theorem step_refines {B : Nat} (hB : 0 < B) {v : Bits} (h : Inv B v) (o : Op) :
    Inv B (step B v o) ∧ abs B (step B v o) = specStep B (abs B v) o := by
  cases o with
  | resize n b => exact resize_refines hB h n b
  | clear => exact clear_refines B v
  | assignAll b => exact assignAll_refines hB h b
  | setBlock i | resetBlock i | assignBool i b =>
    exact guard_refines (c := True) h ok_true fun hi _ => ⟨writeLoop_upd v _ hi, map_const_range B _⟩
  | flipBlock i =>
    exact guard_refines (c := True) h ok_true fun hi _ =>
      ⟨loop_upd hi i (fun _ b => !b) (L := flipLoop B v i) rfl (fun _ => rfl) B (Nat.le_refl B), bNot_getRepr B v i⟩
  | setOne i j b => exact guard_refines h ok_and fun hi hj => ⟨setOne_upd v b hi hj, set_getRepr v i b⟩
  | flipOne i j =>
    exact guard_refines h ok_and fun hi hj => ⟨setOne_upd v _ hi hj, by rw [set_getRepr v i, getD_getRepr v i hj]⟩
  | assignBits i x => exact guard_refines h ok_and fun hi hx => ⟨writeLoop_upd v _ hi, map_getD_range hx⟩
  | andBits i x | orBits i x | xorBits i x =>
    exact guard_refines h ok_and fun hi hx => ⟨writeLoop_upd v _ hi,
      map_getD_range (List.length_zipWith.trans (by rw [length_getRepr, hx, Nat.min_self]))⟩
  | shl i n =>
    exact guard_refines (c := True) h ok_true fun hi _ =>
      ⟨writeLoop_upd v _ hi, map_getD_range ((length_bShl ..).trans (length_getRepr ..))⟩
  | shr i n =>
    exact guard_refines (c := True) h ok_true fun hi _ =>
      ⟨writeLoop_upd v _ hi, map_getD_range ((length_bShr ..).trans (length_getRepr ..))⟩
  | assignRef i k =>
    rw [specStep_assignRef]
    exact guard_refines h ok_and fun hi _ =>
      ⟨loop_upd hi k (fun _ b => b) (L := assignRefLoop B v i k) rfl (fun _ => rfl) B (Nat.le_refl B), rfl⟩

theorem run_refines {B : Nat} (hB : 0 < B) (ops : List Op) {v : Bits} (h : Inv B v) :
    Inv B (run B v ops) ∧ abs B (run B v ops) = specRun B (abs B v) ops :=
  foldl_refines (step := step B) (spec := specStep B) (P := Inv B) (abs := abs B) (fun o hv => step_refines hB hv o) ops h

/-- the number a `std::bitset` stands for (`to_ullong` for arbitrary width): bit `j` has weight `2^j` -/
def toNat : Bits → Nat
  | [] => 0
  | b :: t => (if b then 1 else 0) + 2 * toNat t

theorem toNat_eq_ofBoolListLE : ∀ a : Bits, toNat a = (BitVec.ofBoolListLE a).toNat
  | [] => rfl
  | b :: t => by
    rw [toNat, toNat_eq_ofBoolListLE t, BitVec.ofBoolListLE, BitVec.toNat_concat, Nat.add_comm, Nat.mul_comm]
    cases b <;> rfl

theorem testBit_toNat (a : Bits) (j : Nat) : (toNat a).testBit j = a.getD j false := by
  rw [toNat_eq_ofBoolListLE, BitVec.testBit_toNat, BitVec.getLsbD_ofBoolListLE]

theorem toNat_lt (a : Bits) : toNat a < 2 ^ a.length := toNat_eq_ofBoolListLE a ▸ BitVec.isLt _

theorem toNat_bShr (a : Bits) (n : Nat) : toNat (bShr a n) = toNat a / 2 ^ n := by
  rw [← Nat.shiftRight_eq_div_pow]
  apply Nat.eq_of_testBit_eq
  intro j
  rw [testBit_toNat, Nat.testBit_shiftRight, testBit_toNat, bShr, getD_map_range, Nat.add_comm]
  by_cases h : j < a.length
  · rw [decide_eq_true h, Bool.true_and]
  · rw [decide_eq_false h, Bool.false_and, getD_of_le (Nat.le_trans (Nat.le_of_not_lt h) (Nat.le_add_left ..))]

theorem toNat_bShl (a : Bits) (n : Nat) : toNat (bShl a n) = (toNat a * 2 ^ n) % 2 ^ a.length := by
  rw [← Nat.shiftLeft_eq]
  apply Nat.eq_of_testBit_eq
  intro j
  rw [testBit_toNat, Nat.testBit_mod_two_pow, Nat.testBit_shiftLeft, testBit_toNat, bShl, getD_map_range]
  congr 1
  by_cases h : n ≤ j
  · rw [if_pos h, decide_eq_true (show j ≥ n from h), Bool.true_and]
  · rw [if_neg h, decide_eq_false (show ¬ j ≥ n from h), Bool.false_and]

theorem toNat_bNot (a : Bits) : toNat (bNot a) = 2 ^ a.length - 1 - toNat a := by
  rw [Nat.sub_sub, Nat.add_comm 1]
  apply Nat.eq_of_testBit_eq
  intro j
  rw [testBit_toNat, Nat.testBit_two_pow_sub_succ (toNat_lt a), testBit_toNat, bNot]
  by_cases h : j < a.length
  · rw [decide_eq_true h, Bool.true_and, List.getD_eq_getElem?_getD, List.getElem?_map, List.getD_eq_getElem?_getD,
      List.getElem?_eq_getElem h]
    rfl
  · rw [decide_eq_false h, Bool.false_and, getD_of_le (by rw [List.length_map]; exact Nat.le_of_not_lt h)]

theorem getD_zipWith' (f : Bool → Bool → Bool) (hf : f false false = false) (a b : Bits) (hl : a.length = b.length) (j : Nat) :
    (List.zipWith f a b).getD j false = f (a.getD j false) (b.getD j false) := by
  by_cases h : j < a.length
  · exact getD_zipWith a b h (hl ▸ h)
  · have hge : a.length ≤ j := Nat.le_of_not_lt h
    have hz : (List.zipWith f a b).length ≤ j := by rw [List.length_zipWith, ← hl, Nat.min_self]; exact hge
    rw [getD_of_le hge, getD_of_le (hl ▸ hge : b.length ≤ j), getD_of_le hz, hf]

theorem toNat_zipWith {f : Bool → Bool → Bool} {g : Nat → Nat → Nat} (hf : f false false = false)
    (hg : ∀ x y j, (g x y).testBit j = f (x.testBit j) (y.testBit j)) {a b : Bits} (hl : a.length = b.length) :
    toNat (List.zipWith f a b) = g (toNat a) (toNat b) :=
  Nat.eq_of_testBit_eq fun j => by rw [testBit_toNat, hg, testBit_toNat, testBit_toNat, getD_zipWith' f hf a b hl]

/-! `getRepr` builds the `std::bitset<B>` bit by bit, which is exact for every `B`.  A conversion that passes through a
`W`-bit machine word (`to_ulong`/`to_ullong`, `bitset(unsigned long long)`; `W = 32, 64`) is exact precisely for
`B ≤ W` — the reason the differential run instantiates block sizes on both sides of 32, 64 and 128. -/

/-- `std::bitset<B>(n)` for a number of arbitrary size: bit `j` of the block is bit `j` of `n` -/
def ofNat (B n : Nat) : Bits := (List.range B).map n.testBit

theorem length_ofNat (B n : Nat) : (ofNat B n).length = B := by simp [ofNat]

theorem getD_ofNat (B n j : Nat) : (ofNat B n).getD j false = (decide (j < B) && n.testBit j) := by
  rw [ofNat, getD_map_range]

theorem ofNat_toNat (a : Bits) : ofNat a.length (toNat a) = a :=
  map_range_eq rfl _ fun j _ => testBit_toNat a j

theorem toNat_inj {a b : Bits} (hl : a.length = b.length) (h : toNat a = toNat b) : a = b := by
  rw [← ofNat_toNat a, ← ofNat_toNat b, hl, h]

theorem toNat_ofNat (B n : Nat) : toNat (ofNat B n) = n % 2 ^ B := by
  apply Nat.eq_of_testBit_eq
  intro j
  rw [testBit_toNat, getD_ofNat, Nat.testBit_mod_two_pow]

/-- the conversion of a block that passes through a `W`-bit machine word -/
def viaWord (W : Nat) (a : Bits) : Bits := ofNat a.length (toNat a % 2 ^ W)

theorem getD_viaWord (W : Nat) (a : Bits) (j : Nat) :
    (viaWord W a).getD j false = (decide (j < W) && a.getD j false) := by
  rw [viaWord, getD_ofNat, Nat.testBit_mod_two_pow, testBit_toNat]
  by_cases h : j < a.length
  · simp [h]
  · simp [h]

theorem viaWord_exact_iff (W B : Nat) : (∀ a : Bits, a.length = B → viaWord W a = a) ↔ B ≤ W := by
  constructor
  · intro h
    apply Nat.le_of_not_lt
    intro hlt
    have e := h (List.replicate B true) (by simp)
    have g := getD_viaWord W (List.replicate B true) W
    rw [e] at g
    have : (List.replicate B true).getD W false = true := by
      rw [List.getD_eq_getElem?_getD, List.getElem?_replicate]; simp [hlt]
    rw [this] at g
    simp at g
  · intro hle a ha
    have hlt : toNat a < 2 ^ W :=
      Nat.lt_of_lt_of_le (toNat_lt a) (Nat.pow_le_pow_right Nat.two_pos (ha ▸ hle))
    rw [viaWord, Nat.mod_eq_of_lt hlt, ofNat_toNat]

end DV.C11.BV
