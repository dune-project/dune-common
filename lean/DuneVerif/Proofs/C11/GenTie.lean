import DuneVerif.Gen.C11
import DuneVerif.Model.C11.ArrayList
/-!
C11 — the arithmetic ties between `Gen/C11.lean` (regenerated from arraylist.hh, bitsetvector.hh, reservedvector.hh and
iteratorfacades.hh by tools/translators/tr_c11.py on every run) and the formulas the hand-written models use.

A lemma carries the name of the generated definition it is about (`GenTie.alBegin` is about `Gen.alBegin`), says
`generated formula = model formula` for all arguments and is closed by a normalising tactic, so a rewrite of the source
that commutes or re-associates operands stays provable, while a rewrite that changes a value (for some argument) makes
the lemma false and the build of `Props/C11.lean` fail.  The facade definitions (`Gen.fac*`, `Gen.fwd*`) have no lemma
here: `gen_facade_refines` unfolds them.
-/
namespace DV.C11.GenTie
open DV.C11

/-- `generated = model` for `Nat`/`Int` formulas, up to commutativity / associativity, `x % n` spelled `x - x / n * n`
    and values the translator merged from several paths into an `if` -/
macro "tie_arith" : tactic =>
  `(tactic| first
    | rfl
    | omega
    | (simp only [Nat.add_comm, Nat.mul_comm, Nat.add_left_comm, Nat.mul_left_comm, Nat.add_assoc, Nat.mul_assoc, Nat.mod_mod]
       first | done | omega)
    | (simp only [Nat.mod_def, Nat.add_comm, Nat.mul_comm, Nat.add_left_comm, Nat.mul_left_comm, Nat.add_assoc, Nat.mul_assoc]
       first | done | omega)
    | (split <;> first | rfl | omega | grind)
    | grind)

/-- `generated condition ↔ model condition` (also when the translator merged several paths into an `if`): `==`, `!=`,
    `!`, `decide` are turned into propositions, the rest is linear arithmetic -/
macro "tie_cond" : tactic =>
  `(tactic| first
    | (simp only [beq_iff_eq, bne_iff_ne, ne_eq, decide_eq_true_eq, gt_iff_lt, ge_iff_le, Bool.not_eq_true',
        decide_eq_false_iff_not, beq_eq_false_iff_ne, Bool.not_eq_eq_eq_not, Bool.not_true, Nat.not_lt, Nat.not_le]
       first | done | omega | (constructor <;> intro h <;> omega))
    | (split <;> first
        | (simp only [beq_iff_eq, bne_iff_ne, ne_eq, decide_eq_true_eq, gt_iff_lt, ge_iff_le, Bool.not_eq_true',
            decide_eq_false_iff_not, beq_eq_false_iff_ne, Bool.not_eq_eq_eq_not, Bool.not_true, Nat.not_lt, Nat.not_le]
           first | done | omega)
        | (simp_all; first | done | omega)
        | grind)
    | grind)

theorem chunkSize (n : Int) : Gen.chunkSize n = AL.chunkSize n := by
  unfold Gen.chunkSize AL.chunkSize
  first | rfl | (split <;> split <;> omega)

theorem alElemChunk (N i : Nat) : Gen.alElemChunk N i = i / N := by unfold Gen.alElemChunk; tie_arith
theorem alElemOffset (N i : Nat) : Gen.alElemOffset N i = i % N := by unfold Gen.alElemOffset; tie_arith
theorem alElemChunkC (N i : Nat) : Gen.alElemChunkC N i = i / N := by unfold Gen.alElemChunkC; tie_arith
theorem alElemOffsetC (N i : Nat) : Gen.alElemOffsetC N i = i % N := by unfold Gen.alElemOffsetC; tie_arith
theorem alIndexArg (N st sz cap i : Nat) : Gen.alIndexArg N st sz cap i = st + i := by unfold Gen.alIndexArg; tie_arith
theorem alIndexArgC (N st sz cap i : Nat) : Gen.alIndexArgC N st sz cap i = st + i := by unfold Gen.alIndexArgC; tie_arith
theorem alBegin (N st sz cap : Nat) : Gen.alBegin N st sz cap = st := by unfold Gen.alBegin; tie_arith
theorem alBeginC (N st sz cap : Nat) : Gen.alBeginC N st sz cap = st := by unfold Gen.alBeginC; tie_arith
theorem alEnd (N st sz cap : Nat) : Gen.alEnd N st sz cap = st + sz := by unfold Gen.alEnd; tie_arith
theorem alEndC (N st sz cap : Nat) : Gen.alEndC N st sz cap = st + sz := by unfold Gen.alEndC; tie_arith
theorem alSize (N st sz cap : Nat) : Gen.alSize N st sz cap = sz := by unfold Gen.alSize; tie_arith

theorem itElemArg (N p i : Nat) : Gen.itElemArg N p i = p + i := by unfold Gen.itElemArg; tie_arith
theorem itElemArgC (N p i : Nat) : Gen.itElemArgC N p i = p + i := by unfold Gen.itElemArgC; tie_arith
theorem itDerefArg (N p : Nat) : Gen.itDerefArg N p = p := by unfold Gen.itDerefArg; tie_arith
theorem itDerefArgC (N p : Nat) : Gen.itDerefArgC N p = p := by unfold Gen.itDerefArgC; tie_arith
theorem itDistanceTo (p o : Int) : Gen.itDistanceTo p o = o - p := by unfold Gen.itDistanceTo; tie_arith
theorem itDistanceToC (p o : Int) : Gen.itDistanceToC p o = o - p := by unfold Gen.itDistanceToC; tie_arith
theorem itAdvance (p n : Int) : Gen.itAdvance p n = p + n := by unfold Gen.itAdvance; tie_arith
theorem itAdvanceC (p n : Int) : Gen.itAdvanceC p n = p + n := by unfold Gen.itAdvanceC; tie_arith
theorem itIncrement (p : Int) : Gen.itIncrement p = p + 1 := by unfold Gen.itIncrement; tie_arith
theorem itIncrementC (p : Int) : Gen.itIncrementC p = p + 1 := by unfold Gen.itIncrementC; tie_arith
theorem itDecrement (p : Int) : Gen.itDecrement p = p - 1 := by unfold Gen.itDecrement; tie_arith
theorem itDecrementC (p : Int) : Gen.itDecrementC p = p - 1 := by unfold Gen.itDecrementC; tie_arith
theorem itEquals (p o : Nat) : Gen.itEquals p o = true ↔ p = o := by unfold Gen.itEquals; tie_cond
theorem itEqualsM (p o : Nat) : Gen.itEqualsM p o = true ↔ p = o := by unfold Gen.itEqualsM; tie_cond
theorem itEqualsC (p o : Nat) : Gen.itEqualsC p o = true ↔ p = o := by unfold Gen.itEqualsC; tie_cond

theorem clearCapacity (N st sz cap : Nat) : Gen.clearCapacity N st sz cap = 0 := by unfold Gen.clearCapacity; tie_arith
theorem clearSize (N st sz cap : Nat) : Gen.clearSize N st sz cap = 0 := by unfold Gen.clearSize; tie_arith
theorem clearStart (N st sz cap : Nat) : Gen.clearStart N st sz cap = 0 := by unfold Gen.clearStart; tie_arith

theorem pushGrow (N st sz cap : Nat) : Gen.pushGrow N st sz cap = true ↔ st + sz = cap := by unfold Gen.pushGrow; tie_cond
theorem pushGrownCapacity (N st sz cap : Nat) : Gen.pushGrownCapacity N st sz cap = cap + N := by
  unfold Gen.pushGrownCapacity; tie_arith
theorem pushWriteIndex (N st sz cap : Nat) : Gen.pushWriteIndex N st sz cap = st + sz := by
  unfold Gen.pushWriteIndex; tie_arith
theorem pushSize (N st sz cap : Nat) : Gen.pushSize N st sz cap = sz + 1 := by unfold Gen.pushSize; tie_arith
theorem pushStart (N st sz cap : Nat) : Gen.pushStart N st sz cap = st := by unfold Gen.pushStart; tie_arith

theorem purgeCond (N st sz cap : Nat) : Gen.purgeCond N st sz cap = true ↔ st / N > 0 := by unfold Gen.purgeCond; tie_cond
theorem purgeCopyFrom (N st sz cap : Nat) : Gen.purgeCopyFrom N st sz cap = st / N := by unfold Gen.purgeCopyFrom; tie_arith
theorem purgeResize (N st sz cap : Nat) : Gen.purgeResize N st sz cap = (st % N + sz + N - 1) / N := by
  unfold Gen.purgeResize; tie_arith
theorem purgeCopyTo (N st sz cap : Nat) : Gen.purgeCopyTo N st sz cap = st / N + (st % N + sz + N - 1) / N := by
  unfold Gen.purgeCopyTo; tie_arith
theorem purgeStart (N st sz cap : Nat) : Gen.purgeStart N st sz cap = st % N := by unfold Gen.purgeStart; tie_arith
theorem purgeCapacity (N st sz cap : Nat) : Gen.purgeCapacity N st sz cap = (st % N + sz + N - 1) / N * N := by
  unfold Gen.purgeCapacity; tie_arith
theorem purgeSize (N st sz cap : Nat) : Gen.purgeSize N st sz cap = sz := by unfold Gen.purgeSize; tie_arith

theorem erasePos (N st sz cap p : Nat) : Gen.erasePos N st sz cap p = p + 1 := by unfold Gen.erasePos; tie_arith
theorem eraseSize (N st sz cap p : Nat) : Gen.eraseSize N st sz cap p = sz - (p + 1 - st) := by unfold Gen.eraseSize; tie_arith
theorem eraseStart (N st sz cap p : Nat) : Gen.eraseStart N st sz cap p = p + 1 := by unfold Gen.eraseStart; tie_arith
theorem eraseCapacity (N st sz cap p : Nat) : Gen.eraseCapacity N st sz cap p = cap := by unfold Gen.eraseCapacity; tie_arith
theorem eraseLoopFirst (N st sz cap p : Nat) : Gen.eraseLoopFirst N st sz cap p = (p + 1) / N := by
  unfold Gen.eraseLoopFirst; tie_arith
theorem eraseLoopCount (N st sz cap p : Nat) : Gen.eraseLoopCount N st sz cap p = (p + 1 - st + st % N) / N := by
  unfold Gen.eraseLoopCount; tie_arith

/-- `chunks_[c]->operator[](o)` as a read, with the two indices given separately -/
def readVia {α : Type} (cs : List (Option (List α))) (c o : Nat) : Option α :=
  match cs[c]? with
  | some (some ch) => ch[o]?
  | _ => none

theorem readAt_eq_readVia {α : Type} (N : Nat) (cs : List (Option (List α))) (i : Nat) :
    AL.readAt N cs i = readVia cs (i / N) (i % N) := rfl

theorem bvAddr (B i j : Nat) : Gen.bvAddr B i j = i * B + j := by unfold Gen.bvAddr; tie_arith
theorem bvAddrC (B i j : Nat) : Gen.bvAddrC B i j = i * B + j := by unfold Gen.bvAddrC; tie_arith
theorem bvCtorLen (B n : Nat) : Gen.bvCtorLen B n = n * B := by unfold Gen.bvCtorLen; tie_arith
theorem bvCtorLenV (B n : Nat) : Gen.bvCtorLenV B n = n * B := by unfold Gen.bvCtorLenV; tie_arith
theorem bvResizeLen (B n : Nat) : Gen.bvResizeLen B n = n * B := by unfold Gen.bvResizeLen; tie_arith
theorem bvSize (B len : Nat) : Gen.bvSize B len = len / B := by unfold Gen.bvSize; tie_arith
theorem bvCtorReject (B len : Nat) : Gen.bvCtorReject B len = true ↔ len % B ≠ 0 := by unfold Gen.bvCtorReject; tie_cond

theorem rvIndex (n sz i : Nat) : Gen.rvIndex n sz i = i := by unfold Gen.rvIndex; tie_arith
theorem rvIndexC (n sz i : Nat) : Gen.rvIndexC n sz i = i := by unfold Gen.rvIndexC; tie_arith
theorem rvFront (n sz : Nat) : Gen.rvFront n sz = 0 := by unfold Gen.rvFront; tie_arith
theorem rvFrontC (n sz : Nat) : Gen.rvFrontC n sz = 0 := by unfold Gen.rvFrontC; tie_arith
theorem rvBack (n sz : Nat) : Gen.rvBack n sz = sz - 1 := by unfold Gen.rvBack; tie_arith
theorem rvBackC (n sz : Nat) : Gen.rvBackC n sz = sz - 1 := by unfold Gen.rvBackC; tie_arith
theorem rvAtIndex (n sz i : Nat) : Gen.rvAtIndex n sz i = i := by unfold Gen.rvAtIndex; tie_arith
theorem rvAtIndexC (n sz i : Nat) : Gen.rvAtIndexC n sz i = i := by unfold Gen.rvAtIndexC; tie_arith
theorem rvSize (n sz : Nat) : Gen.rvSize n sz = sz := by unfold Gen.rvSize; tie_arith
theorem rvCapacity (n sz : Nat) : Gen.rvCapacity n sz = n := by unfold Gen.rvCapacity; tie_arith
theorem rvMaxSize (n sz : Nat) : Gen.rvMaxSize n sz = n := by unfold Gen.rvMaxSize; tie_arith
theorem rvClearSize (n sz : Nat) : Gen.rvClearSize n sz = 0 := by unfold Gen.rvClearSize; tie_arith
theorem rvResizeSize (n sz i : Nat) : Gen.rvResizeSize n sz i = i := by unfold Gen.rvResizeSize; tie_arith
theorem rvPushIndex (n sz : Nat) : Gen.rvPushIndex n sz = sz := by unfold Gen.rvPushIndex; tie_arith
theorem rvPushSize (n sz : Nat) : Gen.rvPushSize n sz = sz + 1 := by unfold Gen.rvPushSize; tie_arith
theorem rvPushRIndex (n sz : Nat) : Gen.rvPushRIndex n sz = sz := by unfold Gen.rvPushRIndex; tie_arith
theorem rvPushRSize (n sz : Nat) : Gen.rvPushRSize n sz = sz + 1 := by unfold Gen.rvPushRSize; tie_arith
theorem rvEmplaceIndex (n sz : Nat) : Gen.rvEmplaceIndex n sz = sz := by unfold Gen.rvEmplaceIndex; tie_arith
theorem rvEmplaceSize (n sz : Nat) : Gen.rvEmplaceSize n sz = sz + 1 := by unfold Gen.rvEmplaceSize; tie_arith
theorem rvPopSize (n sz : Nat) : Gen.rvPopSize n sz = sz - 1 := by unfold Gen.rvPopSize; tie_arith
theorem rvBeginOff (n sz : Nat) : Gen.rvBeginOff n sz = 0 := by unfold Gen.rvBeginOff; tie_arith
theorem rvBeginOffC (n sz : Nat) : Gen.rvBeginOffC n sz = 0 := by unfold Gen.rvBeginOffC; tie_arith
theorem rvCbeginOff (n sz : Nat) : Gen.rvCbeginOff n sz = 0 := by unfold Gen.rvCbeginOff; tie_arith
theorem rvEndOff (n sz : Nat) : Gen.rvEndOff n sz = sz := by unfold Gen.rvEndOff; tie_arith
theorem rvEndOffC (n sz : Nat) : Gen.rvEndOffC n sz = sz := by unfold Gen.rvEndOffC; tie_arith
theorem rvCendOff (n sz : Nat) : Gen.rvCendOff n sz = sz := by unfold Gen.rvCendOff; tie_arith
theorem rvRbeginOff (n sz : Nat) : Gen.rvRbeginOff n sz = sz := by unfold Gen.rvRbeginOff; tie_arith
theorem rvRbeginOffC (n sz : Nat) : Gen.rvRbeginOffC n sz = sz := by unfold Gen.rvRbeginOffC; tie_arith
theorem rvCrbeginOff (n sz : Nat) : Gen.rvCrbeginOff n sz = sz := by unfold Gen.rvCrbeginOff; tie_arith
theorem rvRendOff (n sz : Nat) : Gen.rvRendOff n sz = 0 := by unfold Gen.rvRendOff; tie_arith
theorem rvRendOffC (n sz : Nat) : Gen.rvRendOffC n sz = 0 := by unfold Gen.rvRendOffC; tie_arith
theorem rvCrendOff (n sz : Nat) : Gen.rvCrendOff n sz = 0 := by unfold Gen.rvCrendOff; tie_arith
theorem rvFillBound (n sz : Nat) : Gen.rvFillBound n sz = sz := by unfold Gen.rvFillBound; tie_arith
theorem rvFillIndex (n sz i : Nat) : Gen.rvFillIndex n sz i = i := by unfold Gen.rvFillIndex; tie_arith
theorem rvHashEnd (n sz : Nat) : Gen.rvHashEnd n sz = sz := by unfold Gen.rvHashEnd; tie_arith
theorem rvIndexCheck (n sz i : Nat) : Gen.rvIndexCheck n sz i = true ↔ i < sz := by unfold Gen.rvIndexCheck; tie_cond
theorem rvIndexCheckC (n sz i : Nat) : Gen.rvIndexCheckC n sz i = true ↔ i < sz := by unfold Gen.rvIndexCheckC; tie_cond
theorem rvFrontCheck (n sz : Nat) : Gen.rvFrontCheck n sz = true ↔ 0 < sz := by unfold Gen.rvFrontCheck; tie_cond
theorem rvFrontCheckC (n sz : Nat) : Gen.rvFrontCheckC n sz = true ↔ 0 < sz := by unfold Gen.rvFrontCheckC; tie_cond
theorem rvBackCheck (n sz : Nat) : Gen.rvBackCheck n sz = true ↔ 0 < sz := by unfold Gen.rvBackCheck; tie_cond
theorem rvBackCheckC (n sz : Nat) : Gen.rvBackCheckC n sz = true ↔ 0 < sz := by unfold Gen.rvBackCheckC; tie_cond
theorem rvAtThrow (n sz i : Nat) : Gen.rvAtThrow n sz i = true ↔ ¬ i < sz := by unfold Gen.rvAtThrow; tie_cond
theorem rvAtThrowC (n sz i : Nat) : Gen.rvAtThrowC n sz i = true ↔ ¬ i < sz := by unfold Gen.rvAtThrowC; tie_cond
theorem rvEmpty (n sz : Nat) : Gen.rvEmpty n sz = true ↔ sz = 0 := by unfold Gen.rvEmpty; tie_cond
theorem rvResizeCheck (n sz i : Nat) : Gen.rvResizeCheck n sz i = true ↔ i ≤ n := by unfold Gen.rvResizeCheck; tie_cond
theorem rvPushCheck (n sz : Nat) : Gen.rvPushCheck n sz = true ↔ sz < n := by unfold Gen.rvPushCheck; tie_cond
theorem rvPushRCheck (n sz : Nat) : Gen.rvPushRCheck n sz = true ↔ sz < n := by unfold Gen.rvPushRCheck; tie_cond
theorem rvEmplaceCheck (n sz : Nat) : Gen.rvEmplaceCheck n sz = true ↔ sz < n := by unfold Gen.rvEmplaceCheck; tie_cond
theorem rvPopCond (n sz : Nat) : Gen.rvPopCond n sz = true ↔ sz ≠ 0 := by unfold Gen.rvPopCond; tie_cond

end DV.C11.GenTie
