import DuneVerif.Model.C11.ArrayList
import DuneVerif.Proofs.C11.Basic
/-! The ArrayList refinement: reads and writes through (chunk, offset) addresses, the invariant under every
operation, the window `view` / `abs` after every operation, histories on one and on two lists (core Lean only). -/
namespace DV.C11.AL

variable {α : Type}

/-- The representation invariant of `ArrayList`: capacity is the allocated room, the live
    window lies inside it, chunks in front of the window are freed, chunks from the window on are present
    and full-sized. -/
structure Inv (N : Nat) (s : State α) : Prop where
  cap : s.capacity = N * s.chunks.length
  le : s.start + s.size ≤ s.capacity
  present : ∀ c, s.start / N ≤ c → c < s.chunks.length → ∃ l, s.chunks[c]? = some (some l) ∧ l.length = N
  freed : ∀ c, c < s.start / N → c < s.chunks.length → s.chunks[c]? = some none

theorem addr_inj {N i j : Nat} (hd : i / N = j / N) (hm : i % N = j % N) : i = j := by
  rw [← Nat.div_add_mod i N, ← Nat.div_add_mod j N, hd, hm]

/-- `freed_count_formula` of DESIGN.md section 5: the chunk count computed by `eraseToHere` is the number of chunks
    strictly in front of the new start that were not already in front of the old one. -/
theorem freed_count {N start pos : Nat} (h : start ≤ pos) :
    (pos - start + start % N) / N = pos / N - start / N := by
  have hm := Nat.div_add_mod start N
  have hle : N * (start / N) + start % N ≤ pos := Nat.le_trans (Nat.le_of_eq hm) h
  have h1 : pos - start + start % N = pos - N * (start / N) := by
    rw [← Nat.sub_add_cancel (Nat.le_sub_of_add_le' hle), ← Nat.sub_add_eq, hm]
  rw [h1, Nat.sub_mul_div_of_le]
  exact Nat.le_trans (Nat.le_add_right ..) hle

theorem ceil_le_iff {N : Nat} (hN : 0 < N) {X L : Nat} : (X + N - 1) / N ≤ L ↔ X ≤ N * L := by
  rw [Nat.div_le_iff_le_mul_add_pred hN, Nat.add_sub_assoc hN, Nat.add_le_add_iff_right]

theorem length_writeAt (N : Nat) (cs : List (Option (List α))) (i : Nat) (x : α) :
    (writeAt N cs i x).length = cs.length := List.length_modify ..

theorem getElem?_writeAt (N : Nat) (cs : List (Option (List α))) (i : Nat) (x : α) (c : Nat) :
    (writeAt N cs i x)[c]? = (cs[c]?).map (Option.map fun l => if i / N = c then l.set (i % N) x else l) := by
  unfold writeAt
  rw [List.getElem?_modify]
  rcases cs[c]? with _ | _ | l
  · rfl
  · exact congrArg some (ite_self _)
  · exact congrArg some (apply_ite some ..).symm

theorem readAt_writeAt_ne {N : Nat} (cs : List (Option (List α))) {i j : Nat} (x : α) (hne : j ≠ i) :
    readAt N (writeAt N cs i x) j = readAt N cs j := by
  unfold readAt
  rw [getElem?_writeAt]
  rcases cs[j / N]? with _ | _ | l
  · rfl
  · rfl
  · show (if i / N = j / N then l.set (i % N) x else l)[j % N]? = l[j % N]?
    split
    next hd => exact List.getElem?_set_ne fun hm => hne (addr_inj hd hm).symm
    next => rfl

theorem readAt_writeAt_eq {N : Nat} (cs : List (Option (List α))) {i : Nat} (x : α) :
    (readAt N cs i).isSome → readAt N (writeAt N cs i x) i = some x := by
  unfold readAt writeAt
  rw [List.getElem?_modify_eq]
  rcases cs[i / N]? with _ | _ | l
  · exact nofun
  · exact nofun
  · exact fun h => List.getElem?_set_self ((isSome_getElem? l _).mp h)

theorem readAt_append_lt {N : Nat} (cs t : List (Option (List α))) {j : Nat} (h : j / N < cs.length) :
    readAt N (cs ++ t) j = readAt N cs j := by
  unfold readAt
  rw [List.getElem?_append_left h]

theorem readAt_drop_take {N : Nat} (hN : 0 < N) (cs : List (Option (List α))) (q : Nat) {m j : Nat} (hj : j / N < m) :
    readAt N ((cs.drop q).take m) j = readAt N cs (j + N * q) := by
  unfold readAt
  rw [List.getElem?_take, if_pos hj, List.getElem?_drop, Nat.add_mul_div_left _ _ hN, Nat.add_mul_mod_self_left,
    Nat.add_comm q]

theorem Inv.elementAt_isSome {N : Nat} {s : State α} (hN : 0 < N) (h : Inv N s) {j : Nat}
    (h1 : s.start ≤ j) (h2 : j < s.capacity) : (elementAt N s j).isSome := by
  obtain ⟨l, hl, hlen⟩ := h.present _ (Nat.div_le_div_right h1) (Nat.div_lt_of_lt_mul (h.cap ▸ h2))
  unfold elementAt readAt
  rw [hl]
  exact (isSome_getElem? l _).mpr (hlen.symm ▸ Nat.mod_lt _ hN)

theorem Inv.write {N : Nat} {s : State α} (h : Inv N s) (i : Nat) (x : α) :
    Inv N { s with chunks := writeAt N s.chunks i x } := by
  refine ⟨by rw [length_writeAt]; exact h.cap, h.le, fun c h1 h2 => ?_, fun c h1 h2 => ?_⟩ <;>
    rw [length_writeAt] at h2 <;> rw [getElem?_writeAt]
  · obtain ⟨l, hl, hlen⟩ := h.present c h1 h2
    rw [hl]
    refine ⟨_, rfl, ?_⟩
    split
    · rw [List.length_set]; exact hlen
    · exact hlen
  · rw [h.freed c h1 h2]
    rfl

theorem view_length (N : Nat) (s : State α) : (view N s).length = s.size := by simp [view]

theorem getElem_view (N : Nat) (s : State α) (i : Nat) (hi : i < (view N s).length) :
    (view N s)[i] = elementAt N s (s.start + i) := by
  simp [view]

theorem view_eq_map_abs {N : Nat} {s : State α} (hN : 0 < N) (h : Inv N s) :
    view N s = (abs N s).map some := by
  have hv : ∀ o ∈ view N s, o.isSome := fun o ho => by
    obtain ⟨i, hi, rfl⟩ := List.mem_map.mp ho
    exact h.elementAt_isSome hN (Nat.le_add_right ..)
      (Nat.lt_of_lt_of_le (Nat.add_lt_add_left (List.mem_range.mp hi) _) h.le)
  unfold abs List.reduceOption
  rw [List.map_filterMap_some_eq_filter_map_isSome, List.map_id, List.filter_eq_self.mpr hv]

theorem abs_of_view {N : Nat} {s : State α} {l : List α} (h : view N s = l.map some) : abs N s = l := by
  unfold abs List.reduceOption
  rw [h, List.filterMap_map]
  exact List.filterMap_some

theorem Inv.grow {N : Nat} {s : State α} (h : Inv N s) (d : α) :
    Inv N { s with chunks := s.chunks ++ [some (List.replicate N d)], capacity := s.capacity + N } := by
  have hlen : (s.chunks ++ [some (List.replicate N d)]).length = s.chunks.length + 1 := by simp
  refine ⟨by rw [hlen, Nat.mul_succ, ← h.cap], Nat.le_add_right_of_le h.le, fun c h1 h2 => ?_, fun c h1 h2 => ?_⟩
  · rw [hlen] at h2
    by_cases hcl : c < s.chunks.length
    · rw [List.getElem?_append_left hcl]; exact h.present c h1 hcl
    · have hce : c = s.chunks.length := Nat.le_antisymm (Nat.le_of_lt_succ h2) (Nat.le_of_not_lt hcl)
      exact ⟨List.replicate N d, by simp [hce], List.length_replicate⟩
  · have hlt : c < s.chunks.length :=
      Nat.lt_of_lt_of_le h1 (Nat.div_le_of_le_mul (h.cap ▸ Nat.le_trans (Nat.le_add_right ..) h.le))
    rw [List.getElem?_append_left hlt]; exact h.freed c h1 hlt

theorem push_of_full {N : Nat} (d : α) {s : State α} (x : α) (hc : s.start + s.size = s.capacity) :
    push N d s x = { chunks := writeAt N (s.chunks ++ [some (List.replicate N d)]) (s.start + s.size) x,
                     capacity := s.capacity + N, size := s.size + 1, start := s.start } := by
  simp only [push, hc, if_true]

theorem push_of_room {N : Nat} (d : α) {s : State α} (x : α) (hc : ¬ s.start + s.size = s.capacity) :
    push N d s x = { s with chunks := writeAt N s.chunks (s.start + s.size) x, size := s.size + 1 } := by
  simp only [push, hc, if_false]

theorem push_size (N : Nat) (d : α) (s : State α) (x : α) : (push N d s x).size = s.size + 1 := by
  simp only [push]; split <;> rfl

theorem push_start (N : Nat) (d : α) (s : State α) (x : α) : (push N d s x).start = s.start := by
  simp only [push]; split <;> rfl

theorem endPos_push (N : Nat) (d : α) (s : State α) (x : α) : endPos (push N d s x) = endPos s + 1 := by
  unfold endPos; rw [push_start, push_size, Nat.add_assoc]

theorem elementAt_push_lt {N : Nat} (d : α) {s : State α} (h : Inv N s) (x : α) {j : Nat}
    (hj : j < s.start + s.size) : elementAt N (push N d s x) j = elementAt N s j := by
  by_cases hc : s.start + s.size = s.capacity
  · rw [push_of_full d x hc]
    exact (readAt_writeAt_ne _ _ (Nat.ne_of_lt hj)).trans
      (readAt_append_lt _ _ (Nat.div_lt_of_lt_mul (by rw [← h.cap, ← hc]; exact hj)))
  · rw [push_of_room d x hc]
    exact readAt_writeAt_ne _ _ (Nat.ne_of_lt hj)

theorem elementAt_push_end {N : Nat} (hN : 0 < N) (d : α) {s : State α} (h : Inv N s) (x : α) :
    elementAt N (push N d s x) (s.start + s.size) = some x := by
  by_cases hc : s.start + s.size = s.capacity
  · rw [push_of_full d x hc]
    exact readAt_writeAt_eq _ x
      ((h.grow d).elementAt_isSome hN (Nat.le_add_right ..) (hc ▸ Nat.lt_add_of_pos_right hN))
  · rw [push_of_room d x hc]
    exact readAt_writeAt_eq _ x (h.elementAt_isSome hN (Nat.le_add_right ..) (Nat.lt_of_le_of_ne h.le hc))

theorem view_push {N : Nat} (hN : 0 < N) (d : α) {s : State α} (h : Inv N s) (x : α) :
    view N (push N d s x) = view N s ++ [some x] := by
  unfold view
  rw [push_size, push_start, List.range_succ, List.map_append, List.map_singleton, elementAt_push_end hN d h x]
  congr 1
  apply List.map_congr_left
  intro i hi
  have := List.mem_range.mp hi
  exact elementAt_push_lt d h x (Nat.add_lt_add_left this _)

theorem inv_push {N : Nat} (hN : 0 < N) (d : α) {s : State α} (h : Inv N s) (x : α) : Inv N (push N d s x) := by
  by_cases hc : s.start + s.size = s.capacity
  · rw [push_of_full d x hc]
    exact { (h.grow d).write (s.start + s.size) x with le := hc ▸ Nat.lt_add_of_pos_right hN }
  · rw [push_of_room d x hc]
    exact { h.write (s.start + s.size) x with le := Nat.lt_of_le_of_ne h.le hc }

theorem inv_set {N : Nat} {s : State α} (h : Inv N s) (k : Nat) (x : α) : Inv N (set N s k x) :=
  h.write (s.start + k) x

theorem view_set {N : Nat} (hN : 0 < N) {s : State α} (h : Inv N s) {k : Nat} (hk : k < s.size) (x : α) :
    view N (set N s k x) = (view N s).set k (some x) := by
  have hr := h.elementAt_isSome hN (j := s.start + k) (Nat.le_add_right ..) (Nat.lt_of_lt_of_le (Nat.add_lt_add_left hk _) h.le)
  apply List.ext_getElem (by rw [List.length_set, view_length, view_length]; rfl)
  intro i _ _
  rw [getElem_view, List.getElem_set, getElem_view]
  split
  next hik => subst hik; exact readAt_writeAt_eq _ x hr
  next hik => exact readAt_writeAt_ne _ _ fun e => hik (Nat.add_left_cancel e).symm

theorem length_freeLoop (cs : List (Option (List α))) (pcs k : Nat) : (freeLoop cs pcs k).length = cs.length := by
  induction k generalizing cs pcs with
  | zero => rfl
  | succ k ih => simp [freeLoop, ih]

theorem getElem?_freeLoop (cs : List (Option (List α))) (lo k c : Nat) :
    (freeLoop cs (lo + k) k)[c]? = if lo ≤ c ∧ c < lo + k then (cs[c]?).map (fun _ => none) else cs[c]? := by
  induction k generalizing cs with
  | zero => rw [if_neg fun h => Nat.lt_irrefl _ (Nat.lt_of_le_of_lt h.1 h.2)]; rfl
  | succ k ih =>
    show (freeLoop (cs.set (lo + k) none) (lo + k) k)[c]? = _
    rw [ih]
    by_cases h1 : lo + k = c
    · subst h1
      rw [if_neg fun h => Nat.lt_irrefl _ h.2, if_pos ⟨Nat.le_add_right .., Nat.lt_succ_self _⟩, List.getElem?_set_self']
      rfl
    · rw [List.getElem?_set_ne h1]
      exact ite_congr (propext (and_congr_right' ⟨Nat.lt_succ_of_lt,
        fun h => Nat.lt_of_le_of_ne (Nat.le_of_lt_succ h) (Ne.symm h1)⟩)) (fun _ => rfl) (fun _ => rfl)

theorem getElem?_erase {N : Nat} (s : State α) {p : Nat} (hp : s.start ≤ p) (c : Nat) :
    (eraseToHere N s p).chunks[c]? =
      if s.start / N ≤ c ∧ c < (p + 1) / N then (s.chunks[c]?).map (fun _ => none) else s.chunks[c]? := by
  have hq : s.start / N ≤ (p + 1) / N := Nat.div_le_div_right (Nat.le_succ_of_le hp)
  show (freeLoop s.chunks ((p + 1) / N) ((p + 1 - s.start + s.start % N) / N))[c]? = _
  rw [freed_count (Nat.le_succ_of_le hp)]
  have := getElem?_freeLoop s.chunks (s.start / N) ((p + 1) / N - s.start / N) c
  rwa [Nat.add_sub_cancel' hq] at this

theorem elementAt_erase {N : Nat} (s : State α) {p j : Nat} (hp : s.start ≤ p) (hj : p + 1 ≤ j) :
    elementAt N (eraseToHere N s p) j = elementAt N s j := by
  unfold elementAt readAt
  rw [getElem?_erase s hp, if_neg fun h' => Nat.not_lt_of_le (Nat.div_le_div_right hj) h'.2]

theorem view_erase {N : Nat} (s : State α) {p : Nat} (hp : s.start ≤ p) :
    view N (eraseToHere N s p) = (view N s).drop (p + 1 - s.start) := by
  apply List.ext_getElem (by rw [List.length_drop, view_length, view_length]; rfl)
  intro i _ _
  rw [getElem_view, List.getElem_drop, getElem_view]
  show elementAt N (eraseToHere N s p) (p + 1 + i) = _
  rw [elementAt_erase s hp (Nat.le_add_right ..), ← Nat.add_assoc, Nat.add_sub_cancel' (Nat.le_succ_of_le hp)]

/-- `eraseToHere` moves the start of the window, not its end -/
theorem erase_end {st sz p : Nat} (h1 : st ≤ p) (h2 : p < st + sz) : p + 1 + (sz - (p + 1 - st)) = st + sz := by
  obtain ⟨q, (hq : p + 1 = st + q)⟩ := Nat.exists_eq_add_of_le (Nat.le_succ_of_le h1)
  have hqs : q ≤ sz := Nat.le_of_add_le_add_left (hq ▸ h2 : st + q ≤ st + sz)
  rw [hq, Nat.add_sub_cancel_left, Nat.add_assoc, Nat.add_sub_cancel' hqs]

theorem inv_erase {N : Nat} {s : State α} (h : Inv N s) {p : Nat} (hp : s.start ≤ p)
    (hp2 : p < s.start + s.size) : Inv N (eraseToHere N s p) := by
  have hlen : (eraseToHere N s p).chunks.length = s.chunks.length := length_freeLoop ..
  refine ⟨by rw [hlen]; exact h.cap, ?_, fun c h1 h2 => ?_, fun c h1 h2 => ?_⟩
  · exact Nat.le_trans (Nat.le_of_eq (erase_end hp hp2)) h.le
  · have h1 : (p + 1) / N ≤ c := h1
    rw [hlen] at h2
    rw [getElem?_erase s hp, if_neg fun h' => Nat.not_lt_of_le h1 h'.2]
    exact h.present c (Nat.le_trans (Nat.div_le_div_right (Nat.le_succ_of_le hp)) h1) h2
  · have h1 : c < (p + 1) / N := h1
    rw [hlen] at h2
    rw [getElem?_erase s hp]
    by_cases hlow : s.start / N ≤ c
    · obtain ⟨l, hl, _⟩ := h.present c hlow h2
      rw [if_pos ⟨hlow, h1⟩, hl]; rfl
    · rw [if_neg fun h' => hlow h'.1]
      exact h.freed c (Nat.lt_of_not_le hlow) h2

theorem purge_of_zero {N : Nat} {s : State α} (h : s.start / N = 0) : purge N s = s := by
  unfold purge; simp [h]

theorem purge_of_pos {N : Nat} {s : State α} (h : 0 < s.start / N) :
    purge N s = { chunks := (s.chunks.drop (s.start / N)).take ((s.start % N + s.size + N - 1) / N),
                  capacity := (s.start % N + s.size + N - 1) / N * N,
                  size := s.size, start := s.start % N } := by
  unfold purge; simp [h]

theorem purge_size (N : Nat) (s : State α) : (purge N s).size = s.size := by
  by_cases h : 0 < s.start / N
  · rw [purge_of_pos h]
  · rw [purge_of_zero (Nat.eq_zero_of_not_pos h)]

theorem purge_start (N : Nat) (s : State α) : (purge N s).start = s.start % N := by
  by_cases h : 0 < s.start / N
  · rw [purge_of_pos h]
  · have := Nat.div_add_mod s.start N
    rw [Nat.eq_zero_of_not_pos h, Nat.mul_zero, Nat.zero_add] at this
    rw [purge_of_zero (Nat.eq_zero_of_not_pos h)]
    exact this.symm

theorem elementAt_purge {N : Nat} (hN : 0 < N) {s : State α} {j : Nat}
    (hj : j / N < (s.start % N + s.size + N - 1) / N) :
    elementAt N (purge N s) j = elementAt N s (j + N * (s.start / N)) := by
  by_cases h : 0 < s.start / N
  · rw [purge_of_pos h]
    exact readAt_drop_take hN _ _ hj
  · have h0 : s.start / N = 0 := Nat.eq_zero_of_not_pos h
    rw [purge_of_zero h0, h0]
    rfl

theorem view_purge {N : Nat} (hN : 0 < N) (s : State α) : view N (purge N s) = view N s := by
  unfold view
  rw [purge_size, purge_start]
  apply List.map_congr_left
  intro i hi
  rw [elementAt_purge hN, Nat.add_right_comm, Nat.add_comm (s.start % N), Nat.div_add_mod]
  exact Nat.div_lt_of_lt_mul (Nat.lt_of_lt_of_le (Nat.add_lt_add_left (List.mem_range.mp hi) _)
    ((ceil_le_iff hN).mp (Nat.le_refl _)))

theorem inv_purge {N : Nat} (hN : 0 < N) {s : State α} (h : Inv N s) : Inv N (purge N s) := by
  by_cases hd : 0 < s.start / N
  · -- the chunks needed by the live window fit behind the first `start / N` ones
    have hfit : (s.start % N + s.size + N - 1) / N ≤ s.chunks.length - s.start / N := by
      rw [ceil_le_iff hN, Nat.mul_sub, ← h.cap]
      apply Nat.le_sub_of_add_le
      rw [Nat.add_right_comm, Nat.add_comm (s.start % N), Nat.div_add_mod]
      exact h.le
    have hlen : ((s.chunks.drop (s.start / N)).take ((s.start % N + s.size + N - 1) / N)).length =
        (s.start % N + s.size + N - 1) / N :=
      List.length_take_of_le (by rw [List.length_drop]; exact hfit)
    rw [purge_of_pos hd]
    refine ⟨by rw [hlen, Nat.mul_comm], ?_, fun c _ h2 => ?_, fun c h1 _ => ?_⟩
    · rw [Nat.mul_comm]
      exact (ceil_le_iff hN).mp (Nat.le_refl _)
    · have hc : c < (s.start % N + s.size + N - 1) / N := hlen ▸ h2
      rw [List.getElem?_take, if_pos hc, List.getElem?_drop]
      exact h.present _ (Nat.le_add_right ..) (Nat.add_lt_of_lt_sub' (Nat.lt_of_lt_of_le hc hfit))
    · rw [show s.start % N / N = 0 from Nat.div_eq_of_lt (Nat.mod_lt _ hN)] at h1
      exact absurd h1 (Nat.not_lt_zero c)
  · rw [purge_of_zero (Nat.eq_zero_of_not_pos hd)]; exact h

theorem inv_empty (N : Nat) : Inv N (empty : State α) :=
  ⟨rfl, Nat.le_refl _, fun _ _ h2 => (nomatch h2), fun _ _ h2 => (nomatch h2)⟩

theorem inv_clear (N : Nat) (s : State α) : Inv N (clear s) := inv_empty N

theorem abs_length {N : Nat} {s : State α} (hN : 0 < N) (h : Inv N s) : (abs N s).length = s.size := by
  have := congrArg List.length (view_eq_map_abs hN h)
  rw [view_length, List.length_map] at this
  exact this.symm

theorem abs_push {N : Nat} (hN : 0 < N) (d : α) {s : State α} (h : Inv N s) (x : α) :
    abs N (push N d s x) = abs N s ++ [x] := by
  apply abs_of_view
  rw [view_push hN d h x, view_eq_map_abs hN h, List.map_append, List.map_singleton]

theorem abs_erase {N : Nat} (hN : 0 < N) {s : State α} (h : Inv N s) {p : Nat} (hp : s.start ≤ p) :
    abs N (eraseToHere N s p) = (abs N s).drop (p + 1 - s.start) := by
  apply abs_of_view
  rw [view_erase s hp, view_eq_map_abs hN h, List.map_drop]

theorem abs_purge {N : Nat} (hN : 0 < N) (s : State α) : abs N (purge N s) = abs N s := by
  unfold abs; rw [view_purge hN s]

theorem abs_set {N : Nat} (hN : 0 < N) {s : State α} (h : Inv N s) {k : Nat} (hk : k < s.size) (x : α) :
    abs N (set N s k x) = (abs N s).set k x := by
  apply abs_of_view
  rw [view_set hN h hk x, view_eq_map_abs hN h, List.map_set]

theorem abs_clear (N : Nat) (s : State α) : abs N (clear s) = [] := rfl

theorem get_eq_abs {N : Nat} {s : State α} (hN : 0 < N) (h : Inv N s) {i : Nat} (hi : i < s.size) :
    get N s i = (abs N s)[i]? := by
  have h1 := getElem_view N s i (by rw [view_length]; exact hi)
  simp only [view_eq_map_abs hN h, List.getElem_map] at h1
  rw [List.getElem?_eq_getElem (by rw [abs_length hN h]; exact hi)]
  exact h1.symm

theorem step_refines {N : Nat} (hN : 0 < N) (d : α) {s : State α} (h : Inv N s) (o : Op α) :
    Inv N (step N d s o) ∧ abs N (step N d s o) = specStep (abs N s) o := by
  have hlen := abs_length hN h
  unfold step
  by_cases hok : o.ok s = true
  · rw [if_pos hok]
    cases o with
    | push x => exact ⟨inv_push hN d h x, abs_push hN d h x⟩
    | purge => exact ⟨inv_purge hN h, abs_purge hN s⟩
    | clear => exact ⟨inv_clear N s, rfl⟩
    | set k x => exact ⟨inv_set h k x, abs_set hN h (of_decide_eq_true hok) x⟩
    | erase k =>
      have hk : k < s.size := of_decide_eq_true hok
      refine ⟨inv_erase h (Nat.le_add_right ..) (Nat.add_lt_add_left hk _), (abs_erase hN h (Nat.le_add_right ..)).trans ?_⟩
      rw [Nat.add_assoc, Nat.add_sub_cancel_left]
      exact (if_pos (hlen ▸ hk)).symm
  · rw [if_neg hok]
    refine ⟨h, ?_⟩
    cases o with
    | push | purge | clear => exact absurd rfl hok
    | erase k => exact (if_neg fun hk => hok (decide_eq_true (hlen ▸ hk))).symm
    | set k x => exact (List.set_eq_of_length_le (hlen ▸ Nat.le_of_not_lt fun hk => hok (decide_eq_true hk))).symm

theorem run_refines {N : Nat} (hN : 0 < N) (d : α) (ops : List (Op α)) {s : State α} (h : Inv N s) :
    Inv N (run N d s ops) ∧ abs N (run N d s ops) = specRun (abs N s) ops :=
  foldl_refines (step := step N d) (spec := specStep) (P := Inv N) (abs := abs N) (fun o hs => step_refines hN d hs o) ops h

theorem copy_eq (s : State α) : copy s = s := by
  cases s
  simp [copy]

theorem copy_refines {N : Nat} {o : State α} (ho : Inv N o) : Inv N (copy o) ∧ abs N (copy o) = abs N o := by
  rw [copy_eq]; exact ⟨ho, rfl⟩

theorem step2_refines {N : Nat} (hN : 0 < N) (d : α) {w : World α} (h : Inv N w.a ∧ Inv N w.b) (o : Op2 α) :
    (Inv N (step2 N d w o).a ∧ Inv N (step2 N d w o).b) ∧
      (abs N (step2 N d w o).a, abs N (step2 N d w o).b) = specStep2 (abs N w.a, abs N w.b) o := by
  rcases o with ⟨_ | _, o⟩ | ⟨_ | _⟩ | ⟨_ | _⟩
  · exact ⟨⟨(step_refines hN d h.1 o).1, h.2⟩, congrArg (fun l => (l, abs N w.b)) (step_refines hN d h.1 o).2⟩
  · exact ⟨⟨h.1, (step_refines hN d h.2 o).1⟩, congrArg (fun l => (abs N w.a, l)) (step_refines hN d h.2 o).2⟩
  · exact ⟨⟨(copy_refines h.2).1, h.2⟩, congrArg (fun l => (l, abs N w.b)) (copy_refines h.2).2⟩
  · exact ⟨⟨h.1, (copy_refines h.1).1⟩, congrArg (fun l => (abs N w.a, l)) (copy_refines h.1).2⟩
  · exact ⟨h, rfl⟩
  · exact ⟨h, rfl⟩

theorem run2_refines {N : Nat} (hN : 0 < N) (d : α) (ops : List (Op2 α)) {w : World α} (h : Inv N w.a ∧ Inv N w.b) :
    (Inv N (run2 N d w ops).a ∧ Inv N (run2 N d w ops).b) ∧
      (abs N (run2 N d w ops).a, abs N (run2 N d w ops).b) = specRun2 (abs N w.a, abs N w.b) ops :=
  foldl_refines (P := fun w : World α => Inv N w.a ∧ Inv N w.b) (abs := fun w => (abs N w.a, abs N w.b))
    (fun o hw => step2_refines hN d hw o) ops h

def pushAll (N : Nat) (d : α) (s : State α) (xs : List α) : State α := xs.foldl (push N d) s

theorem pushAll_eq_run (N : Nat) (d : α) (s : State α) (xs : List α) :
    pushAll N d s xs = run N d s (xs.map .push) := by
  unfold pushAll run; rw [List.foldl_map]; rfl

theorem abs_pushAll {N : Nat} (hN : 0 < N) (d : α) {s : State α} (h : Inv N s) (xs : List α) :
    abs N (pushAll N d s xs) = abs N s ++ xs := by
  rw [pushAll_eq_run, (run_refines hN d _ h).2, specRun, List.foldl_map]
  exact foldl_concat xs _

theorem pushAll_stable {N : Nat} (hN : 0 < N) (d : α) (xs : List α) : ∀ {s : State α}, Inv N s →
    (pushAll N d s xs).start = s.start ∧ endPos (pushAll N d s xs) = endPos s + xs.length ∧
      ∀ p, p < endPos s → elementAt N (pushAll N d s xs) p = elementAt N s p := by
  induction xs with
  | nil => intro s h; exact ⟨rfl, rfl, fun _ _ => rfl⟩
  | cons x t ih =>
    intro s h
    obtain ⟨i2, i3, i4⟩ := ih (inv_push hN d h x)
    rw [endPos_push] at i3 i4
    exact ⟨i2.trans (push_start ..), by rw [List.length_cons, Nat.add_comm t.length, ← Nat.add_assoc]; exact i3,
      fun p hp => (i4 p (Nat.lt_succ_of_lt hp)).trans (elementAt_push_lt d h x hp)⟩

end DV.C11.AL
