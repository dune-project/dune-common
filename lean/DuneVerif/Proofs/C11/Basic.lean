/-! Facts shared by the C11 containers: simulation along an operation history (`List.foldl`), a history of appends,
and lists whose elements are told apart by a projection (node ids, keys). Core Lean only. -/
namespace DV.C11

theorem foldl_refines {σ τ ω : Type} {step : σ → ω → σ} {spec : τ → ω → τ} {P : σ → Prop} {abs : σ → τ}
    (h : ∀ {s} o, P s → P (step s o) ∧ abs (step s o) = spec (abs s) o) (ops : List ω) {s : σ} (hs : P s) :
    P (ops.foldl step s) ∧ abs (ops.foldl step s) = ops.foldl spec (abs s) :=
  List.foldl_rel (r := fun s t => P s ∧ abs s = t) ⟨hs, rfl⟩ fun o _ _ _ ⟨hp, e⟩ => e ▸ h o hp

theorem foldl_concat {α : Type} : ∀ (ys l : List α), ys.foldl (fun l x => l ++ [x]) l = l ++ ys := by
  intro ys
  induction ys with
  | nil => exact fun l => (List.append_nil l).symm
  | cons _ _ ih => exact fun _ => (ih _).trans (List.append_assoc ..)

theorem not_mem_map_of_lt {α : Type} {f : α → Nat} {l : List α} {n : Nat} (h : ∀ x ∈ l, f x < n) : n ∉ l.map f :=
  fun hm => Nat.lt_irrefl n (List.forall_mem_map (P := (· < n)).mpr h n hm)

theorem inj_of_nodup_map {α β : Type} {f : α → β} {l : List α} (h : (l.map f).Nodup) {a b : α}
    (ha : a ∈ l) (hb : b ∈ l) (hf : f a = f b) : a = b :=
  have hp : l.Pairwise fun a b => f a ≠ f b := List.pairwise_map.mp h
  List.Pairwise.forall_of_forall_of_flip (R := fun a b => f a = f b → a = b) (fun _ _ _ => rfl)
    (hp.imp fun hne he => absurd he hne) (hp.imp fun hne he => absurd he.symm hne) ha hb hf

theorem filter_eq_singleton {α β : Type} [DecidableEq β] {f : α → β} {l : List α} (h : (l.map f).Nodup) {a : α}
    (ha : a ∈ l) : l.filter (fun b => f b == f a) = [a] :=
  -- the filter has as many elements as `f a` occurs in `l.map f`, and `a` is one of them
  have hl : (l.filter fun b => f b == f a).length = 1 :=
    List.countP_eq_length_filter.symm.trans <| (List.countP_map (p := (· == f a))).symm.trans <|
      h.count.trans (if_pos (List.mem_map_of_mem ha))
  have hm : a ∈ l.filter fun b => f b == f a := List.mem_filter.mpr ⟨ha, beq_self_eq_true _⟩
  ((List.singleton_sublist.mpr hm).eq_of_length hl.symm).symm

theorem find?_of_nodup_map {α β : Type} [DecidableEq β] {f : α → β} {l : List α} (h : (l.map f).Nodup) {a : α}
    (ha : a ∈ l) : l.find? (fun b => f b == f a) = some a := by
  rw [← List.head?_filter, filter_eq_singleton h ha]
  rfl

theorem perm_cons_filter_ne {α β : Type} [DecidableEq β] {f : α → β} {l : List α} (h : (l.map f).Nodup) {a : α}
    (ha : a ∈ l) : (a :: l.filter (fun b => !(f b == f a))).Perm l := by
  have hp := List.filter_append_perm (fun b => f b == f a) l
  rwa [filter_eq_singleton h ha] at hp

end DV.C11
