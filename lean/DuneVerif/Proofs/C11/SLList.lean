import DuneVerif.Model.C11.SLList
import DuneVerif.Proofs.C11.Basic
/-! The SLList refinement: pointers are located in the chain by their chain position (`ptrBefore`, `ptrOfIdx`),
every mutator is an insertion or removal at a position (`List.insertIdx`, `List.eraseIdx`, so that where a pointer
stands afterwards is read off core's `getElem?` lemmas), a modify iterator is a position (core Lean only). -/
namespace DV.C11.SL

variable {α : Type}

/-- pointer to the element in front of chain position `j` (the sentinel for `j = 0`) -/
def ptrBefore (nodes : List (Nat × α)) : Nat → Ptr
  | 0 => .head
  | j + 1 => ptrOfIdx nodes j

/-- pointer to the last element, the sentinel for the empty chain -/
def lastPtr (nodes : List (Nat × α)) : Ptr :=
  match nodes.getLast? with
  | some nd => .node nd.1
  | none => .head

/-- representation invariant: element identities are distinct and older than the allocator counter,
    `tail_` names the last element (the sentinel iff the list is empty), `size_` is the chain length -/
structure Inv (s : State α) : Prop where
  ids : (s.nodes.map (·.1)).Nodup
  fresh : ∀ nd ∈ s.nodes, nd.1 < s.fresh
  tail : s.tail = lastPtr s.nodes
  size : s.size = s.nodes.length

theorem length_items (s : State α) : (items s).length = s.nodes.length := List.length_map ..

theorem idxOf_getElem {nodes : List (Nat × α)} (hn : (nodes.map (·.1)).Nodup) {j : Nat} {nd : Nat × α}
    (h : nodes[j]? = some nd) : idxOf nodes nd.1 = some j := by
  obtain ⟨hj, rfl⟩ := List.getElem?_eq_some_iff.mp h
  refine List.findIdx?_eq_some_iff_getElem.mpr ⟨hj, beq_self_eq_true _, fun i hij hp => ?_⟩
  exact List.pairwise_iff_getElem.mp (List.pairwise_map.mp hn) i j (Nat.lt_trans hij hj) hj hij (beq_iff_eq.mp hp)

theorem idxOf_some {nodes : List (Nat × α)} {id j : Nat} (h : idxOf nodes id = some j) :
    ∃ nd, nodes[j]? = some nd ∧ nd.1 = id := by
  obtain ⟨hj, hp, _⟩ := List.findIdx?_eq_some_iff_getElem.mp h
  exact ⟨nodes[j], List.getElem?_eq_getElem hj, beq_iff_eq.mp hp⟩

theorem ptrOfIdx_of_get {nodes : List (Nat × α)} {j : Nat} {nd : Nat × α} (h : nodes[j]? = some nd) :
    ptrOfIdx nodes j = .node nd.1 := by simp [ptrOfIdx, h]

theorem ptrOfIdx_of_ge {nodes : List (Nat × α)} {j : Nat} (h : nodes.length ≤ j) : ptrOfIdx nodes j = .null := by
  simp [ptrOfIdx, List.getElem?_eq_none h]

theorem ptrOfIdx_ne_null_iff {nodes : List (Nat × α)} {j : Nat} : ptrOfIdx nodes j ≠ .null ↔ j < nodes.length := by
  by_cases h : j < nodes.length
  · simp [ptrOfIdx, h]
  · simp [ptrOfIdx_of_ge (Nat.le_of_not_lt h), h]

theorem ptrOfIdx_congr {l l' : List (Nat × α)} {i i' : Nat} (h : l[i]? = l'[i']?) : ptrOfIdx l i = ptrOfIdx l' i' := by
  unfold ptrOfIdx; rw [h]

theorem posAfter_ptrBefore {nodes : List (Nat × α)} (hn : (nodes.map (·.1)).Nodup) {j : Nat} (hj : j ≤ nodes.length) :
    posAfter nodes (ptrBefore nodes j) = some j := by
  cases j with
  | zero => rfl
  | succ j =>
    have hlt : j < nodes.length := hj
    have hg : nodes[j]? = some nodes[j] := List.getElem?_eq_getElem hlt
    simp only [ptrBefore, ptrOfIdx_of_get hg, posAfter, idxOf_getElem hn hg, Option.map_some]

theorem ptrBefore_inj {nodes : List (Nat × α)} (hn : (nodes.map (·.1)).Nodup) {a b : Nat} (ha : a ≤ nodes.length)
    (hb : b ≤ nodes.length) (h : ptrBefore nodes a = ptrBefore nodes b) : a = b :=
  Option.some.inj ((posAfter_ptrBefore hn ha).symm.trans ((congrArg _ h).trans (posAfter_ptrBefore hn hb)))

theorem posAfter_some {nodes : List (Nat × α)} {p : Ptr} {j : Nat} (h : posAfter nodes p = some j) :
    p = ptrBefore nodes j ∧ j ≤ nodes.length := by
  cases p with
  | head => cases h; exact ⟨rfl, Nat.zero_le _⟩
  | null => cases h
  | node id =>
    obtain ⟨j', hi, rfl⟩ := Option.map_eq_some_iff.mp h
    obtain ⟨nd, h1, rfl⟩ := idxOf_some hi
    exact ⟨(ptrOfIdx_of_get h1).symm, (List.getElem?_eq_some_iff.mp h1).1⟩

theorem next_ptrBefore {s : State α} (hn : (s.nodes.map (·.1)).Nodup) (j : Nat) :
    next s (ptrBefore s.nodes j) = ptrOfIdx s.nodes j := by
  by_cases hj : j ≤ s.nodes.length
  · simp [next, posAfter_ptrBefore hn hj]
  · -- behind the end both pointers are null
    cases j with
    | zero => exact absurd (Nat.zero_le _) hj
    | succ i =>
      have hi := Nat.le_of_lt_succ (Nat.lt_of_not_le hj)
      rw [ptrBefore, ptrOfIdx_of_ge hi, ptrOfIdx_of_ge (Nat.le_succ_of_le hi)]
      rfl

theorem ptrAt_eq {s : State α} (hn : (s.nodes.map (·.1)).Nodup) : ∀ k, ptrAt s k = ptrOfIdx s.nodes k
  | 0 => next_ptrBefore hn 0
  | k + 1 => by rw [ptrAt, ptrAt_eq hn k]; exact next_ptrBefore hn (k + 1)

theorem lastPtr_eq (nodes : List (Nat × α)) : lastPtr nodes = ptrBefore nodes nodes.length := by
  unfold lastPtr
  rw [List.getLast?_eq_getElem?]
  cases nodes with
  | nil => rfl
  | cons x t =>
    have hlt : t.length < (x :: t).length := by simp
    simp only [List.length_cons, Nat.add_sub_cancel, ptrBefore, ptrOfIdx]
    rw [List.getElem?_eq_getElem hlt]

theorem item_ptrOfIdx {s : State α} (hn : (s.nodes.map (·.1)).Nodup) (j : Nat) :
    item s (ptrOfIdx s.nodes j) = (items s)[j]? := by
  unfold items
  rw [List.getElem?_map]
  cases hg : s.nodes[j]? with
  | none => simp [ptrOfIdx, hg, item]
  | some nd =>
    rw [ptrOfIdx_of_get hg, item, List.find?_eq_bind_findIdx?_getElem?, show List.findIdx? _ s.nodes = some j from
      idxOf_getElem hn hg, Option.bind_some, hg]

theorem insertIdx_eq_take_drop {β : Type} (x : β) : ∀ {j : Nat} {l : List β}, j ≤ l.length →
    l.insertIdx j x = l.take j ++ x :: l.drop j
  | 0, _, _ => rfl
  | _ + 1, [], h => nomatch h
  | _ + 1, a :: _, h => congrArg (a :: ·) (insertIdx_eq_take_drop x (Nat.le_of_succ_le_succ h))

theorem ptrBefore_congr {l l' : List (Nat × α)} {j : Nat} (h : ∀ i < j, l[i]? = l'[i]?) :
    ptrBefore l j = ptrBefore l' j := by
  cases j with
  | zero => rfl
  | succ j => exact ptrOfIdx_congr (h j (Nat.lt_succ_self j))

theorem lastPtr_insertIdx {nodes : List (Nat × α)} {j : Nat} (hj : j ≤ nodes.length) (nd : Nat × α) :
    lastPtr (nodes.insertIdx j nd) = if j ≥ nodes.length then .node nd.1 else lastPtr nodes := by
  rw [lastPtr_eq, lastPtr_eq, List.length_insertIdx_of_le_length hj]
  split
  · next h =>
    obtain rfl := Nat.le_antisymm hj h
    exact ptrOfIdx_of_get (List.getElem?_insertIdx_self.trans (if_pos (Nat.le_refl _)))
  · next h =>
    -- inserted in front of the last element, which moves up by one
    obtain ⟨k, hk⟩ := Nat.exists_eq_add_one_of_ne_zero (Nat.ne_of_gt (Nat.zero_lt_of_lt (Nat.lt_of_not_le h)))
    rw [hk]
    exact ptrOfIdx_congr (List.getElem?_insertIdx_of_gt (hk ▸ Nat.lt_of_not_le h))

/-- the tail rule of `deleteNext`: the last element changes exactly when the old last element is the one removed -/
theorem lastPtr_eraseIdx {nodes : List (Nat × α)} (hn : (nodes.map (·.1)).Nodup) {j : Nat} (hj : j < nodes.length) :
    lastPtr (nodes.eraseIdx j) =
      if lastPtr nodes == ptrBefore nodes (j + 1) then ptrBefore nodes j else lastPtr nodes := by
  obtain ⟨k, hk⟩ := Nat.exists_eq_add_one_of_ne_zero (Nat.ne_of_gt (Nat.zero_lt_of_lt hj))
  rw [lastPtr_eq, lastPtr_eq, List.length_eraseIdx_of_lt hj, hk, Nat.add_sub_cancel]
  rcases Nat.lt_or_eq_of_le (Nat.le_of_lt_succ (hk ▸ hj)) with hlt | rfl
  · -- an inner element goes: the last one is another element (positions are told apart) and moves down by one
    rw [if_neg fun hb => Nat.ne_of_gt hlt
      (Nat.succ.inj (ptrBefore_inj hn (Nat.le_of_eq hk.symm) hj (beq_iff_eq.mp hb)))]
    cases k with
    | zero => exact absurd hlt (Nat.not_lt_zero j)
    | succ k => exact ptrOfIdx_congr (List.getElem?_eraseIdx_of_ge (Nat.le_of_lt_succ hlt))
  · rw [if_pos (beq_self_eq_true _)]
    exact ptrBefore_congr fun _ hi => List.getElem?_eraseIdx_of_lt hi

theorem inv_empty : Inv (empty : State α) := ⟨by simp [empty], by simp [empty], rfl, rfl⟩

theorem posAfter_tail {s : State α} (h : Inv s) : posAfter s.nodes s.tail = some s.nodes.length := by
  rw [h.tail, lastPtr_eq]; exact posAfter_ptrBefore h.ids (Nat.le_refl _)

theorem tail_eq_head_iff {s : State α} (h : Inv s) : s.tail = .head ↔ s.nodes = [] := by
  rw [h.tail, lastPtr_eq]
  exact ⟨fun e => List.eq_nil_of_length_eq_zero (ptrBefore_inj h.ids (Nat.le_refl _) (Nat.zero_le _) e),
    fun e => by rw [e]; rfl⟩

theorem insertAfter_eq {s : State α} (hn : (s.nodes.map (·.1)).Nodup) {j : Nat} (hj : j ≤ s.nodes.length) (x : α) :
    insertAfter s (ptrBefore s.nodes j) x =
      { nodes := s.nodes.insertIdx j (s.fresh, x),
        tail := if j ≥ s.nodes.length then .node s.fresh else s.tail, size := s.size + 1, fresh := s.fresh + 1 } := by
  unfold insertAfter
  simp only [posAfter_ptrBefore hn hj, insertIdx_eq_take_drop _ hj]

theorem deleteNext_eq {s : State α} (hn : (s.nodes.map (·.1)).Nodup) {j : Nat} (hj : j < s.nodes.length) :
    deleteNext true s (ptrBefore s.nodes j) =
      { nodes := s.nodes.eraseIdx j,
        tail := if s.tail == ptrBefore s.nodes (j + 1) then ptrBefore s.nodes j else s.tail,
        size := s.size - 1, fresh := s.fresh } := by
  have hg := List.getElem?_eq_getElem hj
  unfold deleteNext
  simp only [posAfter_ptrBefore hn (Nat.le_of_lt hj), hg, Bool.true_and, List.eraseIdx_eq_take_drop_succ,
    show ptrBefore s.nodes (j + 1) = .node s.nodes[j].1 from ptrOfIdx_of_get hg]

theorem insertAfter_refines {s : State α} (h : Inv s) {j : Nat} (hj : j ≤ s.nodes.length) (x : α) :
    Inv (insertAfter s (ptrBefore s.nodes j) x) ∧
      items (insertAfter s (ptrBefore s.nodes j) x) = (items s).take j ++ x :: (items s).drop j := by
  rw [insertAfter_eq h.ids hj]
  have hp := List.perm_insertIdx (s.fresh, x) s.nodes hj
  refine ⟨⟨?_, ?_, ?_, ?_⟩, by
    unfold items
    simp only [insertIdx_eq_take_drop _ hj, List.map_append, List.map_cons, List.map_take, List.map_drop]⟩
  · rw [(hp.map (·.1)).nodup_iff, List.map_cons, List.nodup_cons]
    exact ⟨not_mem_map_of_lt h.fresh, h.ids⟩
  · intro nd hnd
    rcases List.mem_cons.mp (hp.mem_iff.mp hnd) with rfl | hnd
    · exact Nat.lt_succ_self _
    · exact Nat.lt_succ_of_lt (h.fresh nd hnd)
  · show _ = lastPtr _
    rw [lastPtr_insertIdx hj, h.tail]
  · show s.size + 1 = ((_ : List _).length : Int)
    rw [h.size, hp.length_eq, List.length_cons, Int.natCast_add, Int.natCast_one]

theorem pushBack_eq_insertAfter {s : State α} (h : Inv s) (x : α) : pushBack s x = insertAfter s s.tail x := by
  simp only [pushBack, insertAfter, posAfter_tail h, List.drop_length, ge_iff_le, Nat.le_refl, if_true]

theorem pushFront_eq_insertAfter {s : State α} (h : Inv s) (x : α) : pushFront s x = insertAfter s .head x := by
  obtain ⟨nodes, tl, sz, fr⟩ := s
  obtain rfl : tl = lastPtr nodes := h.tail
  -- both sides compute: on a non-empty chain `tail_` is an element, so the `tail_ == &beforeHead_` test of `push_front`
  -- and the `next_ == 0` test of `insertAfter` both fail
  cases nodes <;> rfl

theorem pushBack_refines {s : State α} (h : Inv s) (x : α) :
    Inv (pushBack s x) ∧ items (pushBack s x) = items s ++ [x] := by
  rw [pushBack_eq_insertAfter h, h.tail, lastPtr_eq]
  obtain ⟨h1, h2⟩ := insertAfter_refines h (Nat.le_refl _) x
  refine ⟨h1, h2.trans ?_⟩
  rw [← length_items s, List.take_length, List.drop_length]

theorem pushFront_refines {s : State α} (h : Inv s) (x : α) :
    Inv (pushFront s x) ∧ items (pushFront s x) = x :: items s := by
  rw [pushFront_eq_insertAfter h]
  exact insertAfter_refines h (Nat.zero_le _) x

theorem deleteNext_refines {s : State α} (h : Inv s) {j : Nat} (hj : j < s.nodes.length) :
    Inv (deleteNext true s (ptrBefore s.nodes j)) ∧
      items (deleteNext true s (ptrBefore s.nodes j)) = (items s).take j ++ (items s).drop (j + 1) := by
  rw [deleteNext_eq h.ids hj]
  refine ⟨⟨h.ids.sublist ((List.eraseIdx_sublist ..).map _), fun nd hnd => h.fresh nd (List.mem_of_mem_eraseIdx hnd),
    ?_, ?_⟩, ?_⟩
  · show (if s.tail == _ then _ else _) = lastPtr _
    rw [lastPtr_eraseIdx h.ids hj, h.tail]
  · show s.size - 1 = ((s.nodes.eraseIdx j).length : Int)
    rw [h.size, List.length_eraseIdx_of_lt hj, Int.natCast_sub (Nat.zero_lt_of_lt hj)]
    rfl
  · unfold items
    simp only [List.eraseIdx_eq_take_drop_succ, List.map_append, List.map_take, List.map_drop]

theorem popFront_refines {s : State α} (h : Inv s) (hne : items s ≠ []) :
    Inv (popFront s) ∧ items (popFront s) = (items s).tail := by
  have := deleteNext_refines h (j := 0) (length_items s ▸ List.length_pos_iff.mpr hne)
  simp only [ptrBefore, List.take_zero, List.nil_append] at this
  exact ⟨this.1, by simpa [popFront] using this.2⟩

/-- `clear()` runs its loop with the chain length as fuel: one round per element, each unlinking the first element and
    decrementing `size_` -/
theorem clearLoop_length : ∀ (l : List (Nat × α)) (tl : Ptr) (sz : Int) (fr : Nat),
    clearLoop l.length ⟨l, tl, sz, fr⟩ = ⟨[], tl, sz - l.length, fr⟩
  | [], _, _, _ => by rw [List.length_nil, Int.natCast_zero, Int.sub_zero]; rfl
  | _ :: t, tl, sz, fr => (clearLoop_length t tl (sz - 1) fr).trans (by
      rw [List.length_cons, Int.natCast_add, Int.natCast_one, Int.sub_sub, Int.add_comm])

theorem clear_refines {s : State α} (h : Inv s) : Inv (clear s) ∧ items (clear s) = [] := by
  obtain ⟨l, tl, sz, fr⟩ := s
  obtain rfl : sz = l.length := h.size
  unfold clear
  rw [clearLoop_length]
  exact ⟨⟨List.nodup_nil, nofun, rfl, Int.sub_self _⟩, rfl⟩

theorem foldl_pushBack_refines (l : List α) {s : State α} (h : Inv s) :
    Inv (l.foldl pushBack s) ∧ items (l.foldl pushBack s) = items s ++ l := by
  have := foldl_refines (spec := fun l x => l ++ [x]) (P := Inv) (abs := items) (fun x hs => pushBack_refines hs x) l h
  rwa [foldl_concat] at this

theorem copyElements_refines {s o : State α} (h : Inv s) :
    Inv (copyElements s o) ∧ items (copyElements s o) = items s ++ items o := foldl_pushBack_refines _ h

theorem ofList_refines (l : List α) : Inv (ofList l) ∧ items (ofList l) = l := by
  have := foldl_pushBack_refines l (inv_empty (α := α))
  simpa [ofList, items, empty] using this

theorem copy_refines (o : State α) : Inv (copy o) ∧ items (copy o) = items o := ofList_refines (items o)

theorem copyConv_refines {β : Type} (f : β → α) (o : State β) :
    Inv (copyConv f o) ∧ items (copyConv f o) = (items o).map f := ofList_refines ((items o).map f)

theorem assign_refines {s : State α} (h : Inv s) (o : State α) :
    Inv (assign s (some o)) ∧ items (assign s (some o)) = items o := by
  obtain ⟨h1, h2⟩ := clear_refines h
  have := copyElements_refines (o := o) h1
  rw [h2] at this
  simpa [assign] using this

/-- the unrepaired `operator=` empties the list on self-assignment (the defect of DESIGN.md section 6 #5) -/
theorem assignUnguarded_self {s : State α} (h : Inv s) : items (assignUnguarded s none) = [] :=
  (assign_refines h (clear s)).2.trans (clear_refines h).2

theorem firstDiff_eq [BEq α] : ∀ l₁ l₂ : List α, firstDiff l₁ l₂ = !l₁.isPrefixOf l₂
  | [], _ => rfl
  | _ :: _, [] => rfl
  | x :: xs, y :: ys => by
    rw [firstDiff, List.isPrefixOf, firstDiff_eq xs ys, bne]
    cases x == y <;> rfl

theorem eq_iff [BEq α] [LawfulBEq α] {a b : State α} (ha : Inv a) (hb : Inv b) :
    eq a b = true ↔ items a = items b := by
  have hlen : a.size = b.size ↔ (items a).length = (items b).length := by
    rw [ha.size, hb.size, length_items, length_items]; exact Int.ofNat_inj
  unfold eq
  by_cases hs : a.size = b.size
  · -- sizes agree: the element loop finds no difference iff the one sequence is a prefix of the other of the same length
    rw [show (a.size != b.size) = false from bne_eq_false_iff_eq.mpr hs, if_neg Bool.false_ne_true, firstDiff_eq,
      Bool.not_not, List.isPrefixOf_iff_prefix]
    exact ⟨fun h => h.eq_of_length (hlen.mp hs), fun e => e ▸ List.prefix_refl _⟩
  · rw [show (a.size != b.size) = true from bne_iff_ne.mpr hs, if_pos rfl]
    exact ⟨fun h => (nomatch h), fun he => absurd (hlen.mpr (congrArg List.length he)) hs⟩

theorem ne_eq_not_eq [BEq α] (a b : State α) : ne a b = !(eq a b) := by
  unfold ne eq
  by_cases hs : a.size = b.size <;> simp [hs]

theorem isEmpty_iff {s : State α} (h : Inv s) : isEmpty s = true ↔ items s = [] := by
  unfold isEmpty
  rw [beq_iff_eq, tail_eq_head_iff h]
  simp [items]

/-- the modify iterator `(beforeIterator_, iterator_)` stands at chain position `j` -/
structure ModInv (s : State α) (m : MIt) (j : Nat) : Prop where
  le : j ≤ s.nodes.length
  before : m.before = ptrBefore s.nodes j
  cur : m.cur = ptrOfIdx s.nodes j

theorem beginModify_inv {s : State α} (h : Inv s) : ModInv s (beginModify s) 0 :=
  ⟨Nat.zero_le _, rfl, next_ptrBefore h.ids 0⟩

theorem endModify_inv {s : State α} (h : Inv s) : ModInv s (endModify s) (items s).length :=
  length_items s ▸ ⟨Nat.le_refl _, by simp [endModify, h.tail, lastPtr_eq], by simp [endModify, ptrOfIdx_of_ge]⟩

theorem mIncrement_inv {s : State α} (h : Inv s) {m : MIt} {j : Nat} (hm : ModInv s m j) (hj : j < (items s).length) :
    ModInv s (mIncrement s m) (j + 1) :=
  ⟨length_items s ▸ hj, (congrArg (next s) hm.before).trans (next_ptrBefore h.ids j),
    (congrArg (next s) hm.cur).trans (next_ptrBefore h.ids (j + 1))⟩

theorem mDeref_eq {s : State α} (h : Inv s) {m : MIt} {j : Nat} (hm : ModInv s m j) : mDeref s m = (items s)[j]? := by
  simp only [mDeref, hm.cur, item_ptrOfIdx h.ids]

theorem mInsert_refines {s : State α} (h : Inv s) {m : MIt} {j : Nat} (hm : ModInv s m j) (x : α) :
    Inv (mInsert s m x).1 ∧ items (mInsert s m x).1 = (items s).take j ++ x :: (items s).drop j ∧
      ModInv (mInsert s m x).1 (mInsert s m x).2 (j + 1) := by
  obtain ⟨h1, h2⟩ := insertAfter_refines h hm.le x
  simp only [mInsert, hm.before]
  rw [insertAfter_eq h.ids hm.le] at h1 h2 ⊢
  have hlen := List.length_insertIdx_of_le_length hm.le (s.fresh, x)
  have hpb : ptrBefore (s.nodes.insertIdx j (s.fresh, x)) j = ptrBefore s.nodes j :=
    ptrBefore_congr fun _ hi => List.getElem?_insertIdx_of_lt hi
  refine ⟨h1, h2, hlen ▸ Nat.succ_le_succ hm.le, ?_, ?_⟩
  · show next _ (ptrBefore s.nodes j) = _
    rw [← hpb]
    exact next_ptrBefore h1.ids j
  · exact hm.cur.trans (ptrOfIdx_congr (List.getElem?_insertIdx_of_gt (Nat.lt_succ_self j)).symm)

theorem mRemove_refines {s : State α} (h : Inv s) {m : MIt} {j : Nat} (hm : ModInv s m j) (hj : j < (items s).length) :
    Inv (mRemove s m).1 ∧ items (mRemove s m).1 = (items s).take j ++ (items s).drop (j + 1) ∧
      ModInv (mRemove s m).1 (mRemove s m).2 j := by
  have hj : j < s.nodes.length := length_items s ▸ hj
  obtain ⟨h1, h2⟩ := deleteNext_refines h hj
  simp only [mRemove, hm.before]
  rw [deleteNext_eq h.ids hj] at h1 h2 ⊢
  refine ⟨h1, h2, ?_, ?_, ?_⟩
  · exact Nat.le_trans (Nat.le_sub_one_of_lt hj) (Nat.le_of_eq (List.length_eraseIdx_of_lt hj).symm)
  · exact ptrBefore_congr fun _ hi => (List.getElem?_eraseIdx_of_lt hi).symm
  · show next s m.cur = _
    rw [hm.cur]
    exact (next_ptrBefore h.ids (j + 1)).trans (ptrOfIdx_congr (List.getElem?_eraseIdx_of_ge (Nat.le_refl j)).symm)

/-- the live modify iterator of the world corresponds to the abstract position -/
def ItRel (s : State α) : Option MIt → Option Nat → Prop
  | none, none => True
  | some m, some j => ModInv s m j
  | _, _ => False

/-- refinement relation between the pointer world and the abstract sequence with a cursor -/
structure Rel (w : World α) (sp : Spec α) : Prop where
  inv : Inv w.s
  items : items w.s = sp.l
  it : ItRel w.s w.m sp.pos

theorem Rel.len {w : World α} {sp : Spec α} (h : Rel w sp) : w.s.nodes.length = sp.l.length := by
  rw [← h.items, length_items]

theorem rel_empty : Rel (⟨empty, none⟩ : World α) ⟨[], none⟩ := ⟨inv_empty, rfl, trivial⟩

theorem Rel.of_refines {s : State α} {l : List α} (h : Inv s ∧ SL.items s = l) : Rel ⟨s, none⟩ ⟨l, none⟩ :=
  ⟨h.1, h.2, trivial⟩

theorem ItRel.of_none {s : State α} {p : Option Nat} (h : ItRel s none p) : p = none := by
  cases p with
  | none => rfl
  | some j => exact h.elim

theorem ItRel.of_some {s : State α} {m : MIt} {p : Option Nat} (h : ItRel s (some m) p) :
    ∃ j, p = some j ∧ ModInv s m j := by
  cases p with
  | none => exact h.elim
  | some j => exact ⟨j, rfl, h⟩

theorem ItRel.isSome_iff {s : State α} {wm : Option MIt} {p : Option Nat} (h : ItRel s wm p) : wm.isSome ↔ p.isSome := by
  cases wm <;> cases p <;> first | exact Iff.rfl | exact h.elim

theorem ModInv.cur_ne_null {s : State α} {m : MIt} {j : Nat} (hm : ModInv s m j) :
    (m.cur != .null) = true ↔ j < (items s).length := by
  rw [hm.cur, bne_iff_ne, length_items]; exact ptrOfIdx_ne_null_iff

theorem Rel.guard {w w' : World α} {sp sp' : Spec α} (h : Rel w sp) {b : Bool} {c : Prop} [Decidable c]
    (hbc : b = true ↔ c) (h' : c → Rel w' sp') : Rel (if b then w' else w) (if c then sp' else sp) := by
  by_cases hc : c
  · rw [if_pos (hbc.mpr hc), if_pos hc]; exact h' hc
  · rw [if_neg fun hb => hc (hbc.mp hb), if_neg hc]; exact h

theorem step_refines {w : World α} {sp : Spec α} (h : Rel w sp) (o : Op α) : Rel (step w o) (specStep sp o) := by
  obtain ⟨s, wm⟩ := w
  obtain ⟨l, pos⟩ := sp
  obtain ⟨hI, rfl, hit⟩ : Inv s ∧ items s = l ∧ ItRel s wm pos := ⟨h.inv, h.items, h.it⟩
  have hlen := length_items s
  have hpos : ∀ n : Nat, decide ((n : Int) < s.size) = true ↔ n < (items s).length := fun n => by
    rw [decide_eq_true_iff, hI.size, hlen]; exact Int.ofNat_lt
  cases o with
  | pushBack x => exact .of_refines (pushBack_refines hI x)
  | pushFront x => exact .of_refines (pushFront_refines hI x)
  | clear => exact .of_refines (clear_refines hI)
  | assignSelf => exact ⟨hI, rfl, trivial⟩
  | assignFrom l => exact .of_refines ⟨(assign_refines hI _).1, (assign_refines hI _).2.trans (ofList_refines l).2⟩
  | mBegin => exact ⟨hI, rfl, beginModify_inv hI⟩
  | mEnd => exact ⟨hI, rfl, endModify_inv hI⟩
  | popFront =>
    exact h.guard (hpos 0) fun hne => .of_refines (popFront_refines hI (List.ne_nil_of_length_pos hne))
  | insAfter k x =>
    refine h.guard (hpos k) fun hk => ?_
    show Rel ⟨insertAfter s (ptrAt s k) x, none⟩ _
    rw [ptrAt_eq hI.ids]
    exact .of_refines (insertAfter_refines hI (j := k + 1) (hlen ▸ hk) x)
  | delNext k =>
    refine h.guard (hpos (k + 1)) fun hk => ?_
    show Rel ⟨deleteNext true s (ptrAt s k), none⟩ _
    rw [ptrAt_eq hI.ids]
    exact .of_refines (deleteNext_refines hI (j := k + 1) (hlen ▸ hk))
  | mInc =>
    cases wm with
    | none => cases hit.of_none; exact h
    | some m =>
      obtain ⟨j, rfl, hmj⟩ := hit.of_some
      exact h.guard hmj.cur_ne_null fun hj => ⟨hI, rfl, mIncrement_inv hI hmj hj⟩
  | mIns x =>
    cases wm with
    | none => cases hit.of_none; exact h
    | some m =>
      obtain ⟨j, rfl, hmj⟩ := hit.of_some
      obtain ⟨h1, h2, h3⟩ := mInsert_refines hI hmj x
      exact ⟨h1, h2, h3⟩
  | mRem =>
    cases wm with
    | none => cases hit.of_none; exact h
    | some m =>
      obtain ⟨j, rfl, hmj⟩ := hit.of_some
      refine h.guard hmj.cur_ne_null fun hj => ?_
      obtain ⟨h1, h2, h3⟩ := mRemove_refines hI hmj hj
      exact ⟨h1, h2, h3⟩

theorem run_refines (ops : List (Op α)) {w : World α} {sp : Spec α} (h : Rel w sp) :
    Rel (run w ops) (specRun sp ops) :=
  List.foldl_rel h fun o _ _ _ hr => step_refines hr o

end DV.C11.SL
