/-
C12 — two concrete renderings of a hierarchy (all keys dotted / every entry under its own [group]) with their
denotations and well-formedness, used to show that the hypotheses of `parse_render` are satisfiable for every
hierarchy and that groups and dotted keys spell the same assignments.
-/
import DuneVerif.Proofs.C12Tree

namespace DV.C12

/-- a character that may occur in a key component -/
def keyChar (c : Char) : Bool := !isWs c && c != '=' && c != '#' && c != '[' && c != ']' && c != '.'

/-- a key component of the documented dialect: non-empty, over `keyChar` (⊇ `[A-Za-z0-9_]`) -/
def compOK (c : Str) : Bool := !c.isEmpty && c.all keyChar

/-- a value that can be written down: one of the two quote characters does not occur in it, and its first
    line has no `#` (left undetermined by the documentation) -/
def valOK (v : Str) : Bool :=
  (v.all (· != '"') || v.all (· != '\'')) && (v.takeWhile (· != '\n')).all (· != '#')

/-- lexical condition on a full key as written in front of `=` -/
def keyOK (k : Str) : Bool :=
  k.all (fun c => c != '=' && c != '#' && c != '\n') && trimmed k && k.head? != some '['

def pickQuote (v : Str) : Char := if v.all (· != '"') then '"' else '\''

def quotedAssign (key value : Str) : Item := .assign [] key [] [] (some (pickQuote value)) value [] none

theorem quotedAssign_wf (key value : Str) (hk : keyOK key = true) (hv : valOK value = true) :
    (quotedAssign key value).wf = true := by
  simp only [keyOK, Bool.and_eq_true] at hk
  simp only [valOK, Bool.and_eq_true, Bool.or_eq_true] at hv
  simp only [quotedAssign, Item.wf, blankStr, List.all_nil, Bool.true_and, hk.1.1, hk.1.2, hk.2, Option.all_none,
    Bool.and_true, Option.isNone_none, Bool.or_true, hv.2]
  unfold pickQuote
  split
  · rename_i h; simp [isQuote, h]
  · rename_i h
    rcases hv.1 with h1 | h1
    · exact absurd h1 h
    · simp [isQuote, h1]

def dottedItems (es : List (Str × Str)) : List Item := es.map fun e => quotedAssign e.1 e.2

theorem denote_dotted (es : List (Str × Str)) : denote [] (dottedItems es) = es := by
  induction es with
  | nil => rfl
  | cons e r ih => exact congrArg (e :: ·) ih

theorem dotted_wf (es : List (Str × Str)) (h : ∀ e ∈ es, keyOK e.1 = true ∧ valOK e.2 = true) :
    ∀ it ∈ dottedItems es, it.wf = true := by
  intro it hit
  obtain ⟨e, he, rfl⟩ := List.mem_map.mp hit
  exact quotedAssign_wf e.1 e.2 (h e he).1 (h e he).2

def groupedItem (e : List Str × Str) : List Item :=
  [.header [] [] (joinDots e.1.dropLast) [] [], quotedAssign (e.1.getLast?.getD []) e.2]

def groupedItems (ps : List (List Str × Str)) : List Item := ps.flatMap groupedItem

theorem newPrefix_joinDots (g : List Str) (x : Str) (h : ∀ c ∈ g, c ≠ []) :
    newPrefix (joinDots g) ++ x = joinDots (g ++ [x]) := by
  cases g with
  | nil => rfl
  | cons a r =>
    have ha : a ≠ [] := h a List.mem_cons_self
    simp [joinDots, joinC_cons_eq, newPrefix, ha]

theorem denote_grouped_one (e : List Str × Str) (hne : e.1 ≠ []) (hc : ∀ c ∈ e.1, compOK c = true)
    (pfx : Str) (r : List Item) :
    denote pfx (groupedItem e ++ r) = (joinDots e.1, e.2) :: denote (newPrefix (joinDots e.1.dropLast)) r := by
  have hg : ∀ c ∈ e.1.dropLast, c ≠ [] := fun c hm e0 => by
    subst e0; exact Bool.false_ne_true (hc [] (List.dropLast_subset _ hm))
  simp only [groupedItem, quotedAssign, List.cons_append, List.nil_append, denote]
  rw [List.getLast?_eq_some_getLast hne, Option.getD_some, newPrefix_joinDots _ _ hg, List.dropLast_concat_getLast hne]

theorem denote_grouped (ps : List (List Str × Str)) : (∀ e ∈ ps, e.1 ≠ [] ∧ ∀ c ∈ e.1, compOK c = true) →
    ∀ (pfx : Str), denote pfx (groupedItems ps) = ps.map (fun e => (joinDots e.1, e.2)) := by
  induction ps with
  | nil => exact fun _ _ => rfl
  | cons e r ih =>
    intro h pfx
    obtain ⟨h1, h2⟩ := h e List.mem_cons_self
    rw [groupedItems, List.flatMap_cons, denote_grouped_one e h1 h2, List.map_cons]
    exact congrArg _ (ih (fun x hx => h x (List.mem_cons_of_mem _ hx)) _)

theorem joinC_all (c : Char) (P : Char → Bool) (hc : P c = true) (g : List Str) (h : ∀ x ∈ g, x.all P = true) :
    (joinC c g).all P = true := by
  cases g with
  | nil => rfl
  | cons a r =>
    rw [joinC_cons_eq, List.all_append, List.all_flatMap, h a List.mem_cons_self, Bool.true_and, List.all_eq_true]
    exact fun x hx => by rw [List.all_cons, hc, h x (List.mem_cons_of_mem _ hx)]; rfl

theorem all_mono {P Q : Char → Bool} (h : ∀ c, P c = true → Q c = true) {s : Str} (hs : s.all P = true) :
    s.all Q = true :=
  List.all_eq_true.mpr fun c hc => h c (List.all_eq_true.mp hs c hc)

theorem trimmed_of_no_ws {s : Str} (h : s.all (fun c => !isWs c) = true) : trimmed s = true := by
  simp only [trimmed, Bool.and_eq_true, Option.all_eq_true]
  exact ⟨fun c hc => List.all_eq_true.mp h c (List.mem_of_head? hc),
    fun c hc => List.all_eq_true.mp h c (List.mem_of_getLast? hc)⟩

/-- what the lexical predicates ask of a character holds of key characters and of the dot -/
theorem pathChar_spec {c : Char} (h : (keyChar c || c == '.') = true) :
    (!isWs c) = true ∧ (c != '\n') = true ∧ (c != ']') = true ∧ (c != '=' && c != '#' && c != '\n') = true ∧ c ≠ '[' := by
  rcases Bool.or_eq_true_iff.mp h with h | h
  · simp only [keyChar, Bool.and_eq_true] at h
    obtain ⟨⟨⟨⟨⟨hws, he⟩, hh⟩, hl⟩, hr⟩, _⟩ := h
    have hnl : (c != '\n') = true := bne_iff_ne.mpr fun e => by rw [e] at hws; exact absurd hws (by decide)
    exact ⟨hws, hnl, hr, by rw [he, hh, hnl]; rfl, bne_iff_ne.mp hl⟩
  · rw [beq_iff_eq.mp h]; decide

/-- a text over key characters and dots passes every lexical test on a group path or a key -/
theorem path_wf {s : Str} (h : s.all (fun c => keyChar c || c == '.') = true) :
    (Item.header [] [] s [] []).wf = true ∧ keyOK s = true := by
  have ht := trimmed_of_no_ws (all_mono (fun _ hc => (pathChar_spec hc).1) h)
  simp only [Item.wf, keyOK, blankStr, noNl, List.all_nil, Bool.true_and, Bool.and_eq_true, ht, and_true]
  refine ⟨⟨all_mono (fun _ hc => (pathChar_spec hc).2.1) h, all_mono (fun _ hc => (pathChar_spec hc).2.2.1) h⟩,
    all_mono (fun _ hc => (pathChar_spec hc).2.2.2.1) h, ?_⟩
  cases s with
  | nil => rfl
  | cons x r => simpa using (pathChar_spec (List.all_eq_true.mp h x List.mem_cons_self)).2.2.2.2

theorem compOK_path {c : Str} (h : compOK c = true) : c.all (fun c => keyChar c || c == '.') = true :=
  all_mono (fun _ hc => by rw [hc]; rfl) (Bool.and_eq_true_iff.mp h).2

theorem grouped_wf (ps : List (List Str × Str))
    (h : ∀ e ∈ ps, e.1 ≠ [] ∧ (∀ c ∈ e.1, compOK c = true) ∧ valOK e.2 = true) :
    ∀ it ∈ groupedItems ps, it.wf = true := by
  intro it hit
  obtain ⟨e, he, hit⟩ := List.mem_flatMap.mp hit
  obtain ⟨hne, hc, hv⟩ := h e he
  simp only [groupedItem, List.mem_cons, List.mem_nil_iff, or_false] at hit
  rcases hit with rfl | rfl
  · exact (path_wf (joinC_all '.' _ rfl _ fun x hx => compOK_path (hc x (List.dropLast_subset _ hx)))).1
  · have hx : e.1.getLast?.getD [] ∈ e.1 := by rw [List.getLast?_eq_some_getLast hne]; exact List.getLast_mem hne
    exact quotedAssign_wf _ _ (path_wf (compOK_path (hc _ hx))).2 hv

end DV.C12
