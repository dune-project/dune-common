import DuneVerif.Model.C05
import DuneVerif.Common.Lists
/-!
C05, what the translator reads from interface.hh / communicator.hh beyond the attribute tests:
the erase condition of `Interface::strip`, the loop body of both `BufferedCommunicator::build` overloads and the
direction selectors (`FORWARD ? first : second`) of `sendRecv`, `MessageGatherer`, `MessageScatterer` and of the
`forward`/`backward` wrappers; the `contains` functions of the attribute set classes of enumset.hh; the counting
loops of the size calculator, the gatherers and the scatterers.  The proofs are written to survive equivalent
spellings (commuted sums/products, `!= 0` for `> 0`, De-Morgan forms) and to fail when the meaning changes.
-/
-- `layoutArith_spec` lists `Nat.mul_comm` and `Nat.add_comm`, which only a commuted spelling of the generated terms needs
set_option linter.unusedSimpArgs false
namespace DV.C05

theorem stripErase_spec (n1 n2 : Nat) : Gen.stripErase n1 n2 = (n1 == 0 && n2 == 0) :=
  Bool.eq_iff_iff.mpr (by simp [Gen.stripErase] <;> omega)

theorem stripG_eq (m : IfMap) : stripG m = strip m := by
  have h : (fun e : Nat × Info × Info => !(Gen.stripErase e.2.1.size e.2.2.size)) =
      (fun e => !(e.2.1.size == 0 && e.2.2.size == 0)) := by
    funext e
    rw [stripErase_spec]
  unfold stripG strip
  rw [h]

theorem interfaceOfG_eq (ign : Bool) (S T : Nat → Bool) (sys : System) (p : Nat) :
    interfaceOfG ign S T sys p = interfaceOf ign S T sys p := by
  simp [interfaceOfG, interfaceOf, buildInterface, stripG_eq]

theorem layoutCond_spec (two : Bool) (nF nS s0 s1 sz : Nat) :
    Gen.layoutCond two nF nS s0 s1 sz = decide (nF + nS > 0) :=
  Bool.eq_iff_iff.mpr (by cases two <;> simp [Gen.layoutCond] <;> omega)

theorem layoutArith_spec (two : Bool) (nF nS s0 s1 sz : Nat) :
    Gen.layoutFirstStart two nF nS s0 s1 sz = s0 ∧ Gen.layoutFirstSize two nF nS s0 s1 sz = nF * sz ∧
    Gen.layoutSecondStart two nF nS s0 s1 sz = s1 ∧ Gen.layoutSecondSize two nF nS s0 s1 sz = nS * sz ∧
    Gen.layoutInc0 two nF nS s0 s1 sz = nF ∧ Gen.layoutInc1 two nF nS s0 s1 sz = nS := by
  refine ⟨?_, ?_, ?_, ?_, ?_, ?_⟩ <;> cases two <;>
    simp [Gen.layoutFirstStart, Gen.layoutFirstSize, Gen.layoutSecondStart, Gen.layoutSecondSize, Gen.layoutInc0,
      Gen.layoutInc1, Nat.mul_comm, Nat.add_comm]

theorem layoutCont_spec (two : Bool) : Gen.layoutFirstCont two = .first ∧ Gen.layoutSecondCont two = .second := by
  cases two <;> simp [Gen.layoutFirstCont, Gen.layoutSecondCont]

theorem layoutG_eq (two : Bool) (sz : Nat) (csS csT : Nat → Nat) (m : IfMap) (s0 s1 : Nat) :
    layoutG two sz csS csT m s0 s1 = layout sz csS csT m s0 s1 := by
  induction m generalizing s0 s1 with
  | nil => rfl
  | cons e es ih =>
    simp only [layoutG, layout, layoutCont_spec, pick, layoutCond_spec, layoutArith_spec, ih, decide_eq_true_eq]

theorem Comm.buildG_eq (c : Comm) (two : Bool) (sz : Nat) (csS csT : Nat → Nat) (ifs : IfMap) :
    c.buildG two sz csS csT ifs = c.build sz csS csT ifs := by
  simp [Comm.buildG, Comm.build, layoutG_eq]

/-- the model's direction selectors on the entries of `interfaces_` … -/
theorem ifaceSelectors_spec (fwd : Bool) (e : Info × Info) :
    pick (Gen.gatherOneSize.side fwd) e = sendSide fwd e ∧ pick (Gen.gatherOneIndex.side fwd) e = sendSide fwd e ∧
    pick (Gen.gatherVarSize.side fwd) e = sendSide fwd e ∧ pick (Gen.gatherVarIndex.side fwd) e = sendSide fwd e ∧
    pick (Gen.scatterOneInfo.side fwd) e = recvSide fwd e ∧ pick (Gen.scatterVarInfo.side fwd) e = recvSide fwd e := by
  cases fwd <;> simp [pick, Gen.DirSel.side, sendSide, recvSide, Gen.gatherOneSize, Gen.gatherOneIndex, Gen.gatherVarSize,
    Gen.gatherVarIndex, Gen.scatterOneInfo, Gen.scatterVarInfo]

/-- … on the entries of `messageInformation_` … -/
theorem msgSelectors_spec (fwd : Bool) (m : MsgInfo × MsgInfo) :
    pick (Gen.issendStart.side fwd) m = sendMsgInfo fwd m ∧ pick (Gen.issendSize.side fwd) m = sendMsgInfo fwd m ∧
    pick (Gen.issendGuard.side fwd) m = sendMsgInfo fwd m ∧
    pick (Gen.irecvStart.side fwd) m = recvMsgInfo fwd m ∧ pick (Gen.irecvSize.side fwd) m = recvMsgInfo fwd m ∧
    pick (Gen.irecvGuard.side fwd) m = recvMsgInfo fwd m ∧ pick (Gen.waitanyInfo.side fwd) m = recvMsgInfo fwd m := by
  cases fwd <;> simp [pick, Gen.DirSel.side, sendMsgInfo, recvMsgInfo, Gen.issendStart, Gen.issendSize, Gen.issendGuard,
    Gen.irecvStart, Gen.irecvSize, Gen.irecvGuard, Gen.waitanyInfo]

/-- … and on `buffers_[0..1]` -/
theorem bufSelectors_spec (fwd : Bool) {Val Data : Type} (st : PState Val Data) :
    pick (Gen.sendBuffer.side fwd) (st.b0, st.b1) = st.sendB fwd ∧ pick (Gen.recvBuffer.side fwd) (st.b0, st.b1) = st.recvB fwd := by
  cases fwd <;> simp [pick, Gen.DirSel.side, PState.sendB, PState.recvB, Gen.sendBuffer, Gen.recvBuffer]

/-- the container argument number `i` of a two-container call `f(source, dest)` -/
def argOf {Data : Type} (c : Cont Data) (i : Nat) : Data := if i = 0 then c.c0 else c.c1

/-- the four `forward`/`backward` members: direction, and (two containers) which argument is gathered from / scattered to,
    against the model's `Cont.get (!fwd)` / `Cont.get fwd` -/
theorem wrappers_spec {Data : Type} (c : Cont Data) (hc : c.one = false) :
    Gen.forward1.fwd = true ∧ Gen.backward1.fwd = false ∧ Gen.forward2.fwd = true ∧ Gen.backward2.fwd = false ∧
    Gen.forward1.gatherArg = 0 ∧ Gen.forward1.scatterArg = 0 ∧ Gen.backward1.gatherArg = 0 ∧ Gen.backward1.scatterArg = 0 ∧
    argOf c Gen.forward2.gatherArg = c.get (!true) ∧ argOf c Gen.forward2.scatterArg = c.get true ∧
    argOf c Gen.backward2.gatherArg = c.get (!false) ∧ argOf c Gen.backward2.scatterArg = c.get false := by
  simp [Gen.forward1, Gen.backward1, Gen.forward2, Gen.backward2, argOf, Cont.get, hc]

/-! ### DatatypeCommunicator: composing the selectors the translator read from `build`, `createDataTypes`,
`createRequests`, `forward()`, `backward()` -/

/-- the unique flag value at which a selector yields `s` -/
def flagWith (d : Gen.DirSel) (s : Gen.Side) : Option Bool :=
  if d.side true = s ∧ d.side false ≠ s then some true
  else if d.side false = s ∧ d.side true ≠ s then some false
  else none

/-- the `send` flag of the `createDataTypes` pass that filled datatype slot `s` (its index lists are those of
    `buildInterface<…,send>`: the send lists for `true`, the receive lists for `false`) -/
def dtPassOf (s : Gen.Side) : Option Bool := flagWith Gen.dtTypeSlot s

/-- the `createForward` flag of the request set that `forward()` (`fwd`) / `backward()` starts -/
def dtFlagOf (fwd : Bool) : Option Bool := flagWith Gen.dtReqSlot (Gen.dtUseSlot.side fwd)

/-- the index list behind the receive / send datatype used in direction `fwd`; `e` = (send list, receive list) of the
    unstripped interface entry of a neighbour -/
def dtRecvList (fwd : Bool) (e : Info × Info) : Option Info :=
  (dtFlagOf fwd).bind fun cf => (dtPassOf (Gen.dtReqRecvType.side cf)).map fun sf => if sf then e.1 else e.2
def dtSendList (fwd : Bool) (e : Info × Info) : Option Info :=
  (dtFlagOf fwd).bind fun cf => (dtPassOf (Gen.dtReqSendType.side cf)).map fun sf => if sf then e.1 else e.2

/-- the container (`first` = `sendData`, `second` = `receiveData` of `build`) whose base address the receives / sends of
    direction `fwd` use -/
def dtRecvCont (fwd : Bool) : Option Gen.Side :=
  (dtFlagOf fwd).map fun cf => pick (Gen.dtRecvAddr.side cf) (Gen.dtReqSendArg.side cf, Gen.dtReqRecvArg.side cf)
def dtSendCont (fwd : Bool) : Option Gen.Side :=
  (dtFlagOf fwd).map fun cf => pick (Gen.dtSendAddr.side cf) (Gen.dtReqSendArg.side cf, Gen.dtReqRecvArg.side cf)

/-- the container on which the displacements of that receive / send datatype were computed -/
def dtRecvTypeCont (fwd : Bool) : Option Gen.Side :=
  (dtFlagOf fwd).bind fun cf => (dtPassOf (Gen.dtReqRecvType.side cf)).map Gen.dtTypeData.side
def dtSendTypeCont (fwd : Bool) : Option Gen.Side :=
  (dtFlagOf fwd).bind fun cf => (dtPassOf (Gen.dtReqSendType.side cf)).map Gen.dtTypeData.side

theorem dtSelectors_spec (fwd : Bool) (e : Info × Info) :
    dtRecvList fwd e = some (recvSide fwd e) ∧ dtSendList fwd e = some (sendSide fwd e) ∧
    dtRecvCont fwd = some (if fwd then .second else .first) ∧ dtRecvTypeCont fwd = dtRecvCont fwd ∧
    dtSendCont fwd = some (if fwd then .first else .second) ∧ dtSendTypeCont fwd = dtSendCont fwd := by
  cases fwd <;> refine ⟨?_, ?_, ?_, ?_, ?_, ?_⟩ <;> rfl

theorem emptySet_contains (item : Int) : Gen.emptySetContains item = false := by simp [Gen.emptySetContains]

theorem allSet_contains (item : Int) : Gen.allSetContains item = true := by simp [Gen.allSetContains]

theorem enumItem_contains (i item : Int) : Gen.enumItemContains i item = true ↔ item = i := by
  simp [Gen.enumItemContains] <;> omega

theorem enumRange_contains (lo hi item : Int) : Gen.enumRangeContains lo hi item = true ↔ lo ≤ item ∧ item ≤ hi := by
  simp [Gen.enumRangeContains] <;> omega

theorem negateSet_contains (s : Int → Bool) (item : Int) : Gen.negateSetContains s item = !(s item) := by
  cases h : s item <;> simp [Gen.negateSetContains, h]

theorem combine_contains (s1 s2 : Int → Bool) (item : Int) : Gen.combineContains s1 s2 item = (s1 item || s2 item) := by
  cases h1 : s1 item <;> cases h2 : s2 item <;> simp [Gen.combineContains, h1, h2]

/-- a loop `for(v = start; cond; ++v)` that starts at 0, runs while `v` is below the bound and stops at the bound visits
    `0, …, n-1` -/
theorem forIdx_canonical (start : Nat) (cond : Nat → Nat → Bool) (n : Nat) (hs : start = 0)
    (h1 : ∀ i, i < n → cond i n = true) (h2 : cond n n = false) : Gen.forIdx start cond n = List.range n := by
  subst hs
  unfold Gen.forIdx
  have hf : ((List.range (n + 2)).filter fun i => decide (0 ≤ i)) = List.range (n + 2) := by simp
  rw [hf]
  have hr : List.range (n + 2) = List.range n ++ [n, n + 1] := by
    rw [List.range_succ, List.range_succ]
    simp
  rw [hr, List.takeWhile_append_of_pos]
  · simp [List.takeWhile, h2]
  · intro a ha
    exact h1 a (List.mem_range.mp ha)

theorem loops_spec (n : Nat) :
    Gen.loop_sizeVarI n = List.range n ∧ Gen.loop_gatherOneI n = List.range n ∧ Gen.loop_gatherVarI n = List.range n ∧
    Gen.loop_gatherVarJ n = List.range n ∧ Gen.loop_scatterOneI n = List.range n ∧ Gen.loop_scatterVarI n = List.range n ∧
    Gen.loop_scatterVarJ n = List.range n := by
  refine ⟨?_, ?_, ?_, ?_, ?_, ?_, ?_⟩ <;>
    exact forIdx_canonical _ _ n rfl (by intro i hi; simp <;> omega) (by simp <;> omega)

/-- the (local index, component) slots as the nested loops `for i … for j …` over `info[i]` produce them -/
def slotsLoop (I J : Nat → List Nat) (cs : Nat → Nat) (info : Info) : List (Nat × Nat) :=
  (I info.size).flatMap fun i => (J (cs (info.idx.getD i 0))).map fun j => (info.idx.getD i 0, j)

/-- whatever the loops are called: if they visit `0 … n-1`, the nested loops enumerate the model's `slots` -/
theorem slotsLoop_eq {I J : Nat → List Nat} (hI : ∀ n, I n = List.range n) (hJ : ∀ n, J n = List.range n) (cs : Nat → Nat)
    (info : Info) : slotsLoop I J cs info = slots cs info := by
  unfold slotsLoop slots Info.size
  conv => rhs; rw [← map_getD_range info.idx 0]
  rw [hI, List.flatMap_map]
  simp only [hJ]

theorem sizeLoop_eq {I : Nat → List Nat} (hI : ∀ n, I n = List.range n) (cs : Nat → Nat) (info : Info) :
    ((I info.size).map fun i => cs (info.idx.getD i 0)).sum = sizeCalc cs info := by
  unfold sizeCalc Info.size
  conv => rhs; rw [← map_getD_range info.idx 0]
  rw [hI, List.map_map]
  rfl

theorem loopsModel_spec (cs : Nat → Nat) (info : Info) :
    ((Gen.loop_sizeVarI info.size).map fun i => cs (info.idx.getD i 0)).sum = sizeCalc cs info ∧
    slotsLoop Gen.loop_gatherVarI Gen.loop_gatherVarJ cs info = slots cs info ∧
    slotsLoop Gen.loop_gatherOneI (fun _ => [0]) cs info = slots (fun _ => 1) info ∧
    slotsLoop Gen.loop_scatterVarI Gen.loop_scatterVarJ cs info = slots cs info ∧
    slotsLoop Gen.loop_scatterOneI (fun _ => [0]) cs info = slots (fun _ => 1) info :=
  ⟨sizeLoop_eq (fun n => (loops_spec n).1) cs info,
    slotsLoop_eq (fun n => (loops_spec n).2.2.1) (fun n => (loops_spec n).2.2.2.1) cs info,
    -- `SizeOne`: the inner loop is the single component, `[0]` is `List.range 1` by evaluation
    slotsLoop_eq (J := List.range) (fun n => (loops_spec n).2.1) (fun _ => rfl) (fun _ => 1) info,
    slotsLoop_eq (fun n => (loops_spec n).2.2.2.2.2.1) (fun n => (loops_spec n).2.2.2.2.2.2) cs info,
    slotsLoop_eq (J := List.range) (fun n => (loops_spec n).2.2.2.2.1) (fun _ => rfl) (fun _ => 1) info⟩

end DV.C05
