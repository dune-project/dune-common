/-
C18, pass 4 of `processPathC` (the find("/../")/back-up loop) is stack resolution.

The cursor of the loop always rests on the '/' that ends the component on top of the stack of components
already passed (or at index 0 with an empty stack).  `stackOf d` is that stack for the location `d`
reached so far (top first; an absolute path has the empty root component at the bottom).
-/
import DuneVerif.Proofs.C18.Passes

namespace DV.C18

/-- reversed text of the components of a stack (top first), each preceded - in reversed reading - by its '/' -/
def R (stk : List Str) : Str := stk.flatMap (fun c => '/' :: c.reverse)

@[simp] theorem R_nil : R [] = [] := rfl
@[simp] theorem R_cons (c : Str) (s : List Str) : R (c :: s) = '/' :: (c.reverse ++ R s) := by simp [R]

theorem R_reverse (stk : List Str) : (R stk).reverse = joinSlash stk.reverse := by
  induction stk with
  | nil => rfl
  | cons c s ih => simp [ih]

def stackOf (d : Loc) : List Str :=
  d.names.reverse ++ (List.replicate d.ups dotdot ++ (if d.abs then [[]] else []))

theorem render_eq_R (d : Loc) : render d = (R (stackOf d)).reverse := by
  rw [R_reverse]
  unfold render stackOf
  cases d.abs <;> simp

theorem findUp_noslash : ∀ (c l r : Str), '/' ∉ c → findUp l (c ++ r) = findUp (c.reverse ++ l) r
  | [], _, _, _ => by simp
  | a :: c, l, r, h => by
    have ha : a ≠ '/' := (List.ne_of_not_mem_cons h).symm
    have ih := findUp_noslash c (a :: l) r (List.not_mem_of_not_mem_cons h)
    rw [List.cons_append, findUp]
    have : hasPrefix (a :: (c ++ r)) patUp = false := by
      simp [patUp, hasPrefix_cons_cons, ha]
    simp [this, ih]

theorem findUp_skip (c l r : Str) (h1 : '/' ∉ c) (h2 : c ≠ dotdot) :
    findUp l ('/' :: (c ++ '/' :: r)) = findUp (c.reverse ++ '/' :: l) ('/' :: r) := by
  have hno : hasPrefix ('/' :: (c ++ '/' :: r)) patUp = false := by
    rw [Bool.eq_false_iff, Ne, patUp, hasPrefix_cons_cons, Bool.and_eq_true]
    exact fun h => h2 ((hasPrefix_piece_iff h1 (x := dotdot) (by decide) r).1 h.2).symm
  rw [findUp, if_neg (by rw [hno]; exact Bool.false_ne_true)]
  exact findUp_noslash c ('/' :: l) ('/' :: r) h1

theorem findUp_hit (l r : Str) : findUp l ('/' :: '.' :: '.' :: '/' :: r) = some (l, '/' :: '.' :: '.' :: '/' :: r) := by
  rw [findUp]
  simp [patUp, hasPrefix_cons_cons]

theorem findUp_end (l : Str) : findUp l ['/'] = none := by
  simp [findUp, patUp, hasPrefix_cons_cons]

theorem resolveLoop_congr (fuel : Nat) {l r l' r' : Str} (h1 : findUp l r = findUp l' r')
    (h2 : l.reverse ++ r = l'.reverse ++ r') : resolveLoop fuel l r = resolveLoop fuel l' r' := by
  cases fuel with
  | zero => simp [resolveLoop]
  | succ n =>
    rw [resolveLoop, resolveLoop, h1, h2]

theorem takeWhile_top (top : Str) (rest : List Str) (h : '/' ∉ top) :
    (top.reverse ++ R rest).takeWhile (· ≠ '/') = top.reverse := by
  rw [List.takeWhile_append_of_pos]
  · cases rest <;> simp
  · intro a ha
    simp only [List.mem_reverse] at ha
    simp only [ne_eq, decide_eq_true_eq]
    intro e; exact h (e ▸ ha)

/-- state of the loop when the components passed so far form the stack `stk` (top first) and the components `todo`
    are still ahead: the cursor rests on the '/' that ends the top of the stack, or at index 0 -/
def At (fuel : Nat) : List Str → List Str → Option Str
  | [], todo => resolveLoop fuel [] (joinSlash todo)
  | top :: rest, todo => resolveLoop fuel (top.reverse ++ R rest) ('/' :: joinSlash todo)

theorem stackOf_push_name (d : Loc) (c : Str) :
    stackOf { d with names := d.names ++ [c] } = c :: stackOf d := by
  simp [stackOf]

theorem stackOf_up (u : Nat) : stackOf ⟨false, u + 1, []⟩ = dotdot :: stackOf ⟨false, u, []⟩ := by
  simp [stackOf, List.replicate_succ]

theorem stackOf_walk {d : Loc} {c : Str} (h : c = dotdot → d = ⟨false, 0, []⟩) :
    stackOf (d.walk c) = c :: stackOf d := by
  by_cases hc : c = dotdot
  · rw [h hc, hc]
    rfl
  · rw [d.walk_of_ne hc, stackOf_push_name]

theorem mem_stackOf {d : Loc} (hd : d.Valid) {c : Str} (hc : c ∈ stackOf d) : '/' ∉ c := by
  simp only [stackOf, List.mem_append, List.mem_reverse, List.mem_replicate] at hc
  rcases hc with hc | hc | hc
  · exact (hd.2 c hc).2.1
  · rw [hc.2]; decide
  · split at hc <;> simp at hc
    simp [hc]

/-- the search runs over a component without an iteration unless it is a ".." preceded by a '/' (with the cursor
    at index 0 of a relative path, the first component is not preceded by one) -/
theorem At_push (fuel : Nat) (stk : List Str) (c : Str) (todo : List Str) (hc : '/' ∉ c)
    (hup : c = dotdot → stk = []) : At fuel stk (c :: todo) = At fuel (c :: stk) todo := by
  cases stk with
  | nil =>
    simp only [At, joinSlash_cons, R_nil, List.append_nil]
    apply resolveLoop_congr
    · rw [findUp_noslash c [] _ hc]; simp
    · simp
  | cons top rest =>
    simp only [At, joinSlash_cons, R_cons]
    apply resolveLoop_congr
    · rw [findUp_skip c _ _ hc (mt hup (List.cons_ne_nil _ _))]
    · simp

/-- one iteration at a match whose preceding component is "..":  `src += 3` -/
theorem hit_dotdot (f : Nat) (rest todo : List Str) :
    At (f + 1) (dotdot :: rest) (dotdot :: todo) = At f (dotdot :: dotdot :: rest) todo := by
  show resolveLoop (f + 1) (dotdot.reverse ++ R rest) ('/' :: '.' :: '.' :: '/' :: joinSlash todo) =
    resolveLoop f (dotdot.reverse ++ R (dotdot :: rest)) ('/' :: joinSlash todo)
  rw [resolveLoop, findUp_hit]
  simp only [takeWhile_top dotdot rest (by decide)]
  simp [dotdot]

/-- one iteration at a match at index 0 of an absolute path: `erase(0, 3)` -/
theorem hit_root (f : Nat) (todo : List Str) : At (f + 1) [[]] (dotdot :: todo) = At f [[]] todo := by
  show resolveLoop (f + 1) [] ('/' :: '.' :: '.' :: '/' :: joinSlash todo) = resolveLoop f [] ('/' :: joinSlash todo)
  rw [resolveLoop, findUp_hit]
  simp

/-- one iteration at a match whose preceding component is a name: erase "<name>/../" and back up -/
theorem hit_name (f : Nat) (n : Str) (hn : IsName n) (rest todo : List Str) :
    At (f + 1) (n :: rest) (dotdot :: todo) = At f rest todo := by
  show resolveLoop (f + 1) (n.reverse ++ R rest) ('/' :: '.' :: '.' :: '/' :: joinSlash todo) = _
  rw [resolveLoop, findUp_hit]
  simp only [takeWhile_top n rest hn.2.1]
  have h1 : n.reverse ≠ ['.', '.'] := fun e => hn.2.2.2 (List.reverse_eq_iff.1 e)
  have h2 : n.reverse ≠ [] := by simpa using hn.1
  simp only [h1, h2, ↓reduceIte, List.drop_left, List.drop_succ_cons, List.drop_zero]
  cases rest <;> simp [At]

theorem At_dotdot (f : Nat) {d : Loc} (hd : d.Valid) (todo : List Str) (hne : d ≠ ⟨false, 0, []⟩) :
    At (f + 1) (stackOf d) (dotdot :: todo) = At f (stackOf (d.walk dotdot)) todo := by
  revert hne
  apply hd.shape
  · intro a hne
    cases a with
    | false => exact absurd rfl hne
    | true => exact hit_root f todo
  · intro u _
    rw [Loc.walk_up_rel, stackOf_up (u + 1), stackOf_up u]
    exact hit_dotdot f _ todo
  · intro a u ns n _ hn _
    rw [Loc.walk_up_snoc, stackOf_push_name ⟨a, u, ns⟩ n]
    exact hit_name f n hn _ todo

/-- an iteration is spent only on a ".." of `todo` (`At_push` costs none), so `todo.length + 1` units of fuel suffice -/
theorem loop_main (todo : List Str) : ∀ (fuel : Nat) (d : Loc), d.Valid → (∀ c ∈ todo, IsComp c) →
    todo.length < fuel → At fuel (stackOf d) todo = some (render (todo.foldl Loc.walk d)) := by
  induction todo with
  | nil =>
    intro fuel d _ _ hf
    cases fuel with
    | zero => cases hf
    | succ n =>
      rw [List.foldl_nil, render_eq_R]
      cases stackOf d with
      | nil => simp [At, resolveLoop, findUp]
      | cons top rest => simp [At, resolveLoop, findUp_end]
  | cons c todo ih =>
    intro fuel d hd hcs hf
    obtain ⟨hc, htodo⟩ := List.forall_mem_cons.1 hcs
    have hv : (d.walk c).Valid := Loc.walk_valid hd hc
    rw [List.foldl_cons]
    by_cases h : c = dotdot → d = ⟨false, 0, []⟩
    · rw [At_push fuel _ c todo hc.2.1 fun e => congrArg stackOf (h e), ← stackOf_walk h]
      exact ih fuel _ hv htodo (Nat.lt_of_succ_lt hf)
    · obtain ⟨rfl, hs⟩ := Classical.not_imp.1 h
      cases fuel with
      | zero => cases hf
      | succ f =>
        rw [At_dotdot f hd todo hs]
        exact ih f _ hv htodo (Nat.lt_of_succ_lt_succ hf)

theorem resolveUps_W (abs : Bool) (cs : List Str) (h : ∀ c ∈ cs, IsComp c) :
    resolveUps (W abs cs) = some (render (cs.foldl Loc.walk ⟨abs, 0, []⟩)) := by
  -- the fuel of `resolveUps`, |text| + 1, is at least `cs.length + 1`
  have hlen := length_le_joinSlash cs
  cases abs with
  | true =>
    exact loop_main cs ((joinSlash cs).length + 1 + 1) ⟨true, 0, []⟩ ⟨fun _ => rfl, nofun⟩ h
      (Nat.lt_succ_of_le (Nat.le_succ_of_le hlen))
  | false =>
    exact loop_main cs ((joinSlash cs).length + 1) ⟨false, 0, []⟩ ⟨nofun, nofun⟩ h (Nat.lt_succ_of_le hlen)

/-- termination and refinement: pass 4 leaves through `break` within its fuel, and the character-level
    transcription computes the component-level specification -/
theorem processPathC?_eq_some (p : Str) : processPathC? p = some (processPathS p) := by
  unfold processPathC? processPathS denote
  -- the `let`s of `processPathC?`
  simp only
  rw [passes_comps, resolveUps_W _ _ fun c hc => isComp_of_mem_comps hc]

end DV.C18
