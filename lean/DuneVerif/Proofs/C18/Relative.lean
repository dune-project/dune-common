/-
C18: relativePath.  The character-level common-prefix / back-up computation removes exactly the longest common list
of leading components (`relCore`); hence `relativePathWith`, over any sanitiser that returns `render d`, is
`relativeSpec` on the two locations (`relativeWith_spec`).  Everything else is list reasoning about `relativeSpec`.
-/
import DuneVerif.Proofs.C18.Spec

namespace DV.C18

theorem splitCommon_append (C B P : List Str) : splitCommon (C ++ B) (C ++ P) = splitCommon B P := by
  induction C with
  | nil => rfl
  | cons c C ih => exact (if_pos rfl).trans ih

theorem splitCommon_self : ∀ l : List Str, splitCommon l l = ([], []) :=
  fun l => by
    have := splitCommon_append l [] []
    rwa [List.append_nil] at this

theorem splitCommon_spec (B P : List Str) : ∃ C, B = C ++ (splitCommon B P).1 ∧ P = C ++ (splitCommon B P).2 := by
  fun_induction splitCommon B P with
  | case1 B c P ih =>
    obtain ⟨C, h1, h2⟩ := ih
    exact ⟨c :: C, congrArg _ h1, congrArg _ h2⟩
  | case2 => exact ⟨[], rfl, rfl⟩
  | case3 => exact ⟨[], rfl, rfl⟩

theorem splitCommon_tailList_le {b p : Loc} (h : b.ups ≤ p.ups) :
    (splitCommon (tailList b) (tailList p)).1 <:+ b.names := by
  obtain ⟨k, hk⟩ := Nat.exists_eq_add_of_le h
  unfold tailList
  rw [hk, ← List.replicate_append_replicate, List.append_assoc, splitCommon_append]
  obtain ⟨C, h1, _⟩ := splitCommon_spec b.names (List.replicate k dotdot ++ p.names)
  exact ⟨C, h1.symm⟩

theorem splitCommon_tailList_gt {b p : Loc} (hp : ∀ n ∈ p.names, n ≠ dotdot) (h : p.ups < b.ups) :
    ∃ X, (splitCommon (tailList b) (tailList p)).1 = dotdot :: X := by
  obtain ⟨k, hk⟩ := Nat.exists_eq_add_of_lt h
  unfold tailList
  rw [hk, Nat.add_assoc, ← List.replicate_append_replicate, List.append_assoc, splitCommon_append,
    List.replicate_succ, List.cons_append]
  -- nothing more is common: ".." is not among the names of `p`
  obtain ⟨C, h1, h2⟩ := splitCommon_spec (dotdot :: (List.replicate k dotdot ++ b.names)) p.names
  cases C with
  | nil => exact ⟨_, h1.symm⟩
  | cons c C => exact absurd (List.cons.inj h1).1.symm (hp c (h2 ▸ List.mem_cons_self ..))

theorem commonPrefixLen_nil_left (y : Str) : commonPrefixLen [] y = 0 := rfl
theorem commonPrefixLen_nil_right (x : Str) : commonPrefixLen x [] = 0 := by
  cases x <;> rfl

theorem backUp_zero (s : Str) : backUp s 0 = 0 := rfl

/-- `backUp` recurses on the index; this is its equation along the text (the last '/' before index `k+1` of `x :: s`
    is that of `s`, or `x`, or there is none), by which `backUp t (commonPrefixLen s t)` is followed in the direction
    in which `commonPrefixLen` runs -/
theorem backUp_cons (x : Char) (s : Str) (k : Nat) :
    backUp (x :: s) (k + 1) = if backUp s k = 0 ∧ x ≠ '/' then 0 else backUp s k + 1 := by
  induction k with
  | zero =>
    by_cases hx : x = '/'
    · subst hx; rfl
    · exact (if_neg fun h => hx (Option.some.inj h)).trans (if_pos ⟨rfl, hx⟩).symm
  | succ k ih =>
    by_cases h : s[k]? = some '/'
    · rw [show backUp s (k+1) = k + 1 from if_pos h]
      exact (if_pos h).trans (if_neg fun h => Nat.succ_ne_zero _ h.1).symm
    · rw [show backUp s (k+1) = backUp s k from if_neg h, ← ih]
      exact if_neg h

theorem backUp_common_same (s t c : Str) :
    backUp (c ++ '/' :: t) (commonPrefixLen (c ++ '/' :: s) (c ++ '/' :: t))
      = c.length + (backUp t (commonPrefixLen s t) + 1) := by
  induction c with
  | nil =>
    rw [List.nil_append, List.nil_append, commonPrefixLen, if_pos rfl, backUp_cons, if_neg fun h => h.2 rfl]
    exact (Nat.zero_add _).symm
  | cons x c ih =>
    rw [List.cons_append, List.cons_append, commonPrefixLen, if_pos rfl, backUp_cons, ih,
      if_neg fun h => Nat.succ_ne_zero _ h.1]
    exact (Nat.succ_add _ _).symm

theorem backUp_common_differ (s t : Str) : ∀ c1 c2 : Str, '/' ∉ c1 → '/' ∉ c2 → c1 ≠ c2 →
    backUp (c2 ++ '/' :: t) (commonPrefixLen (c1 ++ '/' :: s) (c2 ++ '/' :: t)) = 0 := by
  intro c1
  induction c1 with
  | nil =>
    intro c2 _ h2 h
    cases c2 with
    | nil => exact absurd rfl h
    | cons b c2 =>
      rw [List.nil_append, List.cons_append, commonPrefixLen, if_neg (List.ne_of_not_mem_cons h2)]
      rfl
  | cons a c1 ih =>
    intro c2 h1 h2 h
    have ha := (List.ne_of_not_mem_cons h1).symm
    cases c2 with
    | nil =>
      rw [List.nil_append, List.cons_append, commonPrefixLen, if_neg ha]
      rfl
    | cons b c2 =>
      rw [List.cons_append, List.cons_append, commonPrefixLen]
      by_cases hab : a = b
      · subst hab
        rw [if_pos rfl, backUp_cons, ih c2 (List.not_mem_of_not_mem_cons h1) (List.not_mem_of_not_mem_cons h2)
          fun e => h (by rw [e])]
        exact if_pos ⟨rfl, ha⟩
      · rw [if_neg hab]
        rfl

theorem relCore : ∀ (B P : List Str), (∀ c ∈ B, '/' ∉ c) → (∀ c ∈ P, '/' ∉ c) →
    (joinSlash B).drop (backUp (joinSlash P) (commonPrefixLen (joinSlash B) (joinSlash P)))
        = joinSlash (splitCommon B P).1 ∧
    (joinSlash P).drop (backUp (joinSlash P) (commonPrefixLen (joinSlash B) (joinSlash P)))
        = joinSlash (splitCommon B P).2 := by
  intro B
  induction B with
  | nil =>
    intro P _ _
    rw [joinSlash_nil, commonPrefixLen_nil_left]
    exact ⟨rfl, rfl⟩
  | cons c B ih =>
    intro P hB hP
    cases P with
    | nil =>
      rw [joinSlash_nil, commonPrefixLen_nil_right]
      exact ⟨rfl, rfl⟩
    | cons c' P =>
      rw [joinSlash_cons, joinSlash_cons, splitCommon]
      by_cases h : c = c'
      · subst h
        rw [if_pos rfl, backUp_common_same, List.drop_length_add_append, List.drop_length_add_append,
          List.drop_succ_cons, List.drop_succ_cons]
        exact ih P (List.forall_mem_cons.1 hB).2 (List.forall_mem_cons.1 hP).2
      · rw [if_neg h, backUp_common_differ _ _ c c' (List.forall_mem_cons.1 hB).1 (List.forall_mem_cons.1 hP).1 h]
        exact ⟨(joinSlash_cons ..).symm, (joinSlash_cons ..).symm⟩

theorem joinSlash_replicate_up (k : Nat) :
    joinSlash (List.replicate k dotdot) = (List.replicate k ['.', '.', '/']).flatten :=
  List.flatMap_replicate

theorem count_slash_joinSlash (cs : List Str) (h : ∀ c ∈ cs, '/' ∉ c) : (joinSlash cs).count '/' = cs.length := by
  induction cs with
  | nil => rfl
  | cons c cs ih =>
    rw [joinSlash_cons, List.count_append, List.count_cons_self, ih (List.forall_mem_cons.1 h).2,
      List.count_eq_zero.2 (List.forall_mem_cons.1 h).1, Nat.zero_add]
    rfl

theorem walk_push_pop (X : Loc) (c : Str) (hc : c ≠ dotdot) : (X.walk c).walk dotdot = X := by
  simp [Loc.walk, hc]

theorem push_pop (B' : List Str) (X : Loc) (h : ∀ c ∈ B', c ≠ dotdot) :
    (B' ++ List.replicate B'.length dotdot).foldl Loc.walk X = X := by
  induction B' generalizing X with
  | nil => rfl
  | cons c B' ih =>
    rw [List.cons_append, List.foldl_cons, List.length_cons, List.replicate_succ', ← List.append_assoc,
      List.foldl_append, ih _ (List.forall_mem_cons.1 h).2]
    exact walk_push_pop X c (List.forall_mem_cons.1 h).1

theorem relCore_W (a : Bool) (Bt Pt : List Str) (hB : ∀ c ∈ Bt, '/' ∉ c) (hP : ∀ c ∈ Pt, '/' ∉ c) :
    (W a Bt).drop (backUp (W a Pt) (commonPrefixLen (W a Bt) (W a Pt))) = joinSlash (splitCommon Bt Pt).1 ∧
    (W a Pt).drop (backUp (W a Pt) (commonPrefixLen (W a Bt) (W a Pt))) = joinSlash (splitCommon Bt Pt).2 := by
  cases a with
  | false => exact relCore Bt Pt hB hP
  | true =>
    -- the root is an empty first component, common to both
    exact relCore ([] :: Bt) ([] :: Pt) (List.forall_mem_cons.2 ⟨List.not_mem_nil, hB⟩)
      (List.forall_mem_cons.2 ⟨List.not_mem_nil, hP⟩)

theorem relativeWith_spec (proc : Str → Str) (b p : Str) {db dp : Loc} (hdb : db.Valid) (hdp : dp.Valid)
    (hb : proc b = render db) (hp : proc p = render dp) (hab : isAbs b = db.abs) (hap : isAbs p = dp.abs) :
    relativePathWith proc b p = relativeSpec db dp := by
  unfold relativePathWith relativeSpec
  simp only [hasPrefix_slash, hab, hap, hb, hp]
  by_cases ha : db.abs = dp.abs
  case neg => simp [ha]
  have hsB : ∀ c ∈ tailList db, '/' ∉ c := fun c hc => (isComp_of_mem_stack hdb c hc).2.1
  have hsP : ∀ c ∈ tailList dp, '/' ∉ c := fun c hc => (isComp_of_mem_stack hdp c hc).2.1
  obtain ⟨e1, e2⟩ := relCore_W dp.abs _ _ hsB hsP
  simp only [ha, bne_self_eq_false, Bool.false_eq_true, ↓reduceIte, true_and, render_eq_W, e1, e2]
  by_cases hu : db.ups ≤ dp.ups
  · -- what is left of the base are names: one ".." each
    have hB := splitCommon_tailList_le hu
    generalize (splitCommon (tailList db) (tailList dp)).1 = B' at hB ⊢
    have hnm : ∀ c ∈ B', IsName c := fun c hc => hdb.2 c (hB.subset hc)
    have hup : hasPrefix (joinSlash B') ['.', '.', '/'] = false := by
      cases B' with
      | nil => rfl
      | cons x X =>
        have hx := hnm x (List.mem_cons_self ..)
        exact Bool.eq_false_iff.2 fun h => hx.2.2.2 ((hasPrefix_up_joinSlash_iff hx.2.1 X).1 h)
    rw [if_neg (by simp [hup]), if_pos hu, count_slash_joinSlash B' (fun c hc => (hnm c hc).2.1),
      ← joinSlash_replicate_up, joinSlash_append]
  · obtain ⟨X, hX⟩ := splitCommon_tailList_gt (fun n hn => (hdp.2 n hn).2.2.2) (Nat.lt_of_not_le hu)
    rw [hX, (hasPrefix_up_joinSlash_iff (by decide) X).2 rfl, if_pos rfl, if_neg hu]

theorem relativeSpec_eq_ok {b p : Loc} {r : Str} : relativeSpec b p = .ok r ↔ (b.abs = p.abs ∧ b.ups ≤ p.ups) ∧
    joinSlash (List.replicate (splitCommon (tailList b) (tailList p)).1.length dotdot ++
      (splitCommon (tailList b) (tailList p)).2) = r := by
  unfold relativeSpec
  split <;> simp [*]

theorem relativeSpec_defined (b p : Loc) : (∃ r, relativeSpec b p = .ok r) ↔ (b.abs = p.abs ∧ b.ups ≤ p.ups) :=
  ⟨fun ⟨_, h⟩ => (relativeSpec_eq_ok.1 h).1, fun h => ⟨_, relativeSpec_eq_ok.2 ⟨h, rfl⟩⟩⟩

/-- a list ending a "leading ups, then names" list has the same shape: the cut falls among the names or among the ups -/
theorem suffix_shape (u : Nat) (ns C S : List Str) (h : List.replicate u dotdot ++ ns = C ++ S) :
    ∃ j ns', S = List.replicate j dotdot ++ ns' ∧ ∀ n ∈ ns', n ∈ ns := by
  rcases List.append_eq_append_iff.1 h with ⟨as, _, h2⟩ | ⟨bs, h1, h2⟩
  · exact ⟨0, S, rfl, fun n hn => h2 ▸ List.mem_append_right as hn⟩
  · exact ⟨bs.length, ns, by rw [h2, ← (List.replicate_eq_append_iff.1 h1).2.2], fun _ hn => hn⟩

theorem relativeSpec_normalForm {b p : Loc} (hp : p.Valid) {r : Str} (h : relativeSpec b p = .ok r) :
    NormalForm r ∧ isAbs r = false := by
  obtain ⟨_, h⟩ := relativeSpec_eq_ok.1 h
  obtain ⟨C, _, hC2⟩ := splitCommon_spec (tailList b) (tailList p)
  generalize (splitCommon (tailList b) (tailList p)).1 = B' at *
  generalize (splitCommon (tailList b) (tailList p)).2 = P' at *
  obtain ⟨j, ns', hS, hmem⟩ := suffix_shape p.ups p.names C P' hC2
  subst hS
  have hval : Loc.Valid ⟨false, B'.length + j, ns'⟩ :=
    ⟨by simp, fun n hn => hp.2 n (hmem n hn)⟩
  have hr : r = render ⟨false, B'.length + j, ns'⟩ := by
    rw [← h, ← List.append_assoc, List.replicate_append_replicate]
    simp [render]
  exact ⟨⟨_, hval, hr⟩, by rw [hr, isAbs_render hval]⟩

theorem relativeSpec_walk {b p : Loc} (hb : b.Valid) (hp : p.Valid) {r : Str} (h : relativeSpec b p = .ok r) :
    (comps r).foldl Loc.walk b = p := by
  obtain ⟨hc, rfl⟩ := relativeSpec_eq_ok.1 h
  have hB := splitCommon_tailList_le hc.2
  obtain ⟨C, hC1, hC2⟩ := splitCommon_spec (tailList b) (tailList p)
  generalize (splitCommon (tailList b) (tailList p)).1 = B' at *
  generalize (splitCommon (tailList b) (tailList p)).2 = P' at *
  have hcomps : ∀ c ∈ List.replicate B'.length dotdot ++ P', IsComp c := by
    intro c hc
    rcases List.mem_append.1 hc with hc | hc
    · rw [(List.mem_replicate.1 hc).2]; exact isComp_dotdot
    · exact isComp_of_mem_stack hp c (by show c ∈ tailList p; rw [hC2]; simp [hc])
  have eb := foldl_walk_tailList hb
  rw [hC1, hc.1] at eb
  -- up from `b` over what is left of the base, to the common ancestor `C`; then down `P'`
  rw [comps_joinSlash _ hcomps, ← eb, ← List.foldl_append, List.append_assoc, ← List.append_assoc B',
    List.foldl_append, List.foldl_append, push_pop B' _ (fun c hc => (hb.2 c (hB.subset hc)).2.2.2),
    ← List.foldl_append, ← hC2]
  exact foldl_walk_tailList hp

end DV.C18
