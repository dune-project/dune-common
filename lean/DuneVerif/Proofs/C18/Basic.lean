/-
C18, strings: `hasPrefix`/`hasSuffix` are `<+:`/`<:+`, `cstr s` is `s` up to its first NUL, `formatStringWith` through
the equations of `snprintfM`, and the algebra of `splitSlash`/`joinSlash` (pieces between the slashes), up to the first
piece of a text (`hasPrefix_piece_iff`) and the last (`lastPiece_eq_iff`).

The bodies of `hasPrefix`/`hasSuffix` regenerated from stringutility.hh are the canonical transcriptions
(`hasPrefix_eq_canon`, `hasSuffix_eq_canon`), whose `equalRange` is core's `List.isPrefixOf`; the size test and the heap
size regenerated from `formatString` are sound (`fmtFitsStack_sound`, `fmtDynamicSize_sound`), which gives
`formatStringWith_text`.  `splitSlash` is core's `List.splitOn '/'` (`splitSlash_eq_splitOn`) and is followed piece by
piece: `splitSlash_piece`, `piece_induction`.
-/
import DuneVerif.Model.C18

namespace DV.C18

theorem equalRange_eq_isPrefixOf (p c : Str) : equalRange p c = p.isPrefixOf c := by
  induction p generalizing c with
  | nil => rfl
  | cons a p ih =>
    cases c with
    | nil => rfl
    | cons b c => exact congrArg (a == b && ·) (ih c)

set_option linter.unusedSimpArgs false in
/-- the body of `hasPrefix` regenerated from stringutility.hh is the canonical transcription, whatever the spelling
    of the size test (which of `h`, `h2` `simp` needs depends on that spelling, hence the linter option) -/
theorem hasPrefix_eq_canon (c pre : Str) : hasPrefix c pre = hasPrefixCanon c pre := by
  unfold hasPrefix hasPrefixCanon
  by_cases h : pre.length ≤ c.length
  · have h2 : ¬ c.length < pre.length := by omega
    simp [h, h2]
  · have h2 : c.length < pre.length := by omega
    simp [h, h2]

set_option linter.unusedSimpArgs false in
/-- the body of `hasSuffix` regenerated from stringutility.hh is the canonical transcription -/
theorem hasSuffix_eq_canon (c suf : Str) : hasSuffix c suf = hasSuffixCanon c suf := by
  unfold hasSuffix hasSuffixCanon
  by_cases h : suf.length ≤ c.length
  · have h2 : ¬ c.length < suf.length := by omega
    simp [h, h2]
  · have h2 : c.length < suf.length := by omega
    simp [h, h2]

theorem hasPrefix_iff_isPrefix (c pre : Str) : hasPrefix c pre = true ↔ pre <+: c := by
  rw [hasPrefix_eq_canon]
  unfold hasPrefixCanon
  rw [Bool.and_eq_true, equalRange_eq_isPrefixOf, List.isPrefixOf_iff_prefix, decide_eq_true_iff]
  exact ⟨fun h => h.2, fun h => ⟨h.length_le, h⟩⟩

theorem hasSuffix_iff_isSuffix (c suf : Str) : hasSuffix c suf = true ↔ suf <:+ c := by
  rw [hasSuffix_eq_canon]
  unfold hasSuffixCanon
  by_cases h : c.length < suf.length
  · rw [if_pos h]
    exact ⟨nofun, fun h' => absurd h'.length_le (Nat.not_le.2 h)⟩
  · rw [if_neg h, equalRange_eq_isPrefixOf, List.isPrefixOf_iff_prefix, List.suffix_iff_eq_drop]
    have hl : suf.length = (c.drop (c.length - suf.length)).length := by
      rw [List.length_drop, Nat.sub_sub_self (Nat.le_of_not_lt h)]
    exact ⟨fun h' => h'.eq_of_length hl, fun e => by rw [← e]; exact List.prefix_refl _⟩

theorem hasPrefix_cons_cons (a b : Char) (c p : Str) :
    hasPrefix (a :: c) (b :: p) = (a == b && hasPrefix c p) := by
  rw [Bool.eq_iff_iff, Bool.and_eq_true, beq_iff_eq, hasPrefix_iff_isPrefix, hasPrefix_iff_isPrefix,
    List.cons_prefix_cons]
  exact and_congr_left' eq_comm

@[simp] theorem hasPrefix_nil (c : Str) : hasPrefix c [] = true := by
  simp [hasPrefix_iff_isPrefix]

@[simp] theorem hasPrefix_nil_cons (b : Char) (p : Str) : hasPrefix [] (b :: p) = false := by
  rw [Bool.eq_false_iff]; simp [hasPrefix_iff_isPrefix]

theorem hasPrefix_slash (q : Str) : hasPrefix q ['/'] = isAbs q := by
  cases q with
  | nil => rfl
  | cons c q => simp [hasPrefix_cons_cons, isAbs, Bool.beq_eq_decide_eq]

theorem cstr_nil : cstr [] = [] := rfl

theorem cstr_cons (c : Char) (r : Str) : cstr (c :: r) = if c = Char.ofNat 0 then [] else c :: cstr r := by
  unfold cstr
  by_cases h : c = Char.ofNat 0 <;> simp [h]

theorem cstr_decomp (s : Str) : cstr s = s ∨ ∃ t, s = cstr s ++ Char.ofNat 0 :: t := by
  have hs : cstr s ++ s.dropWhile (· ≠ Char.ofNat 0) = s := List.takeWhile_append_dropWhile
  cases hd : s.dropWhile (· ≠ Char.ofNat 0) with
  | nil => left; rwa [hd, List.append_nil] at hs
  | cons a t =>
    -- what `takeWhile` stopped at is a NUL
    have ha := List.head?_dropWhile_not (· ≠ Char.ofNat 0) s
    rw [hd] at ha hs
    obtain rfl : a = Char.ofNat 0 := by simpa using ha
    exact Or.inr ⟨t, hs.symm⟩

theorem cstr_no_nul (s : Str) : Char.ofNat 0 ∉ cstr s := fun h => by
  have := List.all_eq_true.1 (List.all_takeWhile (l := s) (p := (· ≠ Char.ofNat 0))) _ h
  simp at this

theorem formatStringWith_convError (cap : Nat) : formatStringWith cap none = .exception := by
  simp [formatStringWith, snprintfM]

/-- the regenerated size test is sound: when it says "the stack buffer was large enough", the result (r characters
    and the terminating NUL) did fit into `cap` bytes.  (Proved by arithmetic on whatever comparison the source
    has: `r < cap`, `r <= cap-1`, `r+1 < cap` ... pass; `r <= cap` does not.) -/
theorem fmtFitsStack_sound (r cap : Nat) (h : fmtFitsStack r cap = true) : r < cap := by
  unfold fmtFitsStack at h
  simp only [decide_eq_true_eq] at h
  omega

/-- the regenerated heap-buffer size has room for the r characters and the terminating NUL -/
theorem fmtDynamicSize_sound (r : Nat) : r < fmtDynamicSize r := by
  unfold fmtDynamicSize
  omega

theorem snprintfM_some {t : Str} (h : t.length ≤ intMax) (cap : Nat) :
    snprintfM cap (some t) = some (if cap = 0 then [] else t.take (cap - 1), t.length) :=
  if_neg (Nat.not_lt.2 h)

theorem snprintfM_fits {t : Str} (h : t.length ≤ intMax) {cap : Nat} (hc : t.length < cap) :
    snprintfM cap (some t) = some (t, t.length) := by
  rw [snprintfM_some h, if_neg (Nat.ne_of_gt (Nat.zero_lt_of_lt hc)),
    List.take_of_length_le (Nat.le_sub_one_of_lt hc)]

/-- for every capacity of the stack buffer (also 0 and 1) the complete text comes back, provided its length
    is representable in `int`; otherwise snprintf reports an error and formatString throws -/
theorem formatStringWith_text (cap : Nat) (t : Str) :
    formatStringWith cap (some t) = if t.length ≤ intMax then .ok t else .exception := by
  unfold formatStringWith
  by_cases h : t.length ≤ intMax
  · rw [if_pos h]
    by_cases hfit : fmtFitsStack t.length cap = true
    · simp only [snprintfM_fits h (fmtFitsStack_sound _ _ hfit), hfit, ↓reduceIte]
    · simp only [snprintfM_some h cap, hfit, snprintfM_fits h (fmtDynamicSize_sound _), Bool.false_eq_true,
        ↓reduceIte]
  · rw [if_neg h, show snprintfM cap (some t) = none from if_pos (Nat.lt_of_not_le h)]

theorem splitSlash_eq_splitOn (p : Str) : splitSlash p = p.splitOn '/' := by
  induction p with
  | nil => rfl
  | cons c r ih =>
    -- on `[]` the model's `match` and `modifyHead` differ (`[[c]]`, `[]`); the tail is never split into `[]`
    obtain ⟨h, t, e⟩ := List.exists_cons_of_ne_nil (List.splitOn_ne_nil '/' r)
    rw [splitSlash, List.splitOn_cons_eq_if_modifyHead, ih, e]
    simp only [beq_iff_eq]
    rfl

theorem splitSlash_cons_slash (r : Str) : splitSlash ('/' :: r) = [] :: splitSlash r := by
  simp [splitSlash]

theorem splitSlash_of_no_slash {n : Str} (h : '/' ∉ n) : splitSlash n = [n] := by
  rw [splitSlash_eq_splitOn, List.splitOn_eq_singleton h]

theorem splitSlash_piece {c : Str} (h : '/' ∉ c) (r : Str) : splitSlash (c ++ '/' :: r) = c :: splitSlash r := by
  rw [splitSlash_eq_splitOn, List.splitOn_append_cons_self_of_not_mem h, splitSlash_eq_splitOn]

theorem splitSlash_ne_nil (p : Str) : splitSlash p ≠ [] := by
  rw [splitSlash_eq_splitOn]
  exact List.splitOn_ne_nil _ _

theorem splitSlash_append_slash (x y : Str) : splitSlash (x ++ '/' :: y) = splitSlash x ++ splitSlash y := by
  rw [splitSlash_eq_splitOn, splitSlash_eq_splitOn x, splitSlash_eq_splitOn y]
  exact List.splitOn_append_cons_self x y

/-- a text is a slash-free piece, or a slash-free piece, a '/' and a text: the induction that follows `splitSlash`
    piece by piece -/
theorem piece_induction {motive : Str → Prop} (last : ∀ n, '/' ∉ n → motive n)
    (piece : ∀ c r, '/' ∉ c → motive r → motive (c ++ '/' :: r)) (p : Str) : motive p := by
  -- `acc` collects the characters of the piece being read
  suffices ∀ p acc, '/' ∉ acc → motive (acc ++ p) from this p [] List.not_mem_nil
  intro p
  induction p with
  | nil => intro acc h; rw [List.append_nil]; exact last acc h
  | cons a p ih =>
    intro acc h
    by_cases ha : a = '/'
    · subst ha; exact piece acc p h (ih [] List.not_mem_nil)
    · rw [List.append_cons]
      exact ih (acc ++ [a]) (by simp [h, Ne.symm ha])

theorem no_slash_of_mem_splitSlash (p : Str) (c : Str) : c ∈ splitSlash p → '/' ∉ c := by
  induction p using piece_induction with
  | last n h => rw [splitSlash_of_no_slash h, List.mem_singleton]; rintro rfl; exact h
  | piece c' r h ih =>
    rw [splitSlash_piece h, List.mem_cons]
    rintro (rfl | h')
    · exact h
    · exact ih h'

theorem hasPrefix_piece_iff {c x : Str} (hc : '/' ∉ c) (hx : '/' ∉ x) (r : Str) :
    hasPrefix (c ++ '/' :: r) (x ++ ['/']) = true ↔ x = c := by
  rw [hasPrefix_iff_isPrefix]
  constructor
  · rintro ⟨t, ht⟩
    -- cut both sides at their first '/'
    have := congrArg splitSlash ht
    rw [List.append_assoc, List.singleton_append, splitSlash_piece hx, splitSlash_piece hc] at this
    exact (List.cons.inj this).1
  · rintro rfl
    exact ⟨r, by rw [List.append_assoc, List.singleton_append]⟩

@[simp] theorem joinSlash_nil : joinSlash [] = [] := rfl
@[simp] theorem joinSlash_cons (c : Str) (cs : List Str) : joinSlash (c :: cs) = c ++ '/' :: joinSlash cs := by
  simp [joinSlash]
@[simp] theorem joinSlash_append (a b : List Str) : joinSlash (a ++ b) = joinSlash a ++ joinSlash b := by
  simp [joinSlash]

theorem splitSlash_joinSlash : ∀ (cs : List Str), (∀ c ∈ cs, '/' ∉ c) → splitSlash (joinSlash cs) = cs ++ [[]]
  | [], _ => by simp [splitSlash]
  | c :: cs, h => by
    rw [joinSlash_cons, splitSlash_piece (List.forall_mem_cons.1 h).1,
      splitSlash_joinSlash cs (List.forall_mem_cons.1 h).2]
    rfl

theorem joinSlash_splitSlash (p : Str) : joinSlash (splitSlash p) = p ++ ['/'] := by
  induction p using piece_induction with
  | last n h => rw [splitSlash_of_no_slash h]; simp
  | piece c r h ih => rw [splitSlash_piece h, joinSlash_cons, ih, List.append_assoc]; rfl

theorem length_le_joinSlash : ∀ cs : List Str, cs.length ≤ (joinSlash cs).length
  | [] => Nat.le_refl 0
  | c :: cs => by
    rw [joinSlash_cons, List.length_append, List.length_cons, List.length_cons]
    exact Nat.le_trans (Nat.succ_le_succ (length_le_joinSlash cs)) (Nat.le_add_left _ _)

theorem hasPrefix_up_joinSlash_iff {x : Str} (hx : '/' ∉ x) (X : List Str) :
    hasPrefix (joinSlash (x :: X)) ['.', '.', '/'] = true ↔ x = dotdot := by
  rw [joinSlash_cons]
  exact (hasPrefix_piece_iff hx (x := dotdot) (by decide) _).trans eq_comm

theorem joinSlash_nil_or_slash (cs : List Str) : joinSlash cs = [] ∨ ['/'] <:+ joinSlash cs := by
  rcases List.eq_nil_or_concat cs with h | ⟨cs', c, h⟩
  · left; simp [h]
  · right; rw [List.concat_eq_append] at h; subst h
    exact ⟨joinSlash cs' ++ c, by simp⟩

theorem lastPiece_eq_iff {c : Str} (hc : '/' ∉ c) (r : Str) :
    (splitSlash r).getLast? = some c ↔ r = c ∨ '/' :: c <:+ r := by
  constructor
  · intro h
    obtain ⟨init, hs⟩ := List.getLast?_eq_some_iff.1 h
    have hj := joinSlash_splitSlash r
    rw [hs, joinSlash_append, joinSlash_cons, joinSlash_nil, ← List.append_assoc] at hj
    have hp : r = joinSlash init ++ c := (List.append_cancel_right hj).symm
    rcases joinSlash_nil_or_slash init with hi | ⟨y, hi⟩
    · left; rw [hp, hi]; rfl
    · right; exact ⟨y, by rw [hp, ← hi, List.append_assoc]; rfl⟩
  · rintro (rfl | ⟨x, rfl⟩)
    · rw [splitSlash_of_no_slash hc]; rfl
    · rw [splitSlash_append_slash, splitSlash_of_no_slash hc, List.getLast?_concat]

theorem getLast?_splitSlash_append (y n : Str) (hn : '/' ∉ n) (hy : y = [] ∨ ['/'] <:+ y) :
    (splitSlash (y ++ n)).getLast? = some n :=
  (lastPiece_eq_iff hn _).2 <| hy.elim (fun h => Or.inl (by rw [h]; rfl))
    fun ⟨y', h⟩ => Or.inr ⟨y', by rw [← h, List.append_assoc]; rfl⟩

end DV.C18
