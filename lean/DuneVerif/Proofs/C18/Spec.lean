/-
C18, the component-level specification: `denote p` is a valid location, and `render` is read back by `denote`
(`denote_render`), so the normal forms are the fixed points of `processPathS`.  `W abs cs` is `render` for an arbitrary
list of components.
-/
import DuneVerif.Proofs.C18.Basic

namespace DV.C18

/-- what `comps` lets through -/
def IsComp (c : Str) : Prop := c ≠ [] ∧ '/' ∉ c ∧ c ≠ dot

theorem IsName.isComp {n : Str} (h : IsName n) : IsComp n := ⟨h.1, h.2.1, h.2.2.1⟩

theorem isComp_dotdot : IsComp dotdot := by
  unfold IsComp dotdot dot; decide

theorem isComp_of_mem_comps {p c : Str} (h : c ∈ comps p) : IsComp c := by
  unfold comps at h
  rw [List.mem_filter] at h
  have h2 := h.2
  simp only [decide_eq_true_eq] at h2
  exact ⟨h2.1, no_slash_of_mem_splitSlash p c h.1, h2.2⟩

theorem Loc.walk_of_ne (d : Loc) {c : Str} (hc : c ≠ dotdot) : d.walk c = { d with names := d.names ++ [c] } :=
  if_neg hc

theorem Loc.walk_up_snoc (a : Bool) (u : Nat) (ns : List Str) (n : Str) :
    Loc.walk ⟨a, u, ns ++ [n]⟩ dotdot = ⟨a, u, ns⟩ := by
  simp [Loc.walk]

theorem Loc.walk_up_rel (u : Nat) : Loc.walk ⟨false, u, []⟩ dotdot = ⟨false, u + 1, []⟩ := rfl

theorem Loc.walk_up_root : Loc.walk ⟨true, 0, []⟩ dotdot = ⟨true, 0, []⟩ := rfl

theorem Loc.walk_abs (d : Loc) (c : Str) : (d.walk c).abs = d.abs := by
  simp only [Loc.walk, apply_ite Loc.abs, ite_self]

theorem denote_abs (p : Str) : (denote p).abs = isAbs p :=
  List.foldlRecOn (motive := fun d => d.abs = isAbs p) _ _ rfl fun d hd c _ => (Loc.walk_abs d c).trans hd

theorem Loc.walk_valid {d : Loc} (hd : d.Valid) {c : Str} (hc : IsComp c) : (d.walk c).Valid := by
  unfold Loc.walk
  by_cases h : c = dotdot
  · rw [if_pos h]
    by_cases hn : d.names = []
    · rw [if_neg (not_not_intro hn)]
      by_cases ha : d.abs = true
      · rwa [if_pos ha]
      · rw [if_neg ha]
        exact ⟨fun h => absurd h ha, hd.2⟩
    · rw [if_pos hn]
      exact ⟨hd.1, fun n hn => hd.2 n (List.dropLast_subset _ hn)⟩
  · rw [if_neg h]
    exact ⟨hd.1, fun n hn => (List.mem_append.1 hn).elim (hd.2 n)
      fun e => List.mem_singleton.1 e ▸ ⟨hc.1, hc.2.1, hc.2.2, h⟩⟩

theorem denote_valid (p : Str) : (denote p).Valid :=
  List.foldlRecOn (motive := Loc.Valid) _ _ ⟨fun _ => rfl, nofun⟩
    fun _ hd _ hc => Loc.walk_valid hd (isComp_of_mem_comps hc)

/-- case analysis on a valid location by its last component: root or current directory `⟨a, 0, []⟩`, only levels up
    `⟨false, u + 1, []⟩`, or ending in a name -/
theorem Loc.Valid.shape {motive : Loc → Prop} {d : Loc} (hd : d.Valid)
    (root : ∀ a, motive ⟨a, 0, []⟩) (up : ∀ u, motive ⟨false, u + 1, []⟩)
    (name : ∀ a u ns n, Loc.Valid ⟨a, u, ns ++ [n]⟩ → IsName n → motive ⟨a, u, ns ++ [n]⟩) : motive d := by
  obtain ⟨a, u, names⟩ := d
  rcases List.eq_nil_or_concat names with rfl | ⟨ns, n, rfl⟩
  · cases u with
    | zero => exact root a
    | succ u =>
      cases a with
      | false => exact up u
      | true => exact absurd (hd.1 rfl) (Nat.succ_ne_zero u)
  · rw [List.concat_eq_append] at hd ⊢
    exact name a u ns n hd (hd.2 n (by simp))

theorem comps_append_slash (x y : Str) : comps (x ++ '/' :: y) = comps x ++ comps y := by
  simp [comps, splitSlash_append_slash]

@[simp] theorem comps_nil : comps [] = [] := rfl

theorem comps_joinSlash (cs : List Str) (h : ∀ c ∈ cs, IsComp c) : comps (joinSlash cs) = cs := by
  unfold comps
  rw [splitSlash_joinSlash cs (fun c hc => (h c hc).2.1), List.filter_append,
    List.filter_eq_self.2 fun c hc => by simp [(h c hc).1, (h c hc).2.2]]
  -- the empty piece after the last '/' is filtered out
  exact List.append_nil cs

/-- the list is `tailList d` written out, as in `comps_render` -/
theorem isComp_of_mem_stack {d : Loc} (hd : d.Valid) :
    ∀ c ∈ List.replicate d.ups dotdot ++ d.names, IsComp c := by
  intro c hc
  rw [List.mem_append] at hc
  rcases hc with hc | hc
  · rw [List.mem_replicate] at hc; rw [hc.2]; exact isComp_dotdot
  · exact (hd.2 c hc).isComp

theorem comps_render {d : Loc} (hd : d.Valid) : comps (render d) = List.replicate d.ups dotdot ++ d.names := by
  have h := comps_joinSlash _ (isComp_of_mem_stack hd)
  unfold render
  split
  · -- the root is an empty piece in front
    exact (comps_append_slash [] (joinSlash _)).trans (by rw [comps_nil, List.nil_append]; exact h)
  · rw [List.nil_append]; exact h

theorem head?_joinSlash_ne_slash (cs : List Str) (h : ∀ c ∈ cs, IsComp c) : (joinSlash cs).head? ≠ some '/' := by
  cases cs with
  | nil => simp
  | cons c cs =>
    have hc := h c (List.mem_cons_self ..)
    rw [joinSlash_cons, List.head?_append, Ne, Option.or_eq_some_iff]
    rintro (e | ⟨e, _⟩)
    · exact hc.2.1 (List.mem_of_head? e)
    · exact hc.1 (List.head?_eq_none_iff.1 e)

theorem isAbs_render {d : Loc} (hd : d.Valid) : isAbs (render d) = d.abs := by
  have := head?_joinSlash_ne_slash _ (isComp_of_mem_stack hd)
  unfold render
  cases d.abs with
  | true => rfl
  | false => exact decide_eq_false this

/-- the hypothesis is the first half of `Loc.Valid` -/
theorem foldl_walk_ups {a : Bool} {u : Nat} (h : a = true → u = 0) :
    (List.replicate u dotdot).foldl Loc.walk ⟨a, 0, []⟩ = ⟨a, u, []⟩ := by
  cases a with
  | true => rw [h rfl]; rfl
  | false =>
    induction u with
    | zero => rfl
    | succ u ih =>
      rw [List.replicate_succ', List.foldl_append, ih nofun]
      exact Loc.walk_up_rel u

theorem foldl_walk_names : ∀ (ns : List Str) (d : Loc), (∀ n ∈ ns, n ≠ dotdot) →
    ns.foldl Loc.walk d = { d with names := d.names ++ ns }
  | [], d, _ => by simp
  | n :: ns, d, h => by
    rw [List.foldl_cons, d.walk_of_ne (List.forall_mem_cons.1 h).1, foldl_walk_names ns _ (List.forall_mem_cons.1 h).2]
    simp

theorem foldl_walk_tailList {d : Loc} (hd : d.Valid) : (tailList d).foldl Loc.walk ⟨d.abs, 0, []⟩ = d := by
  unfold tailList
  rw [List.foldl_append, foldl_walk_ups hd.1, foldl_walk_names _ _ fun n hn => (hd.2 n hn).2.2.2]
  rfl

theorem denote_render {d : Loc} (hd : d.Valid) : denote (render d) = d := by
  unfold denote
  rw [comps_render hd, isAbs_render hd]
  exact foldl_walk_tailList hd

/-- the text with an optional root '/' followed by the components `cs`, each with its '/' -/
def W (abs : Bool) (cs : List Str) : Str := (if abs then ['/'] else []) ++ joinSlash cs

theorem render_eq_W (d : Loc) : render d = W d.abs (tailList d) := rfl

theorem isAbs_append (b r : Str) (hb : b ≠ []) : isAbs (b ++ r) = isAbs b := by
  cases b with
  | nil => exact absurd rfl hb
  | cons a b => simp [isAbs]

theorem denote_processPathS (p : Str) : denote (processPathS p) = denote p :=
  denote_render (denote_valid p)

theorem processPathS_of_normalForm {s : Str} (h : NormalForm s) : processPathS s = s := by
  obtain ⟨d, hd, rfl⟩ := h
  unfold processPathS
  rw [denote_render hd]

theorem normalForm_processPathS (p : Str) : NormalForm (processPathS p) :=
  ⟨denote p, denote_valid p, rfl⟩

end DV.C18
