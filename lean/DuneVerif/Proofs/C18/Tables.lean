/-
C18: pathIndicatesDirectory, prettyPath and concatPaths.  The bodies regenerated from path.cc (`pathIndicatesDirectory`,
both overloads of `prettyPath`, `concatPaths`) are first brought into a canonical form by case analysis on their tests;
prettyPath is then read off the last component of the sanitised text, concatPaths off the separator it inserts.
-/
import DuneVerif.Proofs.C18.Spec

namespace DV.C18

theorem hasSuffix_slash_iff (b : Str) : hasSuffix b ['/'] = true ↔ b.getLast? = some '/' := by
  rw [hasSuffix_iff_isSuffix, List.getLast?_eq_some_iff]
  exact exists_congr fun _ => eq_comm

/-- the decision list regenerated from path.cc, whatever the order and grouping of its six tests -/
theorem pathIndicatesDirectory_iff (p : Str) : pathIndicatesDirectory p = true ↔
    (p = [] ∨ '/' :: [] <:+ p) ∨ (p = dot ∨ '/' :: dot <:+ p) ∨ (p = dotdot ∨ '/' :: dotdot <:+ p) := by
  simp only [← hasSuffix_iff_isSuffix, dot, dotdot]
  -- for `simp_all`, should the source spell a test `p.back() == '/'`
  have hg := hasSuffix_slash_iff p
  unfold pathIndicatesDirectory
  by_cases h1 : p = []
  · simp [h1]
  by_cases h2 : p = ['.']
  · simp [h2]
  by_cases h3 : p = ['.', '.']
  · simp [h3]
  by_cases h4 : hasSuffix p ['/'] = true
  · simp_all
  by_cases h5 : hasSuffix p ['/', '.'] = true
  · simp_all
  by_cases h6 : hasSuffix p ['/', '.', '.'] = true
  · simp_all
  simp_all

theorem indicatesDirectory_lastPiece (p : Str) : pathIndicatesDirectory p = true ↔
    ∃ c, (splitSlash p).getLast? = some c ∧ (c = [] ∨ c = dot ∨ c = dotdot) := by
  rw [pathIndicatesDirectory_iff, ← lastPiece_eq_iff (by simp), ← lastPiece_eq_iff (by decide),
    ← lastPiece_eq_iff (by decide)]
  simp only [and_or_left, exists_or, exists_eq_right]

theorem render_nil_or_slash (d : Loc) : render d = [] ∨ ['/'] <:+ render d := by
  unfold render
  rcases joinSlash_nil_or_slash (List.replicate d.ups dotdot ++ d.names) with h | h
  · rw [h]; cases d.abs
    · left; rfl
    · right; exact List.suffix_refl _
  · right; exact h.trans (List.suffix_append _ _)

theorem render_append_names (a : Bool) (u : Nat) (ns ms : List Str) :
    render ⟨a, u, ns ++ ms⟩ = render ⟨a, u, ns⟩ ++ joinSlash ms := by
  simp only [render, joinSlash_append, List.append_assoc]

theorem render_rel_nil (u : Nat) (ns : List Str) : render ⟨false, u, ns⟩ = joinSlash (List.replicate u dotdot ++ ns) :=
  List.nil_append _

theorem render_up (u : Nat) : render ⟨false, u + 1, []⟩ = render ⟨false, u, []⟩ ++ dotdot ++ ['/'] := by
  simp [render, List.replicate_succ']

theorem render_snoc (a : Bool) (u : Nat) (ns : List Str) (n : Str) :
    render ⟨a, u, ns ++ [n]⟩ = render ⟨a, u, ns⟩ ++ n ++ ['/'] := by
  rw [render_append_names, List.append_assoc, joinSlash_cons, joinSlash_nil]

set_option linter.unusedSimpArgs false in
/-- the body of `prettyPath(p, isDirectory)` regenerated from path.cc is the canonical transcription (robust against
    reordering of independent tests and equivalent spellings: the proof only looks at the values of the five tests) -/
theorem prettyPathWith_eq_canon (proc : Str → Str) (p : Str) (isDir : Bool) :
    prettyPathWith proc p isDir = prettyCanonWith proc p isDir := by
  unfold prettyPathWith prettyCanonWith
  generalize proc p = r
  by_cases h1 : r = []
  · simp [h1]
  by_cases h2 : r = ['/']
  · simp [h2]
  by_cases h3 : r.take (r.length - 1) = ['.', '.']
  · simp [h1, h2, h3]
  by_cases h4 : hasSuffix (r.take (r.length - 1)) ['/', '.', '.'] = true
  · simp [h1, h2, h3, h4]
  cases isDir <;> simp [h1, h2, h3, h4]

theorem prettyPathAutoWith_eq (f : Str → Bool → Str) (p : Str) :
    prettyPathAutoWith f p = f p (pathIndicatesDirectory p) := by
  simp [prettyPathAutoWith]

theorem prettyPathAuto_eq (p : Str) : prettyPathAuto p = prettyPath p (pathIndicatesDirectory p) :=
  prettyPathAutoWith_eq prettyPath p

theorem prettyCanon_slash (proc : Str → Str) (p : Str) (isDir : Bool) {x : Str} (hp : proc p = x ++ ['/'])
    (hx : x ≠ []) : prettyCanonWith proc p isDir =
      if (splitSlash x).getLast? = some dotdot then x else if isDir then x ++ ['/'] else x := by
  have h1 : x ++ ['/'] ≠ [] := List.append_ne_nil_of_right_ne_nil _ (List.cons_ne_nil _ _)
  have h2 : x ++ ['/'] ≠ ['/'] := fun h => hx (List.append_cancel_right (cs := []) h)
  -- the test for a trailing ".." asks whether the last piece is ".."
  have htest : (x = ['.', '.'] || hasSuffix x ['/', '.', '.']) = true ↔ (splitSlash x).getLast? = some dotdot := by
    rw [Bool.or_eq_true, decide_eq_true_iff, hasSuffix_iff_isSuffix]
    exact (lastPiece_eq_iff (c := dotdot) (by decide) x).symm
  unfold prettyCanonWith
  simp only [hp, h1, h2, ↓reduceIte, ← List.dropLast_eq_take, List.dropLast_concat, htest]

theorem prettySpec_up (u : Nat) (isDir : Bool) :
    prettySpec ⟨false, u + 1, []⟩ isDir = render ⟨false, u, []⟩ ++ dotdot := by
  simp [prettySpec, render_up]

theorem prettySpec_snoc (a : Bool) (u : Nat) (ns : List Str) (n : Str) (isDir : Bool) :
    prettySpec ⟨a, u, ns ++ [n]⟩ isDir = if isDir then render ⟨a, u, ns ++ [n]⟩ else render ⟨a, u, ns⟩ ++ n := by
  simp [prettySpec, render_snoc]

theorem prettyWith_render (d : Loc) (hd : d.Valid) (isDir : Bool) (proc : Str → Str) (p : Str)
    (hp : proc p = render d) : prettyPathWith proc p isDir = prettySpec d isDir := by
  rw [prettyPathWith_eq_canon]
  revert hp
  apply hd.shape
  · intro a hp
    cases a <;> simp [prettyCanonWith, hp, render, prettySpec]
  · intro u hp
    rw [prettyCanon_slash proc p isDir (hp.trans (render_up u)) (List.append_ne_nil_of_right_ne_nil _ (by decide)),
      getLast?_splitSlash_append _ _ (by decide) (render_nil_or_slash _), if_pos rfl, prettySpec_up]
  · intro a u ns n _ hn hp
    rw [prettyCanon_slash proc p isDir (hp.trans (render_snoc a u ns n)) (List.append_ne_nil_of_right_ne_nil _ hn.1),
      getLast?_splitSlash_append _ _ hn.2.1 (render_nil_or_slash _), prettySpec_snoc, render_snoc,
      if_neg fun h => hn.2.2.2 (Option.some.inj h)]

theorem denote_append_slash {x : Str} (hx : x ≠ []) : denote (x ++ ['/']) = denote x := by
  unfold denote
  rw [isAbs_append x _ hx, comps_append_slash x [], comps_nil, List.append_nil]

theorem denote_prettySpec {d : Loc} (hd : d.Valid) (isDir : Bool) : denote (prettySpec d isDir) = d := by
  apply hd.shape
  · intro a
    cases a <;> rfl
  · intro u
    rw [prettySpec_up, ← denote_append_slash (List.append_ne_nil_of_right_ne_nil _ (by decide)), ← render_up]
    exact denote_render (by simp [Loc.Valid])
  · intro a u ns n hv hn
    rw [prettySpec_snoc]
    cases isDir with
    | true => exact denote_render hv
    | false =>
      rw [if_neg Bool.false_ne_true, ← denote_append_slash (List.append_ne_nil_of_right_ne_nil _ hn.1), ← render_snoc]
      exact denote_render hv

theorem prettySpec_of_names_nil {l : Loc} (h : l.names = []) (d d' : Bool) : prettySpec l d = prettySpec l d' := by
  unfold prettySpec
  rw [if_pos h, if_pos h]

theorem prettySpec_indicates {l : Loc} (hl : l.Valid) (d : Bool) :
    prettySpec l (pathIndicatesDirectory (prettySpec l d)) = prettySpec l d := by
  apply hl.shape
  · intro a; exact prettySpec_of_names_nil rfl _ _
  · intro u; exact prettySpec_of_names_nil rfl _ _
  · intro a u ns n _ hnm
    congr 1
    rw [prettySpec_snoc]
    cases d with
    | true =>
      rw [if_pos rfl, pathIndicatesDirectory_iff, render_snoc]
      exact Or.inl (Or.inr ⟨_, rfl⟩)
    | false =>
      rw [if_neg Bool.false_ne_true, Bool.eq_false_iff, Ne, indicatesDirectory_lastPiece,
        getLast?_splitSlash_append _ n hnm.2.1 (render_nil_or_slash _)]
      rintro ⟨c, hc, hcc⟩
      cases hc
      rcases hcc with h | h | h
      · exact hnm.1 h
      · exact hnm.2.2.1 h
      · exact hnm.2.2.2 h

/-- the table of concatPaths in canonical form -/
def concatSpec (base p : Str) : Str :=
  if p = [] then base
  else if p.head? = some '/' then p
  else if base = [] then p
  else if base.getLast? = some '/' then base ++ p
  else base ++ '/' :: p

/-- the decision list regenerated from path.cc is the canonical table (robust against reordering of
    independent tests and against equivalent spellings of the tests/results in the source) -/
theorem concatPaths_eq_spec (base p : Str) : concatPaths base p = concatSpec base p := by
  -- for `simp_all`: the source may spell the tests `base.back() == '/'` or `hasSuffix(base, "/")`, `p[0] == '/'` or
  -- `hasPrefix(p, "/")`
  have hs := hasSuffix_slash_iff base
  have hp : hasPrefix p ['/'] = true ↔ p.head? = some '/' := by simp [hasPrefix_slash, isAbs]
  unfold concatPaths concatSpec
  by_cases h1 : p = []
  · simp [h1]
  by_cases h2 : p.head? = some '/'
  · simp_all
  by_cases h3 : base = []
  · simp_all
  by_cases h4 : hasSuffix base ['/'] = true
  · simp_all
  simp_all

/-- the separator concatPaths puts after a non-empty base: none if the base ends in '/' -/
def sepOf (a : Str) : Str := if a.getLast? = some '/' then [] else ['/']

theorem sepOf_append (x : Str) {b : Str} (hb : b ≠ []) : sepOf (x ++ b) = sepOf b := by
  unfold sepOf
  rw [List.getLast?_append, List.getLast?_eq_some_getLast hb, Option.some_or]

theorem concatSpec_nil_right (a : Str) : concatSpec a [] = a := rfl

theorem concatSpec_abs (a : Str) {p : Str} (hp : p.head? = some '/') : concatSpec a p = p := by
  cases p with
  | nil => cases hp
  | cons c p => simp only [concatSpec, hp, reduceCtorEq, ↓reduceIte]

theorem concatSpec_nil_left (p : Str) : concatSpec [] p = p := by
  cases p with
  | nil => rfl
  | cons c p => simp only [concatSpec, reduceCtorEq, ↓reduceIte, ite_self]

theorem concatSpec_join {a p : Str} (ha : a ≠ []) (hp : p ≠ []) (hrel : p.head? ≠ some '/') :
    concatSpec a p = a ++ (sepOf a ++ p) := by
  unfold concatSpec sepOf
  simp only [hp, hrel, ha, ↓reduceIte]
  split <;> rfl

theorem comps_join (b p : Str) : comps (b ++ (sepOf b ++ p)) = comps b ++ comps p := by
  unfold sepOf
  split
  · rename_i h
    obtain ⟨x, rfl⟩ := List.getLast?_eq_some_iff.1 h
    rw [List.append_assoc, List.nil_append]
    exact (comps_append_slash x p).trans (by rw [comps_append_slash x [], comps_nil, List.append_nil])
  · exact comps_append_slash b p

theorem denote_concat_rel (b p : Str) (hp : isAbs p = false) :
    denote (concatPaths b p) = (comps p).foldl Loc.walk (denote b) := by
  rw [concatPaths_eq_spec]
  have hrel : p.head? ≠ some '/' := by simpa [isAbs] using hp
  by_cases h1 : p = []
  · rw [h1, concatSpec_nil_right]; rfl
  by_cases h3 : b = []
  · rw [h3, concatSpec_nil_left]; unfold denote; rw [hp]; rfl
  · rw [concatSpec_join h3 h1 hrel]; unfold denote; rw [isAbs_append b _ h3, comps_join, List.foldl_append]

theorem concatPaths_abs (b p : Str) (hp : isAbs p = true) : concatPaths b p = p := by
  rw [concatPaths_eq_spec, concatSpec_abs _ (by simpa [isAbs] using hp)]

theorem sepOf_of_suffix {a : Str} (h : ['/'] <:+ a) : sepOf a = [] := by
  obtain ⟨y, rfl⟩ := h
  exact sepOf_append y (List.cons_ne_nil _ _)

theorem concat_render (db : Loc) {pn : List Str} (hpn : ∀ n ∈ pn, IsName n) :
    concatPaths (render db) (render ⟨false, 0, pn⟩) = render ⟨db.abs, db.ups, db.names ++ pn⟩ := by
  rw [concatPaths_eq_spec, render_append_names, render_rel_nil, List.replicate_zero, List.nil_append]
  cases pn with
  | nil => exact (List.append_nil _).symm
  | cons n pn =>
    by_cases hbne : render db = []
    · rw [hbne, concatSpec_nil_left, List.nil_append]
    · rw [concatSpec_join hbne (by simp) (head?_joinSlash_ne_slash _ (fun c hc => (hpn c hc).isComp)),
        sepOf_of_suffix ((render_nil_or_slash db).resolve_left hbne), List.nil_append]

theorem concatSpec_assoc (a b c : Str) :
    concatSpec (concatSpec a b) c = concatSpec a (concatSpec b c) := by
  by_cases hc : c = []
  · rw [hc, concatSpec_nil_right, concatSpec_nil_right]
  by_cases hc' : c.head? = some '/'
  · rw [concatSpec_abs _ hc', concatSpec_abs _ hc', concatSpec_abs _ hc']
  by_cases hb : b = []
  · rw [hb, concatSpec_nil_right, concatSpec_nil_left]
  by_cases ha : a = []
  · rw [ha, concatSpec_nil_left, concatSpec_nil_left]
  rw [concatSpec_join hb hc hc']
  have hhead : (b ++ (sepOf b ++ c)).head? = b.head? := by
    cases b with
    | nil => exact absurd rfl hb
    | cons _ _ => rfl
  by_cases hb' : b.head? = some '/'
  · rw [concatSpec_abs _ hb', concatSpec_abs _ (hhead.trans hb'), concatSpec_join hb hc hc']
  · -- the separator before `c` is that of `b`, whatever precedes `b`
    have hbc : b ++ (sepOf b ++ c) ≠ [] := List.append_ne_nil_of_left_ne_nil hb _
    have hab : a ++ (sepOf a ++ b) ≠ [] := List.append_ne_nil_of_left_ne_nil ha _
    rw [concatSpec_join ha hb hb', concatSpec_join ha hbc (fun e => hb' (hhead.symm.trans e)),
      concatSpec_join hab hc hc', ← List.append_assoc a, sepOf_append _ hb]
    simp only [List.append_assoc]

end DV.C18
