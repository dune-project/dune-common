/-
C18, passes 0-3 of the character-level `processPathC` in terms of components.  Each of the two scanning passes has one
equation for a piece and its '/' (`collapse_piece`, `dropDot_piece`); on a text made of pieces pass 1 therefore filters
out the empty ones (`pass1`) and passes 2-3 the "." ones (`pass23`): what is left is `W (isAbs p) (comps p)`
(`passes_comps`).
-/
import DuneVerif.Proofs.C18.Spec

namespace DV.C18

/-- pass 1 over a piece and its '/': dropped if the piece is empty and a '/' has just been copied, copied otherwise;
    a '/' has just been copied afterwards -/
theorem collapse_piece : ∀ (c : Str) (b : Bool) (r : Str), '/' ∉ c →
    collapseSlashes b (c ++ '/' :: r) =
      if b = true ∧ c = [] then collapseSlashes true r else c ++ '/' :: collapseSlashes true r
  | [], b, r, _ => by cases b <;> simp [collapseSlashes]
  | a :: c, b, r, h => by
    have ha : a ≠ '/' := (List.ne_of_not_mem_cons h).symm
    have ih := collapse_piece c false r (List.not_mem_of_not_mem_cons h)
    simp at ih
    simp [collapseSlashes, ha, ih]

theorem collapse_true_joinSlash : ∀ (cs : List Str), (∀ c ∈ cs, '/' ∉ c) →
    collapseSlashes true (joinSlash cs) = joinSlash (cs.filter (fun c => c ≠ []))
  | [], _ => by simp [collapseSlashes]
  | c :: cs, h => by
    rw [joinSlash_cons, collapse_piece c true _ (List.forall_mem_cons.1 h).1,
      collapse_true_joinSlash cs (List.forall_mem_cons.1 h).2]
    by_cases hc : c = [] <;> simp [hc]

/-- at the start of pass 1 nothing has been copied: a leading '/' is copied, not dropped (it is the root of `W`), and
    the rest is scanned as after a '/' -/
theorem collapse_false (s : Str) :
    collapseSlashes false s = (if isAbs s then ['/'] else []) ++ collapseSlashes true s := by
  cases s with
  | nil => rfl
  | cons c r => by_cases hc : c = '/' <;> simp [collapseSlashes, isAbs, hc]

theorem pass1 (p : Str) :
    collapseSlashes false (appendSlash p) = W (isAbs p) ((splitSlash p).filter (fun c => c ≠ [])) := by
  by_cases hp : p = []
  · subst hp; rfl
  -- with its '/' appended the text is its pieces, each with a '/'
  rw [show appendSlash p = p ++ ['/'] from if_pos hp, collapse_false, isAbs_append p ['/'] hp, ← joinSlash_splitSlash,
    collapse_true_joinSlash _ (no_slash_of_mem_splitSlash p)]
  rfl

/-- pass 2 over a piece and its '/': dropped if it is "." and the look-ahead is on, copied otherwise; the look-ahead
    is on afterwards -/
theorem dropDot_piece : ∀ (c : Str) (b : Bool) (r : Str), '/' ∉ c →
    dropDotSlash b (c ++ '/' :: r) =
      if b = true ∧ c = dot then dropDotSlash true r else c ++ '/' :: dropDotSlash true r
  | [], b, r, _ => by cases r <;> simp [dropDotSlash, dot]
  | [a], b, r, h => by
    have ha : (a == '/') = false := beq_false_of_ne (List.ne_of_not_mem_cons h).symm
    have h0 := dropDot_piece [] false r List.not_mem_nil
    simp at h0
    simp [dropDotSlash, dot, ha, h0]
  | a :: a' :: c, b, r, h => by
    have ha : (a == '/') = false := beq_false_of_ne (List.ne_of_not_mem_cons h).symm
    have ha' : a' ≠ '/' := (List.ne_of_not_mem_cons (List.not_mem_of_not_mem_cons h)).symm
    have ih := dropDot_piece (a' :: c) false r (List.not_mem_of_not_mem_cons h)
    simp at ih
    simp [dropDotSlash, dot, ha, ha', ih]

theorem dropDot_true_joinSlash : ∀ (cs : List Str), (∀ c ∈ cs, '/' ∉ c) →
    dropDotSlash true (joinSlash cs) = joinSlash (cs.filter (fun c => c ≠ dot))
  | [], _ => by simp [dropDotSlash]
  | c :: cs, h => by
    rw [joinSlash_cons, dropDot_piece c true _ (List.forall_mem_cons.1 h).1,
      dropDot_true_joinSlash cs (List.forall_mem_cons.1 h).2]
    by_cases hc : c = dot <;> simp [hc]

theorem hasPrefix_dotSlash_comp (c r : Str) (h1 : '/' ∉ c) (h2 : c ≠ dot) :
    hasPrefix (c ++ '/' :: r) ['.', '/'] = false := by
  rw [Bool.eq_false_iff]
  exact fun h => h2 ((hasPrefix_piece_iff h1 (x := dot) (by decide) r).1 h).symm

theorem pass23 (abs : Bool) (cs : List Str) (h : ∀ c ∈ cs, '/' ∉ c) :
    eraseLeadingDotSlash (dropDotSlash false (W abs cs)) = W abs (cs.filter (fun c => c ≠ dot)) := by
  -- the root is an empty first piece, and that is not "."
  suffices hrel : ∀ cs : List Str, (∀ c ∈ cs, '/' ∉ c) →
      eraseLeadingDotSlash (dropDotSlash false (joinSlash cs)) = joinSlash (cs.filter (fun c => c ≠ dot)) by
    cases abs with
    | true => exact hrel ([] :: cs) (List.forall_mem_cons.2 ⟨List.not_mem_nil, h⟩)
    | false => exact hrel cs h
  intro cs h
  cases cs with
  | nil => rfl
  | cons c cs =>
    obtain ⟨hc, hcs⟩ := List.forall_mem_cons.1 h
    rw [joinSlash_cons, dropDot_piece c false _ hc, if_neg (fun h => Bool.false_ne_true h.1),
      dropDot_true_joinSlash cs hcs]
    by_cases hd : c = dot
    · subst hd
      simp [eraseLeadingDotSlash, hasPrefix_cons_cons, dot]
    · simp [eraseLeadingDotSlash, hasPrefix_dotSlash_comp c _ hc hd, hd]

theorem passes_comps (p : Str) :
    eraseLeadingDotSlash (dropDotSlash false (collapseSlashes false (appendSlash p))) = W (isAbs p) (comps p) := by
  rw [pass1, pass23 _ _ fun c hc => no_slash_of_mem_splitSlash p c (List.mem_filter.1 hc).1, List.filter_filter]
  exact congrArg (W _) (List.filter_congr fun c _ => by simp [Bool.and_comm])

end DV.C18
