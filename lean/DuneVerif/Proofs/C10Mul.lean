/-
C10: `operator*=` (per right-digit single products summed in a double-width temporary,
result truncated to n digits).  Core Lean only.
-/
import DuneVerif.Proofs.C10Arith

namespace DV.C10
open DV.C10.Gen

theorem mulDigitLoop_length : ∀ (a : List Nat) (xm c : Nat), (mulDigitLoop a xm c).length = a.length := by
  intro a xm
  induction a with
  | nil => exact fun _ => rfl
  | cons a as ih => exact fun c => congrArg (· + 1) (ih _)

/-- The carry `(digitproduct >> bits) & bitmask` loses nothing because `digitproduct < B*B`; a factor `xm = B` is a shift
    by a whole digit. -/
theorem mulDigitLoop_rep : ∀ (a : List Nat) (xm c : Nat), Digs a → xm ≤ B → c < B →
    Rep a.length (mulDigitLoop a xm c) (val a * xm + c) := by
  intro a xm c ha hx
  induction a generalizing c with
  | nil => exact fun _ => Rep.nil _
  | cons a as ih =>
    intro hc
    rw [digs_cons] at ha
    have h : (a * xm + c) / B < B := Nat.div_lt_of_lt_mul <|
      calc a * xm + c < a * B + B := Nat.add_lt_add_of_le_of_lt (Nat.mul_le_mul_left a hx) hc
        _ = (a + 1) * B := (Nat.succ_mul a B).symm
        _ ≤ B * B := Nat.mul_le_mul_right B ha.1
    have e : val (a :: as) * xm + c = (a * xm + c) + B * (val as * xm) := by
      rw [val_cons, Nat.add_mul, Nat.mul_assoc, Nat.add_right_comm]
    rw [e, mulDigitLoop]
    simp only [and_bitmask, shr_bits, Nat.mod_eq_of_lt h]
    exact Rep.cons (ih _ ha.2 h)

theorem fit_rep (w : Nat) {l : List Nat} (hl : Digs l) : Rep w (fit w l) (val l) := by
  have h := take_rep (w := w) (digs_append.2 ⟨hl, digs_zeros w⟩)
    (by rw [List.length_append, zeros, List.length_replicate]; exact Nat.le_add_left w _)
  rwa [val_append, val_zeros, Nat.mul_zero, Nat.add_zero] at h

theorem mulOuter_spec {w n : Nat} (hnw : n ≤ w) {a xs : List Nat} (ha : Wf n a) (hxs : Digs xs) :
    ∀ {m e : Nat} {acc : List Nat}, Wf w acc → val acc % W n = e % W n →
      Wf w (mulOuter w a xs m acc) ∧ val (mulOuter w a xs m acc) % W n = (e + W m * (val a * val xs)) % W n := by
  induction xs with
  | nil => exact fun hacc he => ⟨hacc, he⟩
  | cons xm xs ih =>
    intro m e acc hacc he
    rw [digs_cons] at hxs
    have hrow := mulDigitLoop_rep a xm 0 ha.2 (Nat.le_of_lt hxs.1) B_pos
    have hs := fit_rep w (digs_append.2 ⟨digs_zeros m, hrow.1.2⟩)
    have hacc' := add_rep hacc hs.1
    -- the row has dropped its top carry: it stands for `val a * xm` modulo `W n` only
    have hv : val (add acc (fit w (zeros m ++ mulDigitLoop a xm 0))) % W n = (e + W m * (val a * xm)) % W n := by
      rw [hacc'.2, Nat.mod_mod_of_dvd _ (W_dvd hnw), hs.2, val_append, val_zeros, Nat.zero_add, zeros,
        List.length_replicate, hrow.2, ha.1, Nat.add_zero, Nat.add_mod, he, Nat.mod_mod_of_dvd _ (W_dvd hnw),
        Nat.mul_mod_mod, ← Nat.add_mod]
    rw [mulOuter, val_cons, Nat.mul_add (val a), Nat.mul_add (W m), ← Nat.add_assoc, Nat.mul_left_comm (val a) B,
      Nat.mul_left_comm (W m) B, ← Nat.mul_assoc B, ← W_succ]
    exact ih hxs.2 hacc'.1 hv

theorem mul_rep {k : Nat} {a x : List Nat} (ha : Wf (ndigits k) a) (hx : Wf (ndigits k) x) :
    Rep (ndigits k) (mul k a x) (val a * val x) := by
  have hnw := (ndigits_double k).2
  obtain ⟨h1, h2⟩ := mulOuter_spec hnw ha hx.2 (m := 0) (wf_zeros _) rfl
  have h := take_rep h1.2 (h1.1.symm ▸ hnw)
  rw [val_zeros, Nat.zero_add, W_zero, Nat.one_mul] at h2
  rw [mul, ha.1]
  exact ⟨h.1, h.2.trans h2⟩

end DV.C10
