import DuneVerif.Proofs.C02Elim
import Mathlib.Data.Real.Basic
import Mathlib.Tactic.Linarith
import Mathlib.Tactic.Ring
import Mathlib.Tactic.FieldSimp
import Mathlib.Tactic.Positivity
import Mathlib.Algebra.Order.Ring.Abs
import Mathlib.Algebra.BigOperators.Fin
/-!
# C02 — rounded arithmetic (the standard model of floating point) and Higham's `γ_k` calculus

`Rounding` is an abstract floating-point format: a rounding function `fl : ℝ → ℝ` with relative error at most
`u` (`fl x = x (1+δ)`, `|δ| ≤ u`; no overflow / underflow).  `FlR R` is the type of reals whose `+ - * /` round
their exact result with `R.fl`; the executable models of Model/C02.lean (generic in the scalar type) are instantiated
at `FlR R`, i.e. the *same* loops as for the prime field and for `Float` in the driver.

The `γ_k` calculus (Higham, Lemmas 3.1 and 3.3) goes through `1 + γ_k = 1 / (1 - k u)`; on it rest a single rounding and one
rounded operation in backward form (`fl_backward`, `sub_mul_step`, `div_step`) and the rounded product loop (`prod_loop_fl`).
-/
namespace DV.C02.Flt
open DV.C02

/-- Higham's `γ_k = k u / (1 - k u)` -/
noncomputable def gamma (u : ℝ) (k : ℕ) : ℝ := k * u / (1 - k * u)

theorem gamma_nonneg {u : ℝ} {k : ℕ} (hu : 0 ≤ u) (hk : k * u < 1) : 0 ≤ gamma u k :=
  div_nonneg (mul_nonneg k.cast_nonneg hu) (sub_nonneg.2 hk.le)

theorem gamma_zero (u : ℝ) : gamma u 0 = 0 := by simp [gamma]

/-- `1 + γ_k = 1 / (1 - k u)`: in this form the steps of the `γ` calculus are inequalities between reciprocals -/
theorem one_add_gamma {u : ℝ} {k : ℕ} (hk : (k : ℝ) * u < 1) : 1 + gamma u k = (1 - k * u)⁻¹ := by
  rw [gamma, add_comm, div_add_one (sub_pos.2 hk).ne', add_sub_cancel, one_div]

theorem nat_mul_lt {u : ℝ} (hu : 0 ≤ u) {k m : ℕ} (hkm : k ≤ m) (hm : (m : ℝ) * u < 1) : (k : ℝ) * u < 1 :=
  (mul_le_mul_of_nonneg_right (Nat.cast_le.2 hkm) hu).trans_lt hm

theorem gamma_mono {u : ℝ} {k m : ℕ} (hu : 0 ≤ u) (hkm : k ≤ m) (hm : m * u < 1) : gamma u k ≤ gamma u m := by
  have := inv_anti₀ (sub_pos.2 hm)
    (sub_le_sub_left (mul_le_mul_of_nonneg_right (Nat.cast_le.2 hkm) hu) 1)
  rw [← one_add_gamma hm, ← one_add_gamma (nat_mul_lt hu hkm hm)] at this
  exact le_of_add_le_add_left this

theorem abs_pert_mul {θ φ a b : ℝ} (hθ : |θ| ≤ a) (hφ : |φ| ≤ b) : |(1 + θ) * (1 + φ) - 1| ≤ (1 + a) * (1 + b) - 1 := by
  have e : ∀ x y : ℝ, (1 + x) * (1 + y) - 1 = x + y + x * y := fun x y => by ring
  rw [e, e]
  refine (abs_add_three _ _ _).trans (add_le_add (add_le_add hθ hφ) ?_)
  rw [abs_mul]
  exact mul_le_mul hθ hφ (abs_nonneg φ) ((abs_nonneg θ).trans hθ)

/-- Higham, Lemma 3.3: `(1+θ_j)(1+θ_k) = 1+θ_{j+k}` -/
theorem gamma_mul {u θ φ : ℝ} {j k : ℕ} (hu : 0 ≤ u) (h : ((j + k : ℕ) : ℝ) * u < 1)
    (hθ : |θ| ≤ gamma u j) (hφ : |φ| ≤ gamma u k) : |(1 + θ) * (1 + φ) - 1| ≤ gamma u (j + k) := by
  refine (abs_pert_mul hθ hφ).trans (sub_le_iff_le_add'.2 ?_)
  rw [one_add_gamma (nat_mul_lt hu (j.le_add_right k) h), one_add_gamma (nat_mul_lt hu (k.le_add_left j) h),
    one_add_gamma h, ← mul_inv]
  -- `1 - (j+k) u ≤ (1 - j u) (1 - k u)`: the difference is `j u * (k u)`
  refine inv_anti₀ (sub_pos.2 h) ?_
  have := mul_nonneg (mul_nonneg j.cast_nonneg hu) (mul_nonneg k.cast_nonneg hu)
  rw [Nat.cast_add]
  linarith

theorem u_lt_one {u : ℝ} (hu : 0 ≤ u) {k : ℕ} (hk : ((k + 1 : ℕ) : ℝ) * u < 1) : u < 1 := by
  simpa using nat_mul_lt hu (Nat.le_add_left 1 k) hk

theorem gamma_one (u : ℝ) : gamma u 1 = u / (1 - u) := by rw [gamma, Nat.cast_one, one_mul]

theorem le_gamma_one {u : ℝ} (hu : 0 ≤ u) (hu1 : u < 1) : u ≤ gamma u 1 :=
  gamma_one u ▸ (le_div_iff₀ (sub_pos.2 hu1)).2 (mul_le_of_le_one_right hu (sub_le_self 1 hu))

/-- the perturbation that undoes a rounding, `1/(1+δ) = 1+φ`, is at most `γ_1` like the rounding error itself: to the
calculus a division is a multiplication -/
theorem inv_pert {u δ : ℝ} (hu1 : u < 1) (hδ : |δ| ≤ u) : ∃ φ : ℝ, |φ| ≤ gamma u 1 ∧ (1 + δ) * (1 + φ) = 1 := by
  have hlow : 1 - u ≤ 1 + δ := by linarith [(abs_le.1 hδ).1]
  have hpos : 0 < 1 + δ := (sub_pos.2 hu1).trans_le hlow
  refine ⟨(1 + δ)⁻¹ - 1, ?_, by rw [add_sub_cancel, mul_inv_cancel₀ hpos.ne']⟩
  rw [inv_eq_one_div, div_sub_one hpos.ne', sub_add_cancel_left, abs_div, abs_neg, abs_of_pos hpos, gamma_one]
  exact div_le_div₀ ((abs_nonneg δ).trans hδ) hδ (sub_pos.2 hu1) hlow

/-- Higham, Lemma 3.1, one more factor: `(1+θ)(1+δ) = 1+θ'` with `|θ'| ≤ γ_{k+1}` -/
theorem gamma_step_mul {u θ δ : ℝ} {k : ℕ} (hu : 0 ≤ u) (hk : ((k + 1 : ℕ) : ℝ) * u < 1)
    (hθ : |θ| ≤ gamma u k) (hδ : |δ| ≤ u) : |(1 + θ) * (1 + δ) - 1| ≤ gamma u (k + 1) :=
  gamma_mul hu hk hθ (hδ.trans (le_gamma_one hu (u_lt_one hu hk)))

/-- Higham, Lemma 3.1, one more factor in the denominator: `(1+θ)/(1+δ) = 1+θ'` with `|θ'| ≤ γ_{k+1}` -/
theorem gamma_step_div {u θ δ : ℝ} {k : ℕ} (hu : 0 ≤ u) (hk : ((k + 1 : ℕ) : ℝ) * u < 1)
    (hθ : |θ| ≤ gamma u k) (hδ : |δ| ≤ u) : |(1 + θ) / (1 + δ) - 1| ≤ gamma u (k + 1) := by
  obtain ⟨φ, hφ, h⟩ := inv_pert (u_lt_one hu hk) hδ
  rw [div_eq_mul_inv, inv_eq_of_mul_eq_one_right h]
  exact gamma_mul hu hk hθ hφ

/-- standard model of floating-point arithmetic -/
structure Rounding where
  fl : ℝ → ℝ
  u : ℝ
  u_nonneg : 0 ≤ u
  spec : ∀ x, ∃ δ, |δ| ≤ u ∧ fl x = x * (1 + δ)

/-- reals with rounded operations -/
structure FlR (R : Rounding) where
  val : ℝ

variable {R : Rounding}

noncomputable instance : Add (FlR R) := ⟨fun a b => ⟨R.fl (a.val + b.val)⟩⟩
noncomputable instance : Sub (FlR R) := ⟨fun a b => ⟨R.fl (a.val - b.val)⟩⟩
noncomputable instance : Mul (FlR R) := ⟨fun a b => ⟨R.fl (a.val * b.val)⟩⟩
noncomputable instance : Div (FlR R) := ⟨fun a b => ⟨R.fl (a.val / b.val)⟩⟩
instance : Neg (FlR R) := ⟨fun a => ⟨-a.val⟩⟩
instance : OfNat (FlR R) 0 := ⟨⟨0⟩⟩
instance : OfNat (FlR R) 1 := ⟨⟨1⟩⟩

theorem sub_val (a b : FlR R) : (a - b).val = R.fl (a.val - b.val) := rfl
theorem mul_val (a b : FlR R) : (a * b).val = R.fl (a.val * b.val) := rfl
theorem div_val (a b : FlR R) : (a / b).val = R.fl (a.val / b.val) := rfl
theorem one_val : (1 : FlR R).val = 1 := rfl
theorem zero_val : (0 : FlR R).val = 0 := rfl
theorem neg_one_val : (-(1 : FlR R)).val = -1 := rfl

/-- the exact rounding (`u = 0`): the model is non-vacuous -/
def exact : Rounding := ⟨id, 0, le_refl 0, fun x => ⟨0, by simp, by simp⟩⟩

/-- a rounding with `u = 2⁻⁵³ > 0` (used for the non-vacuity examples of Props/C02.lean) -/
noncomputable def exRounding : Rounding := ⟨id, 1 / 2 ^ 53, by positivity, fun x => ⟨0, by simp, by simp⟩⟩
theorem exRounding_sub (a b : FlR exRounding) : (a - b).val = a.val - b.val := rfl
theorem exRounding_mul (a b : FlR exRounding) : (a * b).val = a.val * b.val := rfl
theorem exRounding_div (a b : FlR exRounding) : (a / b).val = a.val / b.val := rfl

theorem abs_update_le {ι : Type} [DecidableEq ι] {θ : ι → ℝ} {g g' p : ℝ} (r : ι) (hp : |p| ≤ g)
    (hθ : ∀ k, |θ k| ≤ g') (hg : g' ≤ g) : ∀ k, |Function.update θ r p k| ≤ g :=
  update_forall (P := fun t => |t| ≤ g) r hp fun k => (hθ k).trans hg

/-- a rounding in backward form: the perturbation `1+p` of the exact value is one `1+p'` of the rounded value, one index up -/
theorem fl_backward {k : ℕ} (hk : ((k + 1 : ℕ) : ℝ) * R.u < 1) (x : ℝ) {p : ℝ} (hp : |p| ≤ gamma R.u k) :
    ∃ p' : ℝ, |p'| ≤ gamma R.u (k + 1) ∧ x * (1 + p) = R.fl x * (1 + p') := by
  obtain ⟨δ, hδ, hx⟩ := R.spec x
  obtain ⟨φ, hφ, hinv⟩ := inv_pert (u_lt_one R.u_nonneg hk) hδ
  exact ⟨(1 + p) * (1 + φ) - 1, gamma_mul R.u_nonneg hk hp hφ,
    by rw [hx, add_sub_cancel, mul_assoc, mul_left_comm (1 + δ), hinv, mul_one]⟩

/-- one rounded `acc - a*x` in backward form (Higham, Lemma 8.4, one step): the relative perturbation of the accumulator
goes from `γ_k` to `γ_{k+1}`, and the subtracted product gets one of at most `γ_{k+1}` -/
theorem sub_mul_step {k : ℕ} (hk : ((k + 1 : ℕ) : ℝ) * R.u < 1) (acc a x : FlR R) {t S p : ℝ}
    (hp : |p| ≤ gamma R.u k) (h : t = acc.val * (1 + p) + S) :
    ∃ p' θ : ℝ, |p'| ≤ gamma R.u (k + 1) ∧ |θ| ≤ gamma R.u (k + 1) ∧
      t = (acc - a * x).val * (1 + p') + (S + a.val * x.val * (1 + θ)) := by
  obtain ⟨ε, hε, hmul⟩ := R.spec (a.val * x.val)
  obtain ⟨p', hp', hsub⟩ := fl_backward hk (acc.val - R.fl (a.val * x.val)) hp
  refine ⟨p', (1 + p) * (1 + ε) - 1, hp', gamma_step_mul R.u_nonneg hk hp hε, ?_⟩
  rw [h, sub_val, mul_val, ← hsub, hmul]
  ring

theorem div_step {k : ℕ} (hk : ((k + 1 : ℕ) : ℝ) * R.u < 1) (acc d : FlR R) (hd : d.val ≠ 0) {p : ℝ}
    (hp : |p| ≤ gamma R.u k) :
    ∃ p' : ℝ, |p'| ≤ gamma R.u (k + 1) ∧ acc.val * (1 + p) = (acc / d).val * d.val * (1 + p') := by
  obtain ⟨p', hp', hdiv⟩ := fl_backward hk (acc.val / d.val) hp
  exact ⟨p', hp', by rw [div_val, mul_right_comm, ← hdiv, mul_right_comm, div_mul_cancel₀ _ hd]⟩

theorem mul_step {k : ℕ} (hk : ((k + 1 : ℕ) : ℝ) * R.u < 1) (s g : FlR R) {c θ : ℝ} (hθ : |θ| ≤ gamma R.u k)
    (hs : s.val = c * (1 + θ)) : ∃ θ' : ℝ, |θ'| ≤ gamma R.u (k + 1) ∧ (s * g).val = c * g.val * (1 + θ') := by
  obtain ⟨δ, hδ, hmul⟩ := R.spec (s.val * g.val)
  exact ⟨(1 + θ) * (1 + δ) - 1, gamma_step_mul R.u_nonneg hk hθ hδ, by rw [mul_val, hmul, hs]; ring⟩

/-- `for i: if P i: acc *= g i` under rounding, started from `s = c (1+θ)` with `|θ| ≤ γ_k`: every pass adds one to the
index of `γ` -/
theorem prod_loop_fl {n k : ℕ} (hk : ((k + n : ℕ) : ℝ) * R.u < 1) (P : Fin n → Prop) [DecidablePred P]
    (g : Fin n → FlR R) (s : FlR R) (c : ℝ) (hs : ∃ θ : ℝ, |θ| ≤ gamma R.u k ∧ s.val = c * (1 + θ)) :
    ∃ θ : ℝ, |θ| ≤ gamma R.u (k + n) ∧
      (forUp n s fun i acc => if P i then acc * g i else acc).val =
        c * (∏ i, if P i then (g i).val else 1) * (1 + θ) := by
  induction n with
  | zero => rw [Fin.prod_univ_zero, mul_one]; exact hs
  | succ n ih =>
    -- the loop over `n + 1` is the pass `n` after the loop over `n`, and so is the product
    obtain ⟨θ, hθ, h⟩ := ih (nat_mul_lt R.u_nonneg (Nat.le_succ (k + n)) hk) (fun i => P i.castSucc) fun i => g i.castSucc
    rw [forUp_succ, Fin.prod_univ_castSucc, ← mul_assoc]
    by_cases hP : P (Fin.last n)
    · rw [if_pos hP, if_pos hP]
      exact mul_step hk _ _ hθ h
    · exact ⟨θ, hθ.trans (gamma_mono R.u_nonneg (Nat.le_succ _) hk), by rw [if_neg hP, if_neg hP, mul_one, h]⟩

end DV.C02.Flt
