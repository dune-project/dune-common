import DuneVerif.Model.C06
/-! C06: trackers on the zipper representation (`sendT`, `recvS`), `skipZ`, the greedy packing `takeFit` of one round; the body
    of `checkAndContinue` (`ccBody`), of which `Pair.step` and `recvLoop` are instances. -/
namespace DV.C06
variable {α : Type}

/-- tracker without size array (send trackers; receive trackers of fixed-size communications) -/
def sendT (rank k : Nat) (is : List Nat) (f : Nat) : Tracker := ⟨rank, k, is, false, [], f⟩
/-- receive tracker of a variable-size communication -/
def recvT (rank k : Nat) (js ss : List Nat) : Tracker := ⟨rank, k, js, true, ss, 0⟩

theorem mk'_send (r : Nat) (is : List Nat) (f : Nat) : Tracker.mk' r is f = sendT r 0 is f := by
  simp [Tracker.mk', sendT]

theorem mk'_recv (r : Nat) (js ss : List Nat) :
    ({ Tracker.mk' r js 0 true with sizes := ss } : Tracker) = recvT r 0 js ss := by
  simp [Tracker.mk', recvT]

/-- number of items the handle has at the indices `is` -/
def total (h : Handle α) (is : List Nat) : Nat := (is.flatMap h.data).length

@[simp] theorem total_nil (h : Handle α) : total h [] = 0 := rfl
@[simp] theorem total_cons (h : Handle α) (i : Nat) (is : List Nat) : total h (i :: is) = h.size i + total h is := by
  simp [total, Handle.size]
@[simp] theorem total_append (h : Handle α) (a b : List Nat) : total h (a ++ b) = total h a + total h b := by
  simp [total]

theorem total_eq_zero_iff (h : Handle α) (is : List Nat) : total h is = 0 ↔ ∀ i ∈ is, h.size i = 0 := by
  simp only [total, Handle.size, List.length_eq_zero_iff, List.flatMap_eq_nil_iff]

@[simp] theorem sendT_skip (r k is f) : (sendT r k is f).skipZeroIndices = sendT r k is f := by
  simp [sendT, Tracker.skipZeroIndices]

@[simp] theorem sendT_move (r k i is f) : (sendT r k (i :: is) f).moveToNextIndex = sendT r (k + 1) is f := by
  simp [sendT, Tracker.moveToNextIndex, Tracker.skipZeroIndices]

@[simp] theorem sendT_finished (r k is f) : (sendT r k is f).finished = is.isEmpty := rfl
@[simp] theorem sendT_left (r k is f) : (sendT r k is f).indicesLeft = is.length := rfl
@[simp] theorem sendT_iface (r k is f) : (sendT r k is f).iface = is := rfl
@[simp] theorem sendT_fixed (r k is f) : (sendT r k is f).fixedSize = f := rfl
@[simp] theorem sendT_index (r k is f) : (sendT r k is f).index = k := rfl
@[simp] theorem recvT_finished (r k js ss) : (recvT r k js ss).finished = js.isEmpty := rfl
@[simp] theorem recvT_left (r k js ss) : (recvT r k js ss).indicesLeft = js.length := rfl
@[simp] theorem recvT_fixed (r k js ss) : (recvT r k js ss).fixedSize = 0 := rfl

/-- state of a variable-size receive tracker that stands (after skipping) in front of `js`/`ss` -/
def recvS (r k : Nat) (js ss : List Nat) : Tracker :=
  recvT r (skipZ js ss k).2.2 (skipZ js ss k).1 (skipZ js ss k).2.1

theorem recvT_skip (r k js ss) : (recvT r k js ss).skipZeroIndices = recvS r k js ss := by
  simp [recvT, recvS, Tracker.skipZeroIndices]

theorem skipZ_idem : ∀ (js ss : List Nat) (k : Nat),
    skipZ (skipZ js ss k).1 (skipZ js ss k).2.1 (skipZ js ss k).2.2 = skipZ js ss k := by
  intro js ss k
  fun_induction skipZ js ss k with
  | case1 i is ss k ih => exact ih
  | case2 i is s ss k hs => simp [skipZ, hs]
  | case3 is ss k hne => exact skipZ.eq_2 is ss k hne  -- the catch-all equation of `skipZ`; `hne` is its side condition

theorem skipZeroIndices_idem (t : Tracker) : t.skipZeroIndices.skipZeroIndices = t.skipZeroIndices := by
  unfold Tracker.skipZeroIndices
  cases hs : t.hasSizes
  · simp [hs]
  · simp [skipZ_idem]

@[simp] theorem recvS_skip (r k js ss) : (recvS r k js ss).skipZeroIndices = recvS r k js ss := by
  rw [← recvT_skip, skipZeroIndices_idem]

theorem recvS_zero (r k j js ss) : recvS r k (j :: js) (0 :: ss) = recvS r (k + 1) js ss := rfl

theorem recvS_pos (r k j js s ss) (hs : s ≠ 0) : recvS r k (j :: js) (s :: ss) = recvT r k (j :: js) (s :: ss) := by
  simp [recvS, skipZ, hs]

@[simp] theorem recvS_nil (r k ss) : recvS r k [] ss = recvT r k [] ss := by
  simp [recvS, skipZ]

theorem recvT_move (r k j js s ss) : (recvT r k (j :: js) (s :: ss)).moveToNextIndex = recvS r (k + 1) js ss := by
  simp [recvT, recvS, Tracker.moveToNextIndex, Tracker.skipZeroIndices]

theorem skipZ_length_le (js ss : List Nat) (k : Nat) : (skipZ js ss k).1.length ≤ js.length := by
  fun_induction skipZ js ss k with
  | case1 i is ss k ih => exact Nat.le_succ_of_le ih
  | case2 | case3 => exact Nat.le_refl _

theorem recvS_left_le (r k js ss) : (recvS r k js ss).indicesLeft ≤ js.length := by
  simp [recvS, skipZ_length_le]

theorem recvS_finished (h : Handle α) (r : Nat) : ∀ (is js : List Nat) (k : Nat), js.length = is.length →
    (recvS r k js (is.map h.size)).finished = (total h is == 0) := by
  intro is
  induction is with
  | nil => rintro (_ | _) k ⟨⟩; rfl
  | cons i is ih =>
    rintro (_ | ⟨j, js⟩) k hl
    · cases hl
    by_cases hz : h.size i = 0
    · rw [List.map_cons, hz, recvS_zero, total_cons, hz, Nat.zero_add]
      exact ih js (k + 1) (Nat.succ.inj hl)
    · simp [recvS_pos _ _ _ _ _ _ hz, hz]

@[simp] theorem buf_reset_size (b : MessageBuffer α) : b.reset.size = b.size := rfl
@[simp] theorem buf_reset_pos (b : MessageBuffer α) : b.reset.position = 0 := rfl
@[simp] theorem buf_reset_cells (b : MessageBuffer α) : b.reset.cells = [] := rfl

/-- a send buffer: everything written since the reset, nothing else -/
def MessageBuffer.fresh (b : MessageBuffer α) : Prop := b.cells.length = b.position

theorem buf_write_fresh (b : MessageBuffer α) (xs : List α) (hb : b.fresh) :
    b.write xs = ⟨b.size, b.cells ++ xs, b.position + xs.length⟩ := by
  unfold MessageBuffer.fresh at hb
  simp [MessageBuffer.write, ← hb]

theorem MessageBuffer.fresh.append {b : MessageBuffer α} (hb : b.fresh) (xs : List α) :
    (⟨b.size, b.cells ++ xs, b.position + xs.length⟩ : MessageBuffer α).fresh := by
  unfold MessageBuffer.fresh at *
  simp [hb]

/-- indices packed into a buffer that already holds `used` items, and the indices left -/
def takeFit (h : Handle α) (B : Nat) : List Nat → Nat → List Nat × List Nat
  | [], _ => ([], [])
  | i :: is, used =>
    if used + h.size i ≤ B then ((i :: (takeFit h B is (used + h.size i)).1), (takeFit h B is (used + h.size i)).2)
    else ([], i :: is)

theorem takeFit_append (h : Handle α) (B : Nat) (is : List Nat) (used : Nat) :
    (takeFit h B is used).1 ++ (takeFit h B is used).2 = is := by
  fun_induction takeFit h B is used <;> simp_all

theorem takeFit_greedy (h : Handle α) (B : Nat) (is : List Nat) (used : Nat) (hu : used ≤ B) :
    used + total h (takeFit h B is used).1 ≤ B ∧
      ∀ i r, (takeFit h B is used).2 = i :: r → B < used + total h (takeFit h B is used).1 + h.size i := by
  fun_induction takeFit h B is used with
  | case1 => exact ⟨hu, nofun⟩
  | case2 i is used hfit ih =>
    simp only [total_cons, ← Nat.add_assoc]
    exact ih hfit
  | case3 i is used hfit =>
    refine ⟨hu, fun i' r hr => ?_⟩
    cases hr
    exact Nat.lt_of_not_le hfit

theorem takeFit_ne_nil (h : Handle α) (B : Nat) (i : Nat) (is : List Nat) (used : Nat) (hfit : used + h.size i ≤ B) :
    (takeFit h B (i :: is) used).1 ≠ [] := by
  simp [takeFit, hfit]

theorem takeFit_allzero (h : Handle α) (B : Nat) (is : List Nat) (used : Nat) (hu : used ≤ B)
    (hz : total h is = 0) : (takeFit h B is used).1 = is ∧ (takeFit h B is used).2 = [] := by
  fun_induction takeFit h B is used with
  | case1 => exact ⟨rfl, rfl⟩
  | case2 i is used hfit ih =>
    rw [total_cons, Nat.add_eq_zero_iff] at hz
    exact (ih hfit hz.2).imp (congrArg _) id
  | case3 i is used hfit =>
    rw [total_cons, Nat.add_eq_zero_iff] at hz
    exact absurd (hz.1 ▸ hu) hfit

theorem packVarLoop_sendT (h : Handle α) (r : Nat) : ∀ (is : List Nat) (fuel k : Nat) (b : MessageBuffer α) (packed : Nat),
    is.length ≤ fuel → b.fresh →
    packVarLoop h fuel (sendT r k is 0) b packed =
      (packed + total h (takeFit h b.size is b.position).1,
       sendT r (k + (takeFit h b.size is b.position).1.length) (takeFit h b.size is b.position).2 0,
       ⟨b.size, b.cells ++ (takeFit h b.size is b.position).1.flatMap h.data,
        b.position + total h (takeFit h b.size is b.position).1⟩) := by
  intro is
  induction is with
  | nil =>
    intro fuel k b packed _ _
    cases fuel <;> simp [packVarLoop, takeFit]
  | cons i is ih =>
    intro fuel k b packed hf hb
    cases fuel with
    | zero => simp at hf
    | succ fuel =>
      simp only [packVarLoop, sendT_iface, MessageBuffer.hasSpaceForItems, decide_eq_true_eq]
      by_cases hfit : b.position + h.size i ≤ b.size
      · simp only [hfit, if_true, sendT_move, buf_write_fresh b _ hb, takeFit]
        rw [ih fuel (k + 1) _ (packed + h.size i) (by simpa using hf) (hb.append (h.data i))]
        simp [Handle.size, Nat.add_assoc, Nat.add_comm 1]
      · simp [hfit, takeFit]

theorem skipZeroSend_sendT (h : Handle α) (fuel r k : Nat) (is : List Nat) (f : Nat)
    (hpos : ∀ i rr, is = i :: rr → h.size i ≠ 0) : skipZeroSend h fuel (sendT r k is f) = sendT r k is f := by
  cases fuel with
  | zero => rfl
  | succ fuel =>
    cases is with
    | nil => rfl
    | cons i rr => simp [skipZeroSend, sendT, hpos i rr rfl]

/-- the body of the loop of `checkAndContinue` for one completed request: the buffer functor, `skipZeroIndices`; if indices
    are left the communication functor and `skipZeroIndices` again.  Result: (tracker, buffer, accumulator, what the
    communication functor returned if it ran, `--no_completed` happened).  `Pair.step` (for both completions) and `recvLoop`
    spell this out; they do not read the last component: the machines that count open requests (`varStep`, `fixStep`)
    decrement with `decIf` when a side closes, which is the same rule. -/
def ccBody {σ β γ : Type} (gc valid : Bool) (bf : Tracker → MessageBuffer β → Nat → σ → Tracker × MessageBuffer β × σ)
    (cf : Tracker → MessageBuffer β → Tracker × MessageBuffer β × γ) (n : Nat) (t : Tracker) (b : MessageBuffer β) (a : σ) :
    Tracker × MessageBuffer β × σ × Option γ × Bool :=
  let r := bf t b (if gc then n else 0) a
  let t := r.1.skipZeroIndices
  if t.finished then (t, r.2.1, r.2.2, none, false)
  else
    let q := cf t r.2.1
    (q.1.skipZeroIndices, q.2.1, r.2.2, some q.2.2, valid)

/-- the state of the neighbour machine after `recvDone`, from the result of the body -/
def recvDoneResult {σ : Type} (s : Pair α σ) (r : Tracker × MessageBuffer α × σ × Option Bool × Bool) : Pair α σ :=
  match r with
  | (t, b, acc, some posted, _) => { s with rt := t, rb := b, acc := acc, rreq := if posted then .posted else .null }
  | (t, b, acc, none, _) => { s with rt := t, rb := b, acc := acc, rreq := .null, recvOpen := false }

/-- the state of the neighbour machine after `sendDone`, from the result of the body -/
def sendDoneResult {σ : Type} (s : Pair α σ) (r : Tracker × MessageBuffer α × Unit × Option (Option (List α)) × Bool) :
    Pair α σ :=
  match r with
  | (t, b, _, some msg, _) =>
      { s with st := t, sb := b, sreq := if msg.isSome then .active else .null, chan := s.chan ++ msg.toList }
  | (t, _, _, none, _) => { s with st := t, sreq := .null, sendOpen := false }

/-- what `recvLoop` does after the body ran for the first message -/
def recvLoopResult {β σ : Type} (rep gc : Bool)
    (unpack : Tracker → MessageBuffer β → Nat → σ → Tracker × MessageBuffer β × σ) (ms : List (List β)) (posted : Nat)
    (r : Tracker × MessageBuffer β × σ × Option Bool × Bool) : RecvRun σ :=
  match r with
  | (t', b', acc', some true, _) => recvLoop rep gc unpack ms t' b' (posted + 1) acc'
  | (t', _, acc', some false, _) => ⟨acc', posted, ms.length, false, true, t'⟩
  | (t', _, acc', none, _) => ⟨acc', posted, ms.length, false, false, t'⟩

theorem recvDone_cc {σ : Type} (c : PairCfg α σ) (s : Pair α σ) {m : List α} (h : s.rreq = .complete m) :
    Pair.step c s .recvDone =
      some (recvDoneResult s
        (ccBody c.getCount true c.unpack (setupRecv c.repaired) m.length s.rt (s.rb.received m) s.acc)) := by
  simp only [Pair.step, h, ccBody]
  generalize c.unpack s.rt (s.rb.received m) (if c.getCount = true then m.length else 0) s.acc = r
  cases r.1.skipZeroIndices.finished <;> rfl

theorem recvDoneResult_eq {σ : Type} (s : Pair α σ) (t : Tracker) (b : MessageBuffer α) (a : σ) (o : Option Bool)
    (v : Bool) :
    recvDoneResult s (t, b, a, o, v) =
      { s with rt := t, rb := b, acc := a, rreq := if o = some true then .posted else .null,
               recvOpen := o.isSome && s.recvOpen } := by
  cases o with
  | none => rfl
  | some p => cases p <;> rfl

theorem recvLoop_cc {β σ : Type} (rep gc : Bool)
    (unpack : Tracker → MessageBuffer β → Nat → σ → Tracker × MessageBuffer β × σ)
    (m : List β) (ms : List (List β)) (t : Tracker) (b : MessageBuffer β) (posted : Nat) (acc : σ) :
    recvLoop rep gc unpack (m :: ms) t b posted acc =
      recvLoopResult rep gc unpack ms posted (ccBody gc true unpack (setupRecv rep) m.length t (b.received m) acc) := by
  rw [recvLoop, ccBody]
  generalize unpack t (b.received m) (if gc = true then m.length else 0) acc = r
  cases r.1.skipZeroIndices.finished
  · simp only [Bool.false_eq_true, if_false, recvLoopResult]
    cases (setupRecv rep r.1.skipZeroIndices r.2.1).2.2 <;> rfl
  · rfl

end DV.C06
