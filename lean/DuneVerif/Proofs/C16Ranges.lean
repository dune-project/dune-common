/-
C16 — helper lemmas about the range loops (range-based `for` through the facade operators) and the hybrid
helpers that walk a container by index or search a sequence (`forEach`, `switchCases`).  The loop lemmas hold for
every fuel that is at least the length of the range: the loops stop by themselves when the iterator reaches `end()`,
the fuel never cuts them short.  Core Lean only.
-/
import DuneVerif.Proofs.C16Basic

namespace DV.C16

/-- the values `lo, lo+1, …, hi-1` -/
def intRange (lo hi : Int) : List Int := (List.range (hi - lo).toNat).map (fun (i : Nat) => lo + (i : Int))

theorem add_toNat_sub {lo hi : Int} (h : lo ≤ hi) : lo + (hi - lo).toNat = hi := by
  rw [Int.toNat_sub_of_le h, Int.add_comm, Int.sub_add_cancel]

theorem mem_intRange (lo hi x : Int) : x ∈ intRange lo hi ↔ lo ≤ x ∧ x < hi := by
  unfold intRange
  simp only [List.mem_map, List.mem_range]
  constructor
  · rintro ⟨i, hi', rfl⟩
    exact ⟨Int.le_add_of_nonneg_right (Int.natCast_nonneg i), Int.add_lt_of_lt_sub_left (Int.lt_toNat.mp hi')⟩
  · intro ⟨h1, h2⟩
    exact ⟨(x - lo).toNat,
      (Int.toNat_lt_toNat (Int.sub_pos.mpr (Int.lt_of_le_of_lt h1 h2))).mpr (Int.sub_lt_sub_right h2 lo),
      add_toNat_sub h1⟩

theorem length_intRange (lo hi : Int) : (intRange lo hi).length = (hi - lo).toNat := by simp [intRange]

theorem getElem?_intRange (lo hi : Int) {i : Nat} (h : i < (hi - lo).toNat) : (intRange lo hi)[i]? = some (lo + i) :=
  List.getElem?_map.trans (congrArg (Option.map _) (List.getElem?_range h))

theorem enumLoop_eq (n fuel : Nat) (v : Int) (hf : n ≤ fuel) :
    IntegralRange.enumLoop fuel ⟨v⟩ ⟨v + n⟩ = (List.range n).map (fun (i : Nat) => v + (i : Int)) := by
  induction n generalizing fuel v with
  | zero =>
    cases fuel with
    | zero => rfl
    | succ m =>
      rw [IntegralRange.enumLoop, IR.ne_spec,
        if_neg (by rw [decide_eq_true_iff]; exact not_not_intro (Int.add_zero v).symm)]
      rfl
  | succ n ih =>
    cases fuel with
    | zero => exact absurd hf (Nat.not_succ_le_zero n)
    | succ m =>
      have hlt : v < v + (n + 1 : Nat) := Int.lt_add_of_pos_right v (Int.natCast_succ_pos n)
      -- `↑(a + 1)` is `↑a + 1` by definition
      have e (a : Nat) : v + 1 + a = v + (a + 1 : Nat) := (Int.add_right_comm v 1 a).trans (Int.add_assoc v a 1)
      rw [IntegralRange.enumLoop, IR.ne_spec, if_pos (decide_eq_true (Int.ne_of_lt hlt)), List.range_succ_eq_map,
        List.map_cons, List.map_map, ← e]
      exact congr (congrArg _ (Int.add_zero v).symm) ((ih m (v + 1) (Nat.le_of_succ_le_succ hf)).trans
        (List.map_congr_left fun a _ => e a))

namespace IntegralRange

theorem enumerateFuel_eq (r : IntegralRange) (h : r.lo ≤ r.hi) (fuel : Nat) (hf : (r.hi - r.lo).toNat ≤ fuel) :
    r.enumerateFuel fuel = intRange r.lo r.hi :=
  -- `intRange r.lo r.hi` is the right side of `enumLoop_eq` for `n = (r.hi - r.lo).toNat` by definition
  (congrArg (fun x => enumLoop fuel ⟨r.lo⟩ ⟨x⟩) (add_toNat_sub h).symm).trans (enumLoop_eq _ fuel r.lo hf)

theorem enumerate_eq (r : IntegralRange) (h : r.lo ≤ r.hi) : r.enumerate = intRange r.lo r.hi :=
  r.enumerateFuel_eq h _ (Nat.le_refl _)

theorem contains_iff_mem (r : IntegralRange) (x : Int) : r.contains x = true ↔ x ∈ intRange r.lo r.hi := by
  rw [mem_intRange, contains_spec, Bool.and_eq_true, decide_eq_true_iff, decide_eq_true_iff]

theorem size_eq (r : IntegralRange) (h : r.lo ≤ r.hi) {bits : Nat} (hb : r.hi - r.lo < 2 ^ bits) :
    r.size bits = r.hi - r.lo := by
  rw [size_spec, ← Int.sub_emod, Int.emod_eq_of_lt (Int.sub_nonneg.mpr h) hb]

end IntegralRange

theorem transformLoopIR_eq_enumLoop (f : Int → Int) (fuel : Nat) (it e : IR) :
    transformLoopIR f fuel it e = ((IntegralRange.enumLoop fuel it e).map f, IntegralRange.enumLoop fuel it e) := by
  induction fuel generalizing it with
  | zero => rfl
  | succ m ih =>
    rw [transformLoopIR, IntegralRange.enumLoop, NewF.ne_pos irBase_lawful trivial, IR.ne_spec]
    split
    · rw [ih]; rfl
    · rfl

theorem getAt_nonneg (c : List Int) {i : Int} (h : 0 ≤ i) : getAt c i = c[i.toNat]? := if_neg (Int.not_lt.mpr h)

theorem getAt_nat (c : List Int) (p : Nat) : getAt c (p : Int) = c[p]? := getAt_nonneg c (Int.natCast_nonneg p)

/-- from position `p`, with `n` elements left before `e`, the loop yields `(c.drop p).take n`, for any fuel ≥ `n` -/
theorem legacyLoop_eq (k : Core It) (ne : It → It → Bool)
    (hinc : ∀ i : It, Legacy.preInc k i = ⟨i.cont, i.pos + 1⟩)
    (hne : ∀ (q : Nat) (p e : Int), ne ⟨q, p⟩ ⟨q, e⟩ = decide (p ≠ e))
    (c : List Int) (q e : Nat) (he : e ≤ c.length) (n fuel p : Nat) (hp : p + n = e) (hf : n ≤ fuel) :
    legacyLoop k ne c fuel ⟨q, p⟩ ⟨q, e⟩ = (c.drop p).take n := by
  induction n generalizing fuel p with
  | zero =>
    cases hp
    cases fuel with
    | zero => rfl
    | succ m => rw [legacyLoop, hne, if_neg (by rw [decide_eq_true_iff]; exact not_not_intro rfl)]; rfl
  | succ n ih =>
    cases fuel with
    | zero => exact absurd hf (Nat.not_succ_le_zero n)
    | succ m =>
      have hpe : p < e := hp ▸ Nat.lt_add_of_pos_right (Nat.succ_pos n)
      have hpl : p < c.length := Nat.lt_of_lt_of_le hpe he
      have hn : (p : Int) ≠ e := fun h => Nat.ne_of_lt hpe (Int.ofNat_inj.mp h)
      rw [legacyLoop, hne, if_pos (decide_eq_true hn), getAt_nat,
        List.getElem?_eq_getElem hpl, hinc, List.drop_eq_getElem_cons hpl, List.take_succ_cons]
      exact congrArg (c[p] :: ·) (ih m (p + 1) ((Nat.add_right_comm p 1 n).trans hp) (Nat.le_of_succ_le_succ hf))

theorem legacyLoop_full (k : Core It) (ne : It → It → Bool)
    (hinc : ∀ i : It, Legacy.preInc k i = ⟨i.cont, i.pos + 1⟩)
    (hne : ∀ (q : Nat) (p e : Int), ne ⟨q, p⟩ ⟨q, e⟩ = decide (p ≠ e))
    (c : List Int) (q fuel : Nat) (hf : c.length ≤ fuel) : legacyLoop k ne c fuel ⟨q, 0⟩ ⟨q, c.length⟩ = c :=
  (legacyLoop_eq k ne hinc hne c q c.length (Nat.le_refl _) c.length fuel 0 (Nat.zero_add _) hf).trans
    (List.take_length (l := c))

/-- `legacyLoop posCore` although the view steps with `++` of the new facade over std iterators: that moves the
position by one exactly like `posCore.increment` -/
theorem transformLoop_eq_legacyLoop (f : Int → Int) (c : List Int) (fuel : Nat) (it e : It) :
    transformLoop f c fuel it e =
      ((legacyLoop posCore (NewF.ne stdBase) c fuel it e).map f, legacyLoop posCore (NewF.ne stdBase) c fuel it e) := by
  induction fuel generalizing it with
  | zero => rfl
  | succ m ih =>
    rw [transformLoop, legacyLoop]
    split
    · cases getAt c it.pos with
      | none => rfl
      | some x => simp only [ih]; rfl
    · rfl

/-- entries paired with their positions, starting at position `p` -/
def withIndexFrom : Nat → List Int → List (Int × Int)
  | _, [] => []
  | p, x :: xs => (x, (p : Int)) :: withIndexFrom (p + 1) xs

theorem withIndexFrom_fst (l : List Int) (p : Nat) : (withIndexFrom p l).map Prod.fst = l := by
  induction l generalizing p with
  | nil => rfl
  | cons x xs ih => exact congrArg (x :: ·) (ih (p + 1))

theorem withIndexFrom_snd (l : List Int) (p : Nat) :
    (withIndexFrom p l).map Prod.snd = (List.range' p l.length).map (fun (i : Nat) => (i : Int)) := by
  induction l generalizing p with
  | nil => rfl
  | cons x xs ih => exact congrArg (_ :: ·) (ih (p + 1))  -- `List.range' p (n + 1)` unfolds to `p :: List.range' (p + 1) n`

theorem sparseLoop_eq_legacyLoop (c : List Int) (q : Nat) (e : It) (fuel p : Nat) :
    sparseLoop c fuel ⟨q, p⟩ e = withIndexFrom p (legacyLoop posCore (NewF.ne denseBase) c fuel ⟨q, p⟩ e) := by
  induction fuel generalizing p with
  | zero => rfl
  | succ m ih =>
    rw [sparseLoop, legacyLoop, dereference_spec]
    split
    · cases getAt c (p : Int) with
      | none => rfl
      | some x => exact congrArg ((x, (p : Int)) :: ·) (ih (p + 1))
    · rfl

theorem forEachIndex_cons_succ {σ : Type} (x : Int) (xs : List Int) (f : σ → Int → σ) (is : List Nat) (s : σ) :
    Hybrid.forEachIndex (x :: xs) f (is.map Nat.succ) s = Hybrid.forEachIndex xs f is s := by
  induction is generalizing s with
  | nil => rfl
  | cons i is ih =>
    rw [List.map_cons, Hybrid.forEachIndex, Hybrid.forEachIndex, Hybrid.elementAtStatic]
    cases Hybrid.elementAtStatic xs i with
    | none => exact ih s
    | some y => exact ih (f s y)

theorem forEachStatic_cons {σ : Type} (x : Int) (xs : List Int) (f : σ → Int → σ) (s : σ) :
    Hybrid.forEachStatic (x :: xs) f s = Hybrid.forEachStatic xs f (f s x) := by
  unfold Hybrid.forEachStatic Hybrid.sizeStatic
  rw [List.length_cons, List.range_succ_eq_map]
  exact forEachIndex_cons_succ x xs f _ _

theorem forEachDynamic_eq_foldl {σ : Type} (c : List Int) (f : σ → Int → σ) (s : σ) :
    Hybrid.forEachDynamic c f s = c.foldl f s := by
  induction c generalizing s with
  | nil => rfl
  | cons x xs ih => exact ih (f s x)

theorem ite_iff_congr {α : Type} {p q : Prop} [Decidable p] [Decidable q] (h : p ↔ q) (x y : α) :
    (if p then x else y) = if q then x else y :=
  ite_congr (propext h) (fun _ => rfl) (fun _ => rfl)

theorem switchSeqDynamic_eq {α : Type} (cases : List Int) (v : Int) (br : Int → α) (els : α) :
    Hybrid.switchSeqDynamic cases v br els = if v ∈ cases then br v else els := by
  induction cases with
  | nil => exact (if_neg List.not_mem_nil).symm
  | cons t tt ih =>
    rw [Hybrid.switchSeqDynamic, ih]
    by_cases h : t = v
    · rw [if_pos h, h, if_pos List.mem_cons_self]
    · rw [if_neg h]
      exact ite_iff_congr ⟨List.mem_cons_of_mem t, fun m => (List.mem_cons.mp m).resolve_left (Ne.symm h)⟩ _ _

theorem toSequence_eq (r : IntegralRange) : SR.toSequence r = intRange r.lo r.hi :=
  List.map_congr_left fun a _ => Int.add_comm a r.lo

theorem switchSeqDynamic_toSequence {α : Type} (r : IntegralRange) (v : Int) (br : Int → α) (els : α) :
    Hybrid.switchSeqDynamic (SR.toSequence r) v br els = if r.contains v then br v else els := by
  rw [switchSeqDynamic_eq, toSequence_eq]
  exact ite_iff_congr (r.contains_iff_mem v).symm _ _

end DV.C16
