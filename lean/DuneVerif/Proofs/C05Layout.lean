import DuneVerif.Proofs.C05Iface
/-!
C05, `BufferedCommunicator::build`: the message layout as prefix sums over the interface map (`layout_find`), the
gathered send buffer and its slices, and the receive buffer (a landing message is read back and leaves every disjoint
region alone).  Core Lean only.
-/
namespace DV.C05

theorem slots_length (cs : Nat → Nat) (info : Info) : (slots cs info).length = sizeCalc cs info := by
  simp only [slots, sizeCalc, List.length_flatMap, List.length_map, List.length_range]

/-- sum of `f` over the entries in front of key `q` -/
def pre (f : Info × Info → Nat) (ifs : IfMap) (q : Nat) : Nat :=
  ((ifs.takeWhile fun e => e.1 != q).map fun e => f e.2).sum

theorem pre_cons_eq (f) (e : Nat × Info × Info) (es : IfMap) {q : Nat} (h : e.1 = q) : pre f (e :: es) q = 0 := by
  simp [pre, h]

theorem pre_cons_ne (f) (e : Nat × Info × Info) (es : IfMap) {q : Nat} (h : e.1 ≠ q) :
    pre f (e :: es) q = f e.2 + pre f es q := by
  simp [pre, h]

/-- regions of different keys do not overlap: the one of the smaller key ends before the other starts -/
theorem pre_add_le_pre (f) : ∀ {ifs : IfMap}, Keys ifs → ∀ {p p'}, p < p' → p ∈ ifs.map (·.1) →
    pre f ifs p + f (ifs.get p) ≤ pre f ifs p'
  | e :: es, hk, p, p', hlt, hp => by
    simp only [List.map_cons, List.mem_cons] at hp
    by_cases h0 : e.1 = p
    · rw [pre_cons_eq f e es h0, IfMap.get_cons_eq es h0, pre_cons_ne f e es (h0 ▸ Nat.ne_of_lt hlt), Nat.zero_add]
      exact Nat.le_add_right _ _
    · have hp : p ∈ es.map (·.1) := hp.resolve_left (Ne.symm h0)
      have hne : e.1 ≠ p' := Nat.ne_of_lt (Nat.lt_trans (hk.head_lt p hp) hlt)
      rw [pre_cons_ne f e es h0, pre_cons_ne f e es hne, IfMap.get_cons_ne es h0, Nat.add_assoc]
      exact Nat.add_le_add_left (pre_add_le_pre f hk.tail hlt hp) _

/-- every region lies inside the buffer -/
theorem pre_add_le_sum (f) : ∀ {ifs : IfMap} {p}, p ∈ ifs.map (·.1) →
    pre f ifs p + f (ifs.get p) ≤ (ifs.map fun e => f e.2).sum
  | e :: es, p, hp => by
    simp only [List.map_cons, List.mem_cons, List.sum_cons] at hp ⊢
    by_cases h0 : e.1 = p
    · rw [pre_cons_eq f e es h0, IfMap.get_cons_eq es h0, Nat.zero_add]
      exact Nat.le_add_right _ _
    · rw [pre_cons_ne f e es h0, IfMap.get_cons_ne es h0, Nat.add_assoc]
      exact Nat.add_le_add_left (pre_add_le_sum f (hp.resolve_left (Ne.symm h0))) _

theorem layout_keys_sublist (sz : Nat) (csS csT : Nat → Nat) : ∀ (ifs : IfMap) (s0 s1 : Nat),
    ((layout sz csS csT ifs s0 s1).map (·.1)).Sublist (ifs.map (·.1))
  | [], _, _ => by simp [layout]
  | e :: es, s0, s1 => by
    simp only [layout, List.map_append, List.map_cons]
    have ih := layout_keys_sublist sz csS csT es (s0 + sizeCalc csS e.2.1) (s1 + sizeCalc csT e.2.2)
    split
    · exact List.Sublist.cons_cons _ ih
    · exact List.Sublist.cons _ ih

/-- lookup in `messageInformation_`: start = prefix sum (elements), size = own count times `sizeof` (bytes);
    no entry for a neighbour with nothing to send and nothing to receive -/
theorem layout_find (sz : Nat) (csS csT : Nat → Nat) : ∀ {ifs : IfMap}, Keys ifs → ∀ (s0 s1 q : Nat),
    (layout sz csS csT ifs s0 s1).find? (fun x => x.1 == q) =
      if 0 < sizeCalc csS (ifs.get q).1 + sizeCalc csT (ifs.get q).2 then
        some (q, (⟨s0 + pre (fun e => sizeCalc csS e.1) ifs q, sizeCalc csS (ifs.get q).1 * sz⟩ : MsgInfo),
                 (⟨s1 + pre (fun e => sizeCalc csT e.2) ifs q, sizeCalc csT (ifs.get q).2 * sz⟩ : MsgInfo))
      else none
  | [], _, _, _, _ => rfl
  | e :: es, hk, s0, s1, q => by
    rw [layout, List.find?_append, layout_find sz csS csT hk.tail]
    by_cases h0 : e.1 = q
    · -- behind `e` there is no entry for `q`
      have hq : q ∉ es.map (·.1) := fun hq => by have := hk.head_lt q hq; omega
      rw [IfMap.get_cons_eq es h0, pre_cons_eq _ e es h0, pre_cons_eq _ e es h0, IfMap.get_of_not_mem hq]
      split <;> simp [h0, Info.empty, sizeCalc]
    · rw [IfMap.get_cons_ne es h0, pre_cons_ne _ e es h0, pre_cons_ne _ e es h0]
      split <;> simp [h0, Nat.add_assoc]

theorem gatherBuf_cons {Val} (gat : Nat → Nat → Val) (cs : Nat → Nat) (fwd : Bool) (e) (es : IfMap) :
    gatherBuf gat cs fwd (e :: es) =
      (slots cs (sendSide fwd e.2)).map (fun s => gat s.1 s.2) ++ gatherBuf gat cs fwd es := by
  simp [gatherBuf, List.flatMap_cons]

/-- the slice `[pre, pre + n)` of the send buffer holds the gathered values of neighbour `q` in interface order -/
theorem gatherBuf_slice {Val} (gat : Nat → Nat → Val) (cs : Nat → Nat) (fwd : Bool) (q : Nat) :
    ∀ (ifs : IfMap),
      ((gatherBuf gat cs fwd ifs).drop (pre (fun e => sizeCalc cs (sendSide fwd e)) ifs q)).take
          (sizeCalc cs (sendSide fwd (ifs.get q))) =
        (slots cs (sendSide fwd (ifs.get q))).map fun s => gat s.1 s.2
  | [] => by cases fwd <;> rfl
  | e :: es => by
    have hlen : ((slots cs (sendSide fwd e.2)).map fun s => gat s.1 s.2).length = sizeCalc cs (sendSide fwd e.2) := by
      rw [List.length_map, slots_length]
    rw [gatherBuf_cons]
    by_cases h0 : e.1 = q
    · rw [pre_cons_eq _ e es h0, IfMap.get_cons_eq es h0, List.drop_zero, ← hlen]
      exact List.take_left
    · rw [pre_cons_ne _ e es h0, IfMap.get_cons_ne es h0, ← hlen, List.drop_length_add_append]
      exact gatherBuf_slice gat cs fwd q es

theorem gatherBuf_length {Val} (gat : Nat → Nat → Val) (cs : Nat → Nat) (fwd : Bool) (ifs : IfMap) :
    (gatherBuf gat cs fwd ifs).length = (ifs.map fun e => sizeCalc cs (sendSide fwd e.2)).sum := by
  simp only [gatherBuf, List.length_flatMap, List.length_map, slots_length]

theorem length_writeAt {Val} (buf : List Val) (s : Nat) (m : List Val) (h : s + m.length ≤ buf.length) :
    (writeAt buf s m).length = buf.length := by
  rw [writeAt, List.length_append, List.length_append, List.length_drop,
    List.length_take_of_le (Nat.le_trans (Nat.le_add_right _ _) h), Nat.add_sub_cancel' h]

theorem take_writeAt {Val} (buf : List Val) (s : Nat) (m : List Val) (h : s ≤ buf.length) {k : Nat} (hk : k ≤ s) :
    (writeAt buf s m).take k = buf.take k := by
  rw [writeAt, List.append_assoc, List.take_append_of_le_length (by rw [List.length_take_of_le h]; exact hk),
    List.take_take, Nat.min_eq_left hk]

theorem drop_writeAt {Val} (buf : List Val) (s : Nat) (m : List Val) (h : s ≤ buf.length) {k : Nat} (hk : s + m.length ≤ k) :
    (writeAt buf s m).drop k = buf.drop k := by
  have hl : (buf.take s ++ m).length = s + m.length := by rw [List.length_append, List.length_take_of_le h]
  obtain ⟨d, rfl⟩ := Nat.exists_eq_add_of_le hk
  rw [writeAt, ← hl, List.drop_length_add_append, List.drop_drop, hl]

theorem read_writeAt_same {Val} (buf : List Val) (s : Nat) (m : List Val) (h : s + m.length ≤ buf.length) :
    ((writeAt buf s m).drop s).take m.length = m := by
  rw [writeAt, List.append_assoc, List.drop_left' (List.length_take_of_le (Nat.le_trans (Nat.le_add_right _ _) h))]
  exact List.take_left

theorem read_writeAt_other {Val} (buf : List Val) (s : Nat) (m : List Val) (h : s + m.length ≤ buf.length)
    (s' n : Nat) (hd : s' + n ≤ s ∨ s + m.length ≤ s') :
    ((writeAt buf s m).drop s').take n = (buf.drop s').take n := by
  have hs := Nat.le_trans (Nat.le_add_right _ _) h
  rcases hd with hd | hd
  · rw [List.take_drop, List.take_drop, take_writeAt buf s m hs hd]
  · rw [drop_writeAt buf s m hs hd]

end DV.C05
