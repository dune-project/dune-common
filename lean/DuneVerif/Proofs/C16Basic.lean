/-
C16 — the laws a derived class owes a facade (`LawfulCore`, `LawfulBase`), what follows from them operator by operator
(every comparison is the order of the positions, `advance` is `n` single steps and composes additively), and the proof
that the iterators of the library satisfy them.  Core Lean only.
-/
import DuneVerif.Proofs.C16Gen

namespace DV.C16

/-- The primitive laws a derived class must satisfy for the legacy facades to produce a lawful iterator:
`pos` is the position the iterator denotes, `same a b` says both belong to the same container.  The laws are not
independent: `inc_dec`, `dec_inc` follow from the three `adv_*` laws (`Advances.inc_dec`, `Advances.dec_inc`) and
`pos_inc`, `pos_dec` from `pos_adv` (with `Advances.inc_eq`, `Advances.dec_eq`). -/
structure LawfulCore {I : Type} (k : Core I) (pos : I → Int) (same : I → I → Prop) : Prop where
  inc_dec : ∀ i, k.decrement (k.increment i) = i
  dec_inc : ∀ i, k.increment (k.decrement i) = i
  adv_zero : ∀ i, k.advance i 0 = i
  adv_succ : ∀ i n, k.advance i (n + 1) = k.increment (k.advance i n)
  adv_pred : ∀ i n, k.advance i (n - 1) = k.decrement (k.advance i n)
  pos_inc : ∀ i, pos (k.increment i) = pos i + 1
  pos_dec : ∀ i, pos (k.decrement i) = pos i - 1
  pos_adv : ∀ i n, pos (k.advance i n) = pos i + n
  dist : ∀ a b, k.distanceTo a b = pos b - pos a
  equals_iff : ∀ a b, same a b → (k.equals a b = true ↔ pos a = pos b)
  same_symm : ∀ a b, same a b → same b a

/-- the same for the base iterator of the new `IteratorFacade` -/
structure LawfulBase {B : Type} (b : Base B) (pos : B → Int) (same : B → B → Prop) : Prop where
  inc_dec : ∀ i, b.dec (b.inc i) = i
  dec_inc : ∀ i, b.inc (b.dec i) = i
  add_zero : ∀ i, b.addAssign i 0 = i
  add_succ : ∀ i n, b.addAssign i (n + 1) = b.inc (b.addAssign i n)
  add_pred : ∀ i n, b.addAssign i (n - 1) = b.dec (b.addAssign i n)
  pos_inc : ∀ i, pos (b.inc i) = pos i + 1
  pos_dec : ∀ i, pos (b.dec i) = pos i - 1
  pos_add : ∀ i n, pos (b.addAssign i n) = pos i + n
  sub_pos : ∀ l r, b.sub l r = pos l - pos r
  eq_iff : ∀ l r, same l r → (b.eq l r = true ↔ pos l = pos r)
  lt_pos : ∀ l r, b.lt l r = decide (pos l < pos r)

theorem stepsNat_succ {I : Type} (f : I → I) (n : Nat) (i : I) :
    stepsNat f (n + 1) i = f (stepsNat f n i) := by
  induction n generalizing i with
  | zero => rfl
  | succ m ih => exact ih (f i)

/-- `adv` moves by unit steps: what `advance` of a lawful core, `+=` of a lawful base and `+=` of an IndexedIterator
have in common -/
structure Advances {I : Type} (inc dec : I → I) (adv : I → Int → I) : Prop where
  zero : ∀ i, adv i 0 = i
  succ : ∀ i n, adv i (n + 1) = inc (adv i n)
  pred : ∀ i n, adv i (n - 1) = dec (adv i n)

namespace Advances
variable {I : Type} {inc dec : I → I} {adv : I → Int → I} (A : Advances inc dec adv)
include A

/- Core has no two-sided induction on `Int`.  These two walks of `m` single steps from `adv i a` are the only inductions:
`natCast`/`neg_natCast` are the case `a = 0`, and each side of `add` is such a walk. -/
theorem add_natCast (i : I) (a : Int) (m : Nat) : adv i (a + m) = stepsNat inc m (adv i a) := by
  induction m with
  | zero => exact congrArg (adv i) (Int.add_zero a)
  | succ m ih => rw [stepsNat_succ, ← ih, ← A.succ, Int.add_assoc]; rfl  -- `↑(m + 1)` is `↑m + 1` by definition

theorem sub_natCast (i : I) (a : Int) (m : Nat) : adv i (a - m) = stepsNat dec m (adv i a) := by
  induction m with
  | zero => exact congrArg (adv i) (Int.sub_zero a)
  | succ m ih => rw [stepsNat_succ, ← ih, ← A.pred, Int.sub_sub]; rfl

theorem natCast (i : I) (m : Nat) : adv i m = stepsNat inc m i := by
  rw [← Int.zero_add m, A.add_natCast, A.zero]

theorem neg_natCast (i : I) (m : Nat) : adv i (-(m : Int)) = stepsNat dec m i := by
  rw [← Int.zero_sub, A.sub_natCast, A.zero]

theorem eq_steps (i : I) (n : Int) : adv i n = steps inc dec i n :=
  match n with  -- on a constructor of `Int`, `steps` reduces to its `stepsNat` branch
  | .ofNat m => A.natCast i m
  | .negSucc m => A.neg_natCast i (m + 1)

theorem add (i : I) (a b : Int) : adv (adv i a) b = adv i (a + b) := by
  obtain ⟨m, rfl | rfl⟩ := b.eq_nat_or_neg
  · rw [A.natCast, A.add_natCast]
  · rw [A.neg_natCast, ← Int.sub_eq_add_neg, A.sub_natCast]

theorem inc_eq (i : I) : inc i = adv i 1 := by
  rw [← Int.zero_add 1, A.succ, A.zero]

theorem dec_eq (i : I) : dec i = adv i (-1) := by
  rw [← Int.zero_sub 1, A.pred, A.zero]

theorem inc_dec (i : I) : dec (inc i) = i := by
  rw [A.inc_eq, A.dec_eq, A.add]; exact A.zero i  -- `1 + -1` computes to `0`

theorem dec_inc (i : I) : inc (dec i) = i := by
  rw [A.dec_eq, A.inc_eq, A.add]; exact A.zero i

/-- a history (a fold of `apply`, each step an `adv` by its `delta`) is one `adv` by the sum of the deltas -/
theorem foldl {S : Type} (apply : I → S → I) (delta : S → Int) (hstep : ∀ i st, apply i st = adv i (delta st))
    (s : List S) (i : I) : s.foldl apply i = adv i ((s.map delta).foldl (· + ·) 0) := by
  rw [List.foldl_map, ← List.foldl_hom (adv i) (g₂ := apply) fun x st => (hstep ..).trans (A.add ..), A.zero]

end Advances

theorem pos_order_laws (p q r : Int) :
    decide (p < p) = false ∧
    (decide (p < q) = true → decide (q < p) = false) ∧
    (decide (p < q) = true → decide (q < r) = true → decide (p < r) = true) ∧
    (decide (p < q) = true ∨ decide (p = q) = true ∨ decide (p > q) = true) ∧
    ¬ (decide (p < q) = true ∧ decide (p = q) = true) ∧
    ¬ (decide (p > q) = true ∧ decide (p = q) = true) ∧
    decide (p ≤ q) = !decide (p > q) ∧
    decide (p ≥ q) = !decide (p < q) := by
  simp only [decide_eq_true_eq, decide_eq_false_iff_not, ← decide_not]
  exact ⟨Int.lt_irrefl p, Int.lt_asymm, Int.lt_trans, Int.lt_trichotomy p q, fun ⟨h, e⟩ => Int.ne_of_lt h e,
    fun ⟨h, e⟩ => Int.ne_of_gt h e, decide_eq_decide.mpr Int.not_lt.symm, decide_eq_decide.mpr Int.not_lt.symm⟩

theorem add_sub_self_left (a n : Int) : a + n - a = n := by rw [Int.add_comm, Int.add_sub_cancel]

theorem not_decide_lt (x y : Int) : (!decide (x < y)) = decide (y ≤ x) :=
  (decide_not ..).symm.trans (decide_eq_decide.mpr Int.not_lt)

theorem sub_neg_iff {x y : Int} : x - y < 0 ↔ x < y := ⟨Int.lt_of_sub_neg, Int.sub_neg_of_lt⟩
theorem sub_nonpos_iff {x y : Int} : x - y ≤ 0 ↔ x ≤ y := ⟨Int.le_of_sub_nonpos, Int.sub_nonpos_of_le⟩

/-- the shape of a legacy relational operator: one test per `is_convertible` branch, both equivalent to `r` -/
theorem ite_decide (conv : Bool) {p q r : Prop} [Decidable p] [Decidable q] [Decidable r] (hp : p ↔ r) (hq : q ↔ r) :
    (if conv then decide p else decide q) = decide r := by
  cases conv
  · exact decide_eq_decide.mpr hq
  · exact decide_eq_decide.mpr hp

section legacy
variable {I : Type} {k : Core I} {pos : I → Int} {same : I → I → Prop} (h : LawfulCore k pos same)
include h

theorem LawfulCore.advances : Advances k.increment k.decrement k.advance := ⟨h.adv_zero, h.adv_succ, h.adv_pred⟩

theorem LawfulCore.equals_eq {a b : I} (hs : same a b) : k.equals a b = decide (pos a = pos b) :=
  Bool.eq_iff_iff.mpr ((h.equals_iff a b hs).trans decide_eq_true_iff.symm)

theorem LawfulCore.equals_branch (conv : Bool) {l r : I} (hs : same l r) :
    (if conv then k.equals l r else k.equals r l) = decide (pos l = pos r) := by
  cases conv
  · exact (h.equals_eq (h.same_symm l r hs)).trans (decide_eq_decide.mpr eq_comm)
  · exact h.equals_eq hs

namespace Legacy

theorem lt_pos (conv : Bool) (l r : I) : lt k conv l r = decide (pos l < pos r) := by
  rw [lt_spec, h.dist, h.dist]; exact ite_decide conv Int.sub_pos sub_neg_iff
theorem le_pos (conv : Bool) (l r : I) : le k conv l r = decide (pos l ≤ pos r) := by
  rw [le_spec, h.dist, h.dist]; exact ite_decide conv Int.sub_nonneg sub_nonpos_iff
theorem gt_pos (conv : Bool) (l r : I) : gt k conv l r = decide (pos l > pos r) := by
  rw [gt_spec, h.dist, h.dist]; exact ite_decide conv sub_neg_iff Int.sub_pos
theorem ge_pos (conv : Bool) (l r : I) : ge k conv l r = decide (pos l ≥ pos r) := by
  rw [ge_spec, h.dist, h.dist]; exact ite_decide conv sub_nonpos_iff Int.sub_nonneg
theorem diff_pos (conv : Bool) (l r : I) : diff k conv l r = pos l - pos r := by
  rw [diff_spec, h.dist, h.dist, Int.neg_sub, ite_self]

theorem eq_pos (conv : Bool) {l r : I} (hs : same l r) : eq k conv l r = decide (pos l = pos r) := by
  rw [eq_spec]; exact h.equals_branch conv hs
theorem eqBi_pos (conv : Bool) {l r : I} (hs : same l r) : eqBi k conv l r = decide (pos l = pos r) := by
  rw [eqBi_spec]; exact h.equals_branch conv hs
theorem eqFw_pos (conv : Bool) {l r : I} (hs : same l r) : eqFw k conv l r = decide (pos l = pos r) := by
  rw [eqFw_spec]; exact h.equals_branch conv hs
theorem ne_pos (conv : Bool) {l r : I} (hs : same l r) : ne k conv l r = decide (pos l ≠ pos r) := by
  rw [ne_spec, ← apply_ite not, h.equals_branch conv hs, decide_not]
theorem neBi_pos (conv : Bool) {l r : I} (hs : same l r) : neBi k conv l r = decide (pos l ≠ pos r) := by
  rw [neBi_spec, eqBi_pos h conv hs, decide_not]
theorem neFw_pos (conv : Bool) {l r : I} (hs : same l r) : neFw k conv l r = decide (pos l ≠ pos r) := by
  rw [neFw_spec, ← apply_ite not, h.equals_branch conv hs, decide_not]

end Legacy

/-- a lawful core seen through the random access facade (`==`, `++`, `--`, `+=`, `-`, `<`) is a lawful base iterator -/
theorem LawfulCore.toBase (conv : Bool) :
    LawfulBase ⟨Legacy.eq k conv, Legacy.preInc k, Legacy.preDec k, Legacy.addAssign k, Legacy.diff k conv,
      Legacy.lt k conv⟩ pos same where
  inc_dec := h.inc_dec
  dec_inc := h.dec_inc
  add_zero := h.adv_zero
  add_succ := h.adv_succ
  add_pred := h.adv_pred
  pos_inc := h.pos_inc
  pos_dec := h.pos_dec
  pos_add := h.pos_adv
  sub_pos := Legacy.diff_pos h conv
  eq_iff l r hs := by
    show Legacy.eq k conv l r = true ↔ _
    rw [Legacy.eq_pos h conv hs]; exact decide_eq_true_iff
  lt_pos := Legacy.lt_pos h conv

end legacy

section newfacade
variable {B : Type} {b : Base B} {pos : B → Int} {same : B → B → Prop} (h : LawfulBase b pos same)
include h

theorem LawfulBase.advances : Advances b.inc b.dec b.addAssign := ⟨h.add_zero, h.add_succ, h.add_pred⟩

namespace NewF

theorem diff_pos (l r : B) : diff b l r = pos l - pos r := h.sub_pos l r
theorem lt_pos (l r : B) : lt b l r = decide (pos l < pos r) := by
  rw [lt_spec, diff_pos h]; exact decide_eq_decide.mpr sub_neg_iff
theorem le_pos (l r : B) : le b l r = decide (pos l ≤ pos r) := by
  rw [le_spec, diff_pos h]; exact decide_eq_decide.mpr sub_nonpos_iff
theorem gt_pos (l r : B) : gt b l r = decide (pos l > pos r) := by
  rw [gt_spec, diff_pos h]; exact decide_eq_decide.mpr Int.sub_pos
theorem ge_pos (l r : B) : ge b l r = decide (pos l ≥ pos r) := by
  rw [ge_spec, diff_pos h]; exact decide_eq_decide.mpr Int.sub_nonneg
theorem eq_pos {l r : B} (hs : same l r) : eq b l r = decide (pos l = pos r) :=
  Bool.eq_iff_iff.mpr ((h.eq_iff l r hs).trans decide_eq_true_iff.symm)
theorem ne_pos {l r : B} (hs : same l r) : ne b l r = decide (pos l ≠ pos r) := by
  rw [ne_spec, eq_pos h hs, decide_not]

theorem ltB_pos (l r : B) : ltB b l r = decide (pos l < pos r) := h.lt_pos l r
theorem gtB_pos (l r : B) : gtB b l r = decide (pos l > pos r) := h.lt_pos r l
theorem leB_pos (l r : B) : leB b l r = decide (pos l ≤ pos r) := by
  rw [leB_spec, h.lt_pos, not_decide_lt]
theorem geB_pos (l r : B) : geB b l r = decide (pos l ≥ pos r) := by
  rw [geB_spec, h.lt_pos, not_decide_lt]

end NewF

theorem Indexed.advances : Advances (Indexed.inc b) (Indexed.dec b) (Indexed.addAssign b) where
  zero := fun ⟨x, j⟩ => by rw [Indexed.addAssign, h.add_zero, Int.add_zero]
  succ := fun ⟨x, j⟩ n => by rw [Indexed.addAssign, Indexed.addAssign, Indexed.inc, h.add_succ, Int.add_assoc]
  pred := fun ⟨x, j⟩ n => by rw [Indexed.addAssign, Indexed.addAssign, Indexed.dec, h.add_pred, Int.add_sub_assoc]

end newfacade

theorem posCore_lawful : LawfulCore posCore It.pos (fun a b => a.cont = b.cont) where
  inc_dec := fun ⟨c, p⟩ => congrArg (It.mk c) (Int.add_sub_cancel p 1)
  dec_inc := fun ⟨c, p⟩ => congrArg (It.mk c) (Int.sub_add_cancel p 1)
  adv_zero := fun ⟨c, p⟩ => congrArg (It.mk c) (Int.add_zero p)
  adv_succ := fun ⟨c, p⟩ n => congrArg (It.mk c) (Int.add_assoc p n 1).symm
  adv_pred := fun ⟨c, p⟩ n => congrArg (It.mk c) (Int.add_sub_assoc p n 1).symm
  pos_inc _ := rfl
  pos_dec _ := rfl
  pos_adv _ _ := rfl
  dist _ _ := rfl
  equals_iff a b hs := by simp only [posCore_equals, hs, beq_self_eq_true, Bool.and_true, decide_eq_true_eq]
  same_symm _ _ := Eq.symm

/-- the ArrayList iterators: the primitives of `posCore`, except that `equals` does not look at the container, which is
sound for iterators of one list -/
theorem alCore_lawful : LawfulCore alCore It.pos (fun a b => a.cont = b.cont) :=
  { posCore_lawful with equals_iff := fun _ _ _ => decide_eq_true_iff }

theorem stdBase_lawful : LawfulBase stdBase It.pos (fun a b => a.cont = b.cont) where
  -- `stdBase` does, by definition, the position arithmetic the generated bodies of `posCore` evaluate to
  inc_dec := posCore_lawful.inc_dec
  dec_inc := posCore_lawful.dec_inc
  add_zero := posCore_lawful.adv_zero
  add_succ := posCore_lawful.adv_succ
  add_pred := posCore_lawful.adv_pred
  pos_inc _ := rfl
  pos_dec _ := rfl
  pos_add _ _ := rfl
  sub_pos _ _ := rfl
  eq_iff := posCore_lawful.equals_iff
  lt_pos _ _ := rfl

theorem irBase_lawful : LawfulBase irBase IR.value (fun _ _ => True) where
  inc_dec := fun ⟨v⟩ => congrArg IR.mk (Int.add_sub_cancel v 1)
  dec_inc := fun ⟨v⟩ => congrArg IR.mk (Int.sub_add_cancel v 1)
  add_zero := fun ⟨v⟩ => congrArg IR.mk (Int.add_zero v)
  add_succ := fun ⟨v⟩ n => congrArg IR.mk (Int.add_assoc v n 1).symm
  add_pred := fun ⟨v⟩ n => congrArg IR.mk (Int.add_sub_assoc v n 1).symm
  pos_inc _ := rfl
  pos_dec _ := rfl
  pos_add _ _ := rfl
  sub_pos _ _ := rfl
  eq_iff _ _ _ := decide_eq_true_iff
  lt_pos _ _ := rfl

theorem denseBase_lawful : LawfulBase denseBase It.pos (fun a b => a.cont = b.cont) := posCore_lawful.toBase true

end DV.C16
