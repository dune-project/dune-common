import DuneVerif.Model.C09LU
import DuneVerif.Proofs.C09Attr
/-!
# C09 — the laws of a SIMD type and the calculus of taking a lane (no Mathlib, no Std)

`SimdLike.Lawful`: each primitive of a `SimdLike` is lane-wise, the reductions are ∃/∀ over the lanes.  What the laws give for
code written over a `SimdLike`: taking a lane commutes with the lane-wise arithmetic of `Model/C09LU.lean` (the simp set
`lane_laws`), with reading and writing entries of matrices and vectors of SIMD numbers (`laneMat_get/set`, `laneVec_get/set`)
and with loops (`foldl_hom`).  `Proofs/C09LU`, `Proofs/C09X`, `Proofs/C09K` use this for the algorithms, `Proofs/C09Layer` shows
which instances are lawful.
-/
namespace DV.C09
open Gen

/-- the laws the dense algorithms rely on: exactly the lane-wise specification of the abstraction layer -/
structure SimdLike.Lawful {V : Type → Type} {L : Nat} (X : SimdLike V L) : Prop where
  lane_setLane : ∀ {α : Type} (l l' : Fin L) (x : α) (v : V α),
    X.lane l' (X.setLane l x v) = if l = l' then x else X.lane l' v
  lane_bcast : ∀ {α : Type} (l : Fin L) (x : α), X.lane l (X.bcast x) = x
  lane_map : ∀ {α β : Type} (l : Fin L) (f : α → β) (v : V α), X.lane l (X.map f v) = f (X.lane l v)
  lane_map2 : ∀ {α β γ : Type} (l : Fin L) (f : α → β → γ) (a : V α) (b : V β),
    X.lane l (X.map2 f a b) = f (X.lane l a) (X.lane l b)
  lane_cond : ∀ {α : Type} (l : Fin L) (m : V Bool) (a b : V α),
    X.lane l (X.cond m a b) = if X.lane l m = true then X.lane l a else X.lane l b
  anyTrue_iff : ∀ (m : V Bool), X.anyTrue m = true ↔ ∃ l, X.lane l m = true
  allTrue_iff : ∀ (m : V Bool), X.allTrue m = true ↔ ∀ l, X.lane l m = true

theorem foldl_hom {σ τ ι : Type} (p : σ → τ) {g : σ → ι → σ} {gs : τ → ι → τ}
    (h : ∀ s x, p (g s x) = gs (p s) x) (l : List ι) {s : σ} {t : τ} (hs : p s = t) :
    p (l.foldl g s) = l.foldl gs t :=
  hs ▸ (List.foldl_hom p fun s x => (h s x).symm).symm

namespace Mat
variable {α β : Type} {n : Nat}

theorem get_map (f : α → β) (A : Mat α n) (i j : Fin n) : (Mat.map f A).get i j = f (A.get i j) := by
  simp [Mat.map, Mat.get]

theorem map_set (f : α → β) (A : Mat α n) (i j : Fin n) (x : α) :
    Mat.map f (A.set i j x) = (Mat.map f A).set i j (f x) := by
  simp [Mat.map, Mat.set, Vector.map_set]

theorem get_set (A : Mat α n) (i j i' j' : Fin n) (x : α) :
    (A.set i j x).get i' j' = if i = i' ∧ j = j' then x else A.get i' j' := by
  simp only [Mat.get, Mat.set, Fin.getElem_fin, Vector.getElem_set, Fin.val_inj]
  by_cases hi : i = i'
  · subst hi
    simp only [if_true, true_and, Vector.getElem_set, Fin.val_inj]
  · simp only [hi, false_and, if_false]

theorem get_ofFn (f : Fin n → Fin n → α) (i j : Fin n) :
    Mat.get (Vector.ofFn fun i => Vector.ofFn fun j => f i j) i j = f i j := by
  simp [Mat.get, Vector.getElem_ofFn]

theorem ext {A B : Mat α n} (h : ∀ i j, A.get i j = B.get i j) : A = B := by
  apply Vector.ext
  intro i hi
  apply Vector.ext
  intro j hj
  exact h ⟨i, hi⟩ ⟨j, hj⟩

theorem set_get_self (A : Mat α n) (i j : Fin n) : A.set i j (A.get i j) = A := by
  simp only [Mat.set, Mat.get, Fin.getElem_fin, Vector.set_getElem_self]

end Mat

/-- the scalar instance, with its type constructor spelled out -/
abbrev Xs : SimdLike (fun α => α) 1 := SimdLike.scalar

section Hom
variable {V : Type → Type} {L : Nat} (X : SimdLike V L) (hX : X.Lawful) {K : Type} (R : Arith K) {n : Nat} (l : Fin L)

theorem laneMat_get (A : Mat (V K) n) (i j : Fin n) : (laneMat X l A).get i j = X.lane l (A.get i j) :=
  Mat.get_map _ A i j
theorem laneMat_set (A : Mat (V K) n) (i j : Fin n) (x : V K) :
    laneMat X l (A.set i j x) = (laneMat X l A).set i j (X.lane l x) :=
  Mat.map_set _ A i j x
theorem laneVec_get (v : Vector (V K) n) (i : Nat) (h : i < n) : (laneVec X l v)[i] = X.lane l v[i] :=
  Vector.getElem_map _ h
theorem laneVec_set (v : Vector (V K) n) (i : Nat) (h : i < n) (x : V K) :
    laneVec X l (v.set i x h) = (laneVec X l v).set i (X.lane l x) h :=
  Vector.map_set

-- the lane-wise arithmetic of `Model/C09LU.lean` is `map`/`map2` of a scalar operation; at the scalar instance `map f = f`
include hX in
@[lane_laws] theorem lane_vsub (a b : V K) : X.lane l (vsub X R a b) = vsub Xs R (X.lane l a) (X.lane l b) :=
  hX.lane_map2 l _ a b
include hX in
@[lane_laws] theorem lane_vmul (a b : V K) : X.lane l (vmul X R a b) = vmul Xs R (X.lane l a) (X.lane l b) :=
  hX.lane_map2 l _ a b
include hX in
@[lane_laws] theorem lane_vdiv (a b : V K) : X.lane l (vdiv X R a b) = vdiv Xs R (X.lane l a) (X.lane l b) :=
  hX.lane_map2 l _ a b
include hX in
@[lane_laws] theorem lane_vadd (a b : V K) : X.lane l (vadd X R a b) = vadd Xs R (X.lane l a) (X.lane l b) :=
  hX.lane_map2 l _ a b
include hX in
@[lane_laws] theorem lane_vneg (a : V K) : X.lane l (vneg X R a) = vneg Xs R (X.lane l a) :=
  hX.lane_map l _ a
include hX in
@[lane_laws] theorem lane_vabs (a : V K) : X.lane l (vabs X R a) = vabs Xs R (X.lane l a) :=
  hX.lane_map l _ a
include hX in
@[lane_laws] theorem lane_vgt (a b : V K) : X.lane l (vgt X R a b) = vgt Xs R (X.lane l a) (X.lane l b) :=
  hX.lane_map2 l _ a b
include hX in
@[lane_laws] theorem lane_vne (a b : V K) : X.lane l (vne X R a b) = vne Xs R (X.lane l a) (X.lane l b) :=
  hX.lane_map2 l _ a b
include hX in
@[lane_laws] theorem lane_vand (a b : V Bool) : X.lane l (vand X a b) = vand Xs (X.lane l a) (X.lane l b) :=
  hX.lane_map2 l _ a b
include hX in
@[lane_laws] theorem lane_vmax (a b : V K) : X.lane l (vmax X R a b) = vmax Xs R (X.lane l a) (X.lane l b) :=
  hX.lane_map2 l _ a b
-- `hX.lane_cond`, `hX.lane_bcast` with the right-hand side at `Xs`, so that `simp only [lane_laws]` ends in a term of the scalar instance
include hX in
@[lane_laws] theorem lane_cond' {α : Type} (m : V Bool) (a b : V α) :
    X.lane l (X.cond m a b) = Xs.cond (X.lane l m) (X.lane l a) (X.lane l b) := hX.lane_cond l m a b
include hX in
@[lane_laws] theorem lane_bcast' {α : Type} (x : α) : X.lane l (X.bcast x) = Xs.bcast x := hX.lane_bcast l x

theorem lane_scalar {α : Type} (i : Fin 1) (x : α) : Xs.lane i x = x := rfl

end Hom

end DV.C09
