/-
C15 — DebugMemory::AllocationManager in the compile-time configuration `DEBUG_ALLOCATOR_KEEP`: released entries stay in
the list (marked `not_free = false`) and stay mapped, so that the lookup by page address keeps finding the right entry.
What the `#if DEBUG_ALLOCATOR_KEEP` branch does is read off the generated constants of Gen/C15.lean by four `rfl` lemmas,
which stop compiling when that branch changes.  Core Lean only.
-/
import DuneVerif.Proofs.C15Raw

namespace DV.C15
open DV.C15.Gen

/-- the KEEP branch of `deallocate` does not erase the entry -/
theorem keepErases_eq : dbgKeepFreeErases = false := rfl
/-- the KEEP branch does not give the mapping back: it stays mapped -/
theorem keepUnmaps_eq : dbgKeepFreeUnmaps = false := rfl
/-- the KEEP branch makes the mapping inaccessible (`memprotect(…, PROT_NONE)`; no event of the model's trace) -/
theorem keepProtects_eq : dbgKeepProtects = true := rfl
/-- `deallocate` asserts `not_free` of the entry it finds -/
theorem checksNotFree_eq : dbgChecksNotFree = true := rfl

def infos (l : List KInfo) : List AInfo := l.map (·.info)

/-- the entry whose mapping starts at `pp` marked as released -/
def kMark (pp : Nat) (l : List KInfo) : List KInfo :=
  l.map fun x => if x.info.pagePtr = pp then { x with notFree := false } else x

theorem infos_kMark (pp : Nat) (l : List KInfo) : infos (kMark pp l) = infos l :=
  List.map_map.trans (List.map_congr_left fun x _ => (apply_ite KInfo.info _ _ _).trans (ite_self x.info))

theorem kMark_of_ne {pp : Nat} {l : List KInfo} (h : ∀ x ∈ l, x.info.pagePtr ≠ pp) : kMark pp l = l :=
  (List.map_congr_left fun x hx => if_neg (h x hx)).trans (List.map_id l)

theorem kMark_cons (pp : Nat) (x : KInfo) (l : List KInfo) :
    kMark pp (x :: l) = (if x.info.pagePtr = pp then { x with notFree := false } else x) :: kMark pp l := rfl

theorem mem_kMark {pp : Nat} {l : List KInfo} {y : KInfo} (h : y ∈ kMark pp l) :
    ∃ x ∈ l, y.info = x.info ∧ (y.notFree = true → x.notFree = true ∧ x.info.pagePtr ≠ pp) := by
  unfold kMark at h
  obtain ⟨x, hx, rfl⟩ := List.mem_map.1 h
  refine ⟨x, hx, ?_, ?_⟩
  · split <;> rfl
  · split
    · intro hc; simp at hc
    · rename_i hne; intro hc; exact ⟨hc, hne⟩

/-- `kAllocate` runs `dbgAllocate` on the empty list, only to have the entry built, and drops the list it returns -/
theorem kAllocate_ok {sz page n : Nat} {mmap : Nat → Option Nat} {l l' : List KInfo} {ai : AInfo}
    (h : kAllocate sz page n mmap l = .ok (ai, l')) :
    (∃ l0, dbgAllocate sz page n mmap [] = .ok (ai, l0)) ∧ l' = l ++ [{ info := ai, notFree := true }] := by
  unfold kAllocate at h
  split at h
  · next r hres =>
    obtain ⟨rfl, rfl⟩ := Prod.mk.inj (Except.ok.inj h)
    exact ⟨⟨r.2, hres⟩, rfl⟩
  · exact nomatch h

/-- lookup in the KEEP configuration: as long as the page addresses of **all** recorded entries (released ones
    included) are different, `deallocate` of a block in use finds its own entry, passes the three assertions and marks
    exactly that entry -/
theorem kDeallocate_finds {page : Nat} : ∀ {l : List KInfo},
    (∀ it ∈ l, dbgLookupKey it.info.ptr page = it.info.pagePtr) →
    (infos l).Pairwise (fun a b => a.pagePtr ≠ b.pagePtr) → ∀ it ∈ l, it.notFree = true →
    ∀ n, (n = 0 ∨ n = it.info.size) →
    kDeallocate page l it.info.ptr n = some (it.info, kMark it.info.pagePtr l) := by
  intro l hk hd it hm hnf n hn
  induction l with
  | nil => exact nomatch hm
  | cons x rest ih =>
    have hkey := hk it hm
    rw [infos, List.map_cons, List.pairwise_cons] at hd
    unfold kDeallocate
    rcases List.mem_cons.1 hm with rfl | hin
    · rw [if_pos hkey.symm, if_pos ⟨(dbgSizeOk_iff n it.info.size).2 hn, rfl, fun _ => hnf⟩, kMark_cons, if_pos rfl,
        kMark_of_ne fun y hy => (hd.1 y.info (List.mem_map_of_mem hy)).symm]
      rfl
    · have hne : x.info.pagePtr ≠ it.info.pagePtr := hd.1 it.info (List.mem_map_of_mem hin)
      rw [if_neg (by rw [hkey]; exact hne), ih (fun y hy => hk y (List.mem_cons_of_mem _ hy)) hd.2 hin, kMark_cons,
        if_neg hne]
      rfl

/-- invariant of the KEEP list: the invariant of the default configuration on all entries, released ones included -/
abbrev KInvG (page : Nat) (R : AInfo → AInfo → Prop) (l : List KInfo) : Prop := DInvG page R (infos l)

theorem kinv_nil (page : Nat) (R : AInfo → AInfo → Prop) : KInvG page R [] := dinv_nil page R

theorem kStep_alloc_ok {sz page n : Nat} {mm : Option Nat} {l l' : List KInfo} {ai : AInfo}
    (h : kAllocate sz page n (fun _ => mm) l = .ok (ai, l')) :
    kStep sz page l (.alloc n mm) = some (l', [.map ai.pagePtr (dbgMapLen ai.cap page)]) := by
  simp only [kStep, h]

theorem kStep_alloc_error {sz page n : Nat} {mm : Option Nat} {l : List KInfo} {e : Err}
    (h : kAllocate sz page n (fun _ => mm) l = .error e) : kStep sz page l (.alloc n mm) = some (l, []) := by
  simp only [kStep, h]

/-- a release in the KEEP configuration makes no OS call -/
theorem kStep_free {sz page ptr n : Nat} {l l' : List KInfo} {a : AInfo}
    (h : kDeallocate page l ptr n = some (a, l')) : kStep sz page l (.free ptr n) = some (l', []) := by
  simp [kStep, h, keepUnmaps_eq]

/-- one step of a valid history in the KEEP configuration: no abort, invariant kept, history stays valid; the step
    unmaps nothing and the recorded mappings grow exactly by what was mapped -/
theorem kinv_step {sz page : Nat} {R : AInfo → AInfo → Prop} (hR : Separates R)
    (hsz : 0 < sz) (hp : 0 < page) (hp2 : 2 * page ≤ sizeMax) {l : List KInfo}
    (hi : KInvG page R l) (o : DOp) (os : List DOp) (hv : KValidG sz page R l (o :: os)) :
    ∃ st, kStep sz page l o = some st ∧ KInvG page R st.1 ∧ KValidG sz page R st.1 os ∧
      unmaps st.2 = [] ∧ (infos st.1).map (AInfo.rng page) = (infos l).map (AInfo.rng page) ++ maps st.2 := by
  cases o with
  | alloc n mm =>
    obtain ⟨hfresh, hnext⟩ := hv
    cases hres : kAllocate sz page n (fun _ => mm) l with
    | error e =>
      have hs := kStep_alloc_error hres
      exact ⟨(l, []), hs, hi, hnext _ hs, rfl, (List.append_nil _).symm⟩
    | ok r =>
      obtain ⟨ai, l'⟩ := r
      have hs := kStep_alloc_ok hres
      obtain ⟨⟨l0, hd0⟩, hl'⟩ := kAllocate_ok hres
      obtain ⟨_, hml, hok⟩ := dbgAllocate_entry hsz hp hp2 hd0
      have hfr := hfresh ai l' hres
      have hinf : infos l' = infos l ++ [ai] := by rw [hl']; exact List.map_append
      refine ⟨_, hs, ?_, hnext _ hs, rfl, ?_⟩
      · show DInvG page R (infos l')
        rw [hinf]
        exact dinv_append hi (hok hfr.1) (List.forall_mem_map.2 hfr.2)
      · show (infos l').map (AInfo.rng page) = _
        rw [hinf, List.map_append]
        show _ ++ [(ai.pagePtr, ai.pages * page)] = _ ++ [(ai.pagePtr, dbgMapLen ai.cap page)]
        rw [hml]
  | free ptr n =>
    obtain ⟨⟨it, hit, hnf, hptr, hn⟩, hnext⟩ := hv
    have hfind := kDeallocate_finds (fun x hx => (hi.entry x.info (List.mem_map_of_mem hx)).key)
      (dinv_of_separates hR hi).rel it hit hnf n hn
    rw [hptr] at hfind
    have hs := kStep_free (sz := sz) hfind
    refine ⟨_, hs, ?_, hnext _ hs, rfl, ?_⟩
    · show DInvG page R (infos (kMark it.info.pagePtr l))
      rw [infos_kMark]; exact hi
    · show (infos (kMark it.info.pagePtr l)).map (AInfo.rng page) = _
      rw [infos_kMark]; exact (List.append_nil _).symm

theorem kRun_ok {sz page : Nat} {R : AInfo → AInfo → Prop} (hR : Separates R)
    (hsz : 0 < sz) (hp : 0 < page) (hp2 : 2 * page ≤ sizeMax) :
    ∀ (ops : List DOp) (l : List KInfo), KInvG page R l → KValidG sz page R l ops →
    ∃ st, kRun sz page l ops = some st ∧ KInvG page R st.1 ∧ unmaps st.2 = [] ∧
      (infos st.1).map (AInfo.rng page) = (infos l).map (AInfo.rng page) ++ maps st.2 := by
  intro ops
  induction ops with
  | nil => exact fun l hi _ => ⟨(l, []), rfl, hi, rfl, (List.append_nil _).symm⟩
  | cons o os ih =>
    intro l hi hv
    obtain ⟨st1, hs, hi1, hv1, hu1, hm1⟩ := kinv_step hR hsz hp hp2 hi o os hv
    obtain ⟨st2, hr, hi2, hu2, hm2⟩ := ih st1.1 hi1 hv1
    refine ⟨(st2.1, st1.2 ++ st2.2), by simp only [kRun, hs, hr], hi2, ?_, ?_⟩
    · rw [unmaps_append, hu1, hu2]; rfl
    · rw [maps_append, hm2, hm1, List.append_assoc]

theorem unmaps_kDestroy {page : Nat} {l : List KInfo} (h : ∀ it ∈ infos l, EntryOK page it) :
    unmaps (kDestroy page l).1 = (infos l).map (AInfo.rng page) := by
  have hk : (kDestroy page l).1 = (dbgDestroy page (infos l)).1 := by
    unfold kDestroy dbgDestroy infos; rw [List.map_map]; rfl
  rw [hk, unmaps_dbgDestroy h]

/-! `KValidG` of a concrete history, one operation at a time, for the examples of `Props/C15.lean` -/

theorem kvalid_alloc_ok {sz page : Nat} {R : AInfo → AInfo → Prop} {l l' : List KInfo} {n : Nat} {mm : Option Nat}
    {ai : AInfo} {os : List DOp} (hres : kAllocate sz page n (fun _ => mm) l = .ok (ai, l'))
    (h1 : page ∣ ai.pagePtr) (h2 : ∀ it ∈ l, R it.info ai) (hnext : KValidG sz page R l' os) :
    KValidG sz page R l (.alloc n mm :: os) := by
  refine ⟨fun ai' l'' h => ?_, fun st hs => ?_⟩
  · obtain ⟨rfl, _⟩ := Prod.mk.inj (Except.ok.inj (hres.symm.trans h))
    exact ⟨h1, h2⟩
  · obtain rfl := Option.some.inj ((kStep_alloc_ok hres).symm.trans hs)
    exact hnext

theorem kvalid_free {sz page : Nat} {R : AInfo → AInfo → Prop} {l l' : List KInfo} {ptr n : Nat} {it : KInfo} {a : AInfo}
    {os : List DOp} (hfind : kDeallocate page l ptr n = some (a, l')) (hit : it ∈ l) (hnf : it.notFree = true)
    (hptr : it.info.ptr = ptr) (hn : n = 0 ∨ n = it.info.size) (hnext : KValidG sz page R l' os) :
    KValidG sz page R l (.free ptr n :: os) := by
  refine ⟨⟨it, hit, hnf, hptr, hn⟩, fun st hs => ?_⟩
  obtain rfl := Option.some.inj ((kStep_free hfind).symm.trans hs)
  exact hnext

end DV.C15
