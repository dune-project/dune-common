import DuneVerif.Model.C09K
import DuneVerif.Proofs.C09
import DuneVerif.Proofs.C09Lawful
/-!
# C09 — products, norms and kernels commute with taking a lane; two more operator forms (no Mathlib, no Std)

* the loop nests `kernelN`, `kernelT` (`Model/C09X.lean`) and `kernelM` (`Model/C09K.lean`) over lane-homomorphic updates, hence
  the eight rectangular kernels; `mv`, `rightmultiply` and the square norms (`Model/C09LU.lean`); `leftmultiply`, the vector and
  matrix norms, `dotT`, `axpy` (`Model/C09X.lean`): lane `l` of the result is the same function on lane `l` of the data, for
  every lawful `SimdLike`;
* `real` / `imag` of a vector of complex numbers (`Simd.stdUn2`) and compound assignment whose scalar operand is a lane of the
  destination (`Simd.assignVA`), both of `Model/C09X.lean`.
-/
namespace DV.C09
open Gen

section Rect
variable {V : Type → Type} {L : Nat} (X : SimdLike V L) (hX : X.Lawful) {K : Type} (R : Arith K) {r c n : Nat} (l : Fin L)

theorem laneRMat_row (A : RMat (V K) r c) (i : Nat) (hi : i < r) : (laneRMat X l A)[i] = laneVec X l A[i] :=
  Vector.getElem_map ..

theorem laneRMat_get (A : RMat (V K) r c) (i : Fin r) (j : Fin c) :
    (laneRMat X l A).get i j = X.lane l (A.get i j) := by
  simp only [RMat.get, Fin.getElem_fin, laneRMat_row, laneVec_get]

def LaneHom2 (f : V K → V K → V K) (fs : K → K → K) : Prop := ∀ a b, X.lane l (f a b) = fs (X.lane l a) (X.lane l b)

theorem kernelN_lanewise (pre : Option (V K)) (pres : Option K) (upd term : V K → V K → V K) (upds terms : K → K → K)
    (hp : pre.map (X.lane l) = pres) (hu : LaneHom2 X l upd upds) (ht : LaneHom2 X l term terms)
    (A : RMat (V K) r c) (x : Vector (V K) c) (y : Vector (V K) r) :
    laneVec X l (kernelN pre upd term A x y) =
      kernelN (V := fun α => α) pres upds terms (laneRMat X l A) (laneVec X l x) (laneVec X l y) := by
  subst hp
  unfold kernelN
  refine foldl_hom (laneVec X l) (fun y i => ?_) _ rfl
  refine foldl_hom (laneVec X l) (fun y j => ?_) _ ?_
  · simp only [Fin.getElem_fin]
    rw [laneVec_set, hu, ht, laneVec_get, laneVec_get, laneRMat_get]
  · cases pre with
    | none => rfl
    | some z => exact laneVec_set X l y i.val i.isLt z

theorem kernelT_lanewise (upd term : V K → V K → V K) (upds terms : K → K → K)
    (hu : LaneHom2 X l upd upds) (ht : LaneHom2 X l term terms)
    (A : RMat (V K) r c) (x : Vector (V K) r) (y : Vector (V K) c) :
    laneVec X l (kernelT upd term A x y) =
      kernelT (V := fun α => α) upds terms (laneRMat X l A) (laneVec X l x) (laneVec X l y) := by
  unfold kernelT
  refine foldl_hom (laneVec X l) (fun y i => ?_) _ rfl
  refine foldl_hom (laneVec X l) (fun y j => ?_) _ rfl
  simp only [Fin.getElem_fin]
  rw [laneVec_set, hu, ht, laneVec_get, laneVec_get, laneRMat_get]

theorem kernelM_lanewise (pre : Option (V K)) (pres : Option K) (upd term : V K → V K → V K) (upds terms : K → K → K)
    (hp : pre.map (X.lane l) = pres) (hu : LaneHom2 X l upd upds) (ht : LaneHom2 X l term terms)
    (A : RMat (V K) r c) (x : Vector (V K) r) (y : Vector (V K) c) :
    laneVec X l (kernelM pre upd term A x y) =
      kernelM (V := fun α => α) pres upds terms (laneRMat X l A) (laneVec X l x) (laneVec X l y) := by
  subst hp
  unfold kernelM
  refine foldl_hom (laneVec X l) (fun y i => ?_) _ rfl
  refine foldl_hom (laneVec X l) (fun y j => ?_) _ ?_
  · simp only [Fin.getElem_fin]
    rw [laneVec_set, hu, ht, laneVec_get, laneVec_get, laneRMat_get]
  · cases pre with
    | none => rfl
    | some z => exact laneVec_set X l y i.val i.isLt z

include hX in
theorem hom_alpha (alpha : V K) :
    LaneHom2 X l (fun a xj => vmul X R (vmul X R alpha a) xj)
      (fun a xj => vmul Xs R (vmul Xs R (X.lane l alpha) a) xj) := by
  intro a b
  simp only [lane_laws, hX]

include hX in
theorem mvR_lanewise (A : RMat (V K) r c) (x : Vector (V K) c) (y : Vector (V K) r) :
    laneVec X l (mvR X R A x y) = mvR Xs R (laneRMat X l A) (laneVec X l x) (laneVec X l y) :=
  kernelN_lanewise X l (some _) _ _ _ _ _ (congrArg some (lane_bcast' X hX l _)) (lane_vadd X hX R l) (lane_vmul X hX R l) A x y

include hX in
theorem mtvR_lanewise (A : RMat (V K) r c) (x : Vector (V K) r) (y : Vector (V K) c) :
    laneVec X l (mtvR X R A x y) = mtvR Xs R (laneRMat X l A) (laneVec X l x) (laneVec X l y) :=
  kernelM_lanewise X l (some _) _ _ _ _ _ (congrArg some (lane_bcast' X hX l _)) (lane_vadd X hX R l) (lane_vmul X hX R l) A x y

include hX in
theorem umvR_lanewise (A : RMat (V K) r c) (x : Vector (V K) c) (y : Vector (V K) r) :
    laneVec X l (umvR X R A x y) = umvR Xs R (laneRMat X l A) (laneVec X l x) (laneVec X l y) :=
  kernelN_lanewise X l _ _ _ _ _ _ rfl (lane_vadd X hX R l) (lane_vmul X hX R l) A x y
include hX in
theorem mmvR_lanewise (A : RMat (V K) r c) (x : Vector (V K) c) (y : Vector (V K) r) :
    laneVec X l (mmvR X R A x y) = mmvR Xs R (laneRMat X l A) (laneVec X l x) (laneVec X l y) :=
  kernelN_lanewise X l _ _ _ _ _ _ rfl (lane_vsub X hX R l) (lane_vmul X hX R l) A x y
include hX in
theorem usmvR_lanewise (alpha : V K) (A : RMat (V K) r c) (x : Vector (V K) c) (y : Vector (V K) r) :
    laneVec X l (usmvR X R alpha A x y) =
      usmvR Xs R (X.lane l alpha) (laneRMat X l A) (laneVec X l x) (laneVec X l y) :=
  kernelN_lanewise X l _ _ _ _ _ _ rfl (lane_vadd X hX R l) (hom_alpha X hX R l alpha) A x y
include hX in
theorem umtvR_lanewise (A : RMat (V K) r c) (x : Vector (V K) r) (y : Vector (V K) c) :
    laneVec X l (umtvR X R A x y) = umtvR Xs R (laneRMat X l A) (laneVec X l x) (laneVec X l y) :=
  kernelT_lanewise X l _ _ _ _ (lane_vadd X hX R l) (lane_vmul X hX R l) A x y
include hX in
theorem mmtvR_lanewise (A : RMat (V K) r c) (x : Vector (V K) r) (y : Vector (V K) c) :
    laneVec X l (mmtvR X R A x y) = mmtvR Xs R (laneRMat X l A) (laneVec X l x) (laneVec X l y) :=
  kernelT_lanewise X l _ _ _ _ (lane_vsub X hX R l) (lane_vmul X hX R l) A x y
include hX in
theorem usmtvR_lanewise (alpha : V K) (A : RMat (V K) r c) (x : Vector (V K) r) (y : Vector (V K) c) :
    laneVec X l (usmtvR X R alpha A x y) =
      usmtvR Xs R (X.lane l alpha) (laneRMat X l A) (laneVec X l x) (laneVec X l y) :=
  kernelT_lanewise X l _ _ _ _ (lane_vadd X hX R l) (hom_alpha X hX R l alpha) A x y

include hX in
theorem mv_lanewise (A : Mat (V K) n) (x : Vector (V K) n) :
    laneVec X l (mv X R A x) = mv Xs R (laneMat X l A) (laneVec X l x) := by
  unfold mv
  refine (Vector.map_ofFn ..).trans (congrArg Vector.ofFn (funext fun i => ?_))
  refine foldl_hom (X.lane l) (fun acc j => ?_) _ (lane_bcast' X hX l _)
  simp only [lane_laws, hX, laneMat_get, Fin.getElem_fin, laneVec_get]

include hX in
theorem leftmultiply_lanewise (A : RMat (V K) n c) (M : Mat (V K) n) :
    laneRMat X l (leftmultiply X R A M) = leftmultiply Xs R (laneRMat X l A) (laneMat X l M) := by
  unfold leftmultiply
  rw [laneRMat, Vector.map_ofFn]
  refine congrArg Vector.ofFn (funext fun i => (Vector.map_ofFn ..).trans (congrArg Vector.ofFn (funext fun j => ?_)))
  refine foldl_hom (X.lane l) (fun acc k => ?_) _ (lane_bcast' X hX l _)
  simp only [lane_laws, hX, laneMat_get, laneRMat_get]

include hX in
theorem rightmultiply_lanewise (A M : Mat (V K) n) :
    laneMat X l (rightmultiply X R A M) = rightmultiply Xs R (laneMat X l A) (laneMat X l M) := by
  unfold rightmultiply
  by_cases h1 : n = 1
  · subst h1
    simp only [lane_laws, hX, dite_true, laneMat_set, laneMat_get]
  · rw [dif_neg h1, dif_neg h1]
    exact leftmultiply_lanewise X hX R l M A

include hX in
theorem oneNorm_lanewise (v : Vector (V K) n) :
    X.lane l (oneNorm X R v) = oneNorm Xs R (laneVec X l v) := by
  unfold oneNorm
  refine foldl_hom (X.lane l) (fun res i => ?_) _ (lane_bcast' X hX l _)
  simp only [lane_laws, hX, Fin.getElem_fin, laneVec_get]

include hX in
theorem dotT_lanewise (a b : Vector (V K) n) :
    X.lane l (dotT X R a b) = dotT Xs R (laneVec X l a) (laneVec X l b) := by
  unfold dotT
  refine foldl_hom (X.lane l) (fun res i => ?_) _ (lane_bcast' X hX l _)
  simp only [lane_laws, hX, Fin.getElem_fin, laneVec_get]

include hX in
theorem twoNorm2_lanewise (v : Vector (V K) n) :
    X.lane l (twoNorm2 X R v) = twoNorm2 Xs R (laneVec X l v) :=
  dotT_lanewise X hX R l v v

include hX in
theorem twoNorm_lanewise (sq : K → K) (v : Vector (V K) n) :
    X.lane l (twoNorm X R sq v) = twoNorm Xs R sq (laneVec X l v) := by
  unfold twoNorm
  rw [hX.lane_map, twoNorm2_lanewise X hX R l]
  rfl

include hX in
/-- the NaN-propagating maximum of densematrix.hh and densevector.hh over the values `a i`:
    `norm = max(a, norm); isNaN += a; return norm * (isNaN / isNaN)` -/
theorem lane_nanMax {ι : Type} (a : ι → V K) (a' : ι → K) (ha : ∀ i, X.lane l (a i) = a' i) (is : List ι) :
    X.lane l
      (let p := is.foldl (fun (p : V K × V K) i => (vmax X R (a i) p.1, vadd X R p.2 (a i))) (X.bcast R.zero, X.bcast R.one);
       vmul X R p.1 (vdiv X R p.2 p.2)) =
      (let p := is.foldl (fun (p : K × K) i =>
          (vmax Xs R (a' i) p.1, vadd Xs R p.2 (a' i))) (Xs.bcast R.zero, Xs.bcast R.one);
       vmul Xs R p.1 (vdiv Xs R p.2 p.2)) := by
  simp only [lane_laws, hX]
  exact congrArg (fun p : K × K => vmul Xs R p.1 (vdiv Xs R p.2 p.2)) (foldl_hom (Prod.map (X.lane l) (X.lane l))
    (fun p i => by simp only [Prod.map, lane_laws, hX, ha]) is (by simp only [Prod.map, lane_laws, hX]))

include hX in
theorem vecInfinityNorm_lanewise (v : Vector (V K) n) :
    X.lane l (vecInfinityNorm X R v) = vecInfinityNorm Xs R (laneVec X l v) :=
  lane_nanMax X hX R l _ _ (fun i => by simp only [lane_laws, hX, Fin.getElem_fin, laneVec_get]) _

include hX in
theorem axpy_lanewise (a : V K) (x y : Vector (V K) n) :
    laneVec X l (axpy X R a x y) = axpy Xs R (X.lane l a) (laneVec X l x) (laneVec X l y) := by
  unfold axpy
  refine foldl_hom (laneVec X l) (fun y i => ?_) _ rfl
  simp only [Fin.getElem_fin]
  simp only [lane_laws, hX, laneVec_set, laneVec_get]

include hX in
theorem frobeniusNorm2R_lanewise (A : RMat (V K) r c) :
    X.lane l (frobeniusNorm2R X R A) = frobeniusNorm2R Xs R (laneRMat X l A) := by
  unfold frobeniusNorm2R
  refine foldl_hom (X.lane l) (fun sum i => ?_) _ (lane_bcast' X hX l _)
  rw [lane_vadd X hX R, twoNorm2_lanewise X hX R l, Fin.getElem_fin, Fin.getElem_fin, laneRMat_row]

include hX in
theorem frobeniusNormR_lanewise (sq : K → K) (A : RMat (V K) r c) :
    X.lane l (frobeniusNormR X R sq A) = frobeniusNormR Xs R sq (laneRMat X l A) := by
  unfold frobeniusNormR
  rw [hX.lane_map, frobeniusNorm2R_lanewise X hX R l]
  rfl

include hX in
theorem infinityNormR_lanewise (A : RMat (V K) r c) :
    X.lane l (infinityNormR X R A) = infinityNormR Xs R (laneRMat X l A) :=
  lane_nanMax X hX R l _ _ (fun i => by
    rw [oneNorm_lanewise X hX R l, Fin.getElem_fin, Fin.getElem_fin, laneRMat_row]) _

-- a square matrix is a rectangular one: `frobeniusNorm2`, `infinityNorm` unfold to the rectangular norms at `r = c = n`
include hX in
theorem frobeniusNorm2_lanewise (A : Mat (V K) n) :
    X.lane l (frobeniusNorm2 X R A) = frobeniusNorm2 Xs R (laneMat X l A) :=
  frobeniusNorm2R_lanewise X hX R l A

include hX in
theorem infinityNorm_lanewise (A : Mat (V K) n) :
    X.lane l (infinityNorm X R A) = infinityNorm Xs R (laneMat X l A) :=
  infinityNormR_lanewise X hX R l A

end Rect

/-- `real` / `imag` of a vector of complex numbers is lane-wise (the overload for `LoopSIMD<std::complex<T>,S>`) -/
theorem lanewise_stdUn2 {α β : Type} {S : Nat} (sem : StdUnOp → α → Option β) (op : StdUnOp) (a : Vec α S) :
    LanewiseUn (Simd.stdUn2 sem op a) (sem op) a :=
  un_canonical loop_STD_UNARY_OP_v2 (by decide) (by decide) (by decide) (sem op) a

section Alias
variable {α : Type} {S S₂ : Nat}

/-- an operator that takes its scalar by value is not affected by the aliasing: `v OP= lane(k, v)` is
    `v OP= (the value of lane k before the call)` -/
theorem ipVA_byValue (L : Loop) (ia : Ix) (hargs : L.args = [.vec 0 ia, .scalar]) (hv : L.scalarByRef = false)
    (f : α → α → Option α) (a : Vec α S) (k : Nat) :
    Simd.ipVA L f a k = (a[k]?).bind fun s => Simd.ipVS L f a s := by
  unfold Simd.ipVA Simd.ipVS
  rw [hargs]
  simp only [hv, Bool.false_eq_true, if_false, Option.bind_some]

theorem assignVA_byValue (sem : AssignOp → α → α → Option α) (op : AssignOp) (a : Vec α S) (k : Nat) (hk : k < S) :
    Simd.assignVA sem op a k = Simd.assignVS sem op a a[k] := by
  unfold Simd.assignVA Simd.assignVS
  rw [ipVA_byValue _ .i (by decide) (by decide), Vector.getElem?_eq_getElem hk]
  rfl

theorem ipVANested_byValue (L : Loop) (ia : Ix) (hargs : L.args = [.vec 0 ia, .scalar]) (hv : L.scalarByRef = false)
    (f : α → α → Option α) (a : Vec (Vec α S₂) S) (k : Nat) :
    Simd.ipVANested L f a k = (Simd.laneNested k a).bind fun s => Simd.ipVS L (Simd.ipVS L f) a s := by
  unfold Simd.ipVANested Simd.ipVS
  simp only [hargs, hv, Bool.false_eq_true, if_false]

theorem assignVANested_byValue (sem : AssignOp → α → α → Option α) (op : AssignOp) (a : Vec (Vec α S₂) S) (k : Nat) :
    Simd.assignVANested sem op a k =
      (Simd.laneNested k a).bind fun s => Simd.ipVS loop_ASSIGNMENT_OP_vs (Simd.assignVS sem op) a s := by
  unfold Simd.assignVANested Simd.assignVS
  rw [ipVANested_byValue _ .i (by decide) (by decide)]

end Alias

end DV.C09
