/-
C19 — helper lemmas for the two-buffer future `MPIFuture<R,S>`: a history of ordinary calls runs on request and
receive buffer exactly as on `MPIFuture<R>` (`runFut2_calls`), and what one `get_send_data()` among such calls answers
and leaves behind (`runFut2_sendData`, `sendData_none`).  Core Lean only.
-/
import DuneVerif.Proofs.C19Future

namespace DV.C19

theorem runFut2_nil (f : MpiFut2) : runFut2 f [] = some ([], f) := rfl

theorem runFut2_cons (f : MpiFut2) (o : FOp2) (os : List FOp2) :
    runFut2 f (o :: os) =
      (MpiFut2.step f o).bind fun r => (runFut2 r.2 os).map fun rest => (r.1 :: rest.1, rest.2) := by
  simp only [runFut2]
  cases MpiFut2.step f o with
  | none => rfl
  | some r =>
    dsimp only [Option.bind_some]
    cases runFut2 r.2 os <;> rfl

theorem runFut2_append (f : MpiFut2) (h1 h2 : List FOp2) :
    runFut2 f (h1 ++ h2) =
      (runFut2 f h1).bind fun r1 => (runFut2 r1.2 h2).map fun r2 => (r1.1 ++ r2.1, r2.2) := by
  induction h1 generalizing f with
  | nil =>
    rw [List.nil_append, runFut2_nil, Option.bind_some]
    cases runFut2 f h2 <;> rfl
  | cons o os ih =>
    -- both sides are chains of `bind`/`map` on the first step; the monad laws regroup them
    simp only [List.cons_append, runFut2_cons, ih, Option.bind_assoc, Option.map_bind, Option.bind_map,
      Option.map_map, Function.comp_def]

theorem runFut2_calls (f : MpiFut2) (h : List FOp) :
    runFut2 f (h.map .call) =
      some (trace MpiFut.step f.base h, { base := final MpiFut.step f.base h, send := f.send }) := by
  induction h generalizing f with
  | nil => rfl
  | cons o os ih =>
    rw [List.map_cons, runFut2_cons]
    simp only [MpiFut2.step, Option.bind_some]
    rw [ih]
    rfl

theorem wait_obs (b : MpiFut) : (MpiFut.wait b).1 = if b.valid then .ok else .errInvalid := by
  cases hv : b.valid <;> simp [MpiFut.wait, hv]

theorem sendData_some (b : MpiFut) (s : List Int) :
    MpiFut2.step ⟨b, some s⟩ .sendData =
      some (if b.valid then .data s else .errInvalid,
        { base := (MpiFut.step b .wait).2, send := if b.valid then none else some s }) := by
  cases hv : b.valid <;> simp [MpiFut2.step, MpiFut2.sendData, MpiFut.step, MpiFut.wait, hv]

theorem sendData_none (b : MpiFut) (hv : b.valid = true) : MpiFut2.step ⟨b, none⟩ .sendData = none := by
  simp [MpiFut2.step, MpiFut2.sendData, MpiFut.wait, hv]

theorem runFut2_sendData (f : MpiFut2) (s : List Int) (hs : f.send = some s) (h1 h2 : List FOp) :
    runFut2 f (h1.map .call ++ .sendData :: h2.map .call) =
      some (trace MpiFut.step f.base h1 ++
          (if (final MpiFut.step f.base h1).valid then FObs.data s else .errInvalid) ::
          trace MpiFut.step (final MpiFut.step f.base (h1 ++ [.wait])) h2,
        { base := final MpiFut.step f.base (h1 ++ [.wait] ++ h2),
          send := if (final MpiFut.step f.base h1).valid then none else some s }) := by
  rw [runFut2_append, runFut2_calls]
  simp only [Option.bind_some]
  rw [hs, runFut2_cons, sendData_some]
  simp only [Option.bind_some]
  rw [runFut2_calls]
  simp only [Option.map_some, final_append]
  rfl

theorem calls_without_get (h : List FOp2) (hg : h.all (· ≠ .call .get) = true) (hs : h.all (· ≠ .sendData) = true) :
    ∃ c : List FOp, h = c.map .call ∧ c.contains .get = false := by
  induction h with
  | nil => exact ⟨[], rfl, rfl⟩
  | cons o os ih =>
    simp only [List.all_cons, Bool.and_eq_true, decide_eq_true_eq] at hg hs
    obtain ⟨c, rfl, hc⟩ := ih hg.2 hs.2
    cases o with
    | sendData => exact absurd rfl hs.1
    | call o =>
      refine ⟨o :: c, rfl, ?_⟩
      rw [List.contains_cons, hc, Bool.or_false]
      exact beq_false_of_ne fun e => hg.1 (by rw [e])

end DV.C19
