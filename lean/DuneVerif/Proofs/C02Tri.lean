import DuneVerif.Proofs.C02Outer
/-! C02: the triangular solves (back substitution of `solve`, forward/backward sweeps of `invert`): first the loops on
plain functions, column by column, for any scalar type; then their correctness over a field. -/
namespace DV.C02
open Matrix
set_option linter.unusedSectionVars false

section Generic
variable {n : Nat} {K : Type} [Sub K] [Mul K] [Div K]

theorem forUp_rel {β γ : Type} (R : β → γ → Prop) (b1 : Fin n → β → β) (b2 : Fin n → γ → γ) (i1 : β) (i2 : γ)
    (h0 : R i1 i2) (hs : ∀ k s1 s2, R s1 s2 → R (b1 k s1) (b2 k s2)) :
    R (forUp n i1 b1) (forUp n i2 b2) :=
  Scale.forUp_rel i1 i2 b1 b2 (fun _ => R) h0 hs

theorem forDown_rel {β γ : Type} (R : β → γ → Prop) (b1 : Fin n → β → β) (b2 : Fin n → γ → γ) (i1 : β) (i2 : γ)
    (h0 : R i1 i2) (hs : ∀ k s1 s2, R s1 s2 → R (b1 k s1) (b2 k s2)) :
    R (forDown n i1 b1) (forDown n i2 b2) :=
  Scale.forDown_rel i1 i2 b1 b2 (fun _ => R) h0 hs

theorem subLoop_congr {P : Fin n → Prop} [DecidablePred P] {c x x' : Fin n → K} (h : ∀ j, P j → x' j = x j) (a : K) :
    forUp n a (fun j acc => if P j then acc - c j * x' j else acc) =
      forUp n a fun j acc => if P j then acc - c j * x j else acc :=
  congrArg (forUp n a) (funext fun j => funext fun acc => if_ctx_congr Iff.rfl (fun hj => by rw [h j hj]) fun _ => rfl)

/-- one pass `i` of the back substitution, on plain functions -/
def bsStep (A : Mat n K) (i : Fin n) (x : Fin n → K) : Fin n → K :=
  fun r => if r = i then (forUp n (x i) fun j acc => if i < j then acc - A.f i j * x j else acc) / A.f i i
           else x r

theorem backSubst_f (A : Mat n K) (rhs : Vec n K) : (backSubst A rhs).f = forDown n rhs.f (bsStep A) := by
  unfold backSubst
  apply forDown_rel (fun (x : Vec n K) (f : Fin n → K) => x.f = f)
  · rfl
  · intro k s1 s2 h
    funext r
    simp [bsStep, ← h]

/-- what back substitution computes: every entry is given by the recurrence of its own row, read with the final values of
the entries below it (which are computed before and not touched afterwards) -/
theorem bs_fix (A : Mat n K) (y : Fin n → K) (i : Fin n) :
    forDown n y (bsStep A) i =
      (forUp n (y i) fun j acc => if i < j then acc - A.f i j * forDown n y (bsStep A) j else acc) / A.f i i := by
  have key := forDown_ind y (bsStep A) (fun m x => (∀ r : Fin n, r.1 < m → x r = y r) ∧
      ∀ r : Fin n, m ≤ r.1 →
        x r = (forUp n (y r) fun j acc => if r < j then acc - A.f r j * x j else acc) / A.f r r)
    ⟨fun _ _ => rfl, fun r hr => absurd r.2 (by omega)⟩
    (by
      intro i x ⟨h1, h2⟩
      have hx' : ∀ r, r ≠ i → bsStep A i x r = x r := fun r hr => if_neg hr
      refine ⟨fun r hr => ?_, fun r hr => ?_⟩
      · rw [hx' r (Fin.ne_of_lt hr)]
        exact h1 r (Nat.lt_succ_of_lt hr)
      · -- pass `i` changes entry `i` only, which the rows `r ≥ i` do not read
        rw [subLoop_congr (P := (r < ·)) fun j hrj => hx' j (Fin.ne_of_gt (Nat.lt_of_le_of_lt hr hrj))]
        by_cases hri : r = i
        · subst hri
          rw [← h1 r (Nat.lt_succ_self _)]
          exact if_pos rfl
        · rw [hx' r hri]
          exact h2 r (Nat.lt_of_le_of_ne hr fun h => hri (Fin.ext h.symm)))
  exact key.2 i (Nat.zero_le _)

/-- a column of the backward sweep of `invert` is a back substitution -/
theorem backwardU_col (U B : Mat n K) (c : Fin n) :
    (fun r => (backwardU U B).f r c) = forDown n (fun r => B.f r c) (bsStep U) := by
  unfold backwardU
  apply forDown_rel (fun (X : Mat n K) (f : Fin n → K) => (fun r => X.f r c) = f)
  · rfl
  · intro k s1 s2 h
    funext r
    simp [bsStep, ← h]

/-- one pass `i` of the forward sweep (`for j < i: y[i] -= L[i][j]*y[j]`), on plain functions -/
def fwRow (L : Mat n K) (i : Fin n) (y : Fin n → K) : Fin n → K :=
  fun r => if r = i then (forUp n (y i) fun j acc => if j < i then acc - L.f i j * y j else acc) else y r

theorem forwardL_col (L B : Mat n K) (c : Fin n) :
    (fun r => (forwardL L B).f r c) = forUp n (fun r => B.f r c) (fwRow L) := by
  unfold forwardL
  apply forUp_rel (fun (X : Mat n K) (f : Fin n → K) => (fun r => X.f r c) = f)
  · rfl
  · rintro i B' _ rfl
    -- the inner loop changes entry `i` only: in lockstep with the scalar loop over the (unchanged) entries `j < i`
    refine funext (forUp_rel (fun (X : Mat n K) (acc : K) => ∀ r, X.f r c = if r = i then acc else B'.f r c) _ _ _ _ ?_ ?_)
    · intro r
      by_cases h : r = i
      · rw [if_pos h, h]
      · rw [if_neg h]
    · intro j X acc h
      by_cases hji : j < i
      · rw [if_pos hji, if_pos hji]
        intro r
        rw [Mat.ofFn_f, h i, h j, if_pos rfl, if_neg (ne_of_lt hji)]
        by_cases hri : r = i
        · rw [if_pos hri, if_pos hri]
        · rw [if_neg hri, if_neg hri, h r, if_neg hri]
      · rw [if_neg hji, if_neg hji]
        exact h

/-- what the forward sweep computes: every entry is given by the recurrence of its own row, read with the final values
of the entries above it -/
theorem fw_fix (L : Mat n K) (y : Fin n → K) (i : Fin n) :
    forUp n y (fwRow L) i =
      forUp n (y i) fun j acc => if j < i then acc - L.f i j * forUp n y (fwRow L) j else acc := by
  have key := forUp_ind y (fwRow L) (fun m y' => (∀ r : Fin n, m ≤ r.1 → y' r = y r) ∧
      ∀ r : Fin n, r.1 < m → y' r = forUp n (y r) fun j acc => if j < r then acc - L.f r j * y' j else acc)
    ⟨fun _ _ => rfl, fun r hr => absurd hr (Nat.not_lt_zero _)⟩
    (by
      intro i y' ⟨h1, h2⟩
      have hy' : ∀ r, r ≠ i → fwRow L i y' r = y' r := fun r hr => if_neg hr
      refine ⟨fun r hr => ?_, fun r hr => ?_⟩
      · rw [hy' r (Fin.ne_of_gt hr)]
        exact h1 r (Nat.le_of_lt hr)
      · -- pass `i` changes entry `i` only, which the rows `r ≤ i` do not read
        rw [subLoop_congr (P := (· < r)) fun j hjr =>
          hy' j (Fin.ne_of_lt (Nat.lt_of_lt_of_le hjr (Nat.le_of_lt_succ hr)))]
        by_cases hri : r = i
        · subst hri
          rw [← h1 r (le_refl _)]
          exact if_pos rfl
        · rw [hy' r hri]
          exact h2 r (Nat.lt_of_le_of_ne (Nat.le_of_lt_succ hr) fun h => hri (Fin.ext h)))
  exact key.2 i i.2

end Generic

variable {n : Nat} {K : Type} [Field K]

theorem forUp_sub_sum (a : K) (p : Fin n → Prop) [DecidablePred p] (g : Fin n → K) :
    forUp n a (fun j acc => if p j then acc - g j else acc) = a - ∑ j, if p j then g j else 0 := by
  induction n generalizing a with
  | zero => rw [Fin.sum_univ_zero, sub_zero]; rfl
  | succ n ih =>
    rw [forUp_succ, ih, Fin.sum_univ_castSucc]
    by_cases h : p (Fin.last n)
    · rw [if_pos h, if_pos h, sub_sub]
    · rw [if_neg h, if_neg h, add_zero]

/-- one row of a triangular solve: the guarded loop subtracts from `b` exactly the off-diagonal terms of row `r`, so what it
leaves is the diagonal term -/
theorem tri_row {T : Matrix (Fin n) (Fin n) K} {q : Fin n → Prop} [DecidablePred q] {r : Fin n} {a x : Fin n → K} {b : K}
    (hq : ¬ q r) (h1 : ∀ c, q c → T r c = a c) (h0 : ∀ c, c ≠ r → ¬ q c → T r c = 0)
    (hx : T r r * x r = forUp n b fun j acc => if q j then acc - a j * x j else acc) :
    (T *ᵥ x) r = b := by
  refine (sum_split_at r q (fun c => T r c * x c) (fun c => a c * x c) hq fun c hc => ?_).trans ?_
  · by_cases hqc : q c
    · rw [if_pos hqc, h1 c hqc]
    · rw [if_neg hqc, h0 c hc hqc, zero_mul]
  · rw [hx, forUp_sub_sum, sub_add_cancel]

/-- back substitution solves the upper triangular system `W_n(A) x = y` when the diagonal is nonzero -/
theorem bs_correct (A : Mat n K) (hd : ∀ j : Fin n, A.f j j ≠ 0) (y : Fin n → K) :
    Wview n A *ᵥ (forDown n y (bsStep A)) = y :=
  funext fun r => tri_row (q := (r < ·)) (lt_irrefl r)
    (fun _ hrc => Wview_of_not _ fun h => lt_asymm hrc h.2)
    (fun c hc hrc => Wview_of_lt _ c.2 (lt_of_le_of_ne (not_lt.mp hrc) hc))
    (by rw [Wview_diag, bs_fix A y r, mul_div_cancel₀ _ (hd r)])

theorem AInv.mulVec_bs {A₀ LU : Mat n K} {σ : Equiv.Perm (Fin n)} (h : AInv A₀ n LU σ) (y : Fin n → K) :
    (toMatrix A₀).submatrix σ id *ᵥ forDown n y (bsStep LU) = Lview n LU *ᵥ y := by
  rw [← h.fact, ← Matrix.mulVec_mulVec, bs_correct _ fun j => h.diag j j.2]

/-- forward substitution solves the unit lower triangular system `L_n(A) y' = y` -/
theorem fw_correct (L : Mat n K) (y : Fin n → K) :
    Lview n L *ᵥ (forUp n y (fwRow L)) = y :=
  funext fun r => tri_row (q := (· < r)) (lt_irrefl r)
    (fun c hcr => Lview_stored _ c.2 hcr)
    (fun _ hc hcr => Lview_of_lt _ _ (lt_of_le_of_ne (not_lt.mp hcr) (Ne.symm hc)))
    (by
      rw [Lview_diag, one_mul]
      exact fw_fix L y r)

end DV.C02
