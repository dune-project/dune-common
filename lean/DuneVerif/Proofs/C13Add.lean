import DuneVerif.Proofs.C13Shape
/-! C13: states in which a process announces copies the others do not have yet (`addCopy`), growing the
ground-truth decomposition, transporting the invariant along equal shapes; the local numbers of an index set whose keys
a delete-and-sync round restores; histories (`Step`, `runSteps`). Core Lean only. -/
namespace DV.C13

/-- `D'` knows everything `D` knows -/
def DecompLe (D D' : Decomp) : Prop := ∀ p g a, D.attrOf p g = some a → D'.attrOf p g = some a

theorem RankInv.mono {D D' : Decomp} {P q : Nat} {st : RankState} (h : RankInv D P q st) (hD : DecompLe D D') :
    RankInv D' P q st :=
  ⟨h.idxSorted, fun e he => hD _ _ _ (h.idxTrue e he),
    h.rem.nbSorted, h.rem.nbOk, fun x hx en hen => ⟨hD _ _ _ (h.rem.remTrue x hx en hen).1, (h.rem.remTrue x hx en hen).2⟩⟩

/-- how the examples of Props/C13.lean grow a decomposition -/
theorem decompLe_zipWith_append (D E : Decomp) (h : D.length ≤ E.length) : DecompLe D (List.zipWith (· ++ ·) D E) := by
  intro p g a ha
  rw [Decomp.attrOf] at ha ⊢
  by_cases hp : p < D.length
  · have e : Decomp.slice (List.zipWith (· ++ ·) D E) p = D.slice p ++ E.slice p := by
      simp only [Decomp.slice, List.getD_eq_getElem?_getD, List.getElem?_zipWith, List.getElem?_eq_getElem hp,
        List.getElem?_eq_getElem (Nat.lt_of_lt_of_le hp h)]
      rfl
    rw [e, List.lookup_append, ha]
    rfl
  · rw [slice_eq_nil D p (Nat.le_of_not_lt hp)] at ha
    exact nomatch ha

theorem eq_of_mem_pairwise_g (l : List IdxEntry) (hp : l.Pairwise (fun a b => a.g < b.g))
    (e₁ e₂ : IdxEntry) (h₁ : e₁ ∈ l) (h₂ : e₂ ∈ l) (hg : e₁.g = e₂.g) : e₁ = e₂ :=
  List.Pairwise.forall_of_forall_of_flip (R := fun a b => a.g = b.g → a = b) (fun _ _ _ => rfl)
    (hp.imp fun h hg => absurd hg (Int.ne_of_lt h)) (hp.imp fun h hg => absurd hg.symm (Int.ne_of_lt h)) h₁ h₂ hg

/-- lists with the same keys position by position: `l'` is `l` mapped by `f` as soon as `f` sends every member of `l`
to the member of `l'` with its key -/
theorem eq_map_of_keys {α κ : Type} (key : α → κ) (f : α → α) {l' l : List α} (hk : l'.map key = l.map key)
    (h : ∀ e ∈ l', ∀ e0 ∈ l, key e0 = key e → f e0 = e) : l' = l.map f := by
  induction l generalizing l' with
  | nil => exact List.map_eq_nil_iff.1 hk
  | cons e0 t ih =>
    cases l' with
    | nil => exact nomatch hk
    | cons e t' =>
      obtain ⟨h1, h2⟩ := List.cons.inj hk
      rw [List.map_cons, h e List.mem_cons_self e0 List.mem_cons_self h1.symm,
        ih h2 fun e he e0 he0 => h e (List.mem_cons_of_mem _ he) e0 (List.mem_cons_of_mem _ he0)]

/-- a rank that after deleting and syncing has the keys it had before has its old index set, with exactly the
deleted pairs renumbered -/
theorem idx_sync_delete {D : Decomp} {w : World} (hw : PartialView D w) (num : Int → Nat) (del : Nat → Int → Bool)
    (q : Nat) (sq s' : RankState) (hq : w[q]? = some sq) (hs' : (sync num (deleteCopies del w))[q]? = some s')
    (hkeys : s'.idx.map IdxEntry.key = sq.idx.map IdxEntry.key) :
    s'.idx = sq.idx.map (fun e => if del q e.g then { e with loc := num e.g } else e) := by
  have hwd := partialView_delete hw del
  have hdq : (deleteCopies del w)[q]? = some (deleteRank (del q) sq) := by rw [deleteCopies_getElem?, hq]; rfl
  have S := syncSpec_rank num hwd q _ hdq
  rw [Option.some.inj ((sync_getElem?_some num hdq).symm.trans hs')] at S
  -- a pair after the sync is the renumbering of the old pair with its key
  refine eq_map_of_keys IdxEntry.key _ hkeys fun e he e0 he0 hk => ?_
  have hkg : e0.g = e.g := congrArg Prod.fst hk
  cases hd : del q e0.g
  · rw [if_neg Bool.false_ne_true]
    exact eq_of_mem_pairwise_g _ S.idxSorted e0 e ((S.idx e0).2 (Or.inl (List.mem_filter.2 ⟨he0, by rw [hd]; rfl⟩))) he hkg
  · rw [if_pos rfl]
    rcases (S.idx e).1 he with h | ⟨hloc, _⟩
    · have := (List.mem_filter.1 h).2
      rw [← hkg, hd] at this
      exact nomatch this
    · exact ((IdxEntry.eq_iff e _ _ _).2 ⟨hkg.symm, (congrArg Prod.snd hk).symm, hkg ▸ hloc⟩).symm

theorem rankInv_of_shapeEq {D : Decomp} {P q : Nat} {a b : RankState} (h : ShapeEq a b) (hb : RankInv D P q b) :
    RankInv D P q a := by
  have hk := hasKey_of_keys h.1
  refine ⟨?_, fun e he => attrOf_of_hasKey hb.idxTrue (hk _ _ ▸ (hasKey_iff _ _ _).2 ⟨e, he, rfl, rfl⟩), ?_⟩
  · have h1 : (b.idx.map IdxEntry.key).Pairwise (fun x y => x.1 < y.1) := List.pairwise_map.2 hb.idxSorted
    rw [← h.1, List.pairwise_map] at h1
    exact h1
  · rw [h.2]
    exact hb.rem.mono fun g x hx => hk g x ▸ hx

theorem partialView_of_shape {D : Decomp} {w w' : World} (h : Shape w w') (hw' : PartialView D w') : PartialView D w := by
  intro q a ha
  obtain ⟨b, hb, hab⟩ := h.getElem? ha
  rw [h.1]
  exact rankInv_of_shapeEq hab (hw' q b hb)

theorem nbSym_of_shape {w w' : World} (h : Shape w w') (hs : NbSym w') : NbSym w :=
  hs.of_same_neighbours fun _ _ hr => let ⟨sr', hr', e⟩ := h.getElem? hr; ⟨sr', hr', fun _ => by rw [e.2]⟩

theorem isNeighbour_addCopy (st : RankState) (g : Int) (a loc : Nat) (known : List (Nat × Nat)) (x : Nat) :
    isNeighbour (addCopy st g a loc known).remote x = isNeighbour st.remote x :=
  isNeighbour_map (fun y => by split <;> rfl) st.remote x

theorem rankInv_addCopy {D : Decomp} {P q : Nat} {st : RankState} (h : RankInv D P q st) (g : Int) (a loc : Nat)
    (known : List (Nat × Nat)) (hq : D.attrOf q g = some a) (hnew : ∀ e ∈ st.idx, e.g ≠ g)
    (hk : ∀ x b, known.lookup x = some b → D.attrOf x g = some b) :
    RankInv D P q (addCopy st g a loc known) := by
  have hrem := h.rem.mono (idx' := insertIdx ⟨g, a, loc⟩ st.idx) fun _ _ h1 => (hasKey_insertIdx _ _ _ _).2 (Or.inr h1)
  refine ⟨pairwise_insertIdx _ _ h.idxSorted hnew, fun e he => ?_,
    hrem.map (fun y => by split <;> rfl) fun x hx => ?_⟩
  · rcases (mem_insertIdx _ e _).1 he with rfl | he
    · exact hq
    · exact h.idxTrue e he
  · have hok := hrem.nbOk x hx
    split
    next b hb =>
      refine ⟨pairwise_insertEntry _ _ hok.2.2 fun e he heg => ?_, fun en hen => ?_⟩
      · -- an old entry refers to an old pair, and no old pair has the new global index
        obtain ⟨e', he', h3, _⟩ := (hasKey_iff _ _ _).1 (h.rem.remTrue x hx e he).2
        exact absurd (h3.trans heg) (hnew e' he')
      · rcases (mem_insertEntry _ en _).1 hen with rfl | hen
        · exact ⟨hk _ _ hb, (hasKey_insertIdx _ _ _ _).2 (Or.inl ⟨rfl, rfl⟩)⟩
        · exact hrem.remTrue x hx en hen
    next => exact ⟨hok.2.2, hrem.remTrue x hx⟩

theorem getElem?_set_some {α : Type} {l : List α} {p r : Nat} {a b : α} (h : (l.set p a)[r]? = some b) :
    (r = p ∧ b = a) ∨ l[r]? = some b := by
  rw [List.getElem?_set'] at h
  split at h
  next hpr =>
    obtain ⟨_, _, hb⟩ := Option.map_eq_some_iff.1 h
    exact Or.inl ⟨hpr.symm, hb.symm⟩
  next => exact Or.inr h

theorem partialView_set {D : Decomp} {w : World} (h : PartialView D w) (p : Nat) (st' : RankState)
    (hst' : RankInv D w.length p st') : PartialView D (w.set p st') := by
  intro q st hq
  rw [List.length_set]
  rcases getElem?_set_some hq with ⟨rfl, rfl⟩ | hq
  · exact hst'
  · exact h q st hq

theorem nbSym_set {w : World} (hs : NbSym w) (p : Nat) (st st' : RankState) (hp : w[p]? = some st)
    (hn : ∀ x, isNeighbour st'.remote x = isNeighbour st.remote x) : NbSym (w.set p st') :=
  hs.of_same_neighbours fun r sr hr => by
    rcases getElem?_set_some hr with ⟨rfl, rfl⟩ | hr
    · exact ⟨st, hp, hn⟩
    · exact ⟨sr, hr, fun _ => rfl⟩

/-- the last hypothesis of `rankInv_addCopy` in a form that can be evaluated on a concrete `known` -/
theorem known_of_forall (D : Decomp) (g : Int) (known : List (Nat × Nat))
    (h : ∀ pr ∈ known, D.attrOf pr.1 g = some pr.2) : ∀ x b, known.lookup x = some b → D.attrOf x g = some b :=
  fun x b hl => h (x, b) (lookup_mem hl)

/-- one step of a history: a sync (in the fixed or in any admissible processing order), a deletion of copies, an
announcement of a new copy; `history_invariant` (Props/C13.lean) is about `runSteps` -/
inductive Step where
  | sync (num : Int → Nat)
  | syncOrd (ord : Nat → List (Nat × List Item) → List (Nat × List Item)) (num : Int → Nat)
  | delete (del : Nat → Int → Bool)
  | add (p : Nat) (g : Int) (a : Nat) (loc : Nat) (known : List (Nat × Nat))

def Step.run : Step → World → World
  | .sync num, w => DV.C13.sync num w
  | .syncOrd ord num, w => DV.C13.syncOrd ord num w
  | .delete del, w => deleteCopies del w
  | .add p g a loc known, w => addCopyAt w p g a loc known

/-- side conditions of a step in the state it is applied to: a processing order is a permutation of every inbox; a
process announces a copy of an index it does not hold yet, and what it announces agrees with the decomposition -/
def Step.ok (D : Decomp) : Step → World → Prop
  | .syncOrd ord _, w => ∀ q, (ord q (inbox w q)).Perm (inbox w q)
  | .add p g a _ known, w => D.attrOf p g = some a ∧ (∀ st, w[p]? = some st → ∀ e ∈ st.idx, e.g ≠ g) ∧
      ∀ x b, known.lookup x = some b → D.attrOf x g = some b
  | _, _ => True

def runSteps : List Step → World → World
  | [], w => w
  | s :: ss, w => runSteps ss (s.run w)

def stepsOk (D : Decomp) : List Step → World → Prop
  | [], _ => True
  | s :: ss, w => s.ok D w ∧ stepsOk D ss (s.run w)

end DV.C13
