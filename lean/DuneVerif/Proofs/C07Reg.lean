import DuneVerif.Model.C07
/-!
# C07 — the lazily created singletons (`DV.C07.Reg`, core Lean only)

`Inv`, the invariant of the static storage, is kept by `get`; under it, and when every parameter the creation uses also
selects the storage cell, `get` returns a handle its caller would have built.
-/
namespace DV.C07.Proofs
open DV.C07 DV.C07.Reg

theorem proj_sub {slot used : List String} (hsub : ∀ p ∈ used, p ∈ slot) {i j : Inst} (h : proj slot i = proj slot j) :
    proj used i = proj used j :=
  List.map_congr_left fun p hp => List.map_inj_left.mp h p (hsub p hp)

/-- every cell of the static storage was filled by an instantiation that selects this very cell -/
def Inv (tbl : List Row) (c : Cache) : Prop :=
  ∀ e ∈ c, ∃ r, rowOf tbl e.1.1 = some r ∧ e.1.2 = proj r.slot e.2

theorem inv_nil (tbl : List Row) : Inv tbl [] := by
  intro e he; cases he

theorem lookup_some {c : Cache} {k : Key} {creator : Inst} (h : lookup c k = some creator) : (k, creator) ∈ c := by
  obtain ⟨e, hf, rfl⟩ := Option.map_eq_some_iff.mp h
  have hk : e.1 = k := eq_of_beq (List.find?_some hf :)
  exact hk ▸ List.mem_of_find?_eq_some hf

theorem get_inv (tbl : List Row) (c : Cache) (u : Use) (hc : Inv tbl c) : Inv tbl (get tbl c u).2 := by
  fun_cases Reg.get tbl c u with
  | case1 => exact hc
  | case2 => exact hc
  | case3 r hr => exact List.forall_mem_cons.mpr ⟨⟨r, hr, rfl⟩, hc⟩

theorem faithful_self (tbl : List Row) (u : Use) : faithful tbl u u.inst = true := by
  unfold faithful
  split <;> exact beq_iff_eq.mpr rfl

theorem get_faithful (tbl : List Row) (hsub : ∀ r ∈ tbl, ∀ p ∈ r.used, p ∈ r.slot) (c : Cache) (u : Use)
    (hc : Inv tbl c) : faithful tbl u (get tbl c u).1 = true := by
  fun_cases Reg.get tbl c u with
  | case1 => exact faithful_self tbl u
  | case2 r hr _ creator hl =>
    obtain ⟨r', hr', hk⟩ := hc _ (lookup_some hl)
    cases hr.symm.trans hr'
    simp only [faithful, hr]
    exact beq_iff_eq.mpr (proj_sub (hsub r (List.mem_of_find?_eq_some hr)) hk.symm)
  | case3 => exact faithful_self tbl u

theorem run_inv (tbl : List Row) (hist : List Use) : ∀ c, Inv tbl c → Inv tbl (run tbl c hist) :=
  fun _ hc => hist.foldlRecOn (motive := Inv tbl) _ hc fun c hc u _ => get_inv tbl c u hc

theorem step_spec (tbl : List Row) (hsub : ∀ r ∈ tbl, ∀ p ∈ r.used, p ∈ r.slot) (us : List Use) (c : Cache)
    (hc : Inv tbl c) : (step tbl c us).1 = true ∧ Inv tbl (step tbl c us).2 :=
  us.foldlRecOn (motive := fun acc : Bool × Cache => acc.1 = true ∧ Inv tbl acc.2) _ ⟨rfl, hc⟩ fun _ h u _ =>
    ⟨(Bool.and_eq_true _ _).mpr ⟨h.1, get_faithful tbl hsub _ u h.2⟩, get_inv tbl _ u h.2⟩

theorem runSteps_all (tbl : List Row) (hsub : ∀ r ∈ tbl, ∀ p ∈ r.used, p ∈ r.slot) (steps : List (List Use)) (c : Cache)
    (hc : Inv tbl c) : ∀ b ∈ runSteps tbl c steps, b = true := by
  fun_induction runSteps tbl c steps with
  | case1 => exact List.forall_mem_nil _
  | case2 c us rest ih =>
    have hs := step_spec tbl hsub us c hc
    exact List.forall_mem_cons.mpr ⟨hs.1, ih hs.2⟩

theorem runSteps_length (tbl : List Row) (c : Cache) (steps : List (List Use)) :
    (runSteps tbl c steps).length = steps.length := by
  fun_induction runSteps tbl c steps with
  | case1 => rfl
  | case2 c us rest ih => rw [List.length_cons, ih, List.length_cons]

end DV.C07.Proofs
