import DuneVerif.Proofs.C20Basic
/-! what single bound operations do to the store: register files, effects, `step` unfolded once per operation -/
namespace DV.C20

theorem bindA_xs (s : State) (a : Nat) (v : View) : (s.bindA a v).xs = s.xs := rfl
theorem bindA_read (s : State) (a : Nat) (v : View) (b : Nat) : (s.bindA a v).read b = s.read b := rfl
theorem bindA_arrs_same (s : State) (a : Nat) (v : View) : (s.bindA a v).arrs a = some v := if_pos rfl
theorem bindA_arrs_other (s : State) (a c : Nat) (v : View) (h : c ≠ a) : (s.bindA a v).arrs c = s.arrs c := if_neg h
theorem bindA_blocks (s : State) (a : Nat) (v : View) : (s.bindA a v).blocks = s.blocks := rfl
theorem bindX_read (s : State) (x b c : Nat) : (s.bindX x b).read c = s.read c := rfl
theorem bindX_blocks (s : State) (x b : Nat) : (s.bindX x b).blocks = s.blocks := rfl
theorem bindX_arrs (s : State) (x b : Nat) : (s.bindX x b).arrs = s.arrs := rfl
theorem bindX_same (s : State) (x b : Nat) : (s.bindX x b).xs x = some b := if_pos rfl
theorem bindX_other (s : State) (x y b : Nat) (h : y ≠ x) : (s.bindX x b).xs y = s.xs y := if_neg h
theorem bindX_xs_cases {s : State} {x b y c : Nat} (h : (s.bindX x b).xs y = some c) : s.xs y = some c ∨ b = c :=
  (upd_eq_some h).imp id Option.some.inj
theorem bindA_arrs_cases {s : State} {a c : Nat} {v w : View} (h : (s.bindA a v).arrs c = some w) :
    s.arrs c = some w ∨ v = w :=
  (upd_eq_some h).imp id Option.some.inj
theorem write_xs (s : State) (b : Nat) (v : List Int) : (s.write b v).xs = s.xs := rfl
theorem write_arrs (s : State) (b : Nat) (v : List Int) : (s.write b v).arrs = s.arrs := rfl
theorem alloc_xs (s : State) (v : List Int) : (s.alloc v).1.xs = s.xs := rfl
theorem alloc_arrs (s : State) (v : List Int) : (s.alloc v).1.arrs = s.arrs := rfl

theorem viewVals_congr (s s' : State) (v : View) (h : s'.read v.blk = s.read v.blk) : s'.viewVals v = s.viewVals v := by
  unfold State.viewVals; rw [h]

theorem step_v (kd : Kind) (hk : kd.isVec = true) (s : State) (o : VOp) :
    step kd s (.v o) = (vecEff kd s o).apply s := by
  simp [step, hk]

theorem step_get (kd : Kind) (hk : kd.isVec = true) (s : State) (x b : Nat) (i : Int) (hx : s.xs x = some b) :
    step kd s (.v (.get false x i)) =
      (s, match getItem (s.read b) i with | .error e => e.show | .ok v => toString v) := by
  rw [step_v kd hk]
  -- `dsimp` picks the operation's branch by reduction; `simp [vecEff]` would have the equations of the 44-way match generated first
  dsimp only [vecEff]
  simp only [hx]
  cases getItem (s.read b) i <;> rfl

theorem step_set (kd : Kind) (hk : kd.isVec = true) (s : State) (x b : Nat) (i k : Int)
    (hx : s.xs x = some b) (hkk : okInt k = true) :
    step kd s (.v (.set false x i k)) =
      (match setItem (s.read b) i k with
       | .error e => (s, e.show)
       | .ok v => (s.write b v, showInts v)) := by
  rw [step_v kd hk]
  dsimp only [vecEff]
  simp only [hx, hkk]
  cases setItem (s.read b) i k <;> rfl

theorem step_view (n : Nat) (s : State) (a x b : Nat) (hx : s.xs x = some b) :
    step (.fv n) s (.v (.view a x)) =
      (s.bindA a (fullView b (s.read b).length), showInts (s.viewVals (fullView b (s.read b).length))) := by
  rw [step_v _ rfl]
  dsimp only [vecEff]
  rw [hx]
  rfl

theorem step_sl (n : Nat) (s : State) (a x b : Nat) (i j : Option Int) (st : Int) (hx : s.xs x = some b) (hst : st ≠ 0) :
    step (.fv n) s (.v (.sl a x i j (some st))) =
      (s.bindA a { blk := b, off := (sliceIdx (s.read b).length i j st).1, step := st,
                   len := (sliceIdx (s.read b).length i j st).2 },
       showInts (s.viewVals { blk := b, off := (sliceIdx (s.read b).length i j st).1, step := st,
                              len := (sliceIdx (s.read b).length i j st).2 })) := by
  rw [step_v _ rfl]
  dsimp only [vecEff]
  simp only [hx, Option.getD_some, beq_iff_eq, hst]
  rfl

theorem step_aget (kd : Kind) (hk : kd.isVec = true) (s : State) (a : Nat) (v : View) (i : Int)
    (ha : s.arrs a = some v) (hi : okIdx i = true) :
    step kd s (.v (.aget a i)) =
      (s, match normIndex v.len i with
          | none => Err.index.show
          | some p => toString ((s.read v.blk).getD (v.pos p) 0)) := by
  rw [step_v kd hk]
  dsimp only [vecEff]
  simp only [ha, hi]
  cases normIndex v.len i <;> rfl

theorem step_aset (kd : Kind) (hk : kd.isVec = true) (s : State) (a : Nat) (v : View) (i k : Int)
    (ha : s.arrs a = some v) (hdt : v.dt = 0) (hi : okIdx i = true) (hkk : okInt k = true) :
    step kd s (.v (.aset a i k)) =
      (match normIndex v.len i with
       | none => (s, Err.index.show)
       | some p =>
         (s.write v.blk ((s.read v.blk).set (v.pos p) k),
          showInts ((s.write v.blk ((s.read v.blk).set (v.pos p) k)).viewVals v))) := by
  rw [step_v kd hk]
  dsimp only [vecEff]
  simp only [ha, hi, hkk, hdt]
  cases normIndex v.len i <;> rfl

theorem step_copy (n : Nat) (s : State) (viaMethod : Bool) (x y b : Nat) (hy : s.xs y = some b) :
    step (.fv n) s (if viaMethod then .v (.mcopy x y) else .v (.copy x y)) =
      ((s.alloc (s.read b)).1.bindX x (s.alloc (s.read b)).2, showInts (s.read b)) := by
  cases viaMethod
  all_goals
    show step (.fv n) s (.v _) = _
    rw [step_v _ rfl]
    dsimp only [vecEff]
    rw [hy]
    rfl

theorem step_npcopy (kd : Kind) (hk : kd.isVec = true) (s : State) (a x b : Nat) (hx : s.xs x = some b) :
    step kd s (.v (.npcopy a x)) =
      ((s.alloc (s.read b)).1.bindA a (fullView (s.alloc (s.read b)).2 (s.read b).length), showInts (s.read b)) := by
  rw [step_v kd hk]
  dsimp only [vecEff]
  rw [hx]
  rfl

theorem step_alist (kd : Kind) (hk : kd.isVec = true) (s : State) (a : Nat) (v : View) (ha : s.arrs a = some v) :
    step kd s (.v (.alist a)) = (s, showInts (s.viewVals v)) := by
  rw [step_v kd hk]
  dsimp only [vecEff]
  rw [ha]
  rfl

theorem step_alias (kd : Kind) (hk : kd.isVec = true) (s : State) (x y b : Nat) (hy : s.xs y = some b) :
    step kd s (.v (.alias x y)) = (s.bindX x b, showInts (s.read b)) := by
  rw [step_v kd hk]
  dsimp only [vecEff]
  rw [hy]
  rfl

theorem step_inplaceV (kd : Kind) (hk : kd.isVec = true) (s : State) (isSub : Bool) (x y bx by_ : Nat)
    (hx : s.xs x = some bx) (hy : s.xs y = some by_) (hl : (s.read bx).length = (s.read by_).length)
    (hok : okVals (if isSub then vsub (s.read bx) (s.read by_) else vadd (s.read bx) (s.read by_)) = true) :
    step kd s (.v (.inplaceV isSub x y)) =
      (s.write bx (if isSub then vsub (s.read bx) (s.read by_) else vadd (s.read bx) (s.read by_)),
       showInts (if isSub then vsub (s.read bx) (s.read by_) else vadd (s.read bx) (s.read by_))) := by
  rw [step_v kd hk]
  dsimp only [vecEff]
  simp only [hx, hy, hl, effWrite, hok, bne_self_eq_false, Bool.not_true, Bool.false_eq_true, if_false]
  rfl

/-- `nscale`: `x *= k` on a NumPy-backed C++ vector writes the scaled values through the view -/
theorem step_nscale (kd : Kind) (hk : kd.isVec = true) (s : State) (a : Nat) (v : View) (k : Int)
    (ha : s.arrs a = some v) (hdt : v.dt = 0) (hkk : okInt k = true) (hok : okVals (vscale k (s.viewVals v)) = true) :
    step kd s (.v (.nscale a k)) =
      (s.viewWrite v (vscale k (s.viewVals v)), showInts ((s.viewWrite v (vscale k (s.viewVals v))).viewVals v)) := by
  rw [step_v kd hk]
  dsimp only [vecEff]
  simp only [ha, hkk, hok, nvWrite, hdt]
  rfl

/-- `nset`: `x[i] = k` on a NumPy-backed C++ vector -/
theorem step_nset (kd : Kind) (hk : kd.isVec = true) (s : State) (a : Nat) (v : View) (p : Nat) (k : Int)
    (ha : s.arrs a = some v) (hdt : v.dt = 0) (hkk : okInt k = true) (hp : p < v.len) :
    step kd s (.v (.nset a (p : Int) k)) =
      (s.write v.blk ((s.read v.blk).set (v.pos p) k),
       showInts ((s.write v.blk ((s.read v.blk).set (v.pos p) k)).viewVals v)) := by
  have h1 : decide ((p : Int) < 0) = false := decide_eq_false (Int.not_lt.mpr (Int.natCast_nonneg p))
  have h2 : decide ((p : Int) ≥ (v.len : Int)) = false := decide_eq_false (Int.not_le.mpr (Int.ofNat_lt.mpr hp))
  rw [step_v kd hk]
  dsimp only [vecEff]
  simp only [ha, hkk, h1, h2, nvWriteCell, hdt, Int.toNat_natCast]
  rfl

theorem apply_guard {s : State} {b : Bool} {o : String} {e : Eff} (h : (e.apply s).1 = s) :
    ((if b then Eff.obs o else e).apply s).1 = s := by
  cases b
  · exact h
  · rfl

/-- a writing operation of a NumPyVector over a buffer that does not hold doubles never changes the store -/
theorem nvWrite_foreign (s : State) (v : View) (R : List Int) (hdt : v.dt ≠ 0) :
    ((nvWrite s v R).apply s).1 = s := by
  refine apply_guard ?_
  rw [if_pos (bne_iff_ne.mpr hdt)]
  rfl

theorem nvWriteCell_foreign (s : State) (v : View) (p : Nat) (k : Int) (hdt : v.dt ≠ 0) :
    ((nvWriteCell s v p k).apply s).1 = s := by
  refine apply_guard ?_
  rw [if_pos (bne_iff_ne.mpr hdt)]
  rfl

end DV.C20
