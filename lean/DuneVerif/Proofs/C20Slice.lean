import DuneVerif.Proofs.C20Basic
/-! Python slices `range(n)[i:j:st]`: the clamped bounds (`sliceLo`, `sliceHi`, `sliceLoNeg`, `sliceHiNeg`), the positions a
    slice view enumerates, and the values it shows (`cellsOf`).  Core Lean only. -/
namespace DV.C20

theorem adjust_pos_bounds (N : Int) (v : Option Int) (d : Int) (hd : 0 ≤ d ∧ d ≤ N) :
    0 ≤ adjust N false v d ∧ adjust N false v d ≤ N := by
  unfold adjust
  cases v with
  | none => exact hd
  | some v =>
    simp only [Bool.false_eq_true, if_false]
    omega

theorem adjust_neg_bounds (N : Int) (v : Option Int) (d : Int) (hd : -1 ≤ d ∧ d ≤ N - 1) :
    -1 ≤ adjust N true v d ∧ adjust N true v d ≤ N - 1 := by
  unfold adjust
  cases v with
  | none => exact hd
  | some v =>
    simp only [if_true]
    omega

/-- lower clamped bound of a slice with positive step -/
def sliceLo (n : Nat) (i : Option Int) : Int := adjust n false i 0
/-- upper clamped bound (exclusive) of a slice with positive step -/
def sliceHi (n : Nat) (j : Option Int) : Int := adjust n false j n
/-- first position of a slice with negative step -/
def sliceLoNeg (n : Nat) (i : Option Int) : Int := adjust n true i ((n : Int) - 1)
/-- last position (exclusive, may be -1) of a slice with negative step -/
def sliceHiNeg (n : Nat) (j : Option Int) : Int := adjust n true j (-1)

theorem sliceIdx_pos (n : Nat) (i j : Option Int) (st : Int) (hst : 0 < st) :
    sliceIdx n i j st = (sliceLo n i,
      if sliceLo n i < sliceHi n j then ((sliceHi n j - sliceLo n i - 1) / st + 1).toNat else 0) := by
  have hd : decide (st < 0) = false := by simp; omega
  unfold sliceIdx sliceLo sliceHi
  simp only [hd, Bool.false_eq_true, if_false]

theorem sliceIdx_neg (n : Nat) (i j : Option Int) (st : Int) (hst : st < 0) :
    sliceIdx n i j st = (sliceLoNeg n i,
      if sliceHiNeg n j < sliceLoNeg n i then ((sliceLoNeg n i - sliceHiNeg n j - 1) / (-st) + 1).toNat else 0) := by
  have hd : decide (st < 0) = true := by simp; omega
  unfold sliceIdx sliceLoNeg sliceHiNeg
  simp only [hd, if_true]

/-- CPython's slice length: walking from `lo` towards `hi` in steps of `d > 0`, entry `k` exists iff `lo + k*d` is before `hi` -/
theorem sliceLen_lt (lo hi d : Int) (hd : 0 < d) (k : Nat) :
    k < (if lo < hi then ((hi - lo - 1) / d + 1).toNat else 0) ↔ lo + (k : Int) * d < hi := by
  split
  · rw [Int.lt_toNat, Int.lt_add_one_iff, Int.le_ediv_iff_mul_le hd]
    omega
  · have hk : 0 ≤ (k : Int) * d := Int.mul_nonneg (Int.natCast_nonneg k) (Int.le_of_lt hd)
    omega

theorem slice_exact_pos (n : Nat) (i j : Option Int) (st : Int) (hst : 0 < st) (k : Nat) :
    k < (sliceIdx n i j st).2 ↔ sliceLo n i + (k : Int) * st < sliceHi n j := by
  rw [sliceIdx_pos n i j st hst]
  exact sliceLen_lt _ _ st hst k

theorem slice_exact_neg (n : Nat) (i j : Option Int) (st : Int) (hst : st < 0) (k : Nat) :
    k < (sliceIdx n i j st).2 ↔ sliceHiNeg n j < sliceLoNeg n i + (k : Int) * st := by
  rw [sliceIdx_neg n i j st hst]
  -- the same count, walking up from the stop towards the start in steps of `-st`
  have h := sliceLen_lt (sliceHiNeg n j) (sliceLoNeg n i) (-st) (by omega) k
  rw [Int.mul_neg] at h
  omega

theorem sliceIdx_fst_pos (n : Nat) (i j : Option Int) (st : Int) (hst : 0 < st) :
    (sliceIdx n i j st).1 = sliceLo n i := by rw [sliceIdx_pos n i j st hst]

theorem sliceIdx_fst_neg (n : Nat) (i j : Option Int) (st : Int) (hst : st < 0) :
    (sliceIdx n i j st).1 = sliceLoNeg n i := by rw [sliceIdx_neg n i j st hst]

theorem slice_in_bounds (n : Nat) (i j : Option Int) (st : Int) (hst : st ≠ 0) (k : Nat)
    (hk : k < (sliceIdx n i j st).2) :
    0 ≤ (sliceIdx n i j st).1 + (k : Int) * st ∧ (sliceIdx n i j st).1 + (k : Int) * st < (n : Int) := by
  by_cases hneg : st < 0
  · have hex := (slice_exact_neg n i j st hneg k).mp hk
    rw [sliceIdx_fst_neg n i j st hneg]
    have hb1 : -1 ≤ sliceLoNeg n i ∧ sliceLoNeg n i ≤ n - 1 := adjust_neg_bounds n i _ (by omega)
    have hb2 : -1 ≤ sliceHiNeg n j ∧ sliceHiNeg n j ≤ n - 1 := adjust_neg_bounds n j _ (by omega)
    have hkm : (k : Int) * st ≤ 0 := Int.mul_nonpos_of_nonneg_of_nonpos (Int.natCast_nonneg k) (Int.le_of_lt hneg)
    omega
  · have hpos : 0 < st := by omega
    have hex := (slice_exact_pos n i j st hpos k).mp hk
    rw [sliceIdx_fst_pos n i j st hpos]
    have hb1 : 0 ≤ sliceLo n i ∧ sliceLo n i ≤ n := adjust_pos_bounds n i _ (by omega)
    have hb2 : 0 ≤ sliceHi n j ∧ sliceHi n j ≤ n := adjust_pos_bounds n j _ (by omega)
    have hkm : 0 ≤ (k : Int) * st := Int.mul_nonneg (Int.natCast_nonneg k) (Int.le_of_lt hpos)
    omega

theorem sliceLen_one (lo hi : Int) (n : Nat) (h : hi - lo = n) :
    (if lo < hi then ((hi - lo - 1) / 1 + 1).toNat else 0) = n := by
  split
  · rw [Int.ediv_one, Int.sub_add_cancel, h, Int.toNat_natCast]
  · omega

theorem slice_full (n : Nat) : sliceIdx n none none 1 = (0, n) := by
  rw [sliceIdx_pos n none none 1 Int.one_pos]
  exact Prod.ext rfl (sliceLen_one 0 n n (Int.sub_zero _))

theorem slice_reverse (n : Nat) : sliceIdx n none none (-1) = ((n : Int) - 1, n) := by
  rw [sliceIdx_neg n none none (-1) (by decide)]
  exact Prod.ext rfl (sliceLen_one (-1) (n - 1) n (by omega))

/-- the values a view with offset `off`, stride `st` and `len` entries shows of the cells `l` -/
def cellsOf (l : List Int) (off st : Int) (len : Nat) : List Int :=
  (List.range len).map fun (j : Nat) => l.getD (off + (j : Int) * st).toNat 0

theorem cellsOf_step_one (l : List Int) (lo len : Nat) (h : lo + len ≤ l.length) :
    cellsOf l (lo : Int) 1 len = (l.drop lo).take len := by
  refine map_getD_pos l _ _ len (List.length_take_of_le (by rw [List.length_drop]; omega)) fun k hk => ?_
  rw [List.getElem?_take_of_lt hk, List.getElem?_drop, show ((lo : Int) + (k : Int) * 1).toNat = lo + k by omega]

theorem cellsOf_full (l : List Int) : cellsOf l 0 1 l.length = l := by
  have := cellsOf_step_one l 0 l.length (by omega)
  simpa using this

theorem cellsOf_reverse (l : List Int) : cellsOf l ((l.length : Int) - 1) (-1) l.length = l.reverse := by
  refine map_getD_pos l _ _ l.length (by simp) fun k hk => ?_
  rw [List.getElem?_reverse hk, show ((l.length : Int) - 1 + (k : Int) * (-1)).toNat = l.length - 1 - k by omega]

end DV.C20
