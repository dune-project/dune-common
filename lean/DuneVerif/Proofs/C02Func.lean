import DuneVerif.Proofs.C02Run
import DuneVerif.Proofs.C02Tri
/-! C02: what the three functors `Elim`, `ElimDet`, `ElimPivot` add to the run invariant (one step of `Elim` and of
`ElimPivot` for any scalar type, the exact runs `lu_elim_run`, `lu_det_run`, `lu_pivot_run`); the column un-permutation
of `invert` and a column of its result; the product loop of `determinant`. -/
namespace DV.C02
open Matrix
set_option linter.unusedSectionVars false

section Generic
variable {n : Nat} {K : Type} [Add K] [Sub K] [Mul K] [Div K] [Neg K] [OfNat K 0] [OfNat K 1]

theorem elimFunc_swapS_f (piv : Bool) (s : Vec n K) (i p : Fin n) (hp : piv = false → p = i) :
    (swapS piv (elimFunc : Func n K (Vec n K)) s i p).f = s.f ∘ Equiv.swap i p := by
  cases piv
  · obtain rfl := hp rfl
    rw [Equiv.swap_self]
    rfl
  · funext r
    simp only [swapS, if_true, elimFunc, Vec.ofFn_f, Function.comp, Equiv.swap_apply_def, apply_ite s.f]

theorem elimLoop_elimFunc_col (B : Mat n K) (s : Vec n K) (i : Fin n) :
    (elimLoop elimFunc B s i).2.f = colElim B i n s.f := by
  rw [elimLoop_elimFunc_snd]
  funext r
  simp only [Vec.ofFn_f, colElim, ne_of_gt i.2, if_false, i.2, if_true]

/-- one outer step on the right-hand side of `solve`: the functor `Elim` treats it as the column `n` -/
theorem RhsInvG_step {F : Type} [Field F] {M : ErrModel K F} (piv : Bool) {b₀ : Vec n K} {A : Mat n K} {s : Vec n K} {σ : Equiv.Perm (Fin n)}
    {i p : Fin n} (hip : i ≤ p) (hp : piv = false → p = i) (hok : M.ok (i.1 + 1))
    (hne : M.val ((swapRows A i p).f i i) ≠ 0) (h : RhsInvG M b₀ i.1 σ A s) :
    RhsInvG M b₀ (i.1 + 1) (σ * Equiv.swap i p) (elimAll (swapRows A i p) i)
      (elimLoop elimFunc (swapRows A i p) (swapS piv elimFunc s i p) i).2 := by
  rw [RhsInvG, elimLoop_elimFunc_col, elimFunc_swapS_f piv s i p hp]
  exact ColInv_elim hok hne (ColInv_swap hip h)

/-- the permutation `T₀ ∘ T₁ ∘ … ∘ T_{m-1}` with `T_j = swap j pivot[j]` -/
def sigOf (s : Vec n (Fin n)) : Nat → Equiv.Perm (Fin n)
  | 0 => 1
  | m + 1 => if h : m < n then sigOf s m * Equiv.swap ⟨m, h⟩ (s.f ⟨m, h⟩) else sigOf s m

theorem sigOf_succ (s : Vec n (Fin n)) (i : Fin n) : sigOf s (i.1 + 1) = sigOf s i.1 * Equiv.swap i (s.f i) := by
  rw [sigOf, dif_pos i.2]

theorem sigOf_congr (s s' : Vec n (Fin n)) (m : Nat) (h : ∀ j : Fin n, j.1 < m → s.f j = s'.f j) :
    sigOf s m = sigOf s' m := by
  induction m with
  | zero => rfl
  | succ m ih =>
    have ih := ih fun j hj => h j (Nat.lt_succ_of_lt hj)
    rw [sigOf, sigOf]
    by_cases hm : m < n
    · rw [dif_pos hm, dif_pos hm, ih, h ⟨m, hm⟩ (Nat.lt_succ_self m)]
    · rw [dif_neg hm, dif_neg hm, ih]

theorem pivotFunc_swapS_f (piv : Bool) (s : Vec n (Fin n)) (i p : Fin n) (hp : piv = false → p = i)
    (hsi : s.f i = i) (j : Fin n) :
    (swapS piv (pivotFunc : Func n K (Vec n (Fin n))) s i p).f j = if j = i then p else s.f j := by
  cases piv
  · obtain rfl := hp rfl
    exact (ite_eq_right_iff.mpr fun h => h ▸ hsi.symm).symm
  · simp only [swapS, if_true, pivotFunc, Vec.ofFn_f, hsi]
    exact if_congr Iff.rfl (ite_eq_right_iff.mpr id) rfl

/-- the invariant of `ElimPivot`: the pivot vector encodes the accumulated row permutation `σ`, and is still the
identity from `m` on -/
def PivInv (m : Nat) (σ : Equiv.Perm (Fin n)) (s : Vec n (Fin n)) : Prop :=
  σ = sigOf s m ∧ ∀ j : Fin n, m ≤ j.1 → s.f j = j

theorem PivInv_zero : PivInv 0 (1 : Equiv.Perm (Fin n)) idPivot :=
  ⟨rfl, fun j _ => by simp [idPivot]⟩

theorem PivInv_step (piv : Bool) {s : Vec n (Fin n)} {σ : Equiv.Perm (Fin n)} {i p : Fin n}
    (hp : piv = false → p = i) (B : Mat n K) (h : PivInv i.1 σ s) :
    PivInv (i.1 + 1) (σ * Equiv.swap i p)
      (elimLoop pivotFunc B (swapS piv (pivotFunc : Func n K (Vec n (Fin n))) s i p) i).2 := by
  rw [elimLoop_snd_of_elim_id pivotFunc (fun _ _ _ _ => rfl), PivInv]
  obtain ⟨hσ, hfix⟩ := h
  have e := pivotFunc_swapS_f (K := K) piv s i p hp (hfix i (le_refl _))
  refine ⟨?_, fun j hj => ?_⟩
  · rw [sigOf_succ, e, if_pos rfl, hσ, sigOf_congr _ s i.1 fun j hj => (e j).trans (if_neg (Fin.ne_of_lt hj))]
  · rw [e, if_neg (Fin.ne_of_gt hj)]
    exact hfix j (Nat.le_of_succ_le hj)

theorem swapCols_f (B : Mat n K) (p i r c : Fin n) : (swapCols B p i).f r c = B.f r (Equiv.swap p i c) := by
  simp only [swapCols, Mat.ofFn_f, Equiv.swap_apply_def, apply_ite (B.f r)]

/-- the column un-permutation loop of `invert` applies `σ⁻¹` to the column index -/
theorem unpermute_f (s : Vec n (Fin n)) (X : Mat n K) (r c : Fin n) :
    (unpermute s X).f r c = X.f r ((sigOf s n)⁻¹ c) := by
  refine forDown_ind X _ (fun m B => ∀ r c, B.f r ((sigOf s m)⁻¹ c) = X.f r ((sigOf s n)⁻¹ c)) (fun _ _ => rfl)
    (fun i B ih r c => ?_) r c
  rw [← ih, sigOf_succ, _root_.mul_inv_rev, Equiv.swap_inv, Equiv.Perm.mul_apply]
  by_cases h : i = s.f i
  · rw [if_neg (not_not.mpr h), ← h, Equiv.swap_self]
    rfl
  · rw [if_pos h, swapCols_f, Equiv.swap_comm]

/-- a column of what `invert` assembles: the two sweeps applied to the column `σ⁻¹ c` of the identity -/
theorem invert_col (s : Vec n (Fin n)) (LU : Mat n K) (c : Fin n) :
    (fun r => (unpermute s (backwardU LU (forwardL LU identity))).f r c) =
      forDown n (forUp n (fun r => (identity : Mat n K).f r ((sigOf s n)⁻¹ c)) (fwRow LU)) (bsStep LU) := by
  rw [← forwardL_col, ← backwardU_col]
  exact funext fun r => unpermute_f s _ r c

end Generic

variable {n : Nat} {K Q : Type} [Field K] [LinearOrder Q] [Zero Q]

/-- a run with `Elim`: the right-hand side follows the row operations -/
theorem lu_elim_run (piv : Bool) {absval : K → Q} (habs : AbsLike absval) (A₀ : Mat n K) (b₀ : Vec n K) :
    ((luDecomp piv absval elimFunc A₀ b₀).ok = true →
      ∃ σ : Equiv.Perm (Fin n), AInv A₀ n (luDecomp piv absval elimFunc A₀ b₀).A σ ∧
        Lview n (luDecomp piv absval elimFunc A₀ b₀).A *ᵥ (luDecomp piv absval elimFunc A₀ b₀).s.f = b₀.f ∘ σ) ∧
    ((luDecomp piv absval elimFunc A₀ b₀).ok = false → piv = true → (toMatrix A₀).det = 0) := by
  have := lu_invariant piv habs elimFunc A₀ b₀ (RhsInvG (exactModel K) b₀) (ColInv_zero A₀ n b₀.f)
    (fun i p σ A s hip hp _ hR hne => RhsInvG_step piv hip hp trivial hne hR)
  refine ⟨fun hok => ?_, this.2⟩
  obtain ⟨σ, hA, hR⟩ := this.1 hok
  refine ⟨σ, hA, funext fun r => ?_⟩
  obtain ⟨Θ, hΘ, heq⟩ := RhsInvG_rows hR r
  have hΘ' : ∀ k, Θ k = 0 := hΘ
  simp only [valMat_exact, hΘ', add_zero, mul_one] at heq
  exact heq.symm

theorem sign_cast_swap (i p : Fin n) :
    ((Equiv.Perm.sign (Equiv.swap i p) : ℤ) : K) = if i = p then (1 : K) else -(1 : K) := by
  rw [Equiv.Perm.sign_swap']
  split_ifs <;> simp

/-- a run with `ElimDet`: the sign it keeps is the sign of the accumulated row permutation -/
theorem lu_det_run (piv : Bool) {absval : K → Q} (habs : AbsLike absval) (A₀ : Mat n K) :
    ((luDecomp piv absval detFunc A₀ (1 : K)).ok = true →
      ∃ σ : Equiv.Perm (Fin n), AInv A₀ n (luDecomp piv absval detFunc A₀ (1 : K)).A σ ∧
        (luDecomp piv absval detFunc A₀ (1 : K)).s = ((Equiv.Perm.sign σ : ℤ) : K)) ∧
    ((luDecomp piv absval detFunc A₀ (1 : K)).ok = false → piv = true → (toMatrix A₀).det = 0) := by
  apply lu_invariant piv habs detFunc A₀ (1 : K) (fun _ σ _ s => s = ((Equiv.Perm.sign σ : ℤ) : K))
  · rw [Equiv.Perm.sign_one, Units.val_one, Int.cast_one]
  · intro i p σ A s _ hp _ hR _
    rw [elimLoop_snd_of_elim_id detFunc (fun _ _ _ _ => rfl), Equiv.Perm.sign_mul, Units.val_mul, Int.cast_mul,
      sign_cast_swap, ← hR]
    cases piv
    · -- no exchange: the sign is not touched
      obtain rfl := hp rfl
      rw [if_pos rfl, mul_one]
      rfl
    · rfl

/-- `for i: det *= A[i][i]` -/
theorem forUp_mul_prod (a : K) (g : Fin n → K) :
    forUp n a (fun i acc => acc * g i) = a * ∏ i, g i := by
  induction n generalizing a with
  | zero => rw [Fin.prod_univ_zero, mul_one]; rfl
  | succ n ih => rw [forUp_succ, ih, Fin.prod_univ_castSucc, mul_assoc]

/-- a product that starts from the entry `0` and skips the index `0` (`det = diag_[0]; for i = 1..n-1: det *= diag_[i]`) -/
theorem prod_skip_zero {M : Type} [CommMonoid M] {n : Nat} (g : Fin (n + 1) → M) :
    g 0 * ∏ i, (if 0 < i.1 then g i else 1) = ∏ i, g i := by
  rw [Fin.prod_univ_succ, Fin.prod_univ_succ]
  simp only [Fin.val_zero, Nat.lt_irrefl, if_false, one_mul, Fin.val_succ, Nat.succ_pos, if_true]

/-- a run with `ElimPivot`: the pivot vector encodes the accumulated row permutation -/
theorem lu_pivot_run (piv : Bool) {absval : K → Q} (habs : AbsLike absval) (A₀ : Mat n K) :
    ((luDecomp piv absval pivotFunc A₀ idPivot).ok = true →
      ∃ σ : Equiv.Perm (Fin n), AInv A₀ n (luDecomp piv absval pivotFunc A₀ idPivot).A σ ∧
        σ = sigOf (luDecomp piv absval pivotFunc A₀ idPivot).s n) ∧
    ((luDecomp piv absval pivotFunc A₀ idPivot).ok = false → piv = true → (toMatrix A₀).det = 0) := by
  have := lu_invariant piv habs pivotFunc A₀ idPivot (fun m σ _ s => PivInv m σ s) PivInv_zero
    fun i p σ A s _ hp _ h _ => PivInv_step piv hp _ h
  exact ⟨fun h => by
    obtain ⟨σ, hA, hσ, _⟩ := this.1 h
    exact ⟨σ, hA, hσ⟩, this.2⟩

end DV.C02
