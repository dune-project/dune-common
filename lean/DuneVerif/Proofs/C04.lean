import DuneVerif.Model.C04
import DuneVerif.Common.Lists
/-!
Lemmas about the per-rank model `DV.C04` (core Lean only).

`unpackLoop` is compared with `joinAll` on sorted inputs (`unpackLoop_eq_joinAll`), and so is each side of the two-list
variant when the local lists have no repetitions (`unpackBoth_eq_joinAll`); without repeated globals `joinAll` is `join`
(`joinAll_eq_join`: same members, both ascending), which gives the strict cases.  Both specifications take the same decision
for a remote entry and a local pair (`pick`).  The map is reasoned about through its lookups: `RMap.find` after the own
message and the messages of a list of ranks in closed form (`receiveAll_selfPart`; `find_buildRemote` for `buildRemote`
with valid sources), equality of maps from equal lookups (`RMap.ext`), entries as successful lookups
(`RMap.mem_iff_find`).
-/
namespace DV.C04

theorem join_nil_rem (fs : Bool) (loc : List Pair) : join fs loc [] = [] := by
  simp [join, joinOne]

theorem join_nil_loc (fs : Bool) (rem : List Wire) : join fs [] rem = [] := rfl

theorem join_cons_loc (fs : Bool) (p : Pair) (ps : List Pair) (rem : List Wire) :
    join fs (p :: ps) rem = (joinOne fs rem p).toList ++ join fs ps rem := by
  simp only [join, List.filterMap_cons]
  cases joinOne fs rem p <;> rfl

theorem inj_of_pairwise_lt {α : Type} {f : α → Int} {l : List α} (h : l.Pairwise fun a b => f a < f b) {x y : α}
    (hx : x ∈ l) (hy : y ∈ l) : f x = f y → x = y :=
  List.Pairwise.forall_of_forall_of_flip (R := fun a b => f a = f b → a = b) (fun _ _ _ => rfl)
    (h.imp fun hab e => absurd e (Int.ne_of_lt hab)) (h.imp fun hab e => absurd e (Int.ne_of_gt hab)) hx hy

/-- the remote index that the remote entry `r` and the local pair `p` make, if any: the decision inside `joinAll`, and the
    one `joinOne` takes for the first remote entry that has the global index of `p` -/
def pick (fs : Bool) (r : Wire) (p : Pair) : Option RIdx :=
  if p.g = r.g ∧ (!fs || r.a != p.a) then some ⟨r.a, p⟩ else none

theorem pick_eq_some_iff {fs : Bool} {r : Wire} {p : Pair} {x : RIdx} :
    pick fs r p = some x ↔ x.loc = p ∧ r.g = p.g ∧ r.a = x.ra ∧ (fs = true → r.a ≠ p.a) := by
  unfold pick
  constructor
  · intro h
    obtain ⟨hc, hx⟩ := Option.ite_none_right_eq_some.mp h
    cases hx
    exact ⟨rfl, hc.1.symm, rfl, fun hfs ha => by simp [hfs, ha] at hc⟩
  · rintro ⟨rfl, hg, ha, hne⟩
    rw [if_pos ⟨hg.symm, by cases fs <;> simp_all⟩, ha]

theorem pick_of_ne {fs : Bool} {r : Wire} {p : Pair} (h : p.g ≠ r.g) : pick fs r p = none :=
  if_neg fun hh => h hh.1

theorem joinOne_eq (fs : Bool) (rem : List Wire) (p : Pair) :
    joinOne fs rem p = (rem.find? fun r => r.g == p.g).bind (pick fs · p) := by
  unfold joinOne
  split
  · rename_i r h
    have e := List.find?_some h
    rw [beq_iff_eq] at e
    rw [h, Option.bind_some, pick]
    cases fs <;> by_cases ha : r.a = p.a <;> simp [e, ha]
  · rename_i h
    rw [h]
    rfl

theorem find?_of_strictW {rem : List Wire} (h : StrictW rem) {r : Wire} (hr : r ∈ rem) {g : Int} (hg : r.g = g) :
    rem.find? (fun r => r.g == g) = some r := by
  have hs : (rem.find? fun r => r.g == g).isSome := List.find?_isSome.mpr ⟨r, hr, beq_iff_eq.mpr hg⟩
  obtain ⟨r', h'⟩ := Option.isSome_iff_exists.mp hs
  have e := List.find?_some h'
  rw [beq_iff_eq] at e
  rw [h', inj_of_pairwise_lt h (List.mem_of_find?_eq_some h') hr (e.trans hg.symm)]

theorem mem_join_iff {fs : Bool} {loc : List Pair} {rem : List Wire} (h : StrictW rem) {x : RIdx} :
    x ∈ join fs loc rem ↔ x.loc ∈ loc ∧ ∃ r ∈ rem, r.g = x.loc.g ∧ r.a = x.ra ∧ (fs = true → r.a ≠ x.loc.a) := by
  unfold join
  simp only [List.mem_filterMap, joinOne_eq, Option.bind_eq_some_iff, pick_eq_some_iff]
  constructor
  · rintro ⟨p, hp, r, hr, rfl, hk⟩
    exact ⟨hp, r, List.mem_of_find?_eq_some hr, hk⟩
  · rintro ⟨hp, r, hr, hk⟩
    exact ⟨x.loc, hp, r, find?_of_strictW h hr hk.1, rfl, hk⟩

theorem strictR_filterMap {f : Pair → Option RIdx} (hf : ∀ p b, f p = some b → b.loc = p) {loc : List Pair}
    (h : StrictG loc) : StrictR (loc.filterMap f) :=
  List.Pairwise.filterMap _ (fun p p' hpp' b hb b' hb' => by rw [hf p b hb, hf p' b' hb']; exact hpp') h

theorem strictR_join {loc : List Pair} (h : StrictG loc) (fs : Bool) (rem : List Wire) : StrictR (join fs loc rem) :=
  strictR_filterMap (fun p b hb => by
    rw [joinOne_eq, Option.bind_eq_some_iff] at hb
    obtain ⟨r, -, hk⟩ := hb
    exact (pick_eq_some_iff.mp hk).1) h

def matchesOf (fs : Bool) (r : Wire) (loc : List Pair) : List RIdx := loc.filterMap (pick fs r)

theorem matchesOf_cons (fs : Bool) (r : Wire) (p : Pair) (ps : List Pair) :
    matchesOf fs r (p :: ps) = (pick fs r p).toList ++ matchesOf fs r ps := by
  rw [matchesOf, List.filterMap_cons]
  cases pick fs r p <;> rfl

theorem matchesOf_nil_of_ne {fs : Bool} {r : Wire} {loc : List Pair} (h : ∀ x ∈ loc, x.g ≠ r.g) :
    matchesOf fs r loc = [] :=
  List.filterMap_eq_nil_iff.mpr fun x hx => pick_of_ne (h x hx)

theorem joinAll_cons (fs : Bool) (loc : List Pair) (r : Wire) (rs : List Wire) :
    joinAll fs loc (r :: rs) = matchesOf fs r loc ++ joinAll fs loc rs :=
  List.flatMap_cons

theorem joinAll_nil_loc (fs : Bool) (rs : List Wire) : joinAll fs [] rs = [] :=
  List.flatMap_eq_nil_iff.mpr fun _ _ => rfl

theorem matchesOf_dropWhile (fs : Bool) (r : Wire) {g0 : Int} (h : g0 ≤ r.g) (loc : List Pair) :
    matchesOf fs r (loc.dropWhile (fun p => p.g < g0)) = matchesOf fs r loc := by
  fun_induction List.dropWhile (fun p : Pair => decide (p.g < g0)) loc with
  | case1 => rfl
  | case2 p ps hp ih =>
    rw [ih, matchesOf_cons, pick_of_ne (Int.ne_of_lt (Int.lt_of_lt_of_le (of_decide_eq_true hp) h))]
    rfl
  | case3 => rfl

theorem joinAll_dropWhile (fs : Bool) {rem : List Wire} {g0 : Int} (h : ∀ r ∈ rem, g0 ≤ r.g) (loc : List Pair) :
    joinAll fs (loc.dropWhile (fun p => p.g < g0)) rem = joinAll fs loc rem :=
  congrArg List.flatten (List.map_congr_left fun r hr => matchesOf_dropWhile fs r (h r hr) loc)

/-- the rest is written with `x.g < r.g + 1` for `x.g ≤ r.g` so that `joinAll_dropWhile` applies to it -/
theorem takeSame_spec (fs : Bool) (r : Wire) (loc : List Pair) (hs : SortedG loc) (hge : ∀ x ∈ loc.head?, r.g ≤ x.g) :
    (takeSame fs r loc).1 = matchesOf fs r loc ∧ (takeSame fs r loc).2 = loc.dropWhile fun x => x.g < r.g + 1 := by
  fun_induction takeSame fs r loc with
  | case1 => exact ⟨rfl, rfl⟩
  | case2 p ps e rest ih =>
    obtain ⟨i1, i2⟩ := ih (List.pairwise_cons.mp hs).2 fun x hx =>
      e ▸ (List.pairwise_cons.mp hs).1 x (List.mem_of_mem_head? hx)
    rw [matchesOf_cons, pick, List.dropWhile_cons_of_pos (by rw [decide_eq_true_eq, e]; exact Int.lt_succ r.g), ← i1]
    refine ⟨?_, i2⟩
    dsimp only
    by_cases hc : (!fs || r.a != p.a) = true
    · rw [if_pos hc, if_pos ⟨e, hc⟩]; rfl
    · rw [if_neg hc, if_neg fun hh => hc hh.2]; rfl
  | case3 p ps e =>
    have hlt : r.g < p.g := Int.lt_iff_le_and_ne.mpr ⟨hge p rfl, Ne.symm e⟩
    refine ⟨(matchesOf_nil_of_ne fun x hx => Int.ne_of_gt ?_).symm,
      (List.dropWhile_cons_of_neg (by rw [decide_eq_true_eq]; exact Int.not_lt.mpr hlt)).symm⟩
    rcases List.mem_cons.mp hx with rfl | hx
    · exact hlt
    · exact Int.lt_of_lt_of_le hlt ((List.pairwise_cons.mp hs).1 x hx)

theorem lt_of_not_rewinds {r : Wire} {rs : List Wire} (hrem : SortedW (r :: rs)) (h : rewinds r rs = false) :
    ∀ r' ∈ rs, r.g < r'.g := by
  cases rs with
  | nil => exact fun _ hr' => nomatch hr'
  | cons r1 rs1 =>
    obtain ⟨hr, hrs⟩ := List.pairwise_cons.mp hrem
    have hlt : r.g < r1.g :=
      Int.lt_iff_le_and_ne.mpr ⟨hr r1 List.mem_cons_self, fun e => (beq_eq_false_iff_ne.mp h) e.symm⟩
    exact List.forall_mem_cons.mpr ⟨hlt, fun r' hr' => Int.lt_of_lt_of_le hlt ((List.pairwise_cons.mp hrs).1 r' hr')⟩

theorem head?_dropWhile_ge (loc : List Pair) (g0 : Int) : ∀ x ∈ (loc.dropWhile fun p => p.g < g0).head?, g0 ≤ x.g := by
  intro x hx
  have := List.head?_dropWhile_not (fun p : Pair => decide (p.g < g0)) loc
  rw [Option.mem_def.mp hx] at this
  exact Int.not_lt.mp (of_decide_eq_false this)

theorem dropWhile_all_lt (loc : List Pair) (g0 : Int) (x : Pair) (hx : x ∈ loc)
    (hn : x ∉ loc.dropWhile (fun p => p.g < g0)) (hs : SortedG loc) : x.g < g0 := by
  rw [← List.takeWhile_append_dropWhile (p := fun p => decide (p.g < g0)) (l := loc), List.mem_append] at hx
  exact of_decide_eq_true (List.all_eq_true.mp List.all_takeWhile x (hx.resolve_right hn))

theorem unpackLoop_eq_joinAll (fs : Bool) : ∀ (rem : List Wire) (loc : List Pair), SortedW rem → SortedG loc →
    unpackLoop fs rem loc = joinAll fs loc rem := by
  intro rem
  induction rem with
  | nil => intro loc _ _; rw [unpackLoop]; rfl
  | cons r rs ih =>
    intro loc hrem hloc
    obtain ⟨hr, hrs⟩ := List.pairwise_cons.mp hrem
    have hs1 : SortedG _ := hloc.sublist (List.dropWhile_sublist fun p => decide (p.g < r.g))
    have hge1 := head?_dropWhile_ge loc r.g
    rw [← joinAll_dropWhile fs (List.forall_mem_cons.mpr ⟨Int.le_refl _, hr⟩) loc, unpackLoop, joinAll_cons]
    generalize loc.dropWhile (fun p => decide (p.g < r.g)) = loc1 at hs1 hge1
    cases loc1 with
    | nil => exact (joinAll_nil_loc fs rs).symm
    | cons p ps =>
      dsimp only
      obtain ⟨t1, t2⟩ := takeSame_spec fs r (p :: ps) hs1 hge1
      by_cases hpe : p.g = r.g
      · rw [if_pos hpe, t1]
        congr 1
        cases hrw : rewinds r rs
        · rw [if_neg Bool.false_ne_true, t2, ih _ hrs (hs1.sublist (List.dropWhile_sublist _))]
          exact joinAll_dropWhile fs (fun r' hr' => lt_of_not_rewinds hrem hrw r' hr') _
        · rw [if_pos rfl]
          exact ih (p :: ps) hrs hs1
      · -- the inner loop is not entered: nothing matches `r`
        rw [takeSame, if_neg hpe] at t1
        rw [if_neg hpe, ih (p :: ps) hrs hs1, ← t1]
        rfl

theorem mem_joinAll_iff {fs : Bool} {loc : List Pair} {rem : List Wire} {x : RIdx} :
    x ∈ joinAll fs loc rem ↔ x.loc ∈ loc ∧ ∃ r ∈ rem, r.g = x.loc.g ∧ r.a = x.ra ∧ (fs = true → r.a ≠ x.loc.a) := by
  rw [show joinAll fs loc rem = rem.flatMap (matchesOf fs · loc) from rfl]
  simp only [List.mem_flatMap, matchesOf, List.mem_filterMap, pick_eq_some_iff]
  exact ⟨fun ⟨r, hr, p, hp, e, hk⟩ => by subst e; exact ⟨hp, r, hr, hk⟩,
    fun ⟨hp, r, hr, hk⟩ => ⟨r, hr, x.loc, hp, rfl, hk⟩⟩

theorem strictR_joinAll {fs : Bool} {loc : List Pair} {rem : List Wire} (hloc : StrictG loc) (hrem : StrictW rem) :
    StrictR (joinAll fs loc rem) :=
  List.pairwise_flatMap.mpr ⟨fun r _ => strictR_filterMap (fun _ _ h => (pick_eq_some_iff.mp h).1) hloc,
    -- entries made by an earlier remote entry lie below those made by a later one
    hrem.imp fun hlt x hx y hy => by
      obtain ⟨_, -, hk⟩ := List.mem_filterMap.mp hx
      obtain ⟨_, -, hk'⟩ := List.mem_filterMap.mp hy
      obtain ⟨rfl, hg, -⟩ := pick_eq_some_iff.mp hk
      obtain ⟨rfl, hg', -⟩ := pick_eq_some_iff.mp hk'
      rw [← hg, ← hg']
      exact hlt⟩

theorem joinAll_eq_join {fs : Bool} {loc : List Pair} {rem : List Wire} (hrem : StrictW rem) (hloc : StrictG loc) :
    joinAll fs loc rem = join fs loc rem :=
  eq_of_pairwise_of_mem_iff (R := fun a b : RIdx => a.loc.g < b.loc.g) (fun _ _ => Int.lt_asymm)
    (strictR_joinAll hloc hrem) (strictR_join hloc fs rem) fun _ => mem_joinAll_iff.trans (mem_join_iff hrem).symm

/-- one step of the two-list loop, seen from one of its local lists: only the first pair at or above `r` can match it -/
theorem headMatch_append_joinAll {r : Wire} {rs : List Wire} {loc : List Pair} (hr : ∀ r' ∈ rs, r.g ≤ r'.g)
    (hloc : StrictG loc) :
    headMatch r (loc.dropWhile fun p => p.g < r.g) ++ joinAll false (loc.dropWhile fun p => p.g < r.g) rs =
      joinAll false loc (r :: rs) := by
  have hs1 : StrictG _ := hloc.sublist (List.dropWhile_sublist fun p => decide (p.g < r.g))
  have hge1 := head?_dropWhile_ge loc r.g
  rw [← joinAll_dropWhile false (List.forall_mem_cons.mpr ⟨Int.le_refl _, hr⟩) loc, joinAll_cons]
  congr 1
  generalize loc.dropWhile (fun p => decide (p.g < r.g)) = loc1 at hs1 hge1
  cases loc1 with
  | nil => rfl
  | cons p ps =>
    rw [headMatch, matchesOf_cons, matchesOf_nil_of_ne, List.append_nil, pick]
    · simp only [Bool.not_false, Bool.true_or, and_true]
      split <;> rfl
    · intro x hx
      have := (List.pairwise_cons.mp hs1).1 x hx
      have := hge1 p rfl
      omega

theorem unpackBoth_eq_joinAll {rem : List Wire} {ls ld : List Pair} (hr : SortedW rem) (hs : StrictG ls)
    (hd : StrictG ld) : unpackBoth rem ls ld = (joinAll false ls rem, joinAll false ld rem) := by
  induction rem generalizing ls ld with
  | nil => rfl
  | cons r rs ih =>
    obtain ⟨hr1, hrs⟩ := List.pairwise_cons.mp hr
    rw [unpackBoth]
    split
    · rename_i h
      simp only [Bool.and_eq_true, List.isEmpty_iff] at h
      rw [h.1, h.2, joinAll_nil_loc]
    · dsimp only
      rw [ih hrs (hs.sublist (List.dropWhile_sublist _)) (hd.sublist (List.dropWhile_sublist _)),
        headMatch_append_joinAll hr1 hs, headMatch_append_joinAll hr1 hd]

theorem strictG_published {s : List Pair} (h : StrictG s) (ign : Bool) : StrictG (published ign s) :=
  List.Pairwise.sublist List.filter_sublist h

theorem strictW_wire {s : List Pair} (h : StrictG s) : StrictW (wire s) :=
  List.pairwise_map.mpr h

theorem sortedG_published {s : List Pair} (h : SortedG s) (ign : Bool) : SortedG (published ign s) :=
  List.Pairwise.sublist List.filter_sublist h

theorem sortedW_wire {s : List Pair} (h : SortedG s) : SortedW (wire s) :=
  List.pairwise_map.mpr h

theorem wire_length (s : List Pair) : (wire s).length = s.length := by simp [wire]

theorem dstPairs_of_one {d : RankData} (h : d.two = false) (ign : Bool) : d.dstPairs ign = d.srcPairs ign := by
  simp [RankData.dstPairs, RankData.srcPairs, RankData.tgtOf, h]

theorem dstPairs_of_two {d : RankData} (h : d.two = true) (ign : Bool) : d.dstPairs ign = published ign d.tgt := by
  simp [RankData.dstPairs, RankData.tgtOf, h]

theorem strictG_dstPairs {d : RankData} (hs : StrictG d.src) (ht : StrictG d.tgt) (ign : Bool) :
    StrictG (d.dstPairs ign) := by
  cases h : d.two
  · rw [dstPairs_of_one h]; exact strictG_published hs ign
  · rw [dstPairs_of_two h]; exact strictG_published ht ign

theorem mkMsg_of_one {d : RankData} (h : d.two = false) (ign : Bool) :
    mkMsg ign d = ⟨false, (wire (d.srcPairs ign)).length, 0, wire (d.srcPairs ign) ++ []⟩ := by
  simp [mkMsg, h, wire, RankData.srcPairs]

theorem mkMsg_of_two {d : RankData} (h : d.two = true) (ign : Bool) :
    mkMsg ign d = ⟨true, (wire (d.srcPairs ign)).length, (wire (d.dstPairs ign)).length,
      wire (d.srcPairs ign) ++ wire (d.dstPairs ign)⟩ := by
  simp [mkMsg, h, wire, RankData.srcPairs, dstPairs_of_two h]

theorem unpackIndices_pair (fs : Bool) (buf : List Wire) (n : Nat) (loc : List Pair) :
    unpackIndices fs buf n loc = (if n = 0 then [] else unpackLoop fs (buf.take n) loc, buf.drop n) := by
  unfold unpackIndices
  split
  · rename_i h; rw [h]; rfl
  · rfl

theorem unpackIndices_append (fs : Bool) (a b : List Wire) (loc : List Pair) :
    unpackIndices fs (a ++ b) a.length loc = (unpackLoop fs a loc, b) := by
  rw [unpackIndices_pair, List.take_left' rfl, List.drop_left' rfl]
  split
  · rename_i h0
    rw [List.length_eq_zero_iff.mp h0, unpackLoop]
  · rfl

/-- only a rank with two sets that receives a one-set message runs the two-list `unpackIndices`, which has neither the
    rewind nor the `fromOurSelf` rule: hence `hboth` -/
theorem unpackCreateRemote_sorted (fs ign : Bool) (me other : RankData)
    (hS : SortedG (me.srcPairs ign)) (hD : SortedG (me.dstPairs ign))
    (hOS : SortedG (other.srcPairs ign)) (hOD : SortedG (other.dstPairs ign))
    (hboth : me.two = true → other.two = false →
      fs = false ∧ StrictG (me.srcPairs ign) ∧ StrictG (me.dstPairs ign)) :
    unpackCreateRemote (mkMsg ign other) (me.srcPairs ign) (me.dstPairs ign) me.two fs
      = optLists (joinAll fs (me.srcPairs ign) (wire (other.dstPairs ign)),
                  joinAll fs (me.dstPairs ign) (wire (other.srcPairs ign))) := by
  have hOS := sortedW_wire hOS
  have hOD := sortedW_wire hOD
  unfold unpackCreateRemote optLists
  cases hot2 : other.two with
  | false =>
    rw [mkMsg_of_one hot2, dstPairs_of_one hot2]
    cases hm2 : me.two with
    | false =>
      rw [dstPairs_of_one hm2, unpackIndices_append, unpackLoop_eq_joinAll fs _ _ hOS hS]
      rfl
    | true =>
      obtain ⟨rfl, hS', hD'⟩ := hboth hm2 hot2
      rw [List.append_nil, List.take_length, unpackBoth_eq_joinAll hOS hS' hD']
      rfl
  | true =>
    have h2 := unpackIndices_append fs (wire (other.dstPairs ign)) [] (me.srcPairs ign)
    rw [List.append_nil] at h2
    rw [mkMsg_of_two hot2]
    simp only [Bool.not_true, Bool.false_eq_true, if_false, unpackIndices_append, h2,
      unpackLoop_eq_joinAll fs _ _ hOS hD, unpackLoop_eq_joinAll fs _ _ hOD hS]

theorem mem_insertSet (k x : Nat) (l : List Nat) : x ∈ insertSet k l ↔ x = k ∨ x ∈ l := by
  fun_induction insertSet k l with
  | case1 => simp
  | case2 => exact List.mem_cons
  | case3 => simp
  | case4 y ys _ _ ih => rw [List.mem_cons, ih, List.mem_cons, or_left_comm]

theorem pairwise_insertSet (k : Nat) (l : List Nat) (h : l.Pairwise (· < ·)) : (insertSet k l).Pairwise (· < ·) := by
  fun_induction insertSet k l with
  | case1 => exact List.pairwise_singleton _ _
  | case2 x xs h1 =>
    refine List.pairwise_cons.mpr ⟨fun y hy => ?_, h⟩
    rcases List.mem_cons.mp hy with rfl | e
    · exact h1
    · exact Nat.lt_trans h1 ((List.pairwise_cons.mp h).1 y e)
  | case3 => exact h
  | case4 x xs h1 h2 ih =>
    have hh := List.pairwise_cons.mp h
    refine List.pairwise_cons.mpr ⟨fun y hy => ?_, ih hh.2⟩
    rcases (mem_insertSet k y xs).mp hy with rfl | e
    · omega
    · exact hh.1 y e

theorem sorted_nil : RMap.SortedKeys [] := List.Pairwise.nil

theorem RMap.find_none_of_lt {m : RMap} {k : Nat} (h : ∀ e ∈ m, k < e.1) : m.find k = none := by
  induction m with
  | nil => rfl
  | cons e rest ih =>
    rw [RMap.find, if_neg (Nat.ne_of_lt (h e (by simp))), ih (fun e he => h e (by simp [he]))]

theorem RMap.mem_iff_find {m : RMap} (hm : m.SortedKeys) {k : Nat} {v : Lists} : (k, v) ∈ m ↔ m.find k = some v := by
  induction m with
  | nil => simp [RMap.find]
  | cons e rest ih =>
    obtain ⟨k0, v0⟩ := e
    obtain ⟨hlt, hrest⟩ := List.pairwise_cons.mp hm
    rw [RMap.find, List.mem_cons, ih hrest]
    by_cases e : k = k0
    · subst e
      rw [if_pos rfl, RMap.find_none_of_lt hlt]
      simp [eq_comm]
    · rw [if_neg e]
      simp [e]

theorem RMap.ext {m₁ m₂ : RMap} (h₁ : m₁.SortedKeys) (h₂ : m₂.SortedKeys) (h : ∀ k, m₁.find k = m₂.find k) : m₁ = m₂ :=
  eq_of_pairwise_of_mem_iff (fun _ _ hab hba => Nat.lt_asymm hab hba) h₁ h₂
    (fun ⟨k, v⟩ => by rw [RMap.mem_iff_find h₁, RMap.mem_iff_find h₂, h k])

theorem RMap.keys_insert (k : Nat) (v : Lists) (m : RMap) : (m.insert k v).map (·.1) = insertSet k (m.map (·.1)) := by
  fun_induction RMap.insert m k v with
  | case1 => rfl
  | case2 k' v' rest k v h1 => rw [List.map_cons, List.map_cons, insertSet, if_pos h1]
  | case3 v' rest k v h1 => rw [List.map_cons, insertSet, if_neg h1, if_pos rfl]
  | case4 k' v' rest k v h1 h2 ih => rw [List.map_cons, List.map_cons, insertSet, if_neg h1, if_neg h2, ih]

theorem RMap.sorted_insert {m : RMap} (hm : m.SortedKeys) (k : Nat) (v : Lists) : (m.insert k v).SortedKeys := by
  have := pairwise_insertSet k _ (List.pairwise_map.mpr hm)
  rw [← RMap.keys_insert k v m] at this
  exact List.pairwise_map.mp this

theorem RMap.find_insert {m : RMap} (hm : m.SortedKeys) (k : Nat) (v : Lists) (k' : Nat) :
    (m.insert k v).find k' = (m.find k').or (if k' = k then some v else none) := by
  fun_induction RMap.insert m k v with
  | case1 => rw [RMap.find]; rfl
  | case2 k0 v0 rest k v h1 =>
    rw [RMap.find]
    by_cases e : k' = k
    · rw [if_pos e, if_pos e, e, RMap.find_none_of_lt (List.forall_mem_cons.mpr
        ⟨h1, fun e he => Nat.lt_trans h1 ((List.pairwise_cons.mp hm).1 e he)⟩)]
      rfl
    · rw [if_neg e, if_neg e]
      exact Option.or_none.symm
  | case3 v0 rest k v =>
    rw [RMap.find]
    by_cases e : k' = k
    · rw [if_pos e, if_pos e]; rfl
    · rw [if_neg e, if_neg e]; exact Option.or_none.symm
  | case4 k0 v0 rest k v _ _ ih =>
    rw [RMap.find, RMap.find, ih (List.pairwise_cons.mp hm).2]
    by_cases e : k' = k0
    · rw [if_pos e, if_pos e]; rfl
    · rw [if_neg e, if_neg e]

theorem RMap.sorted_add {m : RMap} (hm : m.SortedKeys) (k : Nat) (o : Option Lists) : (m.add k o).SortedKeys := by
  cases o with
  | none => exact hm
  | some v => exact RMap.sorted_insert hm k v

theorem RMap.find_add {m : RMap} (hm : m.SortedKeys) (k : Nat) (o : Option Lists) (k' : Nat) :
    (m.add k o).find k' = (m.find k').or (if k' = k then o else none) := by
  cases o with
  | none => rw [RMap.add, ite_self, Option.or_none]
  | some v => exact RMap.find_insert hm k v k'

/-- processing the messages of the ranks `qs`: the first message of a rank counts, unless the rank had an entry before -/
theorem foldAdd_spec (f : Nat → Option Lists) : ∀ (qs : List Nat) (m : RMap), m.SortedKeys →
    (qs.foldl (fun m q => m.add q (f q)) m).SortedKeys ∧
    ∀ k, (qs.foldl (fun m q => m.add q (f q)) m).find k = (m.find k).or (if k ∈ qs then f k else none) := by
  intro qs
  induction qs with
  | nil => exact fun m hm => ⟨hm, fun k => Option.or_none.symm⟩
  | cons q qs ih =>
    intro m hm
    obtain ⟨hs, hf⟩ := ih (m.add q (f q)) (RMap.sorted_add hm q (f q))
    refine ⟨hs, fun k => ?_⟩
    rw [List.foldl_cons, hf k, RMap.find_add hm, Option.or_assoc]
    congr 1
    by_cases hk : k = q
    · subst hk
      cases f k <;> simp
    · simp [hk]

/-- `q` is the rank `k` places before `p` on the ring; the hypotheses are additive so that no step has to reason about
    truncated subtraction -/
theorem ringPos_eq {p P k q : Nat} (hq : q < P) (h : q + k = p ∨ q + k = p + P) : (p + P - k) % P = q := by
  rcases h with h | h
  · rw [← h, Nat.add_right_comm, Nat.add_sub_cancel, Nat.add_mod_right, Nat.mod_eq_of_lt hq]
  · rw [← h, Nat.add_sub_cancel, Nat.mod_eq_of_lt hq]

theorem add_ringPos {P p x : Nat} (hp : p < P) (hx : x < P) :
    x + (p + P - x) % P = p ∨ x + (p + P - x) % P = p + P := by
  by_cases h : x ≤ p
  · obtain ⟨d, rfl⟩ := Nat.exists_eq_add_of_le h
    rw [Nat.add_assoc, Nat.add_sub_cancel_left, Nat.add_mod_right,
      Nat.mod_eq_of_lt (Nat.lt_of_le_of_lt (Nat.le_add_left d x) hp)]
    exact Or.inl rfl
  · obtain ⟨e, rfl⟩ := Nat.exists_eq_add_of_lt hx
    rw [Nat.add_assoc x, Nat.add_left_comm, Nat.add_sub_cancel_left, Nat.mod_eq_of_lt (by omega)]
    exact Or.inr rfl

theorem mem_ringOrder {P p : Nat} (hp : p < P) (q : Nat) : q ∈ ringOrder P p ↔ q < P ∧ q ≠ p := by
  have hP : 1 + (P - 1) = P := Nat.add_sub_cancel' (Nat.succ_le_of_lt (Nat.zero_lt_of_lt hp))
  unfold ringOrder
  simp only [List.mem_map, List.mem_range'_1, hP]
  clear hP
  constructor
  · rintro ⟨k, ⟨hk1, hk2⟩, rfl⟩
    have := add_ringPos hp hk2
    exact ⟨Nat.mod_lt _ (Nat.zero_lt_of_lt hp), fun e => by rw [e] at this; omega⟩
  · -- `q` arrives in round `(p + P - q) % P`
    rintro ⟨hq, hne⟩
    have h := add_ringPos hp hq
    exact ⟨(p + P - q) % P, ⟨by omega, Nat.mod_lt _ (Nat.zero_lt_of_lt hp)⟩, ringPos_eq hq h⟩

theorem mem_foldl_insertSet (x : Nat) : ∀ (l acc : List Nat),
    x ∈ l.foldl (fun s k => insertSet k s) acc ↔ x ∈ l ∨ x ∈ acc
  | [], acc => by simp
  | k :: ks, acc => by
    rw [List.foldl_cons, mem_foldl_insertSet x ks, mem_insertSet, List.mem_cons, or_left_comm, or_assoc]

theorem mem_nbIds (d : RankData) (p x : Nat) : x ∈ nbIds d p ↔ x ∈ d.hints ∧ x ≠ p := by
  unfold nbIds
  rw [mem_foldl_insertSet]
  simp

theorem sorted_nbIds (d : RankData) (p : Nat) : (nbIds d p).Pairwise (· < ·) :=
  List.foldlRecOn _ _ List.Pairwise.nil fun s hs k _ => pairwise_insertSet k s hs

theorem nbIds_nil_of_hints {d : RankData} (h : d.hints = []) (p : Nat) : nbIds d p = [] := by
  simp [nbIds, h]

/-- the own message is one more `add`, of nothing when the rank does not handle it -/
theorem selfPart_eq (ign : Bool) (sys : System) (p : Nat) :
    selfPart ign sys p = RMap.add [] p
      (if ((sys.rank p).two || (sys.rank p).incl) = true then fromRank ign sys p p (sys.rank p).incl else none) := by
  rw [selfPart, apply_ite (RMap.add [] p)]
  rfl

theorem buildRemote_eq (ign : Bool) (sys : System) (p : Nat) (order : List Nat) :
    buildRemote ign sys p order =
      if (sys.P == 1 && !((sys.rank p).two || (sys.rank p).incl)) = true then []
      else receiveAll ign sys p (selfPart ign sys p) (sources sys p order) := by
  unfold buildRemote sources
  rw [apply_ite (receiveAll ign sys p (selfPart ign sys p))]

/-- stated for an arbitrary list of ranks, so that it applies under the `if` of `buildRemote_eq` -/
theorem receiveAll_selfPart (ign : Bool) (sys : System) (p : Nat) (qs : List Nat) :
    (receiveAll ign sys p (selfPart ign sys p) qs).SortedKeys ∧
    ∀ k, (receiveAll ign sys p (selfPart ign sys p) qs).find k =
      (if k = p then
        (if ((sys.rank p).two || (sys.rank p).incl) = true then fromRank ign sys p p (sys.rank p).incl else none)
      else none).or (if k ∈ qs then fromRank ign sys p k false else none) := by
  rw [receiveAll, selfPart_eq]
  refine (foldAdd_spec _ qs _ (RMap.sorted_add sorted_nil p _)).imp_right fun h k => ?_
  rw [h k, RMap.find_add sorted_nil]
  rfl

theorem sorted_buildRemote (ign : Bool) (sys : System) (p : Nat) (order : List Nat) :
    (buildRemote ign sys p order).SortedKeys := by
  rw [buildRemote_eq]
  split
  · exact sorted_nil
  · exact (receiveAll_selfPart ign sys p _).1

theorem mem_buildRemote {ign : Bool} {sys : System} {p : Nat} {order : List Nat} {e : Nat × Lists}
    (he : e ∈ buildRemote ign sys p order) :
    (e.1 = p ∧ fromRank ign sys p p (sys.rank p).incl = some e.2) ∨
    (e.1 ∈ sources sys p order ∧ fromRank ign sys p e.1 false = some e.2) := by
  rw [buildRemote_eq] at he
  split at he
  · cases he
  · obtain ⟨hs, hf⟩ := receiveAll_selfPart ign sys p (sources sys p order)
    have hf' := (hf e.1).symm.trans ((RMap.mem_iff_find hs).mp he)
    refine (Option.or_eq_some_iff.mp hf').imp (fun h => ?_) (fun h => Option.ite_none_right_eq_some.mp h.2)
    obtain ⟨hk, h⟩ := Option.ite_none_right_eq_some.mp h
    exact ⟨hk, (Option.ite_none_right_eq_some.mp h).2⟩

theorem sources_ring {sys : System} {p : Nat} (h : nbIds (sys.rank p) p = []) (order : List Nat) :
    sources sys p order = ringOrder sys.P p := by
  rw [sources, h]
  rfl

theorem sources_nb {sys : System} {p : Nat} (h : nbIds (sys.rank p) p ≠ []) (order : List Nat) :
    sources sys p order = order := by
  rw [sources, if_neg fun he => h (List.isEmpty_iff.mp he)]

theorem validSources_ring {sys : System} {p : Nat} (hp : p < sys.P) (order : List Nat)
    (h : nbIds (sys.rank p) p = []) : ValidSources sys p order := by
  intro q hq
  rw [sources_ring h] at hq
  exact (mem_ringOrder hp q).mp hq

theorem validSources_nb {sys : System} {p : Nat} {order : List Nat}
    (hperm : order.Perm (nbIds (sys.rank p) p)) (hlt : ∀ q ∈ nbIds (sys.rank p) p, q < sys.P) (hp : p < sys.P) :
    ValidSources sys p order := by
  by_cases h : nbIds (sys.rank p) p = []
  · exact validSources_ring hp order h
  · intro q hq
    rw [sources_nb h] at hq
    have hq' := hperm.mem_iff.mp hq
    exact ⟨hlt q hq', ((mem_nbIds _ _ _).mp hq').2⟩

theorem find_buildRemote (ign : Bool) (sys : System) (p : Nat) (order : List Nat)
    (hv : ValidSources sys p order) (hp : p < sys.P) (k : Nat) :
    (buildRemote ign sys p order).find k =
      if k = p then
        (if ((sys.rank p).two || (sys.rank p).incl) = true then fromRank ign sys p p (sys.rank p).incl else none)
      else if k ∈ sources sys p order then fromRank ign sys p k false else none := by
  rw [buildRemote_eq]
  by_cases h1 : (sys.P == 1 && !((sys.rank p).two || (sys.rank p).incl)) = true
  · rw [if_pos h1]
    simp only [Bool.and_eq_true, beq_iff_eq, Bool.not_eq_true', Bool.or_eq_false_iff] at h1
    have hk : k ∉ sources sys p order := fun h => by have := hv k h; omega
    simp [RMap.find, h1.2.1, h1.2.2, hk]
  · rw [if_neg h1, (receiveAll_selfPart ign sys p _).2]
    by_cases hk : k = p
    · subst hk
      have hpn : k ∉ sources sys k order := fun h => (hv k h).2 rfl
      simp [hpn]
    · simp [hk]

theorem buildRemote_perm (ign : Bool) (sys : System) (p : Nat) (o₁ o₂ : List Nat) (h : o₁.Perm o₂) :
    buildRemote ign sys p o₁ = buildRemote ign sys p o₂ := by
  refine RMap.ext (sorted_buildRemote _ _ _ _) (sorted_buildRemote _ _ _ _) fun k => ?_
  have : k ∈ sources sys p o₁ ↔ k ∈ sources sys p o₂ := by
    by_cases hn : nbIds (sys.rank p) p = []
    · rw [sources_ring hn, sources_ring hn]
    · rw [sources_nb hn, sources_nb hn]
      exact h.mem_iff
  rw [buildRemote_eq, buildRemote_eq]
  split
  · rfl
  · simp only [(receiveAll_selfPart ign sys p _).2, this]

theorem join_self_fromSelf {S : List Pair} (h : StrictG S) : join true S (wire S) = [] := by
  refine List.eq_nil_iff_forall_not_mem.mpr fun x hx => ?_
  obtain ⟨hl, r, hr, hg, -, hne⟩ := (mem_join_iff (strictW_wire h)).mp hx
  obtain ⟨s, hs, rfl⟩ := List.mem_map.mp hr
  exact hne rfl (congrArg Pair.a (inj_of_pairwise_lt h hs hl hg))

theorem optLists_eq (l : Lists) : optLists l = if l.1 = [] ∧ l.2 = [] then none else some l := by
  unfold optLists
  simp only [Bool.and_eq_true, List.isEmpty_iff, and_comm]

theorem optLists_none_iff (l : Lists) : optLists l = none ↔ l.1 = [] ∧ l.2 = [] := by
  rw [optLists_eq]
  split <;> simp [*]

theorem optLists_some {l v : Lists} (h : optLists l = some v) : v = l := by
  rw [optLists_eq] at h
  split at h
  · cases h
  · cases h; rfl

theorem optLists_some_nonempty {l v : Lists} (h : optLists l = some v) : v.1 ≠ [] ∨ v.2 ≠ [] := by
  rw [optLists_eq] at h
  split at h
  · cases h
  · cases h; exact Decidable.not_and_iff_or_not.mp ‹_›

theorem unpackCreateRemote_some_nonempty {m : Msg} {srcP dstP : List Pair} {sendTwo fs : Bool} {l : Lists}
    (h : unpackCreateRemote m srcP dstP sendTwo fs = some l) : l.1 ≠ [] ∨ l.2 ≠ [] :=
  optLists_some_nonempty h

theorem RMap.lists_of_find {m : RMap} {q : Nat} {l : Lists} (h : m.find q = optLists l) :
    m.sendList q = l.1 ∧ m.recvList q = l.2 := by
  unfold RMap.sendList RMap.recvList
  rw [h, optLists_eq]
  split
  · simp [*]
  · exact ⟨rfl, rfl⟩

theorem fromRank_ring (ign : Bool) (sys : System) (p q : Nat) (fs : Bool) :
    fromRank ign sys.ring p q fs = fromRank ign sys p q fs := rfl

theorem fromRank_spec (ign : Bool) (sys : System) (hs : sys.Strict) {p q : Nat} (hp : p < sys.P) (hq : q < sys.P)
    (fs : Bool) (hfs : fs = true → (sys.rank p).two = (sys.rank q).two) :
    fromRank ign sys p q fs = optLists (specLists fs ign (sys.rank p) (sys.rank q)) := by
  have hS : StrictG ((sys.rank p).srcPairs ign) := strictG_published (hs p hp).1 ign
  have hD := strictG_dstPairs (hs p hp).1 (hs p hp).2 ign
  have hOS : StrictG ((sys.rank q).srcPairs ign) := strictG_published (hs q hq).1 ign
  have hOD := strictG_dstPairs (hs q hq).1 (hs q hq).2 ign
  have h := unpackCreateRemote_sorted fs ign (sys.rank p) (sys.rank q) (hS.imp Int.le_of_lt) (hD.imp Int.le_of_lt)
    (hOS.imp Int.le_of_lt) (hOD.imp Int.le_of_lt) fun h1 h2 => ⟨?_, hS, hD⟩
  · rw [joinAll_eq_join (strictW_wire hOD) hS, joinAll_eq_join (strictW_wire hOS) hD] at h
    exact h
  · cases fs
    · rfl
    · exact absurd (hfs rfl) (by rw [h1, h2]; decide)

theorem fromRank_oneset (ign : Bool) (sys : System) {p q : Nat}
    (hp2 : (sys.rank p).two = false) (hq2 : (sys.rank q).two = false)
    (hps : SortedG (sys.rank p).src) (hqs : SortedG (sys.rank q).src) (fs : Bool) :
    fromRank ign sys p q fs =
      optLists (joinAll fs ((sys.rank p).srcPairs ign) (wire ((sys.rank q).srcPairs ign)),
                joinAll fs ((sys.rank p).srcPairs ign) (wire ((sys.rank q).srcPairs ign))) := by
  have hp' : SortedG ((sys.rank p).srcPairs ign) := sortedG_published hps ign
  have hq' : SortedG ((sys.rank q).srcPairs ign) := sortedG_published hqs ign
  have h := unpackCreateRemote_sorted fs ign (sys.rank p) (sys.rank q) hp' (dstPairs_of_one hp2 ign ▸ hp') hq'
    (dstPairs_of_one hq2 ign ▸ hq') fun h1 => absurd h1 (by rw [hp2]; decide)
  rw [dstPairs_of_one hp2, dstPairs_of_one hq2] at h
  rw [fromRank, dstPairs_of_one hp2]
  exact h

theorem Seqs.apply_eq (two : Bool) (s : Seqs) (e : Resize) :
    s.apply two e = ⟨s.src + if (e == .source || !two && e == .target) then 1 else 0,
                     s.dst + if (e == .target || !two && e == .source) then 1 else 0⟩ := by
  cases e <;> cases two <;> rfl

theorem Seqs.applyAll_eq (two : Bool) : ∀ (evs : List Resize) (s : Seqs),
    s.applyAll two evs = ⟨s.src + evs.countP (fun e => e == .source || !two && e == .target),
                          s.dst + evs.countP (fun e => e == .target || !two && e == .source)⟩ := by
  intro evs
  induction evs with
  | nil => exact fun _ => rfl
  | cons e es ih =>
    intro s
    rw [Seqs.applyAll, List.foldl_cons, ← Seqs.applyAll, ih, Seqs.apply_eq, List.countP_cons, List.countP_cons]
    simp only [Nat.add_assoc, Nat.add_comm (List.countP _ es)]

theorem countP_eq_zero_and {α : Type} {p q : α → Bool} {l : List α} :
    l.countP p = 0 ∧ l.countP q = 0 ↔ ∀ e ∈ l, p e = false ∧ q e = false := by
  simp only [List.countP_eq_zero, Bool.not_eq_true, ← forall_and]

theorem Seqs.applyAll_eq_iff (two : Bool) (evs : List Resize) (s : Seqs) :
    (s.src = (s.applyAll two evs).src ∧ s.dst = (s.applyAll two evs).dst) ↔ ∀ e ∈ evs, e = Resize.other := by
  rw [Seqs.applyAll_eq, Nat.left_eq_add, Nat.left_eq_add, countP_eq_zero_and]
  exact forall₂_congr fun e _ => by cases e <;> cases two <;> decide

theorem rebuild_seqs (st : RIState) (ign : Bool) (s : Seqs) (build : Unit → RMap) :
    (st.rebuild ign s.src s.dst build).sourceSeqNo = (s.src : Int) ∧
    (st.rebuild ign s.src s.dst build).destSeqNo = (s.dst : Int) := by
  unfold RIState.rebuild
  split
  · exact ⟨rfl, rfl⟩
  · rename_i h
    simp [RIState.isSynced] at h
    exact h.2

end DV.C04
