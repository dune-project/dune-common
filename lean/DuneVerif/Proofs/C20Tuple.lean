import DuneVerif.Proofs.C20Basic
/-!
Tuple vectors.  What `buildSlots` stores (`buildSlots_all`), and the histories of tuple-vector programs: after every
program the slots of every tuple vector (and of its Python-side sources) have the types of the shape the class was
generated for, and every FieldVector slot names an existing object with exactly the cells of its type (`TInv`).
The facts about `slotsBelow`, `SlotsOK`, `copySlots` and `assignSlots` go by the functional induction of that definition:
its alternatives are the cases, and the alternative that catches what does not match is closed by the hypothesis.
-/
namespace DV.C20

/-- what an entry of a tuple vector shows to Python: its type tag and its values -/
def readSlot (s : State) : Slot → SlotTy × List Int
  | .d v => (.d, [v])
  | .i v => (.i, [v])
  | .f b => (.f (s.read b).length, s.read b)

/-- the entries a tuple vector of shape `sh` is built from, cut out of the flat value list -/
def expected : List SlotTy → List Int → List (SlotTy × List Int)
  | [], _ => []
  | .d :: sh, V => (.d, [V.getD 0 0]) :: expected sh (V.drop 1)
  | .i :: sh, V => (.i, [V.getD 0 0]) :: expected sh (V.drop 1)
  | .f n :: sh, V => (.f n, V.take n) :: expected sh (V.drop n)

/-- all blocks a slot list refers to exist: the part of `SlotsOK` that needs no shape (the invariant below is stated with
    `SlotsOK` and uses neither this nor its two lemmas) -/
def slotsBelow (m : Nat) : List Slot → Prop
  | [] => True
  | .f b :: r => b < m ∧ slotsBelow m r
  | .d _ :: r => slotsBelow m r
  | .i _ :: r => slotsBelow m r

theorem slotsBelow_mono {m m' : Nat} (h : m ≤ m') : ∀ l, slotsBelow m l → slotsBelow m' l := by
  intro l hl
  fun_induction slotsBelow m l with
  | case1 => trivial
  | case2 b r ih => exact ⟨Nat.lt_of_lt_of_le hl.1 h, ih hl.2⟩
  | case3 _ r ih | case4 _ r ih => exact ih hl

theorem readSlot_extends {s s' : State} (h : Extends s s') :
    ∀ l, slotsBelow s.blocks.length l → l.map (readSlot s') = l.map (readSlot s) := by
  intro l hl
  fun_induction slotsBelow s.blocks.length l with
  | case1 => rfl
  | case2 b r ih =>
    simp only [List.map_cons, readSlot]
    rw [h.2 b hl.1, ih hl.2]
  | case3 _ r ih | case4 _ r ih => exact congrArg (List.cons _) (ih hl)

/-- a slot has the type the shape asks for; a FieldVector slot names an existing block of exactly `n` cells -/
def SlotOK (s : State) : SlotTy → Slot → Prop
  | .d, .d _ => True
  | .i, .i _ => True
  | .f n, .f b => b < s.blocks.length ∧ (s.read b).length = n
  | _, _ => False

def SlotsOK (s : State) : List SlotTy → List Slot → Prop
  | [], [] => True
  | t :: sh, x :: L => SlotOK s t x ∧ SlotsOK s sh L
  | _, _ => False

theorem SlotOK.mono {s s' : State} (h : Grows s s') {t : SlotTy} {x : Slot} (hx : SlotOK s t x) : SlotOK s' t x := by
  cases t <;> cases x <;> try exact hx
  exact ⟨Nat.lt_of_lt_of_le hx.1 h.1, by rw [h.2 _ hx.1]; exact hx.2⟩

theorem slotOK_alloc (s : State) {v : List Int} {n : Nat} (h : v.length = n) :
    SlotOK (s.alloc v).1 (.f n) (.f (s.alloc v).2) :=
  ⟨alloc_fresh_lt s v, by rw [read_alloc_new]; exact h⟩

theorem SlotsOK.mono {s s' : State} (h : Grows s s') {sh : List SlotTy} {L : List Slot} (hl : SlotsOK s sh L) :
    SlotsOK s' sh L := by
  fun_induction SlotsOK s sh L with
  | case1 => trivial
  | case2 t sh x L ih => exact ⟨hl.1.mono h, ih hl.2⟩
  | case3 => exact hl.elim

theorem SlotsOK.length {s : State} : ∀ (sh : List SlotTy) (L : List Slot), SlotsOK s sh L → L.length = sh.length := by
  intro sh L hl
  fun_induction SlotsOK s sh L with
  | case1 => rfl
  | case2 t sh x L ih => exact congrArg (· + 1) (ih hl.2)
  | case3 => exact hl.elim

theorem SlotsOK.get {s : State} {sh : List SlotTy} {L : List Slot} {i : Nat} {x : Slot} (h : SlotsOK s sh L)
    (hx : L[i]? = some x) : ∃ t, sh[i]? = some t ∧ SlotOK s t x := by
  fun_induction SlotsOK s sh L generalizing i with
  | case1 => cases hx
  | case2 t sh y L ih =>
    cases i with
    | zero => cases hx; exact ⟨t, rfl, h.1⟩
    | succ i => exact ih h.2 hx
  | case3 => exact h.elim

theorem SlotsOK.replace {s : State} {sh : List SlotTy} {L : List Slot} {i : Nat} {x y : Slot} (h : SlotsOK s sh L)
    (hy : L[i]? = some y) (hxy : ∀ t, SlotOK s t y → SlotOK s t x) : SlotsOK s sh (L.set i x) := by
  fun_induction SlotsOK s sh L generalizing i with
  | case1 => exact h
  | case2 t sh z L ih =>
    cases i with
    | zero => cases hy; exact ⟨hxy t h.1, h.2⟩
    | succ i => exact ⟨h.1, ih h.2 hy⟩
  | case3 => exact h.elim

theorem SlotsOK.get_f {s : State} {sh : List SlotTy} {L : List Slot} {i b : Nat} (h : SlotsOK s sh L)
    (hx : L[i]? = some (Slot.f b)) : ∃ n, sh[i]? = some (SlotTy.f n) ∧ b < s.blocks.length ∧ (s.read b).length = n := by
  obtain ⟨ty, hty, hs⟩ := h.get hx
  cases ty with
  | f n => exact ⟨n, hty, hs.1, hs.2⟩
  | _ => exact hs.elim

theorem readSlot_of_ok {s s' : State} (h : Extends s s') {t : SlotTy} {x : Slot} (hx : SlotOK s t x) :
    readSlot s' x = readSlot s x := by
  cases t <;> cases x <;> first | exact hx.elim | rfl | skip
  simp only [readSlot]
  rw [h.2 _ hx.1]

theorem readSlot_alloc (s : State) {v : List Int} {n : Nat} (h : v.length = n) :
    readSlot (s.alloc v).1 (.f (s.alloc v).2) = (.f n, v) := by
  simp only [readSlot, read_alloc_new, h]

/-- `buildSlots` only allocates; both slot lists it returns have the types of `sh` in the final store and show the values
    they were built from -/
theorem buildSlots_all (byRef : Bool) : ∀ (sh : List SlotTy) (V : List Int) (s : State), shapeWidth sh ≤ V.length →
    let r := buildSlots byRef sh V s
    Extends s r.1 ∧ r.1.ts = s.ts ∧ r.1.ss = s.ss ∧
    (SlotsOK r.1 sh r.2.1 ∧ r.2.1.map (readSlot r.1) = expected sh V) ∧
    (SlotsOK r.1 sh r.2.2 ∧ r.2.2.map (readSlot r.1) = expected sh V) ∧
    (byRef = true → r.2.2 = r.2.1) := by
  intro sh
  induction sh with
  | nil => exact fun V s _ => ⟨Extends.refl s, rfl, rfl, ⟨trivial, rfl⟩, ⟨trivial, rfl⟩, fun _ => rfl⟩
  | cons t sh ih =>
    intro V s h
    have hw : shapeWidth sh ≤ (V.drop t.width).length := by
      rw [List.length_drop]
      exact Nat.le_sub_of_add_le' h
    cases t with
    | d | i =>
      obtain ⟨e, t1, s1, ⟨oA, rA⟩, ⟨oB, rB⟩, q⟩ := ih (V.drop 1) s hw
      simp only [buildSlots]
      exact ⟨e, t1, s1, ⟨⟨trivial, oA⟩, congrArg (List.cons _) rA⟩, ⟨⟨trivial, oB⟩, congrArg (List.cons _) rB⟩,
        fun hb => congrArg (List.cons _) (q hb)⟩
    | f n =>
      have hn : (V.take n).length = n :=
        List.length_take.trans (Nat.min_eq_left (Nat.le_trans (Nat.le_add_right n _) h))
      -- a fresh block is a well-typed entry showing `V.take n`, and stays one while the store only grows
      have e1 := extends_alloc s (V.take n)
      have ok1 := slotOK_alloc s hn
      have rd1 := readSlot_alloc s hn
      cases byRef with
      | true =>
        obtain ⟨e, t1, s1, ⟨oA, rA⟩, ⟨oB, rB⟩, q⟩ := ih (V.drop n) (s.alloc (V.take n)).1 hw
        have rd := (readSlot_of_ok e ok1).trans rd1
        simp only [buildSlots]
        exact ⟨e1.trans e, t1, s1, ⟨⟨ok1.mono e.grows, oA⟩, congr (congrArg List.cons rd) rA⟩,
          ⟨⟨ok1.mono e.grows, oB⟩, congr (congrArg List.cons rd) rB⟩, fun _ => congrArg (List.cons _) (q rfl)⟩
      | false =>
        have e2 := extends_alloc (s.alloc (V.take n)).1 (V.take n)
        obtain ⟨e, t1, s1, ⟨oA, rA⟩, ⟨oB, rB⟩, _⟩ := ih (V.drop n) ((s.alloc (V.take n)).1.alloc (V.take n)).1 hw
        simp only [buildSlots]
        exact ⟨e1.trans (e2.trans e), t1, s1,
          ⟨⟨ok1.mono (e2.trans e).grows, oA⟩, congr (congrArg List.cons ((readSlot_of_ok (e2.trans e) ok1).trans rd1)) rA⟩,
          ⟨⟨(slotOK_alloc _ hn).mono e.grows, oB⟩,
            congr (congrArg List.cons ((readSlot_of_ok e (slotOK_alloc _ hn)).trans (readSlot_alloc _ hn))) rB⟩,
          fun hc => nomatch hc⟩

theorem buildSlots_ok (byRef : Bool) : ∀ (sh : List SlotTy) (V : List Int) (s : State), V.length = shapeWidth sh →
    Grows s (buildSlots byRef sh V s).1 ∧ SlotsOK (buildSlots byRef sh V s).1 sh (buildSlots byRef sh V s).2.1 ∧
      SlotsOK (buildSlots byRef sh V s).1 sh (buildSlots byRef sh V s).2.2 ∧
      (buildSlots byRef sh V s).1.ts = s.ts ∧ (buildSlots byRef sh V s).1.ss = s.ss := by
  intro sh V s hV
  obtain ⟨he, ht, hs, ⟨okA, _⟩, ⟨okB, _⟩, _⟩ := buildSlots_all byRef sh V s (Nat.le_of_eq hV.symm)
  exact ⟨he.grows, okA, okB, ht, hs⟩

theorem copySlots_ok (byRef : Bool) : ∀ (sh : List SlotTy) (U : List Slot) (s : State), SlotsOK s sh U →
    Grows s (copySlots byRef U s).1 ∧ SlotsOK (copySlots byRef U s).1 sh (copySlots byRef U s).2 ∧
      (copySlots byRef U s).1.ts = s.ts ∧ (copySlots byRef U s).1.ss = s.ss := by
  intro sh U s
  fun_induction copySlots byRef U s generalizing sh with
  | case1 s => exact fun h => ⟨Grows.refl s, h, rfl, rfl⟩
  | case2 b r s s1 b' heq1 s2 r' heq ih =>
    rw [heq] at ih
    intro h
    -- `h` leaves the shape no other form
    match sh, h with
    | .f n :: sh, h =>
      -- the copy's block: the same one in the same store, or a fresh one with the same cells
      have hb : Grows s s1 ∧ SlotOK s1 (.f n) (.f b') ∧ s1.ts = s.ts ∧ s1.ss = s.ss := by
        cases byRef with
        | true => cases heq1; exact ⟨Grows.refl s, h.1, rfl, rfl⟩
        | false => cases heq1; exact ⟨grows_alloc s _, slotOK_alloc s h.1.2, rfl, rfl⟩
      obtain ⟨hg1, hx, ht1, hs1⟩ := hb
      obtain ⟨hg, h1, hr1, hr2⟩ := ih sh (h.2.mono hg1)
      exact ⟨hg1.trans hg, ⟨hx.mono hg, h1⟩, hr1.trans ht1, hr2.trans hs1⟩
  | case3 sl r s _ s2 r' heq ih =>
    rw [heq] at ih
    intro h
    match sh, h with
    | t :: sh, h =>
      obtain ⟨hg, h1, hr⟩ := ih sh h.2
      exact ⟨hg, ⟨h.1.mono hg, h1⟩, hr⟩

theorem assignSlots_ok : ∀ (sh : List SlotTy) (T U : List Slot) (s : State), SlotsOK s sh T → SlotsOK s sh U →
    Grows s (assignSlots T U s).1 ∧ SlotsOK (assignSlots T U s).1 sh (assignSlots T U s).2 ∧
      (assignSlots T U s).1.ts = s.ts ∧ (assignSlots T U s).1.ss = s.ss := by
  intro sh T U s
  fun_induction assignSlots T U s generalizing sh with
  | case1 a T b U s s1 s2 T' heq ih =>
    rw [heq] at ih
    intro hT hU
    match sh, hT, hU with
    | .f n :: sh, hT, hU =>
      have hg1 : Grows s s1 := grows_write s a (s.read b) hT.1.1 (by rw [hU.1.2, hT.1.2])
      obtain ⟨hg, h1, hr⟩ := ih sh (hT.2.mono hg1) (hU.2.mono hg1)
      exact ⟨hg1.trans hg, ⟨hT.1.mono (hg1.trans hg), h1⟩, hr⟩
  | case2 _ T v U s s2 T' heq ih | case3 _ T v U s s2 T' heq ih =>
    rw [heq] at ih
    intro hT hU
    match sh, hT, hU with
    | t :: sh, hT, hU =>
      obtain ⟨hg, h1, hr⟩ := ih sh hT.2 hU.2
      exact ⟨hg, ⟨hU.1.mono hg, h1⟩, hr⟩
  -- a list has ended or the kinds in front differ: `T` is returned as it is, whatever `U` holds
  | case4 => exact fun hT _ => ⟨Grows.refl _, hT, rfl, rfl⟩

structure TInv (sh : List SlotTy) (s : State) : Prop where
  ts_ok : ∀ t T, s.ts t = some T → SlotsOK s sh T
  ss_ok : ∀ t S, s.ss t = some S → SlotsOK s sh S

theorem tinv_init (sh : List SlotTy) : TInv sh {} where
  ts_ok := fun _ _ h => by cases h
  ss_ok := fun _ _ h => by cases h

theorem TInv.update {sh : List SlotTy} {s s' : State} (h : TInv sh s) (hg : Grows s s')
    (hts : ∀ t T, s'.ts t = some T → s.ts t = some T ∨ SlotsOK s' sh T)
    (hss : ∀ t S, s'.ss t = some S → s.ss t = some S ∨ SlotsOK s' sh S) : TInv sh s' :=
  ⟨fun t T ht => (hts t T ht).elim (fun ho => (h.ts_ok t T ho).mono hg) id,
   fun t S ht => (hss t S ht).elim (fun ho => (h.ss_ok t S ho).mono hg) id⟩

theorem TInv.setRegs {sh : List SlotTy} {s : State} (h : TInv sh s) {s1 : State} (hg : Grows s s1)
    (hts : s1.ts = s.ts) (hss : s1.ss = s.ss) {t : Nat} {T : List Slot} (hT : SlotsOK s1 sh T)
    {ss' : Nat → Option (List Slot)} (h2 : ∀ t S, ss' t = some S → s1.ss t = some S ∨ SlotsOK s1 sh S) :
    TInv sh { s1 with ts := upd s1.ts t (some T), ss := ss' } :=
  have hb : Grows s1 { s1 with ts := upd s1.ts t (some T), ss := ss' } := grows_of_blocks_eq rfl
  h.update (hg.trans hb) (fun _ _ ht => (hts ▸ upd_some_of hT ht).imp id (SlotsOK.mono hb))
    (fun t S ht => ((hss ▸ h2) t S ht).imp id (SlotsOK.mono hb))

theorem TInv.writeEntry {sh : List SlotTy} {s : State} (h : TInv sh s) {T : List Slot} {i b : Nat} {v : List Int}
    (hT : SlotsOK s sh T) (hb : T[i]? = some (Slot.f b)) (hl : v.length = (s.read b).length) : TInv sh (s.write b v) := by
  obtain ⟨_, _, hlt, _⟩ := hT.get_f hb
  exact h.update (grows_write s b v hlt hl) (fun _ _ ht => Or.inl ht) (fun _ _ ht => Or.inl ht)

/-- `TInv` along a guard of `tupStep` (every guard is a `Bool`): the branch that skips or reports leaves the store as it is -/
theorem tinv_else {sh : List SlotTy} {s : State} {b : Bool} {o : String} {r : State × String}
    (h : TInv sh s) (hr : b = false → TInv sh r.1) : TInv sh (if b then (s, o) else r).1 := by
  cases b
  · exact hr rfl
  · exact h

theorem tupStep_inv (sh : List SlotTy) (byRef : Bool) (s : State) (h : TInv sh s) (op : TOp) :
    TInv sh (tupStep (.tup sh byRef) s op).1 := by
  -- guards (also `!kd.isTup`) are passed by `tinv_else`, look-ups by `optCases`; `h` serves wherever the store stays
  cases op <;> dsimp only [tupStep]
  case tnew t V =>
    refine tinv_else h fun hc => ?_
    have hV : V.length = shapeWidth sh := bne_eq_false_iff_eq.mp (Bool.or_eq_false_iff.mp hc).1
    obtain ⟨hg, h1, h2, hr1, hr2⟩ := buildSlots_ok byRef sh V s hV
    exact h.setRegs hg hr1 hr2 h2 (fun _ _ ht => upd_some_of h1 ht)
  case tlen t | tlist t =>
    exact tinv_else h fun _ => optCases (s.ts t) h fun _ _ => h
  case tget t i =>
    exact tinv_else h fun _ => optCases (s.ts t) h fun T _ => tinv_else h fun _ => optCases T[i.toNat]? h fun _ _ => h
  case tsetd t i k | tseti t i k =>
    refine tinv_else h fun _ => optCases (s.ts t) h fun T hT => tinv_else h fun _ => tinv_else h fun _ => ?_
    split
    all_goals first
      | exact h
      | exact h.setRegs (Grows.refl s) rfl rfl
          ((h.ts_ok t T hT).replace ‹_› fun ty hy => by cases ty <;> exact hy) (fun _ _ ht => Or.inl ht)
  case tsetf t i L =>
    refine tinv_else h fun _ => optCases (s.ts t) h fun T hT => tinv_else h fun _ => tinv_else h fun _ => ?_
    split
    · exact h
    · exact tinv_else h fun hlen => h.writeEntry (h.ts_ok t T hT) ‹_› (bne_eq_false_iff_eq.mp hlen).symm
    · exact h
  case elem src t i j k =>
    -- the look-up of `s.ts t` has put `some Tt` into the second discriminant as well
    refine tinv_else h fun _ => optCases (s.ts t) h fun Tt hTt => optCases (if src then s.ss t else some Tt) h
      fun T hT => tinv_else h fun _ => ?_
    have hTok : SlotsOK s sh T := by
      cases src with
      | true => exact h.ss_ok t T hT
      | false => exact h.ts_ok t T (hTt.trans hT)
    split
    · split
      · exact h
      · exact h.writeEntry hTok ‹_› (setItem_length ‹_›)
    · exact h
  case tcopy t u =>
    refine optCases (s.ts u) h fun U hU => ?_
    obtain ⟨hg, h1, hr1, hr2⟩ := copySlots_ok byRef sh U s (h.ts_ok u U hU)
    exact h.setRegs hg hr1 hr2 h1
      (fun t' S ht => (upd_eq_some ht).imp id
        (fun e => (h.ss_ok u S (hr2 ▸ e)).mono hg))
  case tassign t u =>
    refine tinv_else h fun _ => optCases (s.ts t) h fun T hT => optCases (s.ts u) h fun U hU => ?_
    obtain ⟨hg, h1, hr1, hr2⟩ := assignSlots_ok sh T U s (h.ts_ok t T hT) (h.ts_ok u U hU)
    exact h.setRegs hg hr1 hr2 h1 (fun t' S ht => Or.inl ht)

theorem step_tinv (sh : List SlotTy) (byRef : Bool) (s : State) (h : TInv sh s) (op : Op) :
    TInv sh (step (.tup sh byRef) s op).1 := by
  cases op with
  | v o =>
    simp only [step, Kind.isVec, Bool.not_false, ↓reduceIte]
    exact h
  | t o => exact tupStep_inv sh byRef s h o

theorem run_tinv (sh : List SlotTy) (byRef : Bool) : ∀ (ops : List Op) (s : State), TInv sh s →
    TInv sh (run (.tup sh byRef) s ops).1 :=
  run_keeps _ (step_tinv sh byRef)

end DV.C20
